import TypVerif.Lemmas.FuncMisc
/-
C14: "Fold(s,seed,acc) equals acc(...acc(acc(seed,s[0]),s[1])...,s[n-1]) and FoldReverse applies acc from the last
element down to the first, both returning the seed for an empty slice. Map, MapErr (stops at the first error and returns
it with no result), Filter, Any, All, Index, IndexFunc, Contains, ContainsFunc, Distinct and DistinctFunc (first
occurrences, original order), Except and ExceptSet, GroupBy and CountBy (groups in first-appearance order, members in
original order, sizes summing to n), Trim*, TryGet, SafeGet, SafeGetOr and Last, and the map helpers Clone, Clear, Keys,
Values, KeyOf, ContainsValue and HasKey return exactly what their straightforward definitions give for every input. None
of them modifies its input, and - apart from the Trim family, which returns a sub-slice of its argument - every returned
slice or map is new and can be modified without affecting the input."

One equation per function between the Go loop (`Model/Func.lean`) and the reference definition, for every input and every
callback.  ("Does not modify its input / returns a new slice" is not expressible in the pure model: correspondence.)
-/
namespace C14
open TypVerif TypVerif.Model

variable {α β σ ε κ ν : Type}

theorem fold (s : List α) (seed : σ) (acc : σ → α → σ) : Func.fold s seed acc = s.foldl acc seed :=
  Lemmas.Func.foldLoop_eq acc s seed

theorem fold_empty (seed : σ) (acc : σ → α → σ) : Func.fold [] seed acc = seed := rfl

theorem foldReverse (s : List α) (seed : σ) (acc : σ → α → σ) :
    Func.foldReverse s seed acc = .ok (s.reverse.foldl acc seed) := by
  unfold Func.foldReverse
  rw [Lemmas.Func.foldReverseLoop_eq s acc s.length seed (Nat.le_refl _), List.take_length]

theorem foldReverse_empty (seed : σ) (acc : σ → α → σ) : Func.foldReverse ([] : List α) seed acc = .ok seed := rfl

theorem map (s : List α) (conv : α → β) (zero : β) : Func.map s conv zero = s.map conv :=
  Lemmas.Func.map_eq s conv zero

/-- MapErr is the sequential conversion in which the first error wins -/
theorem mapErr (s : List α) (conv : α → Except ε β) (zero : β) :
    Func.mapErr s conv zero = Spec.Func.mapErr s conv :=
  Lemmas.Func.mapErr_eq s conv zero

/-- every conversion succeeds (with results `rs`): the results are returned -/
theorem mapErr_ok (s : List α) (conv : α → Except ε β) (zero : β) (rs : List β)
    (h : s.map conv = rs.map Except.ok) : Func.mapErr s conv zero = .ok rs := by
  rw [mapErr]; exact Lemmas.Func.spec_mapErr_ok conv s rs h
example : Func.mapErr [1, 2, 3] (fun v => (Except.ok (2 * v + 1) : Except String Nat)) 0 = .ok [3, 5, 7] := rfl

/-- the elements before `x` convert, `x` fails with `e`: exactly `e` is returned and there is no result,
whatever comes after `x` -/
theorem mapErr_first_error (pre post : List α) (x : α) (conv : α → Except ε β) (zero : β) (rs : List β) (e : ε)
    (hpre : pre.map conv = rs.map Except.ok) (hx : conv x = .error e) :
    Func.mapErr (pre ++ x :: post) conv zero = .error e := by
  rw [mapErr]; exact Lemmas.Func.spec_mapErr_first_error conv x post e hx pre rs hpre
example : Func.mapErr [1, 2, 3, 4] (fun v => if v % 2 = 0 then Except.error v else Except.ok v) 0 = .error 2 := rfl

theorem filter (s : List α) (p : α → Bool) : Func.filter s p = s.filter p := by
  unfold Func.filter; rw [Lemmas.Func.filterLoop_eq]; rfl

theorem any (s : List α) (p : α → Bool) : Func.any s p = s.any p := Lemmas.Func.any_eq p s
theorem all (s : List α) (p : α → Bool) : Func.all s p = s.all p := Lemmas.Func.all_eq p s

/-- IndexFunc: the least index whose element satisfies `f`, or -1 -/
theorem indexFunc (s : List α) (f : α → Bool) : Func.indexFunc s f = Spec.Func.indexFunc s f := by
  unfold Func.indexFunc Spec.Func.indexFunc
  rw [Lemmas.Func.indexFuncLoop_eq]
  cases List.findIdx? f s with
  | none => rfl
  | some k => simp

theorem index [DecidableEq α] (s : List α) (v : α) : Func.index s v = Spec.Func.index s v :=
  indexFunc s _

theorem contains [DecidableEq α] (s : List α) (v : α) : Func.contains s v = decide (v ∈ s) :=
  Lemmas.Func.contains_eq v s

theorem containsFunc (s : List α) (v : α) (eq : α → α → Bool) :
    Func.containsFunc s v eq = s.any (fun x => eq x v) := Lemmas.Func.containsFunc_eq v eq s

/-- Distinct: first occurrences in original order -/
theorem distinct [DecidableEq α] (s : List α) : Func.distinct s = Spec.Func.dedup s :=
  Lemmas.Func.distinct_eq s
example : Func.distinct [1, 2, 1, 3, 2] = [1, 2, 3] := by decide

/-- Distinct returns a list without duplicates that has the members of `s` (via the reference `dedup`) -/
theorem distinct_nodup_mem [DecidableEq α] (s : List α) :
    (Func.distinct s).Nodup ∧ ∀ x, x ∈ Func.distinct s ↔ x ∈ s := by
  rw [distinct]; exact ⟨Lemmas.Func.nodup_dedup s, fun x => Lemmas.Func.mem_dedup x s⟩

/-- DistinctFunc: an element is kept iff no previously kept element is `equals` to it (arbitrary `equals`) -/
theorem distinctFunc (s : List α) (eq : α → α → Bool) : Func.distinctFunc s eq = Spec.Func.distinctFunc eq s [] :=
  Lemmas.Func.distinctFuncLoop_eq eq s []

theorem exceptSet [DecidableEq α] (s exclude : List α) :
    Func.exceptSet s exclude = s.filter (fun v => !decide (v ∈ exclude)) := by
  unfold Func.exceptSet; rw [Lemmas.Func.exceptSetLoop_eq]; rfl

theorem except [DecidableEq α] (s exclude : List α) : Func.except s exclude = Spec.Func.except s exclude := by
  unfold Func.except Spec.Func.except
  rw [exceptSet]
  apply List.filter_congr
  intro x _
  have := Lemmas.Func.mem_newSetFromSlice x exclude []
  simp only [List.not_mem_nil, false_or] at this
  simp only [this]

/-- GroupBy: one group per key in order of first appearance, members in original order -/
theorem groupBy [DecidableEq κ] [Inhabited κ] (s : List α) (keyer : α → κ) :
    Func.groupBy s keyer = Spec.Func.groupBy s keyer := Lemmas.Func.groupBy_eq s keyer
example : Func.groupBy [1, 2, 3, 4, 5] (fun v => v % 2) = [(1, [1, 3, 5]), (0, [2, 4])] := by decide

theorem groupBy_sizes_sum [DecidableEq κ] [Inhabited κ] (s : List α) (keyer : α → κ) :
    ((Func.groupBy s keyer).map (fun g => g.2.length)).sum = s.length := by
  rw [groupBy]; exact Lemmas.Func.groupBy_sizes_sum s keyer

theorem countBy [DecidableEq κ] [Inhabited κ] (s : List α) (keyer : α → κ) :
    Func.countBy s keyer = Spec.Func.countBy s keyer := Lemmas.Func.countBy_eq s keyer

/-- the counts are the group sizes, key by key (so they too sum to `n`) -/
theorem countBy_sizes [DecidableEq κ] [Inhabited κ] (s : List α) (keyer : α → κ) :
    Func.countBy s keyer = (Func.groupBy s keyer).map (fun g => (g.1, (g.2.length : Int))) := by
  rw [countBy, groupBy]
  unfold Spec.Func.countBy Spec.Func.groupBy
  rw [List.map_map]
  rfl

/-- the Trim family returns a window of its argument -/
theorem trimLeftFunc (s : List α) (p : α → Bool) :
    ∃ w, Func.trimLeftFunc s p = .ok w ∧ Func.window s w = s.dropWhile p ∧
      w.1 + w.2 = s.length ∧ w.1 = (s.takeWhile p).length :=
  ⟨_, Lemmas.Func.trimLeftFunc_eq s p, (Lemmas.Func.trimLeft_window s p).1, (Lemmas.Func.trimLeft_window s p).2, rfl⟩

theorem trimRightFunc (s : List α) (p : α → Bool) :
    ∃ w, Func.trimRightFunc s p = .ok w ∧ Func.window s w = (s.reverse.dropWhile p).reverse ∧
      w.1 = 0 ∧ w.2 ≤ s.length :=
  ⟨_, Lemmas.Func.trimRightFunc_eq s p, (Lemmas.Func.trimRight_window s p).1, rfl, (Lemmas.Func.trimRight_window s p).2⟩

theorem trimFunc (s : List α) (p : α → Bool) :
    ∃ w, Func.trimFunc s p = .ok w ∧ Func.window s w = Spec.Func.trim s p ∧
      w.1 + w.2 ≤ s.length ∧ w.1 = ((Spec.Func.trimRight s p).takeWhile p).length :=
  ⟨_, Lemmas.Func.trimFunc_eq s p, (Lemmas.Func.trim_window s p).1, (Lemmas.Func.trim_window s p).2, rfl⟩

theorem trimLeft [DecidableEq α] (s unwanted : List α) :
    ∃ w, Func.trimLeft s unwanted = .ok w ∧ Func.window s w = s.dropWhile (fun v => decide (v ∈ unwanted)) ∧
      w.1 + w.2 = s.length := by
  unfold Func.trimLeft
  rw [Lemmas.Func.contains_fun]
  exact ⟨_, Lemmas.Func.trimLeftFunc_eq s _, Lemmas.Func.trimLeft_window s _⟩

theorem trimRight [DecidableEq α] (s unwanted : List α) :
    ∃ w, Func.trimRight s unwanted = .ok w ∧
      Func.window s w = (s.reverse.dropWhile (fun v => decide (v ∈ unwanted))).reverse ∧ w.1 = 0 := by
  unfold Func.trimRight
  rw [Lemmas.Func.contains_fun]
  exact ⟨_, Lemmas.Func.trimRightFunc_eq s _, (Lemmas.Func.trimRight_window s _).1, rfl⟩

theorem trim [DecidableEq α] (s unwanted : List α) :
    ∃ w, Func.trim s unwanted = .ok w ∧
      Func.window s w = Spec.Func.trim s (fun v => decide (v ∈ unwanted)) ∧ w.1 + w.2 ≤ s.length := by
  unfold Func.trim
  rw [Lemmas.Func.contains_fun]
  exact ⟨_, Lemmas.Func.trimFunc_eq s _, Lemmas.Func.trim_window s _⟩
example : (Func.trim [0, 0, 1, 0, 2, 0] [0]).map (fun w => (Func.window [0, 0, 1, 0, 2, 0] w, w.1)) = .ok ([1, 0, 2], 2) := rfl

theorem tryGet (s : List α) (i : Int) (zero : α) : Func.tryGet s i zero = .ok (Spec.Func.tryGet s i zero) :=
  Lemmas.Func.tryGet_eq s i zero
theorem safeGet (s : List α) (i : Int) (zero : α) : Func.safeGet s i zero = .ok (Spec.Func.safeGetOr s i zero) :=
  Lemmas.Func.safeGetOr_eq s i zero
theorem safeGetOr (s : List α) (i : Int) (fb : α) : Func.safeGetOr s i fb = .ok (Spec.Func.safeGetOr s i fb) :=
  Lemmas.Func.safeGetOr_eq s i fb
/-- Last: the last element, an index panic for the empty slice -/
theorem last (s : List α) :
    Func.last s = match s.getLast? with | some v => .ok v | none => .error "panic:bounds" :=
  Lemmas.Func.last_eq s

/-! map helpers: `m` is the map (key-duplicate-free association list), `it` the entries in iteration order -/

theorem keys (it m : List (κ × ν)) (hp : it.Perm m) : (Func.keys it).Perm (m.map (·.1)) := by
  unfold Func.keys; rw [Lemmas.Func.keysLoop_eq, List.nil_append]; exact hp.map _

theorem values (it m : List (κ × ν)) (hp : it.Perm m) : (Func.values it).Perm (m.map (·.2)) := by
  unfold Func.values; rw [Lemmas.Func.valuesLoop_eq, List.nil_append]; exact hp.map _

/-- KeyOf returns `(k, true)` for some key mapping to the value iff one exists, else `(zero, false)` -/
theorem keyOf [DecidableEq ν] (it m : List (κ × ν)) (hp : it.Perm m) (value : ν) (zero : κ) :
    ((Func.keyOf it value zero).2 = true → ((Func.keyOf it value zero).1, value) ∈ m) ∧
    ((Func.keyOf it value zero).2 = false → (Func.keyOf it value zero).1 = zero ∧ ¬ ∃ k, (k, value) ∈ m) := by
  obtain ⟨h1, h2⟩ := Lemmas.Func.keyOf_spec value zero it
  refine ⟨fun ht => hp.mem_iff.mp (h1 ht), fun hf => ⟨(h2 hf).1, ?_⟩⟩
  rintro ⟨k, hk⟩
  exact (h2 hf).2 ⟨k, hp.mem_iff.mpr hk⟩

theorem containsValue [DecidableEq ν] (it m : List (κ × ν)) (hp : it.Perm m) (value : ν) :
    Func.containsValue it value = true ↔ ∃ k, (k, value) ∈ m := by
  rw [Lemmas.Func.containsValue_iff]
  constructor
  · rintro ⟨k, hk⟩; exact ⟨k, hp.mem_iff.mp hk⟩
  · rintro ⟨k, hk⟩; exact ⟨k, hp.mem_iff.mpr hk⟩

theorem hasKey [DecidableEq κ] (m : List (κ × ν)) (key : κ) : Func.hasKey m key = true ↔ ∃ v, (key, v) ∈ m :=
  Lemmas.Func.mapGet_isSome_iff key m

set_option linter.unusedVariables false in -- `hnd` is not needed
/-- Clear leaves the map empty -/
theorem mclear [DecidableEq κ] (it m : List (κ × ν)) (hp : it.Perm m) (hnd : (m.map (·.1)).Nodup) :
    Func.mclear it m = [] :=
  Lemmas.Func.mclear_eq_nil it m (hp.map _)

/-- Clone is a map with the same lookups (hence the same entries) -/
theorem mclone [DecidableEq κ] (it m : List (κ × ν)) (hp : it.Perm m) (hnd : (m.map (·.1)).Nodup) :
    ((Func.mclone it).map (·.1)).Nodup ∧ ∀ key, Func.mapGet (Func.mclone it) key = Func.mapGet m key := by
  have hndit : (it.map (·.1)).Nodup := (hp.map (·.1)).nodup_iff.mpr hnd
  rw [Func.mclone, Lemmas.Func.mcloneLoop_eq it [] hndit]
  refine ⟨hndit, fun key => Option.ext fun v => ?_⟩
  rw [List.nil_append, Lemmas.Func.mapGet_eq_some_iff key v it hndit, Lemmas.Func.mapGet_eq_some_iff key v m hnd]
  exact hp.mem_iff
example : Func.mclone [(1, 2), (0, 5)] = [(1, 2), (0, 5)] ∧ Func.mclear [(0, 5), (1, 2)] [(1, 2), (0, 5)] = ([] : List (Nat × Nat)) := by
  decide

end C14

#print axioms C14.fold
#print axioms C14.foldReverse
#print axioms C14.map
#print axioms C14.mapErr
#print axioms C14.mapErr_ok
#print axioms C14.mapErr_first_error
#print axioms C14.filter
#print axioms C14.any
#print axioms C14.all
#print axioms C14.indexFunc
#print axioms C14.index
#print axioms C14.contains
#print axioms C14.containsFunc
#print axioms C14.distinct
#print axioms C14.distinct_nodup_mem
#print axioms C14.distinctFunc
#print axioms C14.exceptSet
#print axioms C14.except
#print axioms C14.groupBy
#print axioms C14.groupBy_sizes_sum
#print axioms C14.countBy
#print axioms C14.countBy_sizes
#print axioms C14.trimLeftFunc
#print axioms C14.trimRightFunc
#print axioms C14.trimFunc
#print axioms C14.trimLeft
#print axioms C14.trimRight
#print axioms C14.trim
#print axioms C14.tryGet
#print axioms C14.safeGet
#print axioms C14.safeGetOr
#print axioms C14.last
#print axioms C14.keys
#print axioms C14.values
#print axioms C14.keyOf
#print axioms C14.containsValue
#print axioms C14.hasKey
#print axioms C14.mclear
#print axioms C14.mclone
