import TypVerif.Lemmas.ConcAccept
import TypVerif.Lemmas.C09AcceptJudge
import TypVerif.Lemmas.C09AcceptOccProof
import TypVerif.Props.C09
/-
C09 — ACCEPTANCE IS SOUND for the judge "C09" of `Drv/C09.lean` (API-level `inv` / `res` traces of KeyedMutex / KeyedRWMutex):
a trace the judge does not reject is — up to the point where the judge declares the scenario outside the property (the ClearKey
proviso) — the visible trace of an execution of `Model.KeyedMutex.sys rw N ops` from its initial state, for some number of
goroutines `N` and some alphabet `ops`.  Hence the theorems of `Props/C09.lean`, which quantify over all
executions, apply to that real run: the trace satisfies the occupancy predicate (`judgeRef_accepted_occupancy`, `judge_accepted_occupancy`), the model state
reached satisfies per-key exclusion (`C09.mutex`, `C09.rw`).

What the judge does per event (`Drv.C09.modelStep`): pad every state of its set with idle goroutines so that goroutine `t` exists
(`pad t`), then
  * reference judge (`judgeRef` = `step true`): the generic `Conc.stepEvent` of `sys rw 0 [op]`, fuel 64, on exact states;
  * fast judge (`judge` = `step false`): `Drv.C09.stepEvent` — successors labelled with the event, then the closure under internal
    steps by `Drv.C09.close`, on NORMALISED states (`norm`: garbage dropped, mutex ids renumbered, map and sets sorted).
Why this is sound (`Lemmas/C09Accept*.lean`): idle goroutines other than the stepping one are ignored (`exec_pad`), the alphabet is
monotone (`exec_ops_mono`), `n` matters only for the initial state (`exec_n_irrelevant`); a normalised state `x` stands for a model
state `a` up to an injective renaming of the live mutex ids, garbage, and the order of the map and of the sets (`R a x`); `R` is a
backward simulation (`R_succ`) and `norm` stays inside it (`R_norm`).

The closure.  The theorems about the fast judge are stated for any closure function with the closure property
`CloseSound rw cl` ("the closure only adds normal forms of internal successors"); `closeF_sound` proves it for `closeF rw fuel`
whatever the fuel, and `Drv.C09.close rw = closeF rw closeBudget` (`close_sound`): `judge_accept_sound_unconditional` at the end of
the file is the statement about the judge as it runs.  The reference judge needs no closure property.

The fold theorems are proved through `R a' y` ("`y` stands for `a'`"); `norm` is also canonical (`norm_canonical`: `R a x → norm x =
norm a`), which gives the literal form "`y` IS the normal form of a model state reached" (`judge_stepEvent_norm`).
This file is soundness; that the fast judge loses no trace of the model within its closure budget is `C09.judge_accept_complete`
(`Props/C09complete.lean`).
-/
namespace C09
open TypVerif TypVerif.Conc TypVerif.Model.KeyedMutex TypVerif.Drv.C09 TypVerif.Proto
open TypVerif.Lemmas.C09Accept (padBy R Rel WF normF StepSound stepEventWith CloseSound lineEvent runLines advance
  evT evOps OccupancyOk occupancy)

theorem pad_eq_padBy (t : Nat) (s : State) : pad t s = padBy (t + 1 - s.pcs.length) s :=
  Lemmas.C09Accept.pad_eq_padBy t s

/-- padding with idle goroutines is a simulation -/
theorem exec_pad (rw : Bool) (n n' k : Nat) (ops : List Op) {a b : State} {ls : List (Option Event)}
    (h : Exec (sys rw n ops) a ls b) : Exec (sys rw n' ops) (padBy k a) ls (padBy k b) :=
  Lemmas.C09Accept.exec_of_ex n' ((Lemmas.C09Accept.ex_of_exec h).padBy k)

/-- the alphabet of operations is monotone -/
theorem exec_ops_mono (rw : Bool) (n : Nat) {ops ops' : List Op} (hm : ∀ op ∈ ops, op ∈ ops') {a b : State}
    {ls : List (Option Event)} (h : Exec (sys rw n ops) a ls b) : Exec (sys rw n ops') a ls b :=
  Lemmas.C09Accept.exec_of_ex n ((Lemmas.C09Accept.ex_of_exec h).ops_mono hm)

/-- `n` matters only for the initial state -/
theorem exec_n_irrelevant (rw : Bool) (n n' : Nat) (ops : List Op) {a b : State} {ls : List (Option Event)}
    (h : Exec (sys rw n ops) a ls b) : Exec (sys rw n' ops) a ls b :=
  Lemmas.C09Accept.exec_of_ex n' (Lemmas.C09Accept.ex_of_exec h)

/-- `norm s` is `s` up to the renaming `norm` applies, garbage and order -/
theorem norm_rel (s : State) : Rel (normF s) s (norm s) := Lemmas.C09Accept.rel_norm s

/-- well-formedness (distinct keys, live mutex ids inside the heap) holds initially and is preserved by every step -/
theorem wf_init (n : Nat) : WF (init n) := Lemmas.C09Accept.wf_init n
theorem wf_succ {rw g : Bool} {ops : List Op} {a a' : State} {l : Option Event}
    (hw : WF a) (h : (l, a') ∈ succ rw g ops a) : WF a' :=
  (Lemmas.C09Complete.R_succ_fwd (Lemmas.C09Accept.R_refl hw) h).elim fun _ hz => hz.2.1

theorem R_refl {a : State} (hw : WF a) : R a a := Lemmas.C09Accept.R_refl hw

/-- normalising a judge state keeps it standing for the same model state -/
theorem R_norm {a x : State} (h : R a x) : R a (norm x) := Lemmas.C09Accept.R_norm h

/-- backward simulation: a step of a judge state is matched, with the same label, by a step of the model state it stands for -/
theorem R_succ {rw g : Bool} {ops : List Op} {a x z : State} {l : Option Event}
    (hr : R a x) (h : (l, z) ∈ succ rw g ops x) : ∃ a', (l, a') ∈ succ rw g ops a ∧ R a' z :=
  Lemmas.C09Accept.R_succ hr h

/-- `norm` is canonical: a judge state and the model state it stands for have the same normal form -/
theorem norm_canonical {a x : State} (h : R a x) : norm x = norm a := Lemmas.C09Accept.norm_eq_of_R h

theorem R_pad {a x : State} (t : Nat) (h : R a x) : R (pad t a) (pad t x) := Lemmas.C09Accept.R_pad t h

/-- reference judge: every state of the new set is reached from the padding of a state of the old set by an execution with
visible trace `[e]` -/
theorem judge_stepEvent_ref_sound (rw : Bool) (n : Nat) (ops : List Op) (fuel : Nat) (ss : List State) (t : Nat) (e : Event) :
    ∀ s' ∈ Conc.stepEvent (sys rw n ops) fuel (ss.map (pad t)) e, ∃ s ∈ ss, ∃ (ls : List (Option Event)),
      Exec (sys rw n ops) (pad t s) ls s' ∧ visible ls = [e] := by
  intro s' h
  obtain ⟨x, hx, ls, hex, hv⟩ := Conc.stepEvent_sound (sys rw n ops) fuel _ e s' h
  obtain ⟨s, hs, rfl⟩ := List.mem_map.1 hx
  exact ⟨s, hs, ls, hex, hv⟩

/-- the fast judge's `stepEvent` is `stepEventWith` instantiated with the closure `close rw` -/
theorem stepEvent_eq (rw : Bool) (ops : List Op) (ss : List State) (e : Event) :
    Drv.C09.stepEvent rw ops ss e = stepEventWith (close rw) rw ops ss e := rfl

/-- the closure property holds for `closeF` with any fuel (`Drv.C09.close rw` is `closeF rw closeBudget`) -/
theorem closeF_sound (rw : Bool) (fuel : Nat) : CloseSound rw (closeF rw fuel) :=
  Lemmas.C09Accept.closeF_sound rw fuel

/-- fast judge, for any closure function with the closure property: every state `y` of the new set comes from the padding of a
state `x` of the old set such that, whatever model state `a` the state `pad t x` stands for, `a` has an execution with visible trace
`[e]` to a model state `a'` that `y` stands for -/
theorem judge_stepEvent_sound (cl : Std.HashSet State → List State → Array State → Array State) (rw : Bool)
    (hcl : CloseSound rw cl) (n : Nat) (ops : List Op) (ss : List State) (t : Nat) (e : Event) :
    ∀ y ∈ stepEventWith cl rw ops (ss.map (pad t)) e, ∃ x ∈ ss, ∀ a, R a (pad t x) →
      ∃ (ls : List (Option Event)) (a' : State), Exec (sys rw n ops) a ls a' ∧ visible ls = [e] ∧ R a' y := by
  intro y hy
  obtain ⟨x', hx', hq⟩ := Lemmas.C09Accept.stepEventWith_sound cl rw hcl ops _ e y hy
  obtain ⟨x, hx, rfl⟩ := List.mem_map.1 hx'
  refine ⟨x, hx, fun a ha => ?_⟩
  obtain ⟨ls, a', hex, hv, hr⟩ := hq a ha
  exact ⟨ls, a', Lemmas.C09Accept.exec_of_ex n hex, hv, hr⟩

/-- the literal form: every state `y` of the new set IS the normal form of a model state reached by an execution with visible trace
`[e]` from any model state that the padding of some state `x` of the old set stands for — e.g. from `pad t x` itself when `x` is
well-formed (`R_refl`), or from `pad t a` when `x = norm a` with `a` well-formed (`R_norm`, `R_pad`) -/
theorem judge_stepEvent_norm (cl : Std.HashSet State → List State → Array State → Array State) (rw : Bool)
    (hcl : CloseSound rw cl) (n : Nat) (ops : List Op) (ss : List State) (t : Nat) (e : Event) :
    ∀ y ∈ stepEventWith cl rw ops (ss.map (pad t)) e, ∃ x ∈ ss, ∀ a, R a (pad t x) →
      ∃ (ls : List (Option Event)) (a' : State), Exec (sys rw n ops) a ls a' ∧ visible ls = [e] ∧ y = norm a' := by
  intro y hy
  obtain ⟨x', hx', hq⟩ := Lemmas.C09Accept.stepEventWith_sound_norm cl rw hcl ops _ e y hy
  obtain ⟨x, hx, rfl⟩ := List.mem_map.1 hx'
  refine ⟨x, hx, fun a ha => ?_⟩
  obtain ⟨ls, a', hex, hv, _, hn⟩ := hq a ha
  exact ⟨ls, a', Lemmas.C09Accept.exec_of_ex n hex, hv, hn⟩

/-- `judge_stepEvent_sound` for the closure `closeF rw fuel`, any fuel (`close rw` is the case `fuel = closeBudget`) -/
theorem judge_stepEventF_sound (fuel : Nat) (rw : Bool) (n : Nat) (ops : List Op) (ss : List State) (t : Nat) (e : Event) :
    ∀ y ∈ stepEventWith (closeF rw fuel) rw ops (ss.map (pad t)) e, ∃ x ∈ ss, ∀ a, R a (pad t x) →
      ∃ (ls : List (Option Event)) (a' : State), Exec (sys rw n ops) a ls a' ∧ visible ls = [e] ∧ R a' y :=
  judge_stepEvent_sound (closeF rw fuel) rw (closeF_sound rw fuel) n ops ss t e

/-- everything `Drv.C09.step` does to the model part of its state on a line that stands for an event `e` (`lineEvent`): the ClearKey
proviso may switch the judge to `outside` (never back); otherwise the state set becomes `advance ref rw ss e` — pad, then
`Conc.stepEvent` (`ref = true`) or `Drv.C09.stepEvent` (`ref = false`) — and the judge rejects iff that set is empty -/
theorem judge_step_parsed (ref : Bool) (st : St) (toks : List Val) (impl : String) (e : Event)
    (hp : lineEvent toks = some e) (hst : st.started = true) :
    (step ref st toks impl).1.started = true ∧ (step ref st toks impl).1.rw = st.rw ∧
    ((step ref st toks impl).1.outside = false → st.outside = false) ∧
    ((step ref st toks impl).1.rejected = none → st.rejected = none) ∧
    ((step ref st toks impl).1.outside = false → (step ref st toks impl).1.rejected = none →
      (step ref st toks impl).1.ss = advance ref st.rw st.ss e ∧ (step ref st toks impl).1.ss ≠ []) :=
  Lemmas.C09Accept.step_parsed ref st toks impl e hp hst

/-- **reference judge** (`judgeRef`, `step true`).  After the header `km rwi`, the lines `lines1 ++ lines2`, each standing for an
event (`lineEvent`: `inv` / `res` lines with well-formed arguments; `tr1`, `tr2` the events): if the judge is still inside the
property after `lines1` (`outside = false`) and has not rejected at the end (`rejected = none`: every model output was `ok`), then
`tr1` is the visible trace of an execution of the model from its initial state. -/
theorem judgeRef_accept_sound (st0 : St) (rwi : Int) (impl0 : String) (lines1 lines2 : List (List Val × String))
    (tr1 tr2 : List Event)
    (hp1 : lines1.map (fun l => lineEvent l.1) = tr1.map some)
    (hp2 : lines2.map (fun l => lineEvent l.1) = tr2.map some)
    (hout : (runLines true (step true st0 [.w "km", .i rwi] impl0).1 lines1).outside = false)
    (hok : (runLines true (step true st0 [.w "km", .i rwi] impl0).1 (lines1 ++ lines2)).rejected = none) :
    ∃ (N : Nat) (ops : List Op) (ls : List (Option Event)) (s : State),
      Exec (sys (rwi != 0) N ops) (sys (rwi != 0) N ops).init ls s ∧ visible ls = tr1 :=
  Lemmas.C09Accept.fold_sound true Eq rfl (fun _ _ _ h => by rw [h]) Lemmas.C09Accept.advance_ref_sound
    st0 rwi impl0 lines1 lines2 tr1 tr2 hp1 hp2 hout hok

/-- **the judge** (`judge`, `step false`), with the closure property of `Drv.C09.close` as a hypothesis (discharged by `close_sound`
in `judge_accept_sound_unconditional`) -/
theorem judge_accept_sound (hcl : ∀ rw, CloseSound rw (close rw))
    (st0 : St) (rwi : Int) (impl0 : String) (lines1 lines2 : List (List Val × String))
    (tr1 tr2 : List Event)
    (hp1 : lines1.map (fun l => lineEvent l.1) = tr1.map some)
    (hp2 : lines2.map (fun l => lineEvent l.1) = tr2.map some)
    (hout : (runLines false (step false st0 [.w "km", .i rwi] impl0).1 lines1).outside = false)
    (hok : (runLines false (step false st0 [.w "km", .i rwi] impl0).1 (lines1 ++ lines2)).rejected = none) :
    ∃ (N : Nat) (ops : List Op) (ls : List (Option Event)) (s : State),
      Exec (sys (rwi != 0) N ops) (sys (rwi != 0) N ops).init ls s ∧ visible ls = tr1 :=
  Lemmas.C09Accept.fold_sound false R (Lemmas.C09Accept.R_refl (Lemmas.C09Accept.wf_init 0))
    (fun t _ _ h => Lemmas.C09Accept.R_pad t h) (Lemmas.C09Accept.advance_fast_sound hcl)
    st0 rwi impl0 lines1 lines2 tr1 tr2 hp1 hp2 hout hok

/-- every visible trace of the model satisfies the occupancy predicate of the keyed-lock object, evaluated on the events alone
(`Lemmas/C09AcceptOcc.lean`; a predicate of its own, not related by a theorem to the judge's `specInv`/`specRes`): a goroutine occupies `k` for writing from the
response of its successful Lock/TryLock to its invocation of Unlock, for reading likewise; at a write acquisition nobody
occupies `k`, at a read acquisition nobody occupies it for writing.  (Through `C09.mutex` / `C09.rw` in the form
`mutex_of_good` / `rw_of_good`.) -/
theorem trace_occupancy (rw : Bool) (N : Nat) (ops : List Op) {ls : List (Option Event)} {s : State}
    (h : Exec (sys rw N ops) (sys rw N ops).init ls s) : OccupancyOk (visible ls) :=
  Lemmas.C09Accept.occupancy_of_ex (Lemmas.C09Accept.ex_of_exec h)

/-- per-key exclusion in the model state an execution ends in (`C09.mutex`, `C09.rw`) -/
theorem exec_exclusive (rw : Bool) (N : Nat) (ops : List Op) {ls : List (Option Event)} {s : State}
    (h : Exec (sys rw N ops) (sys rw N ops).init ls s) :
    (∀ t₁ t₂ k, s.holdsW t₁ k → s.holdsW t₂ k → t₁ = t₂) ∧
    (∀ t₁ k, s.holdsW t₁ k → ∀ t₂, ¬ s.holdsR t₂ k) := by
  have hr : Reachable (sys rw N ops) s := Exec.reachable h .init
  exact ⟨C09.mutex rw N ops s hr, fun t₁ k h₁ => (C09.rw rw N ops s hr t₁ k h₁).1⟩

/-- **an accepted trace satisfies the occupancy predicate** (reference judge), and the model state it leads to is exclusive -/
theorem judgeRef_accepted_occupancy (st0 : St) (rwi : Int) (impl0 : String) (lines1 lines2 : List (List Val × String))
    (tr1 tr2 : List Event)
    (hp1 : lines1.map (fun l => lineEvent l.1) = tr1.map some)
    (hp2 : lines2.map (fun l => lineEvent l.1) = tr2.map some)
    (hout : (runLines true (step true st0 [.w "km", .i rwi] impl0).1 lines1).outside = false)
    (hok : (runLines true (step true st0 [.w "km", .i rwi] impl0).1 (lines1 ++ lines2)).rejected = none) :
    OccupancyOk tr1 := by
  obtain ⟨N, ops, ls, s, hex, hv⟩ := judgeRef_accept_sound st0 rwi impl0 lines1 lines2 tr1 tr2 hp1 hp2 hout hok
  rw [← hv]
  exact trace_occupancy _ N ops hex

/-- `judgeRef_accepted_occupancy` for the fast judge, with the closure property of `Drv.C09.close` as a hypothesis -/
theorem judge_accepted_occupancy (hcl : ∀ rw, CloseSound rw (close rw))
    (st0 : St) (rwi : Int) (impl0 : String) (lines1 lines2 : List (List Val × String))
    (tr1 tr2 : List Event)
    (hp1 : lines1.map (fun l => lineEvent l.1) = tr1.map some)
    (hp2 : lines2.map (fun l => lineEvent l.1) = tr2.map some)
    (hout : (runLines false (step false st0 [.w "km", .i rwi] impl0).1 lines1).outside = false)
    (hok : (runLines false (step false st0 [.w "km", .i rwi] impl0).1 (lines1 ++ lines2)).rejected = none) :
    OccupancyOk tr1 := by
  obtain ⟨N, ops, ls, s, hex, hv⟩ := judge_accept_sound hcl st0 rwi impl0 lines1 lines2 tr1 tr2 hp1 hp2 hout hok
  rw [← hv]
  exact trace_occupancy _ N ops hex

/-! non-vacuity: lines and their events; the occupancy predicate accepts a hand-over and refuses a double acquisition -/
example : lineEvent [.w "inv", .i 1, .w "trylock", .i 5] = some (.inv 1 ⟨.trylock, 5⟩) := by decide +kernel
example : lineEvent [.w "res", .i 1, .w "false"] = some (.res 1 .ff) := by decide +kernel
example : lineEvent [.w "km", .i 1] = none := by decide +kernel
/-- the reference judge accepts `lock 5` by goroutine 0 returning, and rejects a TryLock failing on a free key -/
example : (runLines true (step true {} [.w "km", .i 0] "").1
    [([.w "inv", .i 0, .w "lock", .i 5], "ok"), ([.w "res", .i 0, .w "done"], "ok")]).rejected = none ∧
    (runLines true (step true {} [.w "km", .i 0] "").1
    [([.w "inv", .i 0, .w "lock", .i 5], "ok"), ([.w "res", .i 0, .w "done"], "ok")]).outside = false := by decide +kernel
example : (runLines true (step true {} [.w "km", .i 0] "").1
    [([.w "inv", .i 0, .w "trylock", .i 5], "ok"), ([.w "res", .i 0, .w "false"], "ok")]).rejected ≠ none := by decide +kernel
example : OccupancyOk [.inv 0 ⟨.lock, 5⟩, .inv 1 ⟨.lock, 5⟩, .res 0 .done, .inv 0 ⟨.unlock, 5⟩, .res 0 .done, .res 1 .done] := by
  decide
example : ¬ OccupancyOk [.inv 0 ⟨.lock, 5⟩, .inv 1 ⟨.lock, 5⟩, .res 0 .done, .res 1 .done] := by decide

/-! ## the fast judge as it runs: `Drv.C09.close rw` is `closeF rw closeBudget` -/

/-- the closure the fast judge runs (`Drv.C09.close rw = closeF rw closeBudget`) only adds normal forms of states reachable by internal steps -/
theorem close_sound (rw : Bool) : CloseSound rw (close rw) := closeF_sound rw closeBudget

/-- **the fast judge is sound**: a trace it does not reject (up to the point where it declares the scenario outside
the property) is the visible trace of an execution of `Model.KeyedMutex.sys` -/
theorem judge_accept_sound_unconditional
    (st0 : St) (rwi : Int) (impl0 : String) (lines1 lines2 : List (List Val × String))
    (tr1 tr2 : List Event)
    (hp1 : lines1.map (fun l => lineEvent l.1) = tr1.map some)
    (hp2 : lines2.map (fun l => lineEvent l.1) = tr2.map some)
    (hout : (runLines false (step false st0 [.w "km", .i rwi] impl0).1 lines1).outside = false)
    (hok : (runLines false (step false st0 [.w "km", .i rwi] impl0).1 (lines1 ++ lines2)).rejected = none) :
    ∃ (N : Nat) (ops : List Op) (ls : List (Option Event)) (s : State),
      Exec (sys (rwi != 0) N ops) (sys (rwi != 0) N ops).init ls s ∧ visible ls = tr1 :=
  judge_accept_sound close_sound st0 rwi impl0 lines1 lines2 tr1 tr2 hp1 hp2 hout hok

/-- a trace the fast judge does not reject satisfies the occupancy predicate -/
theorem judge_accepted_occupancy_unconditional
    (st0 : St) (rwi : Int) (impl0 : String) (lines1 lines2 : List (List Val × String))
    (tr1 tr2 : List Event)
    (hp1 : lines1.map (fun l => lineEvent l.1) = tr1.map some)
    (hp2 : lines2.map (fun l => lineEvent l.1) = tr2.map some)
    (hout : (runLines false (step false st0 [.w "km", .i rwi] impl0).1 lines1).outside = false)
    (hok : (runLines false (step false st0 [.w "km", .i rwi] impl0).1 (lines1 ++ lines2)).rejected = none) :
    OccupancyOk tr1 :=
  judge_accepted_occupancy close_sound st0 rwi impl0 lines1 lines2 tr1 tr2 hp1 hp2 hout hok

end C09

#print axioms C09.exec_pad
#print axioms C09.exec_ops_mono
#print axioms C09.exec_n_irrelevant
#print axioms C09.norm_rel
#print axioms C09.wf_succ
#print axioms C09.R_norm
#print axioms C09.R_succ
#print axioms C09.norm_canonical
#print axioms C09.R_pad
#print axioms C09.judge_stepEvent_ref_sound
#print axioms C09.closeF_sound
#print axioms C09.judge_stepEvent_sound
#print axioms C09.judge_stepEvent_norm
#print axioms C09.judge_stepEventF_sound
#print axioms C09.judge_step_parsed
#print axioms C09.judgeRef_accept_sound
#print axioms C09.judge_accept_sound
#print axioms C09.trace_occupancy
#print axioms C09.exec_exclusive
#print axioms C09.judgeRef_accepted_occupancy
#print axioms C09.judge_accepted_occupancy
#print axioms C09.close_sound
#print axioms C09.judge_accept_sound_unconditional
#print axioms C09.judge_accepted_occupancy_unconditional
