import TypVerif.Lemmas.KeyedMutexConcProps
/-
C09 WITHOUT the atomic-map assumption: `sync2/keyedmutex.go` composed with the STEP-LEVEL model of the embedded `sync2.Map`.

The C09 theorems of `Props/C09.lean` are about `Model/KeyedMutex.lean`, whose modelling decision `MapAtomic` replaces the map by
its atomic specification; `Props/C09map.lean` derives the agreement of `LoadOrStore` results for histories of the map alone.
Here the two are COMPOSED in one transition system (`Model/KeyedMutexConc.lean`, `sys K menu n`): the state contains the map's
step-level state (`SyncMapConc.State K MId`: read map, dirty map, entries, `mu`, one program counter per goroutine), one step of a
goroutine inside a keyed-mutex method is one atomic action of `map.go` (exactly the steps of `SyncMapConc.sys`, the system of
`C04.conc_linearizable`), followed — when the map call returns — by the method's own action (`Unlock`/`RUnlock` at once, `Lock`,
`RLock`, `Try*` at their own hook).  It is the composition the judge `C09conc` replays real step traces of `KeyedMutex` /
`KeyedRWMutex` in.  Every theorem is about EVERY reachable state: all schedules, any number `n` of goroutines, any menu of
operations on any keys — with the one proviso `NoClearKey k menu` (`ClearKey` is never applied to the key `k` under consideration;
other keys may be cleared at any time) and the discipline built into the invocation guard `invOk` (goroutines only unlock what
they hold).

Proof (`Lemmas/KeyedMutexConc*.lean`): the composed invariant `Inv k s a` carries the simulation relation `R s.map a` of the C04
proof (re-established at every map step by `Lemmas.Smc.sim_step`) together with an invariant `AbsKey` of the abstract state `a`
(the relaxed atomic map): every result, effective or seen, of a `LoadOrStore(k, _)` is `(w, _)` with `a.obj k = some w`, and
`a.obj k = some w` is stable because no operation of the menu deletes or overwrites `k`.  `R` gives `a.obj k = absOf s.map.sh k`.
-/
namespace C09
open TypVerif TypVerif.Conc TypVerif.Model
open TypVerif.Model.SyncMapConc (Tid Pc picks)
open TypVerif.Model.KeyedMutexConc (Phase Kind Mu MId sys run stepT enabled isLockPc putMu)
open TypVerif.Lemmas.Smc (absOf)
open TypVerif.Lemmas.KeyedMutexConc

set_option linter.unusedSectionVars false

variable {K : Type} [DecidableEq K]

/-- schedules for the examples: goroutine `t` takes its first available step `n` times -/
private def sched (t n : Nat) : List (Tid × Nat) := List.replicate n (t, 0)

/-- **Agreement, all schedules.**  If `ClearKey` is never applied to `k`: in every reachable state of the composed system every
goroutine that has obtained a mutex for `k` — it is parked at its `Lock`/`RLock`/`Try*` hook with mutex `m` for `k`, or holds `k`
(for writing or reading) through `m` — has THE mutex the step-level map currently holds for `k`: `absOf s.map.sh k = some m`
(`absOf`: the abstraction function of the C04 proof — the value the read/dirty/expunged state stands for).  Hence any two such
goroutines have the same mutex — also at the simultaneous first use of a never-seen key. -/
theorem conc_agree (k : K) (menu : List (KeyedMutexConc.Op K)) (hmenu : NoClearKey k menu) (n : Nat) :
    ∀ s, Reachable (sys K menu n) s →
      (∀ t m, s.obtained t k m → absOf s.map.sh k = some m) ∧
      (∀ t₁ t₂ m₁ m₂, s.obtained t₁ k m₁ → s.obtained t₂ k m₂ → m₁ = m₂) := by
  intro s hr
  obtain ⟨a, h⟩ := reachable_inv hmenu n hr
  refine ⟨fun t m ho => h.agree ho, fun t₁ t₂ m₁ m₂ h1 h2 => ?_⟩
  have e1 := h.agree h1
  rw [h.agree h2] at e1
  exact (Option.some.inj e1).symm

/-- non-vacuity: the simultaneous first use of key 5 by two goroutines — goroutine 0 runs `LockKey(5)` up to its hook, then
goroutine 1 does; both are parked with mutex 1 (goroutine 1 offered mutex 2, which lost) -/
example : ∃ s, Reachable (sys Nat [⟨.lock, 5⟩] 2) s ∧
    s.phase 0 = .atHook .lock 5 1 ∧ s.phase 1 = .atHook .lock 5 1 ∧ s.next = 3 :=
  ⟨run [⟨.lock, 5⟩] (sched 0 7 ++ sched 1 7) (KeyedMutexConc.init 2), reachable_run _ _ _ _ .init, by decide +kernel⟩

/-- distinct keys never share a mutex (so a mutex obtained for `k₂` is not the one the map holds for `k₁`) -/
theorem conc_agree_distinct (k : K) (menu : List (KeyedMutexConc.Op K)) (hmenu : NoClearKey k menu) (n : Nat) :
    ∀ s, Reachable (sys K menu n) s → ∀ k₁ k₂ m, absOf s.map.sh k₁ = some m → absOf s.map.sh k₂ = some m → k₁ = k₂ := by
  intro s hr k₁ k₂ m h1 h2
  obtain ⟨a, h⟩ := reachable_inv hmenu n hr
  exact h.distinct h1 h2

/-- **Mutual exclusion per KEY, all schedules** (readers xor one writer).  If `ClearKey` is never applied to `k`, in every
reachable state: at most one goroutine holds `k` for writing (and it holds it once); while a goroutine holds `k` for writing
nobody holds `k` for reading; and the ghost "holds" is faithful to the real mutex: `t` holds `k` for writing / reading iff `t` is
the writer / a reader of the mutex the map holds for `k`. -/
theorem conc_mutex (k : K) (menu : List (KeyedMutexConc.Op K)) (hmenu : NoClearKey k menu) (n : Nat) :
    ∀ s, Reachable (sys K menu n) s →
      (∀ t₁ t₂, s.holdsW t₁ k = true → s.holdsW t₂ k = true → t₁ = t₂) ∧
      (∀ t₁ t₂, s.holdsW t₁ k = true → s.holdsR t₂ k = true → False) ∧
      (∀ t m, s.wh.count (t, k, m) ≤ 1) ∧
      (∀ m, absOf s.map.sh k = some m → ∀ t,
        (s.holdsW t k = true ↔ (s.mu m).writer = some t) ∧ (s.holdsR t k = true ↔ t ∈ (s.mu m).readers)) := by
  intro s hr
  obtain ⟨a, h⟩ := reachable_inv hmenu n hr
  refine ⟨?_, ?_, h.wcount_le, fun m hm t => ⟨h.holdsW_iff_writer hm, h.holdsR_iff_reader hm⟩⟩
  · intro t₁ t₂ h1 h2
    obtain ⟨m1, h1⟩ := holdsW_iff.mp h1
    obtain ⟨m2, h2⟩ := holdsW_iff.mp h2
    exact (h.mutex h1 h2).1
  · intro t₁ t₂ h1 h2
    obtain ⟨m1, h1⟩ := holdsW_iff.mp h1
    obtain ⟨m2, h2⟩ := holdsR_iff.mp h2
    exact h.rw_excl h1 h2

/-- non-vacuity: a goroutine does get to hold a key; two readers hold a key together -/
example : ∃ s, Reachable (sys Nat [⟨.lock, 5⟩] 2) s ∧ s.holdsW 0 5 = true ∧ s.mu 1 = { writer := some 0 } :=
  ⟨run [⟨.lock, 5⟩] (sched 0 9) (KeyedMutexConc.init 2), reachable_run _ _ _ _ .init, by decide +kernel⟩
example : ∃ s, Reachable (sys Nat [⟨.rlock, 5⟩] 2) s ∧ s.holdsR 0 5 = true ∧ s.holdsR 1 5 = true ∧ (s.mu 1).readers = [1, 0] :=
  ⟨run [⟨.rlock, 5⟩] (sched 0 9 ++ sched 1 9) (KeyedMutexConc.init 2), reachable_run _ _ _ _ .init, by decide +kernel⟩

/-- **Unlock releases what Lock acquired, all schedules.**  If `ClearKey` is never applied to `k`: (1) no `Unlock`/`RUnlock` on
`k` ever finds a mutex its caller does not hold (`k ∉ s.faults` — the real code never hits "sync: unlock of unlocked mutex" when
goroutines only unlock what they hold); (2) in the step in which `UnlockKey(k)` of goroutine `t` completes (its `LoadOrStore`
returns and `m.Unlock()` runs), the mutex `m` it releases is the one `t`'s `LockKey(k)`/`TryLockKey(k)` acquired (`(t, k, m) ∈ s.wh`),
`t` is its writer, it is the map's mutex for `k`, and the step releases exactly that; (3) the same for `RUnlockKey(k)`. -/
theorem conc_unlock_same (k : K) (menu : List (KeyedMutexConc.Op K)) (hmenu : NoClearKey k menu) (n : Nat) :
    ∀ s, Reachable (sys K menu n) s →
      k ∉ s.faults ∧
      (∀ t l s', t < s.phases.length → (l, s') ∈ stepT menu s t → s.phase t = .inMap .unlock k → s'.phase t = .ret .done →
        ∃ m, (t, k, m) ∈ s.wh ∧ (s.mu m).writer = some t ∧ absOf s'.map.sh k = some m ∧
          s'.wh = s.wh.erase (t, k, m) ∧ s'.mus = putMu s.mus m { s.mu m with writer := none } ∧
          s'.rh = s.rh ∧ s'.faults = s.faults) ∧
      (∀ t l s', t < s.phases.length → (l, s') ∈ stepT menu s t → s.phase t = .inMap .runlock k → s'.phase t = .ret .done →
        ∃ m, (t, k, m) ∈ s.rh ∧ t ∈ (s.mu m).readers ∧ absOf s'.map.sh k = some m ∧
          s'.rh = s.rh.erase (t, k, m) ∧ s'.mus = putMu s.mus m { s.mu m with readers := (s.mu m).readers.erase t } ∧
          s'.wh = s.wh ∧ s'.faults = s.faults) := by
  intro s hr
  obtain ⟨a, h⟩ := reachable_inv hmenu n hr
  exact ⟨h.mu.nofault, fun t l s' ht hs hp hd => unlock_step h ht hp hs hd,
    fun t l s' ht hs hp hd => runlock_step h ht hp hs hd⟩

/-- non-vacuity: goroutine 0 has locked key 5 and is inside `UnlockKey(5)`, one step before its map call returns; the next step
releases mutex 1 -/
example : ∃ s s', Reachable (sys Nat [⟨.unlock, 5⟩, ⟨.lock, 5⟩] 2) s ∧ s.phase 0 = .inMap .unlock 5 ∧ s.wh = [(0, 5, 1)] ∧
    (none, s') ∈ stepT [⟨.unlock, 5⟩, ⟨.lock, 5⟩] s 0 ∧ s'.phase 0 = .ret .done ∧ s'.wh = [] ∧ s'.mu 1 = {} :=
  ⟨run [⟨.unlock, 5⟩, ⟨.lock, 5⟩] (sched 0 15) (KeyedMutexConc.init 2),
   run [⟨.unlock, 5⟩, ⟨.lock, 5⟩] (sched 0 16) (KeyedMutexConc.init 2), reachable_run _ _ _ _ .init, by decide +kernel⟩

/-- **TryLockKey / TryRLockKey, all schedules.**  If `ClearKey` is never applied to `k`, a goroutine `t` parked at the hook of
`TryLockKey(k)` / `TryRLockKey(k)` with mutex `m`: `m` is the map's mutex for `k`; the step is always enabled (never blocks), is
internal and deterministic; it returns `true` iff the mutex is free (`TryLock`) / has no writer (`TryRLock`), and then `t` holds
`k` from that very step on; it returns `false` — changing nothing — only if the key is held incompatibly at that step: by some
goroutine for writing or reading (`TryLock`), for writing (`TryRLock`); and conversely it does return `false` whenever it is. -/
theorem conc_try (k : K) (menu : List (KeyedMutexConc.Op K)) (hmenu : NoClearKey k menu) (n : Nat) :
    ∀ s, Reachable (sys K menu n) s → ∀ t m, t < s.phases.length →
      (s.phase t = .atHook .trylock k m →
        absOf s.map.sh k = some m ∧
        (((∃ u, s.holdsW u k = true) ∨ (∃ u, s.holdsR u k = true)) ↔ ¬ (s.mu m).free) ∧
        ∃ s', stepT menu s t = [(none, s')] ∧
          ((s.mu m).free → s'.phase t = .ret .tt ∧ s'.holdsW t k = true ∧ (s'.mu m).writer = some t) ∧
          (¬ (s.mu m).free → s'.phase t = .ret .ff ∧ s' = s.setPhase t (.ret .ff))) ∧
      (s.phase t = .atHook .tryrlock k m →
        absOf s.map.sh k = some m ∧
        ((∃ u, s.holdsW u k = true) ↔ ¬ (s.mu m).readable) ∧
        ∃ s', stepT menu s t = [(none, s')] ∧
          ((s.mu m).readable → s'.phase t = .ret .tt ∧ s'.holdsR t k = true ∧ t ∈ (s'.mu m).readers) ∧
          (¬ (s.mu m).readable → s'.phase t = .ret .ff ∧ s' = s.setPhase t (.ret .ff))) := by
  intro s hr t m ht
  obtain ⟨a, h⟩ := reachable_inv hmenu n hr
  refine ⟨fun hp => ?_, fun hp => ?_⟩
  · have hm := h.agree (t := t) (m := m) (Or.inl ⟨_, hp⟩)
    refine ⟨hm, h.held_iff_not_free hm, ?_⟩
    rw [stepT_atHook menu hp]
    simp only [KeyedMutexConc.hookStep]
    by_cases hf : (s.mu m).free
    · refine ⟨_, by rw [if_pos hf]; rfl, fun _ => ⟨phase_acqW s t k m .tt ht, holdsW_acqW s t k m .tt, mu_acqW s t k m .tt⟩,
        fun hc => absurd hf hc⟩
    · refine ⟨_, by rw [if_neg hf]; rfl, fun hc => absurd hc hf, fun _ => ⟨phase_of_set_self rfl ht, rfl⟩⟩
  · have hm := h.agree (t := t) (m := m) (Or.inl ⟨_, hp⟩)
    refine ⟨hm, h.wheld_iff_not_readable hm, ?_⟩
    rw [stepT_atHook menu hp]
    simp only [KeyedMutexConc.hookStep]
    by_cases hf : (s.mu m).readable
    · refine ⟨_, by rw [if_pos hf]; rfl, fun _ => ⟨phase_acqR s t k m .tt ht, holdsR_acqR s t k m .tt, mu_acqR s t k m .tt⟩,
        fun hc => absurd hf hc⟩
    · refine ⟨_, by rw [if_neg hf]; rfl, fun hc => absurd hc hf, fun _ => ⟨phase_of_set_self rfl ht, rfl⟩⟩

/-- non-vacuity: goroutine 1 at its TryLock of key 5, which goroutine 0 holds (it will return false); goroutine 1 at its TryLock
of the fresh key 6 while goroutine 0 holds key 5 (it will return true) -/
example : ∃ s, Reachable (sys Nat [⟨.lock, 5⟩, ⟨.trylock, 5⟩, ⟨.trylock, 6⟩] 2) s ∧
    s.phase 1 = .atHook .trylock 5 1 ∧ s.holdsW 0 5 = true ∧ ¬ (s.mu 1).free :=
  ⟨run [⟨.lock, 5⟩, ⟨.trylock, 5⟩, ⟨.trylock, 6⟩] (sched 0 9 ++ [(1, 1)] ++ sched 1 6) (KeyedMutexConc.init 2),
   reachable_run _ _ _ _ .init, by decide +kernel⟩
example : ∃ s, Reachable (sys Nat [⟨.lock, 5⟩, ⟨.trylock, 5⟩, ⟨.trylock, 6⟩] 2) s ∧
    s.phase 1 = .atHook .trylock 6 2 ∧ s.holdsW 0 5 = true ∧ (s.mu 2).free :=
  ⟨run [⟨.lock, 5⟩, ⟨.trylock, 5⟩, ⟨.trylock, 6⟩] (sched 0 9 ++ [(1, 2)] ++ sched 1 4) (KeyedMutexConc.init 2),
   reachable_run _ _ _ _ .init, by decide +kernel⟩

/-- **Independence of keys, all schedules.**  (1) Inside its map call (any key) the enabledness of a goroutine's step depends only
on its program point in `map.go` and on the map's internal mutex `mu` — no keyed mutex matters; (1') parked at `m.mu.Lock()` it is
enabled iff `mu` is free.  (2) At its hook with mutex `m` for key `k₂`, the enabledness depends only on the automaton of `m`
(`hookEnabled`); and `m` is not the mutex the map holds for any other key `k₁` (that `ClearKey` is never applied to): two reachable
states that agree on goroutine `t`'s phase and on every mutex except the one of `k₁` — whoever holds or awaits `k₁` in either —
enable `t`'s step alike.  (3) Returning is always enabled. -/
theorem conc_independent (k₁ : K) (menu : List (KeyedMutexConc.Op K)) (hmenu : NoClearKey k₁ menu) (n : Nat) :
    (∀ s₁ s₂ : KeyedMutexConc.State K, ∀ t kind k₂, s₁.phase t = .inMap kind k₂ → s₂.phase t = .inMap kind k₂ →
      s₁.map.pc t = s₂.map.pc t → s₁.map.sh.mu = s₂.map.sh.mu → (enabled menu s₁ t ↔ enabled menu s₂ t)) ∧
    (∀ s : KeyedMutexConc.State K, ∀ t kind k₂, s.phase t = .inMap kind k₂ → isLockPc (s.map.pc t) = true →
      (enabled menu s t ↔ s.map.sh.mu = none)) ∧
    (∀ s₁ s₂, Reachable (sys K menu n) s₁ → Reachable (sys K menu n) s₂ → ∀ t kind k₂ m, k₂ ≠ k₁ →
      s₁.phase t = .atHook kind k₂ m → s₂.phase t = .atHook kind k₂ m →
      (∀ m', absOf s₁.map.sh k₁ ≠ some m' → s₁.mu m' = s₂.mu m') →
      (enabled menu s₁ t ↔ enabled menu s₂ t) ∧ (enabled menu s₁ t ↔ KeyedMutexConc.hookEnabled kind (s₁.mu m))) ∧
    (∀ s : KeyedMutexConc.State K, ∀ t r, s.phase t = .ret r → enabled menu s t) := by
  refine ⟨?_, ?_, ?_, fun s t r hp => enabled_ret hp⟩
  · intro s₁ s₂ t kind k₂ hp₁ hp₂ hpc hmu
    rw [enabled_inMap hp₁, enabled_inMap hp₂, hpc, hmu]
  · intro s t kind k₂ hp hl
    exact enabled_lockPc hp hl
  · intro s₁ s₂ hr₁ _ t kind k₂ m hne hp₁ hp₂ hag
    obtain ⟨a, h⟩ := reachable_inv hmenu n hr₁
    have hm : s₁.mu m = s₂.mu m := hag m (h.hook_ne hp₁ hne)
    rw [enabled_atHook hp₁, enabled_atHook hp₂, hm]
    exact ⟨Iff.rfl, Iff.rfl⟩

/-- non-vacuity: goroutine 1 parked at its `Lock` of key 6 (mutex 2), once with key 5 held by goroutine 0 and once after goroutine
0 has released it; the two states differ in the mutex of key 5 only -/
example : ∃ s₁ s₂, Reachable (sys Nat [⟨.lock, 5⟩, ⟨.lock, 6⟩, ⟨.unlock, 5⟩] 2) s₁ ∧
    Reachable (sys Nat [⟨.lock, 5⟩, ⟨.lock, 6⟩, ⟨.unlock, 5⟩] 2) s₂ ∧
    s₁.phase 1 = .atHook .lock 6 2 ∧ s₂.phase 1 = .atHook .lock 6 2 ∧ s₁.holdsW 0 5 = true ∧ s₂.holdsW 0 5 = false ∧
    s₁.mu 1 ≠ s₂.mu 1 ∧ s₁.mu 2 = s₂.mu 2 :=
  ⟨run [⟨.lock, 5⟩, ⟨.lock, 6⟩, ⟨.unlock, 5⟩] (sched 0 9 ++ [(1, 1)] ++ sched 1 4) (KeyedMutexConc.init 2),
   run [⟨.lock, 5⟩, ⟨.lock, 6⟩, ⟨.unlock, 5⟩] (sched 0 9 ++ [(1, 1)] ++ sched 1 4 ++ [(0, 2)] ++ sched 0 7) (KeyedMutexConc.init 2),
   reachable_run _ _ _ _ .init, reachable_run _ _ _ _ .init, by decide +kernel⟩

/-- the map's internal mutex `mu` is the only thing a goroutine can wait for inside the map call: a goroutine parked at
`m.mu.Lock()` is enabled as soon as `mu` is free -/
example (menu : List (KeyedMutexConc.Op K)) (s : KeyedMutexConc.State K) (t : Tid) (kind : Kind) (k₂ : K) (v : MId)
    (hp : s.phase t = .inMap kind k₂) (hpc : s.map.pc t = .losLock k₂ v) : enabled menu s t ↔ s.map.sh.mu = none :=
  enabled_lockPc hp (by rw [hpc]; rfl)

/-- **The map call of a keyed-mutex method returns the key's mutex, all schedules.**  In the step in which the `LoadOrStore` of a
`LockKey`/`TryLockKey`/`UnlockKey`/… on any key `k'` is about to return (`retOf`), its result is a pair `(w, _)` — so the fall-through
of `KeyedMutexConc.finish` for other results is never taken by these methods (for `ClearKey` both branches of `finish` coincide) —
`w` was offered for `k'`, and for `k' = k` it is the map's value for `k` after the step. -/
theorem conc_map_result (k : K) (menu : List (KeyedMutexConc.Op K)) (hmenu : NoClearKey k menu) (n : Nat) :
    ∀ s, Reachable (sys K menu n) s → ∀ t kind k' ms' r, t < s.phases.length → s.phase t = .inMap kind k' → kind ≠ .clear →
      ms' ∈ KeyedMutexConc.mapSteps s.map t → KeyedMutexConc.retOf (ms'.pc t) = some r →
      ∃ w b, r = .pair w b ∧ (w, k') ∈ s.offers ∧ (k' = k → absOf ms'.sh k = some w) := by
  intro s hr t kind k' ms' r ht hp hk hms hret
  obtain ⟨a, h⟩ := reachable_inv hmenu n hr
  exact retOf_mapStep h ht hp hms hret hk

/-- **The proviso cannot be dropped**: if `ClearKey(5)` is in the menu, two goroutines hold key 5 for writing at once (goroutine 0
locks 5 through mutex 1, goroutine 1 clears 5 and locks 5 through the fresh mutex 3). -/
theorem conc_clear_proviso_needed :
    ∃ s, Reachable (sys Nat [⟨.lock, 5⟩, ⟨.clear, 5⟩] 2) s ∧ s.holdsW 0 5 = true ∧ s.holdsW 1 5 = true ∧
      s.wh = [(1, 5, 3), (0, 5, 1)] :=
  ⟨run [⟨.lock, 5⟩, ⟨.clear, 5⟩] (sched 0 9 ++ [(1, 1)] ++ sched 1 17) (KeyedMutexConc.init 2),
   reachable_run _ _ _ _ .init, by decide +kernel⟩

end C09

#print axioms C09.conc_map_result
#print axioms C09.conc_clear_proviso_needed
#print axioms C09.conc_agree
#print axioms C09.conc_agree_distinct
#print axioms C09.conc_mutex
#print axioms C09.conc_unlock_same
#print axioms C09.conc_try
#print axioms C09.conc_independent
