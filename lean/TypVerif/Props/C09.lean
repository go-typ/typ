import TypVerif.Lemmas.KeyedMutexProps
import TypVerif.Lemmas.KeyedMutexConv
/-
C09 — KeyedMutex / KeyedRWMutex: per-key exclusion, cross-key independence, Try* (DESIGN §8/C09).

All theorems are about `Model.KeyedMutex.sys rw n ops` (`rw = false`: KeyedMutex, `rw = true`:
KeyedRWMutex; any number `n` of goroutines; any alphabet `ops` of operations = all scripts), i.e.
under the modelling decisions and the environment discipline E1–E4 listed in the header of
`Model/KeyedMutex.lean` (MapAtomic; sync.Mutex/RWMutex by contract; threads only unlock what they
hold; ClearKey only on a key that nobody holds or awaits).  `clear_proviso_needed` shows that E4
cannot be dropped.
-/
namespace C09
open TypVerif TypVerif.Conc TypVerif.Model.KeyedMutex
open TypVerif.Lemmas.KeyedMutex (exec reachable_exec reachable_exec_raw)

/-- Agreement: in every reachable state every goroutine that completed `LoadOrStore k` holds the
mutex `map[k]` (so all of them hold the same one), distinct keys have distinct mutexes, and whoever
holds `k` holds it in `map[k]`. -/
theorem agree (rw : Bool) (n : Nat) (ops : List Op) :
    ∀ s, Reachable (sys rw n ops) s →
      (∀ t k m, loc (s.pc t) = some (k, m) → get s.map k = some m) ∧
      (∀ t₁ t₂ k m₁ m₂, loc (s.pc t₁) = some (k, m₁) → loc (s.pc t₂) = some (k, m₂) → m₁ = m₂) ∧
      (∀ k₁ k₂ m, get s.map k₁ = some m → get s.map k₂ = some m → k₁ = k₂) ∧
      (∀ t k, s.holdsW t k → ∃ m, get s.map k = some m ∧ (s.mu m).writer = some t) ∧
      (∀ t k, s.holdsR t k → ∃ m, get s.map k = some m ∧ t ∈ (s.mu m).readers) :=
  fun s hr =>
    have hg := Lemmas.KeyedMutex.good_reachable rw n ops s hr
    ⟨fun _ _ _ => Lemmas.KeyedMutex.loc_get hg,
      fun _ _ _ _ _ h₁ h₂ => Option.some.inj ((Lemmas.KeyedMutex.loc_get hg h₁).symm.trans (Lemmas.KeyedMutex.loc_get hg h₂)),
      hg.mapInj, hg.whOk, hg.rhOk⟩

/-- non-vacuity: the simultaneous first use of key 5 by two goroutines; both end up with mutex 0 -/
example : ∃ s, Reachable (sys false 2 [⟨.lock, 5⟩]) s ∧
    loc (s.pc 0) = some (5, 0) ∧ loc (s.pc 1) = some (5, 0) :=
  ⟨exec false true [⟨.lock, 5⟩] [0, 1, 0, 1] (init 2), reachable_exec _ _ _ _ _ .init, by decide +kernel⟩

/-- Mutual exclusion per key (both flavours): at most one goroutine is between its successful
`LockKey k`/`TryLockKey k` and its `UnlockKey k`. -/
theorem mutex (rw : Bool) (n : Nat) (ops : List Op) :
    ∀ s, Reachable (sys rw n ops) s → ∀ t₁ t₂ k, s.holdsW t₁ k → s.holdsW t₂ k → t₁ = t₂ :=
  fun s hr _ _ _ h₁ h₂ => Lemmas.KeyedMutex.mutex_of_good (Lemmas.KeyedMutex.good_reachable rw n ops s hr) h₁ h₂

/-- non-vacuity: a goroutine does get to hold a key … -/
example : ∃ s, Reachable (sys false 2 [⟨.lock, 5⟩]) s ∧ s.holdsW 0 5 :=
  ⟨exec false true [⟨.lock, 5⟩] [0, 0, 0] (init 2), reachable_exec _ _ _ _ _ .init, by decide +kernel⟩
/-- … and the model accepts the blocked second locker finishing after the unlock, but not before -/
example : accepts (sys false 2 [⟨.lock, 5⟩, ⟨.unlock, 5⟩]) 8
    [.inv 0 ⟨.lock, 5⟩, .inv 1 ⟨.lock, 5⟩, .res 0 .done, .inv 0 ⟨.unlock, 5⟩, .res 0 .done, .res 1 .done] = true := by
  decide +kernel
example : accepts (sys false 2 [⟨.lock, 5⟩, ⟨.unlock, 5⟩]) 8
    [.inv 0 ⟨.lock, 5⟩, .inv 1 ⟨.lock, 5⟩, .res 0 .done, .res 1 .done] = false := by
  decide +kernel

/-- Readers xor one writer per key: while a goroutine holds `k` for writing nobody holds `k` for
reading and nobody else holds it for writing. -/
theorem rw (rw : Bool) (n : Nat) (ops : List Op) :
    ∀ s, Reachable (sys rw n ops) s → ∀ t₁ k, s.holdsW t₁ k →
      (∀ t₂, ¬ s.holdsR t₂ k) ∧ (∀ t₂, s.holdsW t₂ k → t₂ = t₁) :=
  fun s hr _ _ h₁ =>
    have hg := Lemmas.KeyedMutex.good_reachable rw n ops s hr
    ⟨fun _ h₂ => Lemmas.KeyedMutex.rw_of_good hg h₁ h₂, fun _ h₂ => Lemmas.KeyedMutex.mutex_of_good hg h₂ h₁⟩

/-- non-vacuity: two readers inside together; a writer inside -/
example : ∃ s, Reachable (sys true 2 [⟨.rlock, 5⟩]) s ∧ s.holdsR 0 5 ∧ s.holdsR 1 5 :=
  ⟨exec true true [⟨.rlock, 5⟩] [0, 0, 0, 1, 1, 1] (init 2), reachable_exec _ _ _ _ _ .init, by decide +kernel⟩
example : ∃ s, Reachable (sys true 2 [⟨.lock, 5⟩]) s ∧ s.holdsW 0 5 :=
  ⟨exec true true [⟨.lock, 5⟩] [0, 0, 0, 0, 0] (init 2), reachable_exec _ _ _ _ _ .init, by decide +kernel⟩
example : accepts (sys true 2 [⟨.lock, 5⟩, ⟨.rlock, 5⟩]) 8
    [.inv 0 ⟨.rlock, 5⟩, .res 0 .done, .inv 1 ⟨.lock, 5⟩, .res 1 .done] = false := by
  decide +kernel

/-- Independence of keys.  Let goroutine `t` be past its `LoadOrStore k` (local mutex `m`) in two
reachable states that agree on `t`'s locals, on `map[k]` and on the automaton of `map[k]` — and
differ arbitrarily in everything else: other keys, their mutexes, their holders and waiters.
Then `t`'s next step is enabled in both or in neither. -/
theorem independent (rw : Bool) (n : Nat) (ops : List Op) :
    ∀ s₁ s₂, Reachable (sys rw n ops) s₁ → Reachable (sys rw n ops) s₂ →
      ∀ t k m, s₁.pc t = s₂.pc t → loc (s₁.pc t) = some (k, m) →
        (∀ m', get s₁.map k = some m' → get s₂.map k = some m' ∧ s₁.mu m' = s₂.mu m') →
        (enabled rw true ops s₁ t ↔ enabled rw true ops s₂ t) := by
  intro s₁ s₂ h₁ _ t k m hpc hloc hag
  have hk := Lemmas.KeyedMutex.loc_get (Lemmas.KeyedMutex.good_reachable rw n ops s₁ h₁) hloc
  exact Lemmas.KeyedMutex.independent_step rw true ops hpc hloc (hag m hk).2

/-- non-vacuity: goroutine 1 at its mutex action on key 6, once with key 5 free and once with key 5
held by goroutine 0 and awaited by goroutine 2 -/
example : ∃ s₁ s₂, Reachable (sys false 3 [⟨.lock, 5⟩, ⟨.lock, 6⟩]) s₁ ∧ Reachable (sys false 3 [⟨.lock, 5⟩, ⟨.lock, 6⟩]) s₂ ∧
    s₁.pc 1 = s₂.pc 1 ∧ loc (s₁.pc 1) = some (6, 0) ∧ s₁.wh ≠ s₂.wh ∧ s₂.holdsW 0 5 ∧ loc (s₂.pc 2) = some (5, 1) :=
  ⟨exec false true [⟨.lock, 5⟩, ⟨.lock, 6⟩] [3, 2] (init 3),
   exec false true [⟨.lock, 5⟩, ⟨.lock, 6⟩] [3, 2, 0, 0, 0, 0, 3, 3] (init 3),
   reachable_exec _ _ _ _ _ .init, reachable_exec _ _ _ _ _ .init, by decide +kernel⟩

/-- The map part of every keyed call never blocks (the atomic map has no lock a goroutine could be
holding while it waits for a mutex), and returning never blocks. -/
theorem independent_los (rw : Bool) (ops : List Op) (s : State) (t : Nat) :
    (∀ kd k, s.pc t = .los kd k → kd ≠ .clear → enabled rw true ops s t) ∧
    (∀ r, s.pc t = .ret r → enabled rw true ops s t) :=
  ⟨fun _ _ h hk => Lemmas.KeyedMutex.los_enabled rw true ops h hk,
   fun _ h => Lemmas.KeyedMutex.ret_enabled rw true ops h⟩

/-- Holding or waiting for other keys never delays an acquisition: if the automaton of `map[k]` is
free and uncontended, every step of an operation on `k` is enabled, whatever else is going on;
releases and the entry/exit sections of RWMutex.Lock/Unlock are always enabled. -/
theorem independent_free (rw : Bool) (n : Nat) (ops : List Op) :
    ∀ s, Reachable (sys rw n ops) s → ∀ t,
      (∀ kd k m, s.pc t = .act kd k m → kd ≠ .clear →
        (∀ m', get s.map k = some m' → (s.mu m').isFree) → enabled rw true ops s t) ∧
      (∀ k m, s.pc t = .wait k m →
        (∀ m', get s.map k = some m' → (s.mu m').isFree) → enabled rw true ops s t) ∧
      (∀ kd k m, s.pc t = .act kd k m → (kd = .unlock ∨ kd = .runlock) → enabled rw true ops s t) ∧
      (∀ k m, (s.pc t = .ann k m ∨ s.pc t = .rel k m) → enabled rw true ops s t) := by
  intro s hr t
  have hg := Lemmas.KeyedMutex.good_reachable rw n ops s hr
  refine ⟨fun kd k m h hkd hfree => ?_, fun k m h hfree => ?_, fun kd k m h hrel => ?_,
    fun k m h => Lemmas.KeyedMutex.queue_enabled rw true ops h⟩
  · have hk : get s.map k = some m := Lemmas.KeyedMutex.loc_get hg (by rw [h]; rfl)
    exact Lemmas.KeyedMutex.free_enabled_act rw true ops h hkd (hfree m hk)
  · have hk : get s.map k = some m := Lemmas.KeyedMutex.loc_get hg (by rw [h]; rfl)
    exact Lemmas.KeyedMutex.free_enabled_wait rw true ops h (hfree m hk)
  · exact Lemmas.KeyedMutex.release_enabled rw true ops h hrel

/-- non-vacuity: goroutine 0 holds key 5, goroutine 2 awaits it, goroutine 1 is at its `Lock` of the free key 6 -/
example : ∃ s, Reachable (sys false 3 [⟨.lock, 5⟩, ⟨.lock, 6⟩]) s ∧ s.holdsW 0 5 ∧ s.pc 2 = .act .lock 5 0 ∧
    s.pc 1 = .act .lock 6 1 ∧ (s.mu 1).isFree :=
  ⟨exec false true [⟨.lock, 5⟩, ⟨.lock, 6⟩] [0, 0, 0, 0, 3, 3, 2, 3] (init 3), reachable_exec _ _ _ _ _ .init, by decide +kernel⟩

/-- TryLockKey / TryRLockKey.  At the mutex action of a Try call (goroutine `t`, key `k`, `m = map[k]`)
the step is always enabled (never blocks), is internal, and
 * if the key's automaton is free and uncontended (TryLock) / has no writer inside or announced
   (TryRLock) the call returns `true` and the goroutine holds the key from that very step on;
 * otherwise — the key is held or awaited incompatibly at that step — it returns `false` and changes nothing. -/
theorem «try» (rw : Bool) (n : Nat) (ops : List Op) :
    ∀ s, Reachable (sys rw n ops) s → ∀ t k m,
      (s.pc t = .act .trylock k m →
        get s.map k = some m ∧ enabled rw true ops s t ∧
        ∀ l s', (l, s') ∈ stepT rw true ops s t → l = none ∧
          ((s.mu m).isFree → s'.pc t = .ret .tt ∧ s'.holdsW t k ∧ (s'.mu m).writer = some t) ∧
          (¬ (s.mu m).isFree → s'.pc t = .ret .ff ∧ s'.wh = s.wh ∧ s'.rh = s.rh ∧ s'.heap = s.heap ∧ s'.map = s.map)) ∧
      (s.pc t = .act .tryrlock k m →
        get s.map k = some m ∧ enabled rw true ops s t ∧
        ∀ l s', (l, s') ∈ stepT rw true ops s t → l = none ∧
          ((s.mu m).readable → s'.pc t = .ret .tt ∧ s'.holdsR t k ∧ t ∈ (s'.mu m).readers) ∧
          (¬ (s.mu m).readable → s'.pc t = .ret .ff ∧ s'.wh = s.wh ∧ s'.rh = s.rh ∧ s'.heap = s.heap ∧ s'.map = s.map)) := by
  intro s hr t k m
  have hg := Lemmas.KeyedMutex.good_reachable rw n ops s hr
  exact ⟨fun h => ⟨Lemmas.KeyedMutex.loc_get hg (by rw [h]; rfl), Lemmas.KeyedMutex.trylock_of_good rw true ops hg h⟩,
         fun h => ⟨Lemmas.KeyedMutex.loc_get hg (by rw [h]; rfl), Lemmas.KeyedMutex.tryrlock_of_good rw true ops hg h⟩⟩

/-- Try* fail while the key is held incompatibly: TryLockKey returns false while any goroutine holds the
key (for writing or reading), TryRLockKey returns false while a goroutine holds it for writing. -/
theorem try_held (rw : Bool) (n : Nat) (ops : List Op) :
    ∀ s, Reachable (sys rw n ops) s → ∀ t k m t',
      (s.pc t = .act .trylock k m → (s.holdsW t' k ∨ s.holdsR t' k) →
        ∀ l s', (l, s') ∈ stepT rw true ops s t → s'.pc t = .ret .ff) ∧
      (s.pc t = .act .tryrlock k m → s.holdsW t' k →
        ∀ l s', (l, s') ∈ stepT rw true ops s t → s'.pc t = .ret .ff) := by
  intro s hr t k m t'
  have hg := Lemmas.KeyedMutex.good_reachable rw n ops s hr
  obtain ⟨h1, h2⟩ := «try» rw n ops s hr t k m
  refine ⟨fun hpc hh l s' hmem => ?_, fun hpc hh l s' hmem => ?_⟩
  · obtain ⟨hk, _, hall⟩ := h1 hpc
    exact ((hall l s' hmem).2.2 (Lemmas.KeyedMutex.not_free_of_held hg hk hh)).1
  · obtain ⟨hk, _, hall⟩ := h2 hpc
    exact ((hall l s' hmem).2.2 (Lemmas.KeyedMutex.not_readable_of_held hg hk hh)).1

/-- non-vacuity: goroutine 1 at its TryLock of key 5, which goroutine 0 holds -/
example : ∃ s, Reachable (sys false 2 [⟨.lock, 5⟩, ⟨.trylock, 5⟩]) s ∧ s.pc 1 = .act .trylock 5 0 ∧ s.holdsW 0 5 :=
  ⟨exec false true [⟨.lock, 5⟩, ⟨.trylock, 5⟩] [0, 0, 0, 0, 3, 2] (init 2), reachable_exec _ _ _ _ _ .init, by decide +kernel⟩

/-- Try* succeed when the key is free and uncontended, in terms of goroutines: if nobody holds `k` and no
other goroutine is inside a call on `k` (past its `LoadOrStore k`), TryLockKey returns true and holds
the key; if nobody holds `k` for writing and no other goroutine is inside a call on `k`, TryRLockKey
returns true and holds the key for reading. -/
theorem try_alone (rw : Bool) (n : Nat) (ops : List Op) :
    ∀ s, Reachable (sys rw n ops) s → ∀ t k m, (∀ t', t' ≠ t → onKey k (s.pc t') = false) →
      (s.pc t = .act .trylock k m → (∀ t', ¬ s.holdsW t' k ∧ ¬ s.holdsR t' k) →
        ∀ l s', (l, s') ∈ stepT rw true ops s t → s'.pc t = .ret .tt ∧ s'.holdsW t k) ∧
      (s.pc t = .act .tryrlock k m → (∀ t', ¬ s.holdsW t' k) →
        ∀ l s', (l, s') ∈ stepT rw true ops s t → s'.pc t = .ret .tt ∧ s'.holdsR t k) := by
  intro s hr t k m alone
  obtain ⟨hg, hc⟩ := Lemmas.KeyedMutex.good_conv_reachable rw n ops s hr
  obtain ⟨h1, h2⟩ := «try» rw n ops s hr t k m
  refine ⟨fun hpc hh l s' hmem => ?_, fun hpc hh l s' hmem => ?_⟩
  · obtain ⟨_, _, hall⟩ := h1 hpc
    have := (hall l s' hmem).2.1 (Lemmas.KeyedMutex.free_of_alone hg hc hpc hh alone)
    exact ⟨this.1, this.2.1⟩
  · obtain ⟨_, _, hall⟩ := h2 hpc
    have := (hall l s' hmem).2.1 (Lemmas.KeyedMutex.readable_of_alone hg hc hpc hh alone)
    exact ⟨this.1, this.2.1⟩

/-- non-vacuity: goroutine 1 at its TryLock of the fresh key 6 while goroutine 0 holds key 5 -/
example : ∃ s, Reachable (sys false 2 [⟨.lock, 5⟩, ⟨.trylock, 6⟩]) s ∧ s.pc 1 = .act .trylock 6 1 ∧ s.holdsW 0 5 ∧
    (∀ t', t' ≠ 1 → onKey 6 (s.pc t') = false) ∧ s.wh = [(0, 5)] ∧ s.rh = [] :=
  ⟨exec false true [⟨.lock, 5⟩, ⟨.trylock, 6⟩] [0, 0, 0, 0, 3, 2] (init 2), reachable_exec _ _ _ _ _ .init,
   by decide +kernel, by decide +kernel, by
     intro t' h
     match t' with
     | 0 => decide +kernel
     | 1 => exact absurd rfl h
     | n + 2 => rfl, by decide +kernel, by decide +kernel⟩

/-- non-vacuity: a TryLockKey that fails because the key is held, one that succeeds on a fresh key,
and the model refuses a failing TryLockKey on a free, uncontended key -/
example : accepts (sys false 2 [⟨.lock, 5⟩, ⟨.trylock, 5⟩, ⟨.trylock, 6⟩]) 8
    [.inv 0 ⟨.lock, 5⟩, .res 0 .done, .inv 1 ⟨.trylock, 5⟩, .res 1 .ff, .inv 1 ⟨.trylock, 6⟩, .res 1 .tt] = true := by
  decide +kernel
example : accepts (sys false 2 [⟨.trylock, 5⟩]) 8 [.inv 1 ⟨.trylock, 5⟩, .res 1 .ff] = false := by
  decide +kernel
example : ∃ s, Reachable (sys true 2 [⟨.rlock, 5⟩, ⟨.tryrlock, 5⟩]) s ∧ s.pc 1 = .act .tryrlock 5 0 ∧ s.holdsR 0 5 :=
  ⟨exec true true [⟨.rlock, 5⟩, ⟨.tryrlock, 5⟩] [0, 0, 0, 0, 1, 0] (init 2), reachable_exec _ _ _ _ _ .init, by decide +kernel⟩

/-- The ClearKey proviso cannot be dropped: without E4 (`sysRaw`) two goroutines hold key 5 at once
(goroutine 0 locks 5, goroutine 1 clears 5 and locks 5 through a fresh mutex). -/
theorem clear_proviso_needed :
    ∃ s, Reachable (sysRaw false 2 [⟨.lock, 5⟩, ⟨.clear, 5⟩]) s ∧ s.holdsW 0 5 ∧ s.holdsW 1 5 :=
  ⟨exec false false [⟨.lock, 5⟩, ⟨.clear, 5⟩] [0, 0, 0, 0, 3, 2, 2, 2, 2, 2] (init 2),
   reachable_exec_raw _ _ _ _ _ .init, by decide +kernel⟩

end C09

#print axioms C09.agree
#print axioms C09.mutex
#print axioms C09.rw
#print axioms C09.independent
#print axioms C09.independent_los
#print axioms C09.independent_free
#print axioms C09.«try»
#print axioms C09.try_held
#print axioms C09.try_alone
#print axioms C09.clear_proviso_needed
