import TypVerif.Gen.ListShapes
import TypVerif.Gen.RingShapes
/-
C06, tie 4B — GOLDEN FUNCTION SHAPES (written by tools/mkshapes.py; do not edit by hand).  For every function of the source files this property's model mirrors,
the extractor regenerates on every run: its calls, its stores through selectors / indices / pointers, its conditions and loop headers, its select cases and
its return expressions, in source order.  The theorems below state that these equal the shapes of the tree the model was written against.  They are the STATIC,
all-paths complement of the differential runs: a guard dropped, a fast path or a threshold added, an early return, a changed comparison or a different callee
on ANY path - also one that no generated input happens to take - changes the regenerated list and breaks the evaluation (`rfl`; for a list filtered by function name the mask of `Lemmas/FilterMask.lean`, then `rfl`).  A broken shape theorem is reported like a
broken proof (with a failing input when the search finds one, else `no-failing-input-found`); after a deliberate change of the source the changed functions are
re-read against the model and this file is regenerated.
-/
namespace C06

/-- lists/list.go: 23 function(s) -/
theorem gen_shapes_list :
    Gen.ListShapes.funcs =
      [("Element.Next", ["if p := l.next; l.list != nil && p != &l.list.root", "return p", "return nil"]),
       ("Element.Prev", ["if p := l.prev; l.list != nil && p != &l.list.root", "return p", "return nil"]),
       ("List.Init", ["store l.root.next", "store l.root.prev", "store l.len", "return l"]),
       ("New", ["return new(List[T]).Init()", "call new(List[T]).Init", "call new"]),
       ("List.Len", ["return l.len"]),
       ("List.Front", ["if l.len == 0", "return nil", "return l.root.next"]),
       ("List.Back", ["if l.len == 0", "return nil", "return l.root.prev"]),
       ("List.lazyInit", ["if l.root.next == nil", "call l.Init"]),
       ("List.insert", ["store e.prev", "store e.next", "store e.prev.next", "store e.next.prev", "store e.list", "store l.len", "return e"]),
       ("List.insertValue", ["return l.insert(&Element[T]{…}, at)", "call l.insert"]),
       ("List.remove", ["store e.prev.next", "store e.next.prev", "store e.next", "store e.prev", "store e.list", "store l.len"]),
       ("List.move", ["if e == at", "return ", "store e.prev.next", "store e.next.prev", "store e.prev", "store e.next", "store e.prev.next", "store e.next.prev"]),
       ("List.Remove", ["if e.list == l", "call l.remove", "return e.Value"]),
       ("List.PushFront", ["call l.lazyInit", "return l.insertValue(v, &l.root)", "call l.insertValue"]),
       ("List.PushBack", ["call l.lazyInit", "return l.insertValue(v, l.root.prev)", "call l.insertValue"]),
       ("List.InsertBefore", ["if mark.list != l", "return nil", "return l.insertValue(v, mark.prev)", "call l.insertValue"]),
       ("List.InsertAfter", ["if mark.list != l", "return nil", "return l.insertValue(v, mark)", "call l.insertValue"]),
       ("List.MoveToFront", ["if e.list != l || l.root.next == e", "return ", "call l.move"]),
       ("List.MoveToBack", ["if e.list != l || l.root.prev == e", "return ", "call l.move"]),
       ("List.MoveBefore", ["if e.list != l || e == mark || mark.list != l", "return ", "call l.move"]),
       ("List.MoveAfter", ["if e.list != l || e == mark || mark.list != l", "return ", "call l.move"]),
       ("List.PushBackList", ["call l.lazyInit", "for i > 0", "call other.Len", "call other.Front", "call e.Next", "call l.insertValue"]),
       ("List.PushFrontList", ["call l.lazyInit", "for i > 0", "call other.Len", "call other.Back", "call e.Prev", "call l.insertValue"])] := rfl

/-- lists/ring.go: 9 function(s) -/
theorem gen_shapes_ring :
    Gen.RingShapes.funcs =
      [("Ring.init", ["store r.next", "store r.prev", "return r"]),
       ("Ring.Next", ["if r.next == nil", "return r.init()", "call r.init", "return r.next"]),
       ("Ring.Prev", ["if r.next == nil", "return r.init()", "call r.init", "return r.prev"]),
       ("Ring.Move", ["if r.next == nil", "return r.init()", "call r.init", "for n < 0", "for n > 0", "return r"]),
       ("NewRing", ["if n <= 0", "return nil", "call new", "for i < n", "store p.next", "store p.next", "store r.prev", "return r"]),
       ("Ring.Link", ["call r.Next", "if s != nil", "call s.Prev", "store r.next", "store s.prev", "store n.prev", "store p.next", "return n"]),
       ("Ring.Unlink", ["if n <= 0", "return nil", "return r.Link(r.Move(n + 1))", "call r.Link", "call r.Move"]),
       ("Ring.Len", ["if r != nil", "for p != r", "call r.Next", "return n"]),
       ("Ring.Do", ["if r != nil", "call f", "for p != r", "call r.Next", "call f"])] := rfl

end C06
