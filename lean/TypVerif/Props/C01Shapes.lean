import TypVerif.Lemmas.FilterMask
import TypVerif.Gen.AvlShapes
import TypVerif.Gen.MathShapes
import TypVerif.Gen.UtilShapes
/-
C01, tie 4B — GOLDEN FUNCTION SHAPES (written by tools/mkshapes.py; do not edit by hand).  For every function of the source files this property's model mirrors,
the extractor regenerates on every run: its calls, its stores through selectors / indices / pointers, its conditions and loop headers, its select cases and
its return expressions, in source order.  The theorems below state that these equal the shapes of the tree the model was written against.  They are the STATIC,
all-paths complement of the differential runs: a guard dropped, a fast path or a threshold added, an early return, a changed comparison or a different callee
on ANY path - also one that no generated input happens to take - changes the regenerated list and breaks the evaluation (`rfl`; for a list filtered by function name the mask of `Lemmas/FilterMask.lean`, then `rfl`).  A broken shape theorem is reported like a
broken proof (with a failing input when the search finds one, else `no-failing-input-found`); after a deliberate change of the source the changed functions are
re-read against the model and this file is regenerated.
-/
namespace C01

/-- avl/avl.go (Model/Avl.lean mirrors it function by function): 34 function(s) -/
theorem gen_shapes_avl :
    Gen.AvlShapes.funcs =
      [("New", ["return Tree[T]{…}"]),
       ("NewOrdered", ["return New(typ.Compare[T])", "call New"]),
       ("Tree.String", ["return fmt.Sprint(n.SliceInOrder())", "call fmt.Sprint", "call n.SliceInOrder"]),
       ("Tree.Clone", ["call n.WalkPreOrder", "return clone"]),
       ("Tree.Len", ["return n.count"]),
       ("Tree.Contains", ["if n.root == nil", "return false", "return n.root.contains(value, n.compare)", "call n.root.contains"]),
       ("Tree.Add", ["if n.root == nil", "store n.root", "store n.root", "call n.root.add", "store n.count"]),
       ("Tree.Remove", ["if n.root == nil", "return false", "call n.root.remove", "store n.root", "if ok", "store n.count", "return ok"]),
       ("Tree.Clear", ["store n.root", "store n.count"]),
       ("Tree.WalkPreOrder", ["if n.root == nil", "return ", "call n.root.walkPreOrder"]),
       ("Tree.WalkInOrder", ["if n.root == nil", "return ", "call n.root.walkInOrder"]),
       ("Tree.WalkPostOrder", ["if n.root == nil", "return ", "call n.root.walkPostOrder"]),
       ("Tree.SlicePreOrder", ["return n.slice(n.WalkPreOrder)", "call n.slice"]),
       ("Tree.SliceInOrder", ["return n.slice(n.WalkInOrder)", "call n.slice"]),
       ("Tree.SlicePostOrder", ["return n.slice(n.WalkPostOrder)", "call n.slice"]),
       ("Tree.slice", ["call make", "call f", "call append", "return slice"]),
       ("node.String", ["return fmt.Sprint(n.value)", "call fmt.Sprint"]),
       ("node.walkPreOrder", ["call f", "if n.left != nil", "call n.left.walkPreOrder", "if n.right != nil", "call n.right.walkPreOrder"]),
       ("node.walkInOrder", ["if n.left != nil", "call n.left.walkInOrder", "call f", "if n.right != nil", "call n.right.walkInOrder"]),
       ("node.walkPostOrder", ["if n.left != nil", "call n.left.walkPostOrder", "if n.right != nil", "call n.right.walkPostOrder", "call f"]),
       ("node.contains", ["return n.find(value, compare) != nil", "call n.find"]),
       ("node.find", ["for", "return current", "call compare", "return nil"]),
       ("node.remove", ["if n.value == value", "return nil, true", "return n.right, true", "return n.left, true", "call n.right.popLeftMost", "store leftMost.left", "store leftMost.right", "store leftMost.height", "call leftMost.calcHeight", "return leftMost.rebalance(), true", "call leftMost.rebalance", "if n.left != nil && compare(value, n.value) < 0", "call compare", "if newNode, ok := n.left.remove(value, compare); ok", "call n.left.remove", "store n.left", "store n.height", "call n.calcHeight", "return n.rebalance(), true", "call n.rebalance", "if n.right != nil", "if newNode, ok := n.right.remove(value, compare); ok", "call n.right.remove", "store n.right", "store n.height", "call n.calcHeight", "return n.rebalance(), true", "call n.rebalance", "return n, false"]),
       ("node.popLeftMost", ["if n.left == nil", "return n.right, n", "call n.left.popLeftMost", "store n.left", "store n.height", "call n.calcHeight", "return n.rebalance(), popped", "call n.rebalance"]),
       ("node.add", ["if compare(value, n.value) < 0", "call compare", "if n.left == nil", "store n.left", "store n.left", "call n.left.add", "if n.right == nil", "store n.right", "store n.right", "call n.right.add", "store n.height", "call n.calcHeight", "return n.rebalance()", "call n.rebalance"]),
       ("node.rebalance", ["if n.balance() == balanceRightHeavy", "call n.balance", "if n.right != nil && n.right.leftHeight() > n.right.rightHeight()", "call n.right.leftHeight", "call n.right.rightHeight", "return n.rotateLeftRight()", "call n.rotateLeftRight", "return n.rotateLeft()", "call n.rotateLeft", "if n.balance() == balanceLeftHeavy", "call n.balance", "if n.left != nil && n.left.rightHeight() > n.left.leftHeight()", "call n.left.rightHeight", "call n.left.leftHeight", "return n.rotateRightLeft()", "call n.rotateRightLeft", "return n.rotateRight()", "call n.rotateRight", "return n"]),
       ("node.balance", ["call n.leftHeight", "call n.rightHeight", "if leftHeight - rightHeight > 1", "return balanceLeftHeavy", "if rightHeight - leftHeight > 1", "return balanceRightHeavy", "return balanceBalanced"]),
       ("node.leftHeight", ["if n.left == nil", "return -1", "return n.left.height"]),
       ("node.rightHeight", ["if n.right == nil", "return -1", "return n.right.height"]),
       ("node.calcHeight", ["return 0", "return 1 + n.rightHeight()", "call n.rightHeight", "return 1 + n.leftHeight()", "call n.leftHeight", "return 1 + typ.Max(n.leftHeight(), n.rightHeight())", "call typ.Max", "call n.leftHeight", "call n.rightHeight"]),
       ("node.rotateLeft", ["store prevRoot.right", "if prevRoot.right != nil", "store prevRoot.right.height", "call prevRoot.right.calcHeight", "store prevRoot.height", "call prevRoot.calcHeight", "store newRoot.left", "store newRoot.height", "call newRoot.calcHeight", "return newRoot"]),
       ("node.rotateRight", ["store prevRoot.left", "if prevRoot.left != nil", "store prevRoot.left.height", "call prevRoot.left.calcHeight", "store prevRoot.height", "call prevRoot.calcHeight", "store newRoot.right", "store newRoot.height", "call newRoot.calcHeight", "return newRoot"]),
       ("node.rotateLeftRight", ["store n.right", "call n.right.rotateRight", "return n.rotateLeft()", "call n.rotateLeft"]),
       ("node.rotateRightLeft", ["store n.left", "call n.left.rotateLeft", "return n.rotateRight()", "call n.rotateRight"])] := rfl

/-- util.go, Compare (the comparator of avl.NewOrdered) - a DEPENDENCY of the tree: 1 function(s) -/
theorem gen_shapes_dep_compare :
    Gen.UtilShapes.funcs.filter (fun f => (["Compare"]).contains f.1) =
      [("Compare", ["if a > b", "return 1", "if a < b", "return -1", "return 0"])] :=
  (TypVerif.Lemmas.filter_of_mask _ _ [true, false, false, false, false, false, false, false, false, false, false] (by decide +kernel)).trans rfl

/-- math.go, Max (used by calcHeight) - a DEPENDENCY of the tree: 1 function(s) -/
theorem gen_shapes_dep_max :
    Gen.MathShapes.funcs.filter (fun f => (["Max"]).contains f.1) =
      [("Max", ["call len", "call panic", "return v[0]", "range v[1:]", "if v > max", "return max"])] :=
  (TypVerif.Lemmas.filter_of_mask _ _ [false, true, false, false, false, false, false, false, false] (by decide +kernel)).trans rfl

end C01
