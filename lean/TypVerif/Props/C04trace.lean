import TypVerif.Props.C04conc
import TypVerif.Lemmas.SyncMapTrace
/-
C04, the tie between recorded step traces and the theorems: acceptance of a step trace by the judge "C04conc"
(map mode) is the pure function `Model.SyncMapTrace.replay` / `replayPad` (`Drv/C04conc.lean` calls `applyLinePad` on
every line of a `cmap` scenario), and

  accepted  ⇒  the trace is, line for line, an execution of the step-level model `SyncMapConc.sys`   (`trace_accept_sound`)
            ⇒  its invocation/response history is linearizable w.r.t. the ordinary map               (`accepted_trace_linearizable`)

What this covers: the lines of the trace — every `inv`, every atomic step with its hook label, every `range` choice,
every `res` with its result — as the harness wrote them.  What it does NOT cover: that the lines are a faithful record
of what the real code did.  That rests on the hooks: `verifYield/verifMuLock/verifIter` must sit exactly where the
model's step boundaries are and the instrumented file must be `map.go` plus hooks only (checked statically by
`C04.gen_*`, `Gen/`), the controlled scheduler must run one goroutine at a time between hooks, and the harness must
print what it observed.  Native (uninstrumented, truly parallel) runs produce no step trace and are not covered by
these theorems; they are judged on their API-level events only (judge "ObjLin").  Parsing of the text lines into
`Line Int Int` and the set-mode (`cset`) composites stay unverified driver glue.
-/
namespace C04
open TypVerif TypVerif.Conc TypVerif.Model TypVerif.Model.SyncMapConc TypVerif.Model.SyncMapTrace TypVerif.Model.RelObj
open TypVerif.Lemmas.Smc (evOf mapSpec)

set_option linter.unusedSectionVars false

variable {K V : Type} [DecidableEq K] [DecidableEq V] [Inhabited V]

/-- **An accepted step trace is an execution of the model.**  If the pure replay accepts the trace `ls` from the
initial state with `n` goroutines (every `inv` found its goroutine idle, every `step` found it parked at the same
hook label with the step enabled, every `iter` chose a remaining key, every `res` carried exactly the result the
model goroutine was about to return), then the model `sys K V menu n zst` — for any menu containing the operations
invoked in the trace — has an execution from `init n zst` to the final replay state whose visible events are exactly
the `inv`/`res` lines of the trace, in order.  (The execution has one model step per trace line.)
Covers: the recorded lines.  Does not cover: faithfulness of the recording (hooks: `C04.gen_*`), native runs. -/
theorem trace_accept_sound (menu : List (Op K V)) (n : Nat) (zst : Bool) {s : State K V} {ls : List (Line K V)}
    (hmenu : ∀ t op, Line.inv t op ∈ ls → op ∈ menu)
    (h : replay (SyncMapConc.init n zst) ls = some s) :
    ∃ evs, Exec (sys K V menu n zst) (SyncMapConc.init n zst) evs s ∧ visible evs = eventsOf ls :=
  Lemmas.SyncMapTrace.replay_sound menu n zst hmenu h

/-- the same with the canonical menu: the operations invoked in the trace -/
theorem trace_accept_sound_invoked (n : Nat) (zst : Bool) {s : State K V} {ls : List (Line K V)}
    (h : replay (SyncMapConc.init n zst) ls = some s) :
    ∃ evs, Exec (sys K V (invoked ls) n zst) (SyncMapConc.init n zst) evs s ∧ visible evs = eventsOf ls :=
  trace_accept_sound (invoked ls) n zst (fun _ _ hm => Lemmas.SyncMapTrace.mem_invoked hm) h

/-- **An accepted step trace has a linearizable history.**  If the pure replay accepts the trace `ls`, the
invocation/response history of the trace (its `inv`/`res` lines; `Range` calls excluded by `evOf`, as in
`C04.conc_linearizable`) is linearizable with respect to the ordinary map — by `trace_accept_sound` and
`C04.conc_linearizable`.  The history is the one WRITTEN IN THE TRACE (results as printed by the harness), not one
recomputed by the model.
Covers: any trace the judge accepts in map mode.  Does not cover: whether the trace faithfully records the real
execution (the hooks must be faithful: `C04.gen_*`); native runs (no step trace exists for them). -/
theorem accepted_trace_linearizable (n : Nat) (zst : Bool) {s : State K V} {ls : List (Line K V)}
    (h : replay (SyncMapConc.init n zst) ls = some s) :
    AtomicObj.Linearizable (mapSpec K V) ((eventsOf ls).filterMap evOf) := by
  obtain ⟨evs, hex, hvis⟩ := trace_accept_sound_invoked n zst h
  have hl := conc_linearizable (invoked ls) n zst hex
  have e := Lemmas.SyncMapTrace.filterMap_visible (evOf (K := K) (V := V)) evs
  rw [hvis] at e
  exact Eq.mpr (congrArg (AtomicObj.Linearizable (mapSpec K V)) e) hl

/-- **What the judge computes.**  The judge starts a `cmap` scenario in `init 0` and appends idle goroutines when an
`inv` line mentions a goroutine id it has not seen (`replayPad`); this is the replay from `init n` with `n` the final
number of goroutines, so the two theorems above apply to every scenario the judge accepts. -/
theorem judge_accept_sound (zst : Bool) {s : State K V} {ls : List (Line K V)}
    (h : replayPad (SyncMapConc.init 0 zst) ls = some s) :
    replay (SyncMapConc.init s.pcs.length zst) ls = some s ∧
    (∃ evs, Exec (sys K V (invoked ls) s.pcs.length zst) (SyncMapConc.init s.pcs.length zst) evs s ∧
      visible evs = eventsOf ls) ∧
    AtomicObj.Linearizable (mapSpec K V) ((eventsOf ls).filterMap evOf) :=
  have h' := Lemmas.SyncMapTrace.replayPad_init h
  ⟨h', trace_accept_sound_invoked _ zst h', accepted_trace_linearizable _ zst h'⟩

/-! Non-vacuity: a recorded trace (first scenario of the exhaustive run: `t0: store 1 5 | t1: load 1`) is accepted, by
both replays; the same trace with a wrong result, a wrong label, or a busy goroutine invoked again is rejected. -/

private def demo : List (Line Int Int) :=
  [.inv 0 (.store 1 5), .step 0 "op:store", .step 0 "Store.readLoad1", .step 0 "lock", .step 0 "Store.readLoad2",
   .step 0 "dirtyLocked.readLoad1", .step 0 "Store.readStore1", .res 0 .done,
   .inv 1 (.load 1), .step 1 "op:load", .step 1 "Load.readLoad1", .step 1 "lock", .step 1 "Load.readLoad2",
   .step 1 "missLocked.readStore1", .step 1 "load.loadPtr1", .res 1 (.val (some 5))]

example : (replay (SyncMapConc.init 2 false) demo).isSome = true := by decide +kernel
example : (replayPad (SyncMapConc.init 0 false) demo).isSome = true := by decide +kernel
example : eventsOf demo = [.inv 0 (.store 1 5), .res 0 .done, .inv 1 (.load 1), .res 1 (.val (some 5))] := by decide +kernel

/-- an interleaved one: the Load runs between the Store's `dirtyLocked` and its `read.Store`, and misses -/
example : (replay (SyncMapConc.init 2 false)
    ([.inv 0 (.store 1 5), .step 0 "op:store", .step 0 "Store.readLoad1", .step 0 "lock", .step 0 "Store.readLoad2",
      .step 0 "dirtyLocked.readLoad1", .inv 1 (.load 1), .step 1 "op:load", .step 1 "Load.readLoad1",
      .res 1 (.val none), .step 0 "Store.readStore1", .res 0 .done] : List (Line Int Int))).isSome = true := by decide +kernel

/-- wrong result -/
example : (replay (SyncMapConc.init 2 false) (demo.dropLast ++ [.res 1 (.val (some 6))])).isNone = true := by decide +kernel
/-- wrong label -/
example : (replay (SyncMapConc.init 2 false)
    ([.inv 0 (.store 1 5), .step 0 "op:store", .step 0 "lock"] : List (Line Int Int))).isNone = true := by decide +kernel
/-- goroutine not idle; goroutine id out of range -/
example : (replay (SyncMapConc.init 2 false)
    ([.inv 0 (.store 1 5), .inv 0 (.load 1)] : List (Line Int Int))).isNone = true := by decide +kernel
example : (replay (SyncMapConc.init 2 false) ([.inv 2 (.load 1)] : List (Line Int Int))).isNone = true := by decide +kernel
/-- the mutex is held: `lock` is not enabled -/
example : (replay (SyncMapConc.init 2 false)
    ([.inv 0 (.store 1 5), .step 0 "op:store", .step 0 "Store.readLoad1", .step 0 "lock",
      .inv 1 (.store 2 6), .step 1 "op:store", .step 1 "Store.readLoad1", .step 1 "lock"] :
      List (Line Int Int))).isNone = true := by decide +kernel

end C04
