import TypVerif.Lemmas.PubSubRedAccept
import TypVerif.Props.C10accept
/-
C10 — THE JUDGE'S REDUCTION LOSES NO BEHAVIOUR (completeness of `succJ` / `norm` / `advance` of `Drv/C10.lean`, budget and cap apart).

Question: can the judge reject (state set empty) a trace that IS a trace of `Model.PubSub.sys`?  Answer: no, as long as neither the step
budget `fuel` nor `stateCap` cuts a closure short (`judge_complete_real`; `judgeDone` is the executable test for that) — for every
configuration.  The proof uses the reachable-state invariant `Good` (readers/waiting counters count the tasks, objects of tasks exist, no
task on an object `WithOnly` is still constructing): `good_all` (`good_reachable` of `Lemmas/PubSubRedLag.lean`; `good_noClone` is the same
statement with the hypothesis `cfg.allowClone = false`, which the proof does not use).

PROOF IDEA.  Two kinds of internal steps are LAG steps: `rd` — a `sendAsync` goroutine takes the read lock (`asyncStart ↦ asyncSend _ _ false`,
`readers+1`), which `succJ` never performs alone; `ann` — a writer announces (`…Start ↦ …Wait`, `waiting+1`), which must be postponed
together with it (a waiting writer keeps the goroutine out once the lock is taken late).  Both change one task and one counter
(`Lemmas.PubSubRed.lagT`).  The simulation relation is `Lag gs j s`: the model state `s` is the judge's state `j` plus the lag steps `gs`.
* `lag_commutes` (KEY COMMUTATION LEMMA): a lag step of task `g` right-commutes with every step of every other task, of a receiver, of the
  environment and with exit: what can be done after it can be done before it, same label, same final state, the lag step still enabled.
  Only exception: an announcement after a read lock on the same object (itself a lag step; the swapped order is disabled).
  The subtractions `readers-1`/`waiting-1` and `WithOnly`'s overwrite need the invariant `Good`.
* `red_simulates` (STEP SIMULATION): a model step that is a lag step is a stutter of the judge; a step of a task that is not lagging (or of the
  surroundings) is moved left over all lag steps and done by the judge; the send / timer of a lagging `sendAsync` goroutine: its `rd` is moved
  to the front (`lag_front`; a read lock is never preceded by an announcement on the same object in a lag sequence) and the judge does
  the MERGED step of `succJ`; the acquisition of a lagging writer (needs `readers = 0`, so no `rd` on that object is lagging): its
  announcement is moved to the front and the judge announces and acquires.  At most 2 judge steps per model step.
* `red_complete`, `judge_complete`: along executions; into the judge's state sets with full closure (`afterR`, relational `Closes`).
`judge_sets_sub`: the real sets (`advance`, with budget and cap) are contained in `afterR`; `judge_sets_eq`: and equal to them when no closure
along the trace was cut short (`judgeDone cfg [{}] tr = true`: every `closure` ended with an empty frontier; `closure_saturated`).
LEFT OPEN (cannot hold in general): that `fuel = 200` rounds and `stateCap = 40000` states always suffice — when they do not, the judge
may lose states (a closure stopped by the cap returns more than `stateCap` states, so `Drv.C10.step` then stops modelling the scenario:
tag `model.skipped:state-explosion`, never a verdict; but a closure that runs out of its `fuel` = 200 breadth-first rounds is silent and could
in principle lead to a false `rejected:`; a round is one more internal step on every path, so this needs an internal path of > 200 steps).
-/
namespace C10
open TypVerif TypVerif.Conc TypVerif.Model.PubSub TypVerif.Drv.C10 TypVerif.Lemmas.ConcAcceptC10 TypVerif.Lemmas.PubSubRed

/-- KEY COMMUTATION LEMMA: after the lag step `κ` of task `g` (read lock of a `sendAsync` goroutine / announcement of a writer) from `x` to `y`,
every step `(l, z)` of another source (`some k`: task `k ≠ g`; `none`: environment, receivers, exit) from `y` can be taken from `x` already,
with the same label, and the lag step then leads from there to the same `z`.  Side condition: if `κ` is a read lock, the other task is
not a writer about to announce (`annOf tk = none`). -/
theorem lag_commutes (cfg : Cfg) {x y z : State} {g : Nat} {κ : LK} {l : Option Event} (hG : Good x) (hl : LagStep x g κ y)
    (src : Option Nat) (hsrc : src ≠ some g)
    (hna : ∀ k tk, src = some k → x.tasks[k]? = some tk → ¬ κ.annOK → annOf tk = none)
    (h : (l, z) ∈ stepsOf cfg y src) : ∃ y', (l, y') ∈ stepsOf cfg x src ∧ LagStep y' g κ z :=
  stepsOf_lag cfg hG hl src hsrc hna h

/-- the sources partition the successor function -/
theorem succ_sources (cfg : Cfg) (x : State) (hex : x.exited = false) (hp : x.panicked = none) (p : Option Event × State) :
    p ∈ succ cfg x ↔ ∃ src, p ∈ stepsOf cfg x src :=
  mem_succ_iff cfg x hex hp p

/-- a lag step is an internal step of the model (in a state that has neither exited nor panicked) -/
theorem lag_is_step (cfg : Cfg) {x y : State} {g : Nat} {κ : LK} (h : LagStep x g κ y) (hex : x.exited = false) (hp : x.panicked = none) :
    (none, y) ∈ succ cfg x :=
  lagStep_succ cfg h hex hp

/-- two lag steps of different tasks commute, except read lock after announcement on the same object -/
theorem lag_lag_commute {x y z : State} {g g' : Nat} {κ κ' : LK} (h1 : LagStep x g κ y) (h2 : LagStep y g' κ' z) (hne : g ≠ g')
    (hside : κ.annOK ∨ ¬ κ'.annOK ∨ κ.obj ≠ κ'.obj) : ∃ y', LagStep x g' κ' y' ∧ LagStep y' g κ z :=
  lag_swap h1 h2 hne hside

set_option linter.unusedVariables false in
/-- `Good` holds in every reachable state of the system without clones (a special case of `good_all`: `hc` is not needed) -/
theorem good_noClone (cfg : Cfg) (hc : cfg.allowClone = false) : ∀ x, Reachable (sys cfg) x → Good x :=
  good_reachable cfg

/-- `Good` holds in every reachable state, for every configuration (clones allowed) -/
theorem good_all (cfg : Cfg) : ∀ x, Reachable (sys cfg) x → Good x :=
  good_reachable cfg

/-- every step of the judge's reduced system (`JStep`: justified form) is a step of `succJ` -/
theorem jstep_succJ {cfg : Cfg} {j z : State} {l : Option Event} (h : JStep cfg j l z) : (l, z) ∈ succJ cfg j := h.mem

/-- STEP-LEVEL SIMULATION `sys`-step ⇒ `succJ`-steps modulo "some lag steps have not been taken yet" -/
theorem red_simulates (cfg : Cfg) (hG : ∀ x, Reachable (sys cfg) x → Good x) {gs : List (Nat × LK)} {j s s' : State} {l : Option Event}
    (hlag : Lag gs j s) (hrj : Reachable (sys cfg) j) (hrs : Reachable (sys cfg) s) (hstep : (l, s') ∈ succ cfg s) :
    ∃ ls j' gs', Exec (sysJ cfg) j ls j' ∧ visible ls = visible [l] ∧ ls.length ≤ 2 ∧ Lag gs' j' s' := by
  obtain ⟨ls, j', gs', h1, h2, h3, h4⟩ := sim_step cfg hG hlag hrj hrs hstep
  exact ⟨ls, j', gs', h1.exec, h2, h3, h4⟩

/-- every visible trace of the model is a visible trace of the reduced system `sysJ` (successor function `succJ`) -/
theorem red_complete (cfg : Cfg) (hG : ∀ x, Reachable (sys cfg) x → Good x) {s : State} {ls : List (Option Event)}
    (hex : Exec (sys cfg) (sys cfg).init ls s) :
    ∃ ls' j gs, Exec (sysJ cfg) (sysJ cfg).init ls' j ∧ visible ls' = visible ls ∧ Lag gs j s := by
  obtain ⟨ls', j, gs, h1, h2, h3⟩ := Lemmas.PubSubRed.red_complete cfg hG hex
  exact ⟨ls', j, gs, h1.exec, h2, h3⟩

theorem red_complete_all (cfg : Cfg) {s : State} {ls : List (Option Event)}
    (hex : Exec (sys cfg) (sys cfg).init ls s) :
    ∃ ls' j gs, Exec (sysJ cfg) (sysJ cfg).init ls' j ∧ visible ls' = visible ls ∧ Lag gs j s :=
  red_complete cfg (good_all cfg) hex

/-- the relational judge does not depend on the menu of the configuration (it offers exactly the event of the line) -/
theorem afterR_env (cfg : Cfg) (E : List Event) (tr : List Event) : afterR { cfg with env := E } tr = afterR cfg tr := rfl

/-- COMPLETENESS OF THE JUDGE WITH FULL CLOSURES: if `tr` is the visible trace of an execution of the model (menu = the invocation events
of `tr`), the judge's state set after `tr` is not empty: it contains the `norm` of a state `j` from which the model's state is reached by
lag steps.  (`hG`: the invariant `Good`; discharged in `judge_complete_all`.) -/
theorem judge_complete (cfg : Cfg) (tr : List Event) (hG : ∀ x, Reachable (sys { cfg with env := tr.filter isInv }) x → Good x)
    (ls : List (Option Event)) (s : State)
    (hex : Exec (sys { cfg with env := tr.filter isInv }) (sys { cfg with env := tr.filter isInv }).init ls s) (hv : visible ls = tr) :
    ∃ j gs, afterR cfg tr (norm j) ∧ Lag gs j s := by
  obtain ⟨j, gs, h1, h2⟩ := afterR_complete { cfg with env := tr.filter isInv } hG hex
  rw [hv, afterR_env] at h1
  exact ⟨j, gs, h1, h2⟩

/-- For every configuration: a trace of the model is never rejected by the judge with full closures. -/
theorem judge_complete_all (cfg : Cfg) (tr : List Event) (ls : List (Option Event)) (s : State)
    (hex : Exec (sys { cfg with env := tr.filter isInv }) (sys { cfg with env := tr.filter isInv }).init ls s) (hv : visible ls = tr) :
    ∃ t, afterR cfg tr t := by
  obtain ⟨j, _, h, _⟩ := judge_complete cfg tr (good_all _) ls s hex hv
  exact ⟨_, h⟩

/-- the same for any menu that contains the invocations of the trace -/
theorem judge_complete_menu (cfg : Cfg) (hG : ∀ x, Reachable (sys cfg) x → Good x) (ls : List (Option Event)) (s : State)
    (hex : Exec (sys cfg) (sys cfg).init ls s) : ∃ j gs, afterR cfg (visible ls) (norm j) ∧ Lag gs j s :=
  afterR_complete cfg hG hex

/-- the real judge (closure with step budget and state cap) stays inside the relational one -/
theorem judge_sets_sub (cfg : Cfg) (tr : List Event) : ∀ t ∈ tr.foldl (advance cfg) [{}], afterR cfg tr t :=
  judge_sub_afterR cfg tr

/-- The relational judge is sound: every state of `afterR cfg tr` is the `norm` of a state reached by an execution of the model with visible trace `tr`
(menu `E` ⊇ the invocations of `tr`); hence, with `judge_complete_all`, for every configuration:
`(∃ t, afterR cfg tr t) ↔ tr is a visible trace of the model` (`judge_full_iff`) -/
theorem afterR_sound (cfg : Cfg) (E : List Event) : ∀ (tr : List Event), (∀ e ∈ tr, e ∈ E ∨ isInv e = false) → ∀ t, afterR cfg tr t →
    ∃ (ls : List (Option Event)) (t' : State), Exec (sys { cfg with env := E }) (sys { cfg with env := E }).init ls t' ∧
      visible ls = tr ∧ norm t' = t :=
  Lemmas.PubSubRed.afterR_sound cfg E

/-- the judge with full closures accepts exactly the visible traces of the model -/
theorem judge_full_iff (cfg : Cfg) (tr : List Event) :
    (∃ t, afterR cfg tr t) ↔
      ∃ (ls : List (Option Event)) (s : State),
        Exec (sys { cfg with env := tr.filter isInv }) (sys { cfg with env := tr.filter isInv }).init ls s ∧ visible ls = tr := by
  constructor
  · rintro ⟨t, ht⟩
    obtain ⟨ls, t', hex, hv, _⟩ := afterR_sound cfg (tr.filter isInv) tr (mem_filter_isInv_or tr) t ht
    exact ⟨ls, t', hex, hv⟩
  · rintro ⟨ls, s, hex, hv⟩
    exact judge_complete_all cfg tr ls s hex hv

/-- if `closure` ends because its frontier is empty (`closureDone`), its result contains the set it started with and is closed under
internal `succJ` steps (`CInv`: the loop invariant — the frontier is part of the set, states outside the frontier have their successors in it) -/
theorem closure_saturated (cfg : Cfg) (n : Nat) (seen : Std.HashSet State) (fr : List State) (hi : CInv cfg seen fr)
    (hd : closureDone cfg n seen fr = true) :
    (∀ t, t ∈ seen → t ∈ closure cfg n seen fr) ∧
      (∀ t, t ∈ closure cfg n seen fr → ∀ u, (none, u) ∈ succJ cfg t → norm u ∈ closure cfg n seen fr) :=
  Lemmas.PubSubRed.closure_saturated cfg n seen fr hi hd

/-- the real judge sets are exactly the relational ones when no closure along the trace was cut short by the step budget or the state cap -/
theorem judge_sets_eq (cfg : Cfg) (tr : List Event) (hd : judgeDone cfg [{}] tr = true) (t : State) :
    t ∈ tr.foldl (advance cfg) [{}] ↔ afterR cfg tr t :=
  ⟨judge_sub_afterR cfg tr t, judge_real_complete cfg tr hd t⟩

/-- COMPLETENESS OF THE REAL JUDGE: a trace of the model is rejected (state set empty) only if some closure was cut short -/
theorem judge_complete_real (cfg : Cfg) (tr : List Event) (ls : List (Option Event)) (s : State)
    (hex : Exec (sys { cfg with env := tr.filter isInv }) (sys { cfg with env := tr.filter isInv }).init ls s) (hv : visible ls = tr)
    (hd : judgeDone cfg [{}] tr = true) : tr.foldl (advance cfg) [{}] ≠ [] := by
  obtain ⟨t, ht⟩ := judge_complete_all cfg tr ls s hex hv
  have := judge_real_complete cfg tr hd t ht
  intro h
  rw [h] at this
  cases this

/-- With `C10.judge_accept_sound`: acceptance by the real judge = being a visible trace of the model, whenever no closure was cut short. -/
theorem judge_real_iff (cfg : Cfg) (tr : List Event) (hd : judgeDone cfg [{}] tr = true) :
    tr.foldl (advance cfg) [{}] ≠ [] ↔
      ∃ (ls : List (Option Event)) (s : State),
        Exec (sys { cfg with env := tr.filter isInv }) (sys { cfg with env := tr.filter isInv }).init ls s ∧ visible ls = tr :=
  ⟨judge_accept_sound cfg tr, fun ⟨ls, s, hex, hv⟩ => judge_complete_real cfg tr ls s hex hv hd⟩

/- non-vacuity (`#eval`, `decide` cannot evaluate `Std.HashSet`):
   trX = [sub 1 0, subret 1, pubinv 1 0 pub [5], pubret 1, unsubinv 1 0 1, allow 1 2, recv 1 5, unsubret 1 nil, closed 1], cfg = {}:
     judgeDone {} [{}] trX = true; sizes of the judge's sets after each prefix: [1, 3, 1, 2, 1, 4, 7, 3, 1, 1]
   trY = [sub 1 0, subret 1, pubinv 1 0 pub [5], unsubinv 1 0 1, pubret 1, tmo 5, unsubret 1 nil, allow 1 1, closed 1], cfg = { timeout := 1 }:
     judgeDone _ [{}] trY = true; sizes [1, 3, 1, 3, 16, 13, 6, 1, 1, 1]
   (in trY the goroutine's timer fires while the writer `Unsub` has announced and waits for the read lock) -/

end C10

#print axioms C10.lag_commutes
#print axioms C10.succ_sources
#print axioms C10.lag_is_step
#print axioms C10.lag_lag_commute
#print axioms C10.good_noClone
#print axioms C10.jstep_succJ
#print axioms C10.red_simulates
#print axioms C10.red_complete
#print axioms C10.red_complete_all
#print axioms C10.good_all
#print axioms C10.afterR_env
#print axioms C10.judge_complete
#print axioms C10.judge_complete_all
#print axioms C10.judge_complete_menu
#print axioms C10.judge_sets_sub
#print axioms C10.afterR_sound
#print axioms C10.judge_full_iff
#print axioms C10.closure_saturated
#print axioms C10.judge_sets_eq
#print axioms C10.judge_complete_real
#print axioms C10.judge_real_iff
