import TypVerif.Model.RecvQueuedConc
import TypVerif.Lemmas.RecvQueuedConc
/-
C19 — concurrent queued receivers: `g` goroutines call `RecvQueued(ch, limit)` AT ONCE on one channel, no sender
(`/repo/chans/chans.go`; model `Model/RecvQueuedConc.lean`: one loop iteration = one atomic step, any interleaving).
All statements are about every reachable state of `sys p` = every interleaving, any number of goroutines `p.g`, any
`p.limit : Int`, any initial content `p.fill`, open or closed channel.
-/
namespace C19
open TypVerif TypVerif.Conc TypVerif.Model.Chan TypVerif.Model.RecvQueuedConc
open TypVerif.Model.ChanHelpers (Stop fillList)

/-- Conservation.  `s.log` is the ghost record of the values in the order they left the channel, each with its receiver.
In every reachable state: (1) what left the channel, in that order, followed by what is still queued, IS the initial
content (nothing lost, invented, duplicated or reordered); (2) every goroutine holds exactly the values the log
attributes to it, in that order; (3) so the results together are a permutation of what left the channel, and results ++
queue a permutation of the initial content; (4) each goroutine's buffer is a subsequence of the initial content (FIFO),
all its values come from there; (5) the queue is always a suffix of the initial content; (6) the number of goroutines,
the capacity and the closed flag never change; (7) if the initial content has no duplicates then results ++ queue has
none: two different goroutines never hold the same value and no held value is still queued. -/
theorem recvQueued_conc_conservation (p : Params) (s : State) (hr : Reachable (sys p) s) :
    delivered s.log ++ s.ch.buf = p.fill ∧
    (∀ (i : Nat) (g : Gor), s.gs[i]? = some g → g.acc = owned s.log i) ∧
    s.lists.flatten.Perm (delivered s.log) ∧
    (s.lists.flatten ++ s.ch.buf).Perm p.fill ∧
    (∀ g ∈ s.gs, g.acc.Sublist p.fill ∧ ∀ v ∈ g.acc, v ∈ p.fill) ∧
    s.ch.buf <:+ p.fill ∧
    (s.gs.length = p.g ∧ s.ch.cap = p.cap ∧ s.ch.closed = p.closed) ∧
    (p.fill.Nodup →
      (s.lists.flatten ++ s.ch.buf).Nodup ∧
      (∀ (i j : Nat) (a b : Gor), i ≠ j → s.gs[i]? = some a → s.gs[j]? = some b → ∀ v ∈ a.acc, v ∉ b.acc) ∧
      (∀ g ∈ s.gs, ∀ v ∈ g.acc, v ∉ s.ch.buf)) := by
  have inv := Lemmas.RecvQueuedConc.inv_reachable p s hr
  have hperm := Lemmas.RecvQueuedConc.all_perm inv
  refine ⟨inv.cons, inv.own, inv.perm, hperm, ?_, ⟨_, inv.cons⟩, ⟨inv.len, inv.chan.1, inv.chan.2⟩, ?_⟩
  · intro g hg
    have := Lemmas.RecvQueuedConc.acc_sublist inv g hg
    exact ⟨this, fun v hv => this.subset hv⟩
  · intro hn
    have hnd : (s.lists.flatten ++ s.ch.buf).Nodup := hperm.nodup_iff.2 hn
    refine ⟨hnd, ?_, ?_⟩
    · intro i j a b hij ha hb v hv
      exact Lemmas.RecvQueuedConc.disjoint inv hn i j a b hij ha hb v hv
    · intro g hg v hv hq
      have hv' : v ∈ s.lists.flatten :=
        List.mem_flatten.2 ⟨g.acc, List.mem_map.2 ⟨g, hg, rfl⟩, hv⟩
      exact (List.nodup_append.1 hnd).2.2 v hv' v hq rfl

/-- the scenario of the examples: two goroutines, limit 2, an open channel of capacity 3 holding 1, 2, 3 -/
def exP : Params := { g := 2, limit := 2, cap := 3, fill := [1, 2, 3], closed := false }

/-- an explicit interleaving: goroutine 0 takes 1, goroutine 1 takes 2, goroutine 0 takes 3 and returns at its limit,
goroutine 1 finds the channel empty and returns `[2]` by `default` -/
example : ∃ s, Reachable (sys exP) s ∧ s.final ∧ s.lists = [[1, 3], [2]] ∧ s.ch.buf = [] ∧
    s.log = [(0, 1), (1, 2), (0, 3)] ∧ s.gs.map (·.status) = [some Stop.limit, some Stop.default] ∧ exP.fill.Nodup :=
  ⟨_, Lemmas.RecvQueuedConc.reachable_of_run exP [0, 1, 0, 0, 1] _ rfl, by decide, rfl, rfl, rfl, rfl, by decide⟩

/-- another interleaving of the same scenario, stopped in the middle: goroutine 1 has 1 and 2, 3 is still queued -/
example : ∃ s, Reachable (sys exP) s ∧ ¬ s.final ∧ s.lists = [[], [1, 2]] ∧ s.ch.buf = [3] :=
  ⟨_, Lemmas.RecvQueuedConc.reachable_of_run exP [1, 1, 1] _ rfl, by decide, rfl, rfl⟩

/-- The limit: no goroutine ever holds more than `limit` values (`limit.toNat`: for `maxValues ≤ 0` the loop body never
runs and the buffer stays empty). -/
theorem recvQueued_conc_limit (p : Params) (s : State) (hr : Reachable (sys p) s) :
    ∀ g ∈ s.gs, g.acc.length ≤ p.limit.toNat ∧ (0 ≤ p.limit → (g.acc.length : Int) ≤ p.limit) ∧ (p.limit ≤ 0 → g.acc = []) := by
  have inv := Lemmas.RecvQueuedConc.inv_reachable p s hr
  intro g hg
  have h := inv.limit g hg
  refine ⟨h, fun h0 => by omega, fun h0 => ?_⟩
  have : g.acc.length = 0 := by omega
  exact List.length_eq_zero_iff.1 this

/-- limit 1 on the channel holding 1, 2, 3: both goroutines return one value, 3 remains; limit -1: both return nothing at once -/
example : (∃ s, Reachable (sys { exP with limit := 1 }) s ∧ s.final ∧ s.lists = [[1], [2]] ∧ s.ch.buf = [3]) ∧
    (∃ s, Reachable (sys { exP with limit := -1 }) s ∧ s.final ∧ s.lists = [[], []] ∧ s.ch.buf = [1, 2, 3]) :=
  ⟨⟨_, Lemmas.RecvQueuedConc.reachable_of_run _ [0, 1, 0, 1] _ rfl, by decide, rfl, rfl⟩,
   ⟨_, Lemmas.RecvQueuedConc.reachable_of_run _ [1, 0] _ rfl, by decide, rfl, rfl⟩⟩

/-- Early stop.  In every reachable state:
(1) a goroutine that has returned either stopped at the `for` condition, holding exactly `limit` values, or stopped below
    the limit through `!ok` (closed channel) resp. `default` (open channel), and then the channel is empty now;
(2) in particular: returned with fewer than `limit` values ⇒ the channel is empty;
(3) the step in which a goroutine returns with fewer than `limit` values is taken on an empty channel (before and after);
(4) an empty channel stays empty in every continuation (no sender), more generally the queue only loses a prefix;
(5) in a final state (every goroutine has returned) either every list has length `limit` or nothing remains. -/
theorem recvQueued_conc_early_stop (p : Params) (s : State) (hr : Reachable (sys p) s) :
    (∀ g ∈ s.gs, ∀ st, g.status = some st →
      (st = Stop.limit ∧ g.acc.length = p.limit.toNat ∧ p.limit ≤ (g.acc.length : Int)) ∨
      (st = (if p.closed then Stop.closed else Stop.default) ∧ (g.acc.length : Int) < p.limit ∧ s.ch.buf = [])) ∧
    (∀ g ∈ s.gs, g.status ≠ none → (g.acc.length : Int) < p.limit → s.ch.buf = []) ∧
    (∀ (l : Option Event) (s' : State), (l, s') ∈ succ p.limit s → ∀ (i : Nat) (g g' : Gor), s.gs[i]? = some g → s'.gs[i]? = some g' →
      g.status = none → g'.status ≠ none → (g'.acc.length : Int) < p.limit → s.ch.buf = [] ∧ s'.ch.buf = []) ∧
    (∀ (ls : List (Option (sys p).Event)) (s' : (sys p).State), Exec (sys p) s ls s' →
      (s' : State).ch.buf <:+ s.ch.buf ∧ (s.ch.buf = [] → (s' : State).ch.buf = [])) ∧
    (s.final → (∀ g ∈ s.gs, g.acc.length = p.limit.toNat) ∨ s.ch.buf = []) := by
  have inv := Lemmas.RecvQueuedConc.inv_reachable p s hr
  refine ⟨?_, ?_, ?_, ?_, Lemmas.RecvQueuedConc.final_full_or_empty inv⟩
  · intro g hg st hst
    have hl := inv.limit g hg
    rcases inv.early g hg st hst with h | h
    · exact Or.inl ⟨h.1, by have := h.2; omega, h.2⟩
    · exact Or.inr h
  · intro g hg hst hshort
    cases hs : g.status with
    | none => exact absurd hs hst
    | some st =>
      rcases inv.early g hg st hs with h | h
      · have := h.2; omega
      · exact h.2.2
  · intro l s' hmem i g g' hg hg' hst hst' hshort
    exact Lemmas.RecvQueuedConc.step_return_short
      (Lemmas.RecvQueuedConc.step_of_mem_succ (x := (l, s')) hmem) i g g' hg hg' hst hst' hshort
  · intro ls s' hex
    have hsuf := Lemmas.RecvQueuedConc.exec_buf_suffix p ls s s' hex
    refine ⟨hsuf, fun h0 => ?_⟩
    rw [h0] at hsuf
    exact List.suffix_nil.1 hsuf

/-- goroutine 1 returns `[2]` (fewer than 2) on the open empty channel — the step before, the channel was already empty —
and on a closed channel the same run ends with `!ok` (`Stop.closed`) instead of `default` -/
example : (∃ s s', Reachable (sys exP) s ∧ s.ch.buf = [] ∧ (s.gs.map (·.status))[1]? = some none ∧
      stepG exP.limit s 1 = some (some (.ret 1 [2] Stop.default), s') ∧ s'.final ∧ s'.ch.buf = []) ∧
    (∃ s, Reachable (sys { exP with closed := true }) s ∧ s.final ∧ s.lists = [[1, 3], [2]] ∧
      s.gs.map (·.status) = [some Stop.limit, some Stop.closed]) :=
  ⟨⟨_, _, Lemmas.RecvQueuedConc.reachable_of_run exP [0, 1, 0, 0] _ rfl, rfl, rfl, rfl, by decide, rfl⟩,
   ⟨_, Lemmas.RecvQueuedConc.reachable_of_run _ [0, 1, 0, 0, 1] _ rfl, by decide, rfl, rfl⟩⟩

/-- The judge's acceptance predicate for `recvqueuedconc <cap> <fill> <closed> <g> <limit> => <lists> <remaining>`
(`Model.RecvQueuedConc.concVerdict`, the function `Drv/C19.lean` calls; `none` = accepted) accepts every outcome the model
can produce: every final state (all `g` goroutines returned) reached, by any interleaving, from the channel holding
`1..fill`, open or closed, with `lists` = the goroutines' results and `remaining` = the queue.  (`sound` in the name: the
predicate never rejects an outcome of the model; that it accepts nothing else is not proved.) -/
theorem recvQueued_conc_predicate_sound (g : Nat) (limit : Int) (cap fill : Nat) (closed : Bool) (s : State)
    (hr : Reachable (sys { g := g, limit := limit, cap := cap, fill := fillList fill, closed := closed }) s)
    (hf : s.final) :
    concVerdict fill g limit s.lists s.ch.buf = none :=
  Lemmas.RecvQueuedConc.verdict_final fill rfl (Lemmas.RecvQueuedConc.inv_reachable _ s hr) hf

/-- `exP` is such a scenario (`fillList 3 = [1, 2, 3]`), the outcome of the interleaving above is accepted, and the predicate
is not trivially true: it rejects a duplicated value, a lost value, a reordering, an early stop with a value left -/
example : exP = { g := 2, limit := 2, cap := 3, fill := fillList 3, closed := false } ∧
    concVerdict 3 2 2 [[1, 3], [2]] [] = none ∧
    concVerdict 3 2 1 [[1], [2]] [3] = none ∧
    concVerdict 3 2 2 [[1, 3], [3]] [] = some "value-delivered-twice" ∧
    concVerdict 3 2 2 [[1], [2]] [] = some "value-lost" ∧
    concVerdict 3 2 2 [[3, 1], [2]] [] = some "not-fifo" ∧
    concVerdict 3 2 2 [[1], [2]] [3] = some "stopped-early-with-values-queued" ∧
    concVerdict 3 2 1 [[1, 2], []] [3] = some "more-than-limit" ∧
    concVerdict 3 2 2 [[1, 3], []] [2] = some "remaining-not-a-suffix" ∧
    concVerdict 3 2 2 [[1, 0], [2]] [3] = some "invented-value" := by decide +kernel

end C19

#print axioms C19.recvQueued_conc_conservation
#print axioms C19.recvQueued_conc_limit
#print axioms C19.recvQueued_conc_early_stop
#print axioms C19.recvQueued_conc_predicate_sound
