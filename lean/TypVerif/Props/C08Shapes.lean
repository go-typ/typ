import TypVerif.Gen.Array2DShapes
/-
C08, tie 4B — GOLDEN FUNCTION SHAPES (written by tools/mkshapes.py; do not edit by hand).  For every function of the source files this property's model mirrors,
the extractor regenerates on every run: its calls, its stores through selectors / indices / pointers, its conditions and loop headers, its select cases and
its return expressions, in source order.  The theorems below state that these equal the shapes of the tree the model was written against.  They are the STATIC,
all-paths complement of the differential runs: a guard dropped, a fast path or a threshold added, an early return, a changed comparison or a different callee
on ANY path - also one that no generated input happens to take - changes the regenerated list and breaks the evaluation (`rfl`; for a list filtered by function name the mask of `Lemmas/FilterMask.lean`, then `rfl`).  A broken shape theorem is reported like a
broken proof (with a failing input when the search finds one, else `no-failing-input-found`); after a deliberate change of the source the changed functions are
re-read against the model and this file is regenerated.
-/
namespace C08

/-- arrays/array2d.go: 14 function(s) -/
theorem gen_shapes_array2d :
    Gen.Array2DShapes.funcs =
      [("New2D", ["return Array2D[T]{…}", "call make"]),
       ("New2DFilled", ["call make", "call slices.Fill", "return Array2D[T]{…}"]),
       ("New2DFromJagged", ["call New2D[E]", "range jagged", "if y >= height", "break", "call copy", "call arr.Row", "return arr"]),
       ("Array2D.String", ["call sb.WriteByte", "for y < a.height", "if y > 0", "call sb.WriteByte", "call sb.WriteByte", "for x < a.width", "if x > 0", "call sb.WriteByte", "call fmt.Fprint", "call a.getUnchecked", "call sb.WriteByte", "call sb.WriteByte", "return sb.String()", "call sb.String"]),
       ("Array2D.Get", ["if x < 0 || x >= a.width", "call panic", "call fmt.Sprintf", "if y < 0 || y >= a.height", "call panic", "call fmt.Sprintf", "return a.getUnchecked(x, y)", "call a.getUnchecked"]),
       ("Array2D.getUnchecked", ["return a.slice[x + y * a.width]"]),
       ("Array2D.Set", ["if x < 0 || x >= a.width", "call panic", "call fmt.Sprintf", "if y < 0 || y >= a.height", "call panic", "call fmt.Sprintf", "call a.setUnchecked"]),
       ("Array2D.setUnchecked", ["store a.slice[x + y * a.width]"]),
       ("Array2D.Width", ["return a.width"]),
       ("Array2D.Height", ["return a.height"]),
       ("Array2D.Clone", ["call make", "call len", "call copy", "return Array2D[T]{…}"]),
       ("Array2D.RowSpan", ["if x1 < 0 || x1 >= a.width", "call panic", "call fmt.Sprintf", "if y < 0 || y >= a.height", "call panic", "call fmt.Sprintf", "if x2 < 0 || x2 >= a.width", "call panic", "call fmt.Sprintf", "return a.slice[x1 + y * a.width:1 + x2 + y * a.width]"]),
       ("Array2D.Row", ["if y < 0 || y >= a.height", "call panic", "call fmt.Sprintf", "return a.slice[y * a.width:a.width + y * a.width]"]),
       ("Array2D.Fill", ["if x1 < 0 || x1 >= a.width", "call panic", "call fmt.Sprintf", "if y1 < 0 || y1 >= a.height", "call panic", "call fmt.Sprintf", "if x2 < 0 || x2 >= a.width", "call panic", "call fmt.Sprintf", "if y2 < 0 || y2 >= a.height", "call panic", "call fmt.Sprintf", "if x2 < x1", "if y2 < y1", "call slices.Fill", "for y <= y2", "call copy"])] := rfl

end C08
