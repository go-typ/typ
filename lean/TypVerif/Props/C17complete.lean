import TypVerif.Lemmas.OnceRedSim
import TypVerif.Lemmas.OnceRedAccept
import TypVerif.Props.C17accept
/-
C17 — THE REDUCTION LOSES NO BEHAVIOUR: every visible trace of `Model.Once.sys` is a visible trace of the reduced system `red` that the
judge `Drv/C17.lean` steps (the converse of `C17.red_step_sound`), and the acceptor `Conc.accepts (red n arity res) fuel` accepts it
whenever `fuel ≥ 3` (the judge uses `closureFuel = 64`).

Proof: `Lemmas.OnceRed.nf` is the explicit normal form of a state under urgent steps (everybody who can only go on to `read` is at `read`
once `done` is, or is about to be, set; otherwise `fast ↦ lock`, `check ↦ callF`).  `s ↦ nf s` is a simulation of the model by `red`:
an urgent step of the model is a stutter (`nf` is invariant), any other step (a visible step, or the winner's `Lock` while `done = 0`) is
matched by the same step of `red` from `nf s` followed by at most one normalisation step.  The fuel `4 * n + 8` of `normalize` always
suffices (`normalize_fuel_sufficient`: every urgent step decreases a measure that is at most `4 * n`).  For the acceptor: between two
visible events `red` needs at most 3 internal steps, and `Conc.tauClosure` contains everything reachable by at most `fuel` internal steps
from a duplicate-free state list (`Lemmas/ConcComplete.lean`; its early exit is a fixpoint test only for duplicate-free lists, which is
what `dedup` produces).

Here `n` and `res` are fixed.  The fold the driver performs (`Lemmas.ConcAcceptC17.jfold`: the number of goroutines grows with the
trace, states are padded with idle goroutines, the result function is chosen per event) is covered in `Props/C17drvcomplete.lean`.
-/
namespace C17
open TypVerif TypVerif.Conc TypVerif.Model.Once TypVerif.Drv.C17

/-- every visible trace of the model is a visible trace of the reduced system -/
theorem red_complete (n arity : Nat) (res : Nat → List Int) (ls : List (Option Event)) (s : State)
    (h : Exec (Model.Once.sys n arity res) (Model.Once.sys n arity res).init ls s) :
    ∃ ls' s', Exec (red n arity res) (red n arity res).init ls' s' ∧ visible ls' = visible ls :=
  Lemmas.OnceRed.red_complete n arity res ls s h

example : ∃ ls s, Exec (Model.Once.sys 2 2 demoRes) (Model.Once.sys 2 2 demoRes).init ls s ∧ visible ls = demoTrace :=
  Conc.accepts_sound (Model.Once.sys 2 2 demoRes) 64 demoTrace (by decide +kernel)

/-- the simulation behind it: the reduced system follows the model through the normal forms, each model step costing at most
two steps of `red` with the same visible label -/
theorem red_simulates (n arity : Nat) (res : Nat → List Int) (s s1 : State) (l : Option Event)
    (hr : Reachable (Model.Once.sys n arity res) s) (hm : (l, s1) ∈ (Model.Once.sys n arity res).succ s) :
    ∃ ls, Exec (red n arity res) (Lemmas.OnceRed.nf s) ls (Lemmas.OnceRed.nf s1) ∧ visible ls = visible [l] ∧
      ls.length ≤ 2 :=
  Lemmas.OnceRed.sim_step n arity res s s1 l
    (Lemmas.OnceRed.goodX_reachable n arity res s hr) hm

/-- the fuel of `normalize` in `red` is never too small: on a reachable state it yields a state without urgent step -/
theorem normalize_fuel_sufficient (n arity : Nat) (res : Nat → List Int) (s : State)
    (hr : Reachable (Model.Once.sys n arity res) s) :
    pick (normalize (4 * s.pcs.length + 8) s) = none := by
  have hg : Lemmas.OnceRed.GoodX s := Lemmas.OnceRed.goodX_reachable n arity res s hr
  exact (Lemmas.OnceRed.normalize_props _ s hg).2.2 (by have := Lemmas.OnceRed.nu_le s; omega)

/-- the acceptor on the reduced system accepts every visible trace of the model, with internal-closure fuel ≥ 3 -/
theorem red_accepts_complete (n arity : Nat) (res : Nat → List Int) (fuel : Nat) (hf : 3 ≤ fuel)
    (ls : List (Option Event)) (s : State)
    (h : Exec (Model.Once.sys n arity res) (Model.Once.sys n arity res).init ls s) :
    Conc.accepts (red n arity res) fuel (visible ls) = true :=
  Lemmas.OnceRed.accepts_complete n arity res fuel hf ls s h

/-- `red_accepts_complete` at the fuel the judge uses -/
theorem red_accepts_complete_closureFuel (n arity : Nat) (res : Nat → List Int) (ls : List (Option Event)) (s : State)
    (h : Exec (Model.Once.sys n arity res) (Model.Once.sys n arity res).init ls s) :
    Conc.accepts (red n arity res) closureFuel (visible ls) = true :=
  Lemmas.OnceRed.accepts_complete n arity res closureFuel (by decide) ls s h

/-- acceptance by the reduced system = being a visible trace of the model (with `C17.judge_accept_sound`) -/
theorem red_accepts_iff (n arity : Nat) (res : Nat → List Int) (fuel : Nat) (hf : 3 ≤ fuel) (tr : List Event) :
    Conc.accepts (red n arity res) fuel tr = true ↔
      ∃ ls s, Exec (Model.Once.sys n arity res) (Model.Once.sys n arity res).init ls s ∧ visible ls = tr := by
  constructor
  · exact judge_accept_sound n arity res fuel tr
  · rintro ⟨ls, s, hex, rfl⟩
    exact red_accepts_complete n arity res fuel hf ls s hex

end C17

#print axioms C17.red_complete
#print axioms C17.red_simulates
#print axioms C17.normalize_fuel_sufficient
#print axioms C17.red_accepts_complete
#print axioms C17.red_accepts_complete_closureFuel
#print axioms C17.red_accepts_iff
