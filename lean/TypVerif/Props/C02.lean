import TypVerif.Lemmas.AvlWorld
import TypVerif.Lemmas.AvlCost
/-
C02 — the tree stays height-balanced (AVL) after every Add and Remove; discrete depth bound; comparator-call cost.
`AVL t`: every cached height equals the true height (nil = -1, leaf = 0) and the subtree heights differ by ≤ 1.

The real-valued clause "no element lies deeper than 1.4405·log2(n+2)" is proved here in integer forms (core only,
no real numbers): `fib` (exact discrete bound: an AVL tree of height h has ≥ fib(h+3) − 1 nodes),
`depth_log_int` (2^(84·h) ≤ (n+2)^121, i.e. h ≤ (121/84)·log2(n+2), and 121/84 = 1.440476… < 1.4405, so this IS the
stated bound up to taking log2 of both sides, which needs real numbers and is left to `Props/C02Real.lean`), and the
weaker `depth_log_partial` (2^(9·h) ≤ (n+2)^13, constant 13/9 = 1.4444…, gap 0.004 to the stated constant; kept
because DESIGN §8 names it).  The driver's C02 judge additionally checks 2^(10000·h) ≤ (n+2)^14405 numerically on
every `shape` line.
-/
namespace C02
open TypVerif.Model.Avl TypVerif.Model.Avl.Node TypVerif.Spec.Avl TypVerif.Lemmas.Avl

variable {α ι : Type}

/-- example AVL tree `2(1,3)` -/
def ex3 : Node Int := mk (leaf 1) 2 (leaf 3)
theorem ex3_avl : AVL ex3 := by decide
/-- `2(-, 3)`: AVL itself; `mk nil 1 exR` = `1(-, 2(-, 3))` below is a cell out of balance by 2 before `rebalance` -/
def exR : Node Int := mk nil 2 (leaf 3)
theorem exR_avl : AVL exR := by decide

/-- `rebalance` on a cell with AVL subtrees whose heights differ by at most 2 (the situation after one insertion or
deletion below) returns an AVL tree; its height is `1 + max` if nothing had to be done, else `max` or `1 + max`. -/
theorem rebalance_spec (l : Node α) (v : α) (r : Node α) (hl : AVL l) (hr : AVL r)
    (hd1 : height l - height r ≤ 2) (hd2 : height r - height l ≤ 2) :
    AVL (rebalance (mk l v r)) ∧
    (height l - height r ≤ 1 → height r - height l ≤ 1 →
      height (rebalance (mk l v r)) = 1 + max (height l) (height r)) ∧
    (height (rebalance (mk l v r)) = max (height l) (height r) ∨
      height (rebalance (mk l v r)) = 1 + max (height l) (height r)) :=
  TypVerif.Lemmas.Avl.rebalance_spec l v r hl hr hd1 hd2
example : AVL (rebalance (mk nil 1 exR)) :=
  (rebalance_spec nil 1 exR trivial exR_avl (by decide) (by decide)).1
example : height (nil : Node Int) - height exR = -2 := by decide

/-- `rebalance` never dereferences nil on a cell with AVL subtrees, whatever their heights (the Go rotations access
`n.right.left` etc.). -/
theorem rebalance_no_panic (l : Node α) (v : α) (h : Int) (r : Node α) (hl : AVL l) (hr : AVL r) :
    rebalanceE (node l v h r) = .ok (rebalance (node l v h r)) :=
  rebalanceE_eq l v h r hl hr
example : rebalanceE (node nil 1 2 exR) = .ok (rebalance (node nil 1 2 exR)) :=
  rebalance_no_panic nil 1 2 exR trivial exR_avl

/-- Add keeps the tree AVL; the height stays or grows by one. -/
theorem add_avl (cmp : α → α → Int) (x : α) (t : Node α) (ht : AVL t) :
    AVL (add cmp x t) ∧ (height (add cmp x t) = height t ∨ height (add cmp x t) = height t + 1) :=
  TypVerif.Lemmas.Avl.add_avl cmp x t ht
example : AVL (add natCmp 5 ex3) := (add_avl natCmp 5 ex3 ex3_avl).1

/-- popLeftMost keeps the remaining tree AVL; its height is that of the original cell or one less. -/
theorem popLeftMost_avl (l : Node α) (v : α) (r : Node α) (hl : AVL l) (hr : AVL r)
    (b1 : height l - height r ≤ 1) (b2 : height r - height l ≤ 1) :
    AVL (popLeftMost l v r).1 ∧
    (height (popLeftMost l v r).1 = 1 + max (height l) (height r) ∨
     height (popLeftMost l v r).1 = max (height l) (height r)) :=
  TypVerif.Lemmas.Avl.popLeftMost_avl l v r hl hr b1 b2
example : AVL (popLeftMost (leaf (1 : Int)) 2 (leaf 3)).1 :=
  (popLeftMost_avl (leaf 1) 2 (leaf 3) (by decide) (by decide) (by decide) (by decide)).1

/-- Remove keeps the tree AVL (whether or not the value is found); the height stays or shrinks by one. -/
theorem remove_avl [DecidableEq α] (cmp : α → α → Int) (x : α) (t : Node α) (ht : AVL t) :
    AVL (remove cmp x t).1 ∧
    (height (remove cmp x t).1 = height t ∨ height (remove cmp x t).1 = height t - 1) :=
  TypVerif.Lemmas.Avl.remove_avl cmp x t ht
example : AVL (remove natCmp 2 ex3).1 := (remove_avl natCmp 2 ex3 ex3_avl).1

/-- After every history of New / Add / Remove / Clear / Clone / queries, every tree of the world is AVL
(for every comparator whatsoever: balance does not depend on the order being total). -/
theorem all_histories [DecidableEq α] (cmps : ι → α → α → Int) (ops : List (Op ι α)) :
    ∀ h t, (runModel cmps ops).1.get h = some t → AVL t.root :=
  TypVerif.Lemmas.Avl.all_histories cmps ops
example : (runModel cmpOfId [Op.new 0 (0 : Int), Op.add 0 (5 : Int)]).1.get 0 ≠ none := by decide

/-- An AVL tree of height `h` (nil = -1, leaf = 0) has at least `fib (h+3) - 1` nodes. -/
theorem fib (t : Node α) (ht : AVL t) : TypVerif.Spec.Avl.fib (height t + 3).toNat ≤ size t + 1 :=
  fib_le_size t ht
example : TypVerif.Spec.Avl.fib (height ex3 + 3).toNat ≤ size ex3 + 1 := fib ex3 ex3_avl

/-- Integer-exponent form of the depth bound: `height ≤ (13/9)·log2(n+2)`.  Partial w.r.t. the stated constant
1.4405 (13/9 = 1.4444…); see the file header. -/
theorem depth_log_partial (t : Node α) (n : Nat) (ht : AVL t) (hn : size t = n) :
    2 ^ (9 * (height t).toNat) ≤ (n + 2) ^ 13 := by
  subst hn; exact depth_pow t ht
example : 2 ^ (9 * (height ex3).toNat) ≤ (3 + 2) ^ 13 := depth_log_partial ex3 3 ex3_avl (by decide)

/-- Integer form of the stated depth bound: `84·height ≤ 121·log2(n+2)`, and 121/84 = 1.440476… < 1.4405.
(The height is the depth of the deepest element, levels counted from 0 at the root.) -/
theorem depth_log_int (t : Node α) (n : Nat) (ht : AVL t) (hn : size t = n) :
    2 ^ (84 * (height t).toNat) ≤ (n + 2) ^ 121 := by
  subst hn; exact depth_pow121 t ht
example : 2 ^ (84 * (height ex3).toNat) ≤ (3 + 2) ^ 121 := depth_log_int ex3 3 ex3_avl (by decide)
example : 121 * 10000 ≤ 84 * 14405 := by decide   -- 121/84 ≤ 1.4405

/-- Comparator calls of `find`/`add`/`remove` (counting model; same results as the plain model): at most one per
level, i.e. ≤ height + 1 ≤ 2·(height + 2) — with `fib`, O(log n).  Holds for every tree. -/
theorem cost [DecidableEq α] (cmp : α → α → Int) (x : α) (t : Node α) :
    ((findC cmp x t).1 = find cmp x t ∧ ((findC cmp x t).2 : Int) ≤ height t + 1) ∧
    ((addC cmp x t).1 = add cmp x t ∧ ((addC cmp x t).2 : Int) ≤ height t + 1) ∧
    ((removeC cmp x t).1 = remove cmp x t ∧ ((removeC cmp x t).2 : Int) ≤ height t + 1) :=
  ⟨⟨findC_fst cmp x t, findC_cost cmp x t⟩, ⟨addC_fst cmp x t, addC_cost cmp x t⟩,
   removeC_eq cmp x t ▸ ⟨rfl, findC_cost cmp x t⟩⟩

/-- the same at the `Tree` level (what the harness's counting comparator observes) -/
theorem cost_tree [DecidableEq α] (t : Tree α) (x : α) :
    ((t.ContainsC x).1 = t.Contains x ∧ ((t.ContainsC x).2 : Int) ≤ height t.root + 1) ∧
    ((t.AddC x).1 = t.Add x ∧ ((t.AddC x).2 : Int) ≤ height t.root + 1) ∧
    ((t.RemoveC x).1 = t.Remove x ∧ ((t.RemoveC x).2 : Int) ≤ height t.root + 1) :=
  ⟨ContainsC_spec t x, AddC_spec t x, RemoveC_spec t x⟩

end C02
