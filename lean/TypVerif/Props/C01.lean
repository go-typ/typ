import TypVerif.Lemmas.AvlRefine
import TypVerif.Lemmas.AvlCost
/-
C01 — the AVL tree is a sorted multiset under every history of Add / Remove / Clear / Clone.
Model: `Model/Avl.lean` (mirror of /repo/avl/avl.go); specification: `Spec/Avl.lean`.
Not stated here (decided by correspondence only, DESIGN §6): the clone shares no state with the original.
-/
namespace C01
open TypVerif.Model.Avl TypVerif.Model.Avl.Node TypVerif.Spec.Avl TypVerif.Lemmas.Avl

variable {α ι : Type} [DecidableEq α]

/-- example tree `2(1,3)` used for non-vacuity -/
def ex3 : Node Int := mk (leaf 1) 2 (leaf 3)
theorem ex3_bst : BST natCmp ex3 := by
  simp [ex3, mk, leaf, BST, natCmp]
def exTree : Tree Int := { compare := natCmp, root := ex3, count := 3 }

/-- `add` adds exactly one occurrence of `x` to the multiset of the in-order walk (no hypothesis needed). -/
theorem inorder_add (cmp : α → α → Int) (x : α) (t : Node α) :
    (inorder (add cmp x t)).Perm (x :: inorder t) :=
  inorder_add_perm cmp x t

/-- … and on a search tree it is the ordered insertion of the specification. -/
theorem inorder_add_eq {cmp : α → α → Int} (ok : CmpOK cmp) (x : α) (t : Node α) (ht : BST cmp t) :
    inorder (add cmp x t) = sinsert cmp x (inorder t) :=
  TypVerif.Lemmas.Avl.inorder_add_eq ok x t ht
example : inorder (add natCmp 2 ex3) = sinsert natCmp 2 (inorder ex3) := inorder_add_eq natCmp_ok 2 ex3 ex3_bst

/-- `add` preserves the (non-strict) search-tree invariant, i.e. sortedness of the in-order walk. -/
theorem sorted_add {cmp : α → α → Int} (ok : CmpOK cmp) (x : α) (t : Node α) (ht : BST cmp t) :
    BST cmp (add cmp x t) ∧ Sorted cmp (inorder (add cmp x t)) :=
  ⟨bst_add ok x t ht, (bst_iff_sorted ok _).mp (bst_add ok x t ht)⟩
example : BST natCmp (add natCmp 2 ex3) ∧ Sorted natCmp (inorder (add natCmp 2 ex3)) :=
  sorted_add natCmp_ok 2 ex3 ex3_bst

/-- `contains` (Go: `find(..) != nil`) is membership in the in-order walk. -/
theorem find_iff {cmp : α → α → Int} (ok : CmpOK cmp) (x : α) (t : Node α) (ht : BST cmp t) :
    contains cmp x t = true ↔ x ∈ inorder t :=
  contains_iff ok x t ht
example : contains natCmp 3 ex3 = true ↔ 3 ∈ inorder ex3 := find_iff natCmp_ok 3 ex3 ex3_bst

/-- Remove of a present value: returns true, deletes exactly one occurrence, the rest stays a sorted search tree. -/
theorem remove_present {cmp : α → α → Int} (ok : CmpOK cmp) (x : α) (t : Node α) (ht : BST cmp t)
    (hx : x ∈ inorder t) :
    ∃ t', remove cmp x t = (t', true) ∧ (x :: inorder t').Perm (inorder t) ∧ BST cmp t' ∧
      inorder t' = (inorder t).erase x := by
  obtain ⟨h1, h2, h3⟩ := remove_spec ok x t ht
  rw [decide_eq_true hx] at h1
  exact ⟨(remove cmp x t).1, by rw [← h1], h2 ▸ (List.perm_cons_erase hx).symm, h3, h2⟩
example : ∃ t', remove natCmp 2 ex3 = (t', true) ∧ (2 :: inorder t').Perm (inorder ex3) ∧ BST natCmp t' ∧
    inorder t' = (inorder ex3).erase 2 := remove_present natCmp_ok 2 ex3 ex3_bst (by decide)

/-- Remove of an absent value returns false and the very same tree (no hypothesis on the tree needed). -/
theorem remove_absent (cmp : α → α → Int) (x : α) (t : Node α) (hx : x ∉ inorder t) :
    remove cmp x t = (t, false) := by
  rcases remove_cases cmp x t with ⟨_, e⟩ | ⟨_, _, A, B, e1, _⟩
  · exact e
  · exact absurd (by rw [e1]; simp) hx
example : remove natCmp 7 ex3 = (ex3, false) := remove_absent natCmp 7 ex3 (by decide)

/-- `Tree.Remove` of an absent value: false, and the tree (Len included) is unchanged. -/
theorem Remove_absent (t : Tree α) (x : α) (hx : x ∉ inorder t.root) : t.Remove x = (t, false) := by
  rw [Remove_eq, remove_absent t.compare x t.root hx]; rfl
example : exTree.Remove 7 = (exTree, false) := Remove_absent exTree 7 (by decide)

/-- `Tree.Remove` of a present value: true, Len decreases by exactly one. -/
theorem Remove_present (t : Tree α) (ok : CmpOK t.compare) (ht : BST t.compare t.root) (x : α)
    (hx : x ∈ inorder t.root) :
    (t.Remove x).2 = true ∧ (t.Remove x).1.count = t.count - 1 ∧
      inorder (t.Remove x).1.root = (inorder t.root).erase x := by
  obtain ⟨t', e, _, _, e3⟩ := remove_present ok x t.root ht hx
  rw [Remove_eq, e]
  exact ⟨rfl, rfl, e3⟩
example : (exTree.Remove 2).2 = true ∧ (exTree.Remove 2).1.count = exTree.count - 1 ∧
    inorder (exTree.Remove 2).1.root = (inorder exTree.root).erase 2 :=
  Remove_present exTree natCmp_ok ex3_bst 2 (by decide)

omit [DecidableEq α] in
/-- Two sorted lists with the same multiset are equal: "lists exactly the multiset, in order" is an equality. -/
theorem sorted_unique {cmp : α → α → Int} (ok : CmpOK cmp) {l1 l2 : List α} (s1 : Sorted cmp l1)
    (s2 : Sorted cmp l2) (p : l1.Perm l2) : l1 = l2 :=
  TypVerif.Lemmas.Avl.sorted_unique ok s1 s2 p
example : ([1, 2, 2] : List Int) = [1, 2, 2] :=
  sorted_unique natCmp_ok (l1 := [1, 2, 2]) (l2 := [1, 2, 2]) (by simp [Sorted, natCmp]) (by simp [Sorted, natCmp])
    (List.Perm.refl _)

/-- For every history (several trees, any of the comparators of a family of total orders), the model's outputs —
Remove's Boolean, Contains, Len, SliceInOrder — equal the specification's outputs at every position. -/
theorem refines {cmps : ι → α → α → Int} (ok : ∀ c, CmpOK (cmps c)) (ops : List (Op ι α)) :
    (runModel cmps ops).2 = (runSpec cmps ops).2 :=
  (TypVerif.Lemmas.Avl.refines ok ops).1
example (ops : List (Op Int Int)) : (runModel cmpOfId ops).2 = (runSpec cmpOfId ops).2 := refines cmpOfId_ok ops

/-- every reachable tree is related to its abstract sorted list -/
theorem reachable_rel {cmps : ι → α → α → Int} (ok : ∀ c, CmpOK (cmps c)) (ops : List (Op ι α)) (h : Nat)
    (t : Tree α) (ht : (runModel cmps ops).1.get h = some t) :
    ∃ s, (runSpec cmps ops).1.get h = some s ∧ Rel cmps t s := by
  have hw := (TypVerif.Lemmas.Avl.refines ok ops).2 h
  rw [ht] at hw
  cases hs : (runSpec cmps ops).1.get h with
  | none => rw [hs] at hw; exact absurd hw (by simp [ORel])
  | some s => rw [hs] at hw; exact ⟨s, rfl, hw⟩

/-- In every reachable state `count` (= Len) is the number of elements of the in-order walk. -/
theorem count_eq {cmps : ι → α → α → Int} (ok : ∀ c, CmpOK (cmps c)) (ops : List (Op ι α)) (h : Nat)
    (t : Tree α) (ht : (runModel cmps ops).1.get h = some t) : t.count = (inorder t.root).length := by
  obtain ⟨s, _, r⟩ := reachable_rel ok ops h t ht
  rw [r.cnt, r.ino]
example (ops : List (Op Int Int)) (h : Nat) (t : Tree Int) (ht : (runModel cmpOfId ops).1.get h = some t) :
    t.count = (inorder t.root).length := count_eq cmpOfId_ok ops h t ht
example : (runModel cmpOfId [Op.new 0 (0 : Int), Op.add 0 (5 : Int)]).1.get 0 ≠ none := by decide

/-- `slice`'s `make([]T, 0, n.count)` never panics in a reachable state: the three `Slice*` return their lists. -/
theorem slices_no_panic {cmps : ι → α → α → Int} (ok : ∀ c, CmpOK (cmps c)) (ops : List (Op ι α)) (h : Nat)
    (t : Tree α) (ht : (runModel cmps ops).1.get h = some t) :
    t.SlicePreOrderE = .ok t.SlicePreOrder ∧ t.SliceInOrderE = .ok t.SliceInOrder ∧
      t.SlicePostOrderE = .ok t.SlicePostOrder := by
  have hc := count_eq ok ops h t ht
  have : ¬ t.count < 0 := by omega
  simp [Tree.SlicePreOrderE, Tree.SliceInOrderE, Tree.SlicePostOrderE, Tree.sliceE, this]

/-- In every reachable state the in-order walk is non-decreasing (and the tree is a search tree). -/
theorem sorted {cmps : ι → α → α → Int} (ok : ∀ c, CmpOK (cmps c)) (ops : List (Op ι α)) (h : Nat)
    (t : Tree α) (ht : (runModel cmps ops).1.get h = some t) :
    Sorted t.compare (inorder t.root) ∧ BST t.compare t.root := by
  obtain ⟨s, _, r⟩ := reachable_rel ok ops h t ht
  have okc : CmpOK t.compare := by rw [r.cmp_eq]; exact ok _
  exact ⟨(bst_iff_sorted okc _).mp r.bst, r.bst⟩
example (ops : List (Op Int Int)) (h : Nat) (t : Tree Int) (ht : (runModel cmpOfId ops).1.get h = some t) :
    Sorted t.compare (inorder t.root) ∧ BST t.compare t.root := sorted cmpOfId_ok ops h t ht

omit [DecidableEq α] in
/-- The three slices (and the three callback walks) are the pre-, in- and post-order of one and the same
binary tree — the model tree with the cached heights erased. -/
theorem traversals (t : Tree α) :
    ∃ b : BinTree α, t.SlicePreOrder = b.pre ∧ t.SliceInOrder = b.ino ∧ t.SlicePostOrder = b.post ∧
      (∀ (σ : Type) (f : σ → α → σ) (s : σ),
        t.WalkPreOrder f s = b.pre.foldl f s ∧ t.WalkInOrder f s = b.ino.foldl f s ∧
        t.WalkPostOrder f s = b.post.foldl f s) := by
  refine ⟨erase t.root, ?_, ?_, ?_, fun σ f s => ⟨?_, ?_, ?_⟩⟩
  · rw [SlicePreOrder_eq, erase_pre]
  · rw [SliceInOrder_eq, erase_ino]
  · rw [SlicePostOrder_eq, erase_post]
  · rw [WalkPreOrder_eq, erase_pre]
  · rw [WalkInOrder_eq, erase_ino]
  · rw [WalkPostOrder_eq, erase_post]

/-- Clone of a well-formed tree of any size: same contents in the same order, same Len, same comparator. -/
theorem clone (t : Tree α) (ok : CmpOK t.compare) (hb : BST t.compare t.root)
    (hc : t.count = (inorder t.root).length) :
    inorder t.Clone.root = inorder t.root ∧ t.Clone.count = t.count ∧ t.Clone.compare = t.compare ∧
      BST t.Clone.compare t.Clone.root := by
  obtain ⟨h1, h2, h3, h4⟩ := Clone_spec ok t rfl hb
  exact ⟨h3, by rw [h4, hc], h1, by rw [h1]; exact h2⟩
example : inorder exTree.Clone.root = inorder exTree.root ∧ exTree.Clone.count = exTree.count ∧
    exTree.Clone.compare = exTree.compare ∧ BST exTree.Clone.compare exTree.Clone.root :=
  clone exTree natCmp_ok ex3_bst (by decide)

end C01
