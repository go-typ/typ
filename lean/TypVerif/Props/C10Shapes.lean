import TypVerif.Lemmas.FilterMask
import TypVerif.Gen.ChanShapes
/-
C10, tie 4B — GOLDEN FUNCTION SHAPES (written by tools/mkshapes.py; do not edit by hand).  For every function of the source files this property's model mirrors,
the extractor regenerates on every run: its calls, its stores through selectors / indices / pointers, its conditions and loop headers, its select cases and
its return expressions, in source order.  The theorems below state that these equal the shapes of the tree the model was written against.  They are the STATIC,
all-paths complement of the differential runs: a guard dropped, a fast path or a threshold added, an early return, a changed comparison or a different callee
on ANY path - also one that no generated input happens to take - changes the regenerated list and breaks the evaluation (`rfl`; for a list filtered by function name the mask of `Lemmas/FilterMask.lean`, then `rfl`).  A broken shape theorem is reported like a
broken proof (with a failing input when the search finds one, else `no-failing-input-found`); after a deliberate change of the source the changed functions are
re-read against the model and this file is regenerated.
-/
namespace C10

/-- chans/chans.go, SendTimeout - the DEPENDENCY of PubSub.send: 1 function(s) -/
theorem gen_shapes_dep_sendtimeout :
    Gen.ChanShapes.funcs.filter (fun f => (["SendTimeout"]).contains f.1) =
      [("SendTimeout", ["if timeout <= 0", "send ch <- value", "return true", "call time.NewTimer", "case ch <- value:", "send ch <- value", "call timer.Stop", "return true", "case <-timer.C:", "return false"])] :=
  (TypVerif.Lemmas.filter_of_mask _ _ [true, false, false, false, false, false] (by decide +kernel)).trans rfl

end C10
