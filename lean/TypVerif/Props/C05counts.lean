import TypVerif.Lemmas.SetCounts
import TypVerif.Props.C05conc
/-
C05, the clause "the counts returned by AddSet and RemoveSet add up the same way".

`AddSet(set)` is the loop `set.Range(func(value) { if s.Add(value) { added++ } })` returning `added`, `RemoveSet` the same loop
with `Remove` (`sync2/set.go`; regenerated fact `C05.gen_addset_is_a_loop_of_adds`).  The count an `AddSet` call returns is
therefore the number of ITS OWN element Adds that reported `true`; a single `Add` is a call with one element operation whose
"count" is 1 if it reported `true` and 0 otherwise; likewise for `RemoveSet`/`Remove`.  Summed over a whole execution:

    (Σ counts returned by AddSet calls + #successful single Adds) − (Σ counts returned by RemoveSet calls + #successful single Removes)
      = number of members of the final set.

* `counts_add_up_seq`  — the totals, for every sequential history of the set specification;
* `counts_by_call`, `counts_add_up_calls`, `counts_add_up_groups` — the totals are the sums of the per-call counts, for ANY
  assignment of the element operations to calls (interleaved: by position; or consecutive groups), so the same equation holds
  between the sums of the returned counts;
* `conc_counts_add_up` — for every execution of the step-level model of `sync2.Set` (hypotheses and linearization of
  `conc_alternate`), in both forms.
-/
namespace C05
open TypVerif TypVerif.Conc TypVerif.Model TypVerif.Model.AtomicObj
open TypVerif.Model.SyncMapConc (Op Res sys)
open TypVerif.Spec.AtomicSet
open TypVerif.Lemmas.Smc (mapSpec applyOp evOf)
open TypVerif.Lemmas.SetConc
open TypVerif.Lemmas.SetCounts

set_option linter.unusedSectionVars false   -- several statements below do not use the section's `[DecidableEq α]`

variable {α : Type} [DecidableEq α]

/-- **The counts add up (sequential histories, any duplicate-free cover).**  For every sequential history `srun ops` of the
set specification and every duplicate-free list `vs` containing all values mentioned by `ops`:
#successful Adds = #successful Removes + #(members of the final set among `vs`). -/
theorem counts_add_up_seq_cover (ops : List (SOp α)) (vs : List α) (hnd : vs.Nodup) (hcov : ∀ op ∈ ops, opValue op ∈ vs) :
    okAdds (srun ops).2 = okRemoves (srun ops).2 + vs.countP (srun ops).1 := by
  have h := counts_from vs hnd ops sempty hcov
  rw [show vs.countP (sempty : SState α) = 0 from List.countP_eq_zero.2 fun _ _ => Bool.eq_false_iff.1 rfl,
    Nat.add_zero] at h
  exact h

/-- **The counts add up (sequential histories).**  With `lins := (srun ops).2` the history (calls with their results, oldest
first) and `(srun ops).1` the final set: the number of `(Add _, true)` in `lins` is the number of `(Remove _, true)` in `lins`
plus the number of values `v`, in the duplicate-free list `touched ops = (ops.map opValue).eraseDups` of all values mentioned
by `ops`, with `final v = true`. -/
theorem counts_add_up_seq (ops : List (SOp α)) :
    okAdds (srun ops).2 = okRemoves (srun ops).2 + (touched ops).countP (srun ops).1 :=
  counts_add_up_seq_cover ops (touched ops) (touched_nodup ops) (fun _ h => mem_touched h)

/-- `touched ops` is duplicate-free and contains exactly the values mentioned by `ops`; every other value is not a member of
the final set — so `(touched ops).countP (srun ops).1` IS the number of members of the final set. -/
theorem touched_spec (ops : List (SOp α)) :
    (touched ops).Nodup ∧ (∀ v, v ∈ touched ops ↔ ∃ op ∈ ops, opValue op = v) ∧
    (∀ v, v ∉ touched ops → (srun ops).1 v = false) := by
  refine ⟨touched_nodup ops, fun v => mem_touched_iff, ?_⟩
  intro v hv
  exact srunFrom_untouched v ops sempty (fun op ho e => hv (e ▸ mem_touched ho))

/-- the member count does not depend on the duplicate-free cover chosen -/
theorem members_cover_indep (ops : List (SOp α)) (vs : List α) (hnd : vs.Nodup) (hcov : ∀ op ∈ ops, opValue op ∈ vs) :
    vs.countP (srun ops).1 = (touched ops).countP (srun ops).1 :=
  Nat.add_left_cancel ((counts_add_up_seq_cover ops vs hnd hcov).symm.trans (counts_add_up_seq ops))

/-- **Grouping (interleaved calls).**  Let `call : Nat → γ` assign the positions of a history `lins` to call identifiers
taken from a duplicate-free list `ids` (an `AddSet` call = the positions of its element Adds, which other goroutines' operations
may separate; a single `Add` = one position).  Then the per-call numbers of successful Adds sum to the total number of
successful Adds, and the same for Removes. -/
theorem counts_by_call {γ : Type} [DecidableEq γ] (call : Nat → γ) (ids : List γ) (hnd : ids.Nodup)
    (lins : List (SOp α × Bool)) (hcov : ∀ i, i < lins.length → call i ∈ ids) :
    (ids.map (fun c => countIn isOkAdd call c lins)).sum = okAdds lins ∧
    (ids.map (fun c => countIn isOkRemove call c lins)).sum = okRemoves lins :=
  ⟨sum_countIn isOkAdd call ids hnd lins hcov, sum_countIn isOkRemove call ids hnd lins hcov⟩

/-- **The counts add up, per call.**  For any assignment of the positions of the sequential history to calls:
Σ over calls of (#successful Adds of the call) = Σ over calls of (#successful Removes of the call) + #members of the final set. -/
theorem counts_add_up_calls {γ : Type} [DecidableEq γ] (ops : List (SOp α)) (call : Nat → γ) (ids : List γ)
    (hnd : ids.Nodup) (hcov : ∀ i, i < ops.length → call i ∈ ids) :
    (ids.map (fun c => countIn isOkAdd call c (srun ops).2)).sum =
      (ids.map (fun c => countIn isOkRemove call c (srun ops).2)).sum + (touched ops).countP (srun ops).1 := by
  obtain ⟨h1, h2⟩ := counts_by_call call ids hnd (srun ops).2
    fun i hi => hcov i (Lemmas.AtomicSet.srunFrom_length ops sempty ▸ hi)
  rw [h1, h2]
  exact counts_add_up_seq ops

/-- **The counts add up, consecutive groups** (`countP_flatten` form).  If the history is cut into consecutive groups
in any order — here: any list `gs` of groups whose concatenation is the history, each group being
all-Adds (`AddSet` or single `Add`), all-Removes (`RemoveSet` or single `Remove`), or anything else (`Has`) — then with
`callCount g` = number of `true` results in `g` (the count the call returns):
Σ callCount over the Add-groups = Σ callCount over the Remove-groups + #members of the final set. -/
theorem counts_add_up_groups (ops : List (SOp α)) (gs : List (List (SOp α × Bool))) (hsplit : (srun ops).2 = gs.flatten)
    (isAddG isRemG : List (SOp α × Bool) → Bool)
    (hA : ∀ g ∈ gs, isAddG g = true → ∀ x ∈ g, ∃ v, x.1 = SOp.add v)
    (hR : ∀ g ∈ gs, isRemG g = true → ∀ x ∈ g, ∃ v, x.1 = SOp.remove v)
    (hA' : ∀ g ∈ gs, isAddG g = false → okAdds g = 0)
    (hR' : ∀ g ∈ gs, isRemG g = false → okRemoves g = 0) :
    ((gs.filter isAddG).map callCount).sum = ((gs.filter isRemG).map callCount).sum + (touched ops).countP (srun ops).1 := by
  rw [sum_filter_map callCount okAdds isAddG gs (fun g hg hs => callCount_adds g (hA g hg hs)) hA',
    sum_filter_map callCount okRemoves isRemG gs (fun g hg hs => callCount_removes g (hR g hg hs)) hR',
    ← okAdds_flatten, ← okRemoves_flatten, ← hsplit]
  exact counts_add_up_seq ops

/-- **The counts add up under every schedule.**  Same hypotheses as `conc_alternate`: for any number `n` of goroutines calling
operations from any finite menu of `Add`/`Remove`/`Has` (the element operations `AddSet`/`RemoveSet` perform are such calls),
every execution of the step-level model has a linearization (the `log`, `ops` of `conc_alternate`: one linearization point per
call inside the call's interval, carrying the call's result; its sequence of `(call, result)` pairs is the sequential
history `srun ops`) in which

  total #successful Adds = total #successful Removes + #{v ∈ touched ops | v is a member of the final set `(srun ops).1`},

every value outside the duplicate-free list `touched ops` being a non-member; and for ANY assignment `call` of the
linearization points (positions in `srun ops`, oldest first) to calls `ids` — e.g. the element Adds of one `AddSet` call, however
interleaved with other goroutines — the same equation holds between the sums of the per-call counts. -/
theorem conc_counts_add_up (menu : List (Op α Unit)) (hmenu : ∀ op ∈ menu, (toSetOp op).isSome = true) (n : Nat)
    {s : SyncMapConc.State α Unit} {ls : List (Option (SyncMapConc.Event α Unit))}
    (he : Exec (sys α Unit menu n true) (SyncMapConc.init n true) ls s) :
    ∃ (log : List (Entry (SOp α) Bool)) (ops : List (SOp α)),
      histOf log = setHist (ls.filterMap (·.bind evOf)) ∧
      (∀ t, (runThread t log).isSome = true) ∧
      SeqRun (setSpec α) (linsOf log) (srun ops).1 ∧
      (srun ops).2 = (linsOf log).reverse ∧
      okAdds (linsOf log) = okRemoves (linsOf log) + (touched ops).countP (srun ops).1 ∧
      (touched ops).Nodup ∧ (∀ v, v ∉ touched ops → (srun ops).1 v = false) ∧
      ∀ (γ : Type) [DecidableEq γ] (call : Nat → γ) (ids : List γ), ids.Nodup →
        (∀ i, i < (linsOf log).length → call i ∈ ids) →
        (ids.map (fun c => countIn isOkAdd call c (linsOf log).reverse)).sum =
          (ids.map (fun c => countIn isOkRemove call c (linsOf log).reverse)).sum + (touched ops).countP (srun ops).1 := by
  obtain ⟨log, ops, h1, h2, h3, h4⟩ := linearization_srun (conc_linearizable menu hmenu n he)
  refine ⟨log, ops, h1, h2, h3, h4, ?_, touched_nodup ops, (touched_spec ops).2.2, ?_⟩
  · have hc := counts_add_up_seq ops
    unfold okAdds okRemoves at hc ⊢
    rw [h4, List.countP_reverse, List.countP_reverse] at hc
    exact hc
  · intro γ _ call ids hnd hcov
    have hc := counts_add_up_calls ops call ids hnd fun i hi => hcov i (by
      rw [← List.length_reverse, ← h4]; exact (Lemmas.AtomicSet.srunFrom_length ops sempty).symm ▸ hi)
    rw [h4] at hc
    exact hc

/-! Non-vacuity: two `AddSet` calls with element operations `[add 1, add 2]`, `[add 2, add 3]` and a `RemoveSet` call
`[remove 2, remove 5]`; returned counts 2, 1, 1; final set {1, 3}; 2 + 1 − 1 = 2. -/

/-- the element operations, one call after the other -/
def exOps : List (SOp Int) := [.add 1, .add 2] ++ [.add 2, .add 3] ++ [.remove 2, .remove 5]

/-- the history splits into the three calls' groups, with these results -/
example : (srun exOps).2 = [[(.add 1, true), (.add 2, true)], [(.add 2, false), (.add 3, true)],
    [(.remove 2, true), (.remove 5, false)]].flatten := by decide +kernel

/-- the counts the three calls return -/
example : callCount ([(.add 1, true), (.add 2, true)] : List (SOp Int × Bool)) = 2 ∧
    callCount ([(.add 2, false), (.add 3, true)] : List (SOp Int × Bool)) = 1 ∧
    callCount ([(.remove 2, true), (.remove 5, false)] : List (SOp Int × Bool)) = 1 := by decide

/-- totals, the touched values, the final set and the equation 2 + 1 = 1 + 2 -/
example : okAdds (srun exOps).2 = 3 ∧ okRemoves (srun exOps).2 = 1 ∧ touched exOps = [1, 2, 3, 5] ∧
    (touched exOps).filter (srun exOps).1 = [1, 3] ∧ (touched exOps).countP (srun exOps).1 = 2 := by decide +kernel

/-- the same three calls interleaved (`AddSet` A = positions 0 and 3, `AddSet` B = positions 1 and 4, `RemoveSet` C =
positions 2 and 5): per-call counts by position -/
def exOps2 : List (SOp Int) := [.add 1, .add 2, .remove 2, .add 2, .add 3, .remove 5]
def exCall (i : Nat) : Fin 3 := if i = 0 ∨ i = 3 then 0 else if i = 1 ∨ i = 4 then 1 else 2

example : (srun exOps2).2.map Prod.snd = [true, true, true, true, true, false] := by decide +kernel
example : countIn isOkAdd exCall 0 (srun exOps2).2 = 2 ∧ countIn isOkAdd exCall 1 (srun exOps2).2 = 2 ∧
    countIn isOkRemove exCall 2 (srun exOps2).2 = 1 ∧ countIn isOkAdd exCall 2 (srun exOps2).2 = 0 ∧
    (touched exOps2).filter (srun exOps2).1 = [1, 2, 3] := by decide +kernel

/-- the per-call theorem instantiated on it: (2 + 2 + 0) = (0 + 0 + 1) + 3 -/
example : ([0, 1, 2].map (fun c => countIn isOkAdd exCall c (srun exOps2).2)).sum =
    ([0, 1, 2].map (fun c => countIn isOkRemove exCall c (srun exOps2).2)).sum + (touched exOps2).countP (srun exOps2).1 :=
  counts_add_up_calls exOps2 exCall [0, 1, 2] (by decide) (by
    intro i _
    have : ∀ x : Fin 3, x ∈ [0, 1, 2] := by decide
    exact this _)

/-- the equation is not a triviality of the definitions: a "history" that is not a run of the specification violates it -/
example : okAdds ([(.add 1, true), (.add 1, true)] : List (SOp Int × Bool)) ≠
    okRemoves ([(.add 1, true), (.add 1, true)] : List (SOp Int × Bool)) + 1 := by decide

end C05

section AxiomCheck
#print axioms C05.counts_add_up_seq_cover
#print axioms C05.counts_add_up_seq
#print axioms C05.touched_spec
#print axioms C05.members_cover_indep
#print axioms C05.counts_by_call
#print axioms C05.counts_add_up_calls
#print axioms C05.counts_add_up_groups
#print axioms C05.conc_counts_add_up
end AxiomCheck
