/-
C20 — numeric and utility helpers over the whole value range.

Part 1 (per integer type, generated text): the kernels regenerated from math.go / util.go (`Gen.Math.*_<ty>`, BitVec
code per width and signedness) are equal to the model kernels (`gen_*`), and satisfy the specification for EVERY
value of the type — the signed minima included (`digits10_i8 (-128) = 3`), which was false before the repair
"widen before negating".  All widths go through one lemma about the 64-bit threshold ladder (`Lemmas.Math.ladder_spec`)
and one lemma about the widen-then-negate step, generic in the width.  No enumeration of value domains.

Part 2: Min/Max (any transitive irreflexive `<`), Sum/Product (wrapping folds), Coal, IsZero, Tern, … on the model.
-/
import TypVerif.Gen.Math
import TypVerif.Model.Math
import TypVerif.Spec.Math
import TypVerif.Lemmas.Math
open TypVerif
open TypVerif.Spec.Math
open TypVerif.Lemmas.Math

namespace C20

/-! ## Part 1 — the regenerated kernels, every integer type -/

/-! ### int8 -/
theorem gen_digits10_i8 (v : BitVec 8) : Gen.Math.digits10_i8 v = Model.Math.digits10 true v := by rfl
theorem gen_digitsSign10_i8 (v : BitVec 8) : Gen.Math.digitsSign10_i8 v = Model.Math.digitsSign10 true v := by
  unfold Gen.Math.digitsSign10_i8 Model.Math.digitsSign10
  rw [gen_digits10_i8, gen_digits10_i8]; rfl
theorem gen_abs_i8 (v : BitVec 8) : Gen.Math.abs_i8 v = Model.Math.abs true v := by rfl
theorem gen_clamp_i8 (v lo hi : BitVec 8) : Gen.Math.clamp_i8 v lo hi = Model.Math.clamp true v lo hi := by rfl
theorem gen_clamp01_i8 (v : BitVec 8) : Gen.Math.clamp01_i8 v = Model.Math.clamp01 true v := by rfl
theorem gen_compare_i8 (a b : BitVec 8) : Gen.Math.compare_i8 a b = Model.Math.compare true a b := by rfl
theorem gen_less_i8 (a b : BitVec 8) : Gen.Math.less_i8 a b = Model.Math.less true a b := by rfl
/-- Digits10 at int8: the number of decimal digits of |v|, for every v (the minimum -128 included) -/
theorem digits10_i8 (v : BitVec 8) : Gen.Math.digits10_i8 v = numDigits v.toInt.natAbs := by
  rw [gen_digits10_i8]; exact digits10_toInt true (by decide) v
theorem digitsSign10_i8 (v : BitVec 8) :
    Gen.Math.digitsSign10_i8 v = numDigits v.toInt.natAbs + (if v.toInt < 0 then 1 else 0) := by
  rw [gen_digitsSign10_i8]; exact digitsSign10_signed (by decide) v
/-- the case that was wrong before the repair -/
theorem digits10_i8_min : Gen.Math.digits10_i8 (BitVec.intMin 8) = 3 ∧ Gen.Math.digitsSign10_i8 (BitVec.intMin 8) = 4 := by
  decide
/-- Abs is the magnitude wherever it is representable -/
theorem abs_i8 (v : BitVec 8) (h : v.toInt ≠ -128) : (Gen.Math.abs_i8 v).toInt = v.toInt.natAbs := by
  rw [gen_abs_i8]
  exact abs_signed (by decide) v h
example : (5#8).toInt ≠ -128 := by decide
/-- and the minimum is returned unchanged (Go's `-v` wraps) -/
theorem abs_i8_min (v : BitVec 8) (h : v.toInt = -128) : Gen.Math.abs_i8 v = v := by
  rw [gen_abs_i8]
  exact abs_signed_min (by decide) v h
example : (BitVec.intMin 8).toInt = -128 := by decide
/-- Clamp(v,lo,hi) with lo ≤ hi: v when lo ≤ v ≤ hi, else the nearer bound -/
theorem clamp_i8 (v lo hi : BitVec 8) (h : lo.toInt ≤ hi.toInt) :
    (lo.toInt ≤ v.toInt → v.toInt ≤ hi.toInt → Gen.Math.clamp_i8 v lo hi = v) ∧
    (v.toInt < lo.toInt → Gen.Math.clamp_i8 v lo hi = lo) ∧
    (hi.toInt < v.toInt → Gen.Math.clamp_i8 v lo hi = hi) := by
  rw [gen_clamp_i8]
  exact clamp_signed v lo hi h
example : (1#8).toInt ≤ (3#8).toInt := by decide
/-- Clamp01 is Clamp to [0,1] -/
theorem clamp01_i8 (v : BitVec 8) :
    Gen.Math.clamp01_i8 v = Gen.Math.clamp_i8 v 0#8 1#8 ∧
    (Gen.Math.clamp01_i8 v).toInt = Spec.Math.clamp v.toInt 0 1 := by
  rw [gen_clamp01_i8, gen_clamp_i8]
  exact clamp01_signed (by decide) v
/-- Compare agrees with the built-in order -/
theorem compare_i8 (a b : BitVec 8) :
    Gen.Math.compare_i8 a b = Spec.Math.compare a.toInt b.toInt ∧
    (Gen.Math.compare_i8 a b = 0 ↔ a = b) ∧
    (Gen.Math.compare_i8 a b = -1 ↔ a.toInt < b.toInt) ∧
    (Gen.Math.compare_i8 a b = 1 ↔ b.toInt < a.toInt) := by
  rw [gen_compare_i8]
  exact compare_signed a b
theorem less_i8 (a b : BitVec 8) : Gen.Math.less_i8 a b = decide (a.toInt < b.toInt) := by
  rw [gen_less_i8]
  exact less_signed a b

/-! ### int16 -/
theorem gen_digits10_i16 (v : BitVec 16) : Gen.Math.digits10_i16 v = Model.Math.digits10 true v := by rfl
theorem gen_digitsSign10_i16 (v : BitVec 16) : Gen.Math.digitsSign10_i16 v = Model.Math.digitsSign10 true v := by
  unfold Gen.Math.digitsSign10_i16 Model.Math.digitsSign10
  rw [gen_digits10_i16, gen_digits10_i16]; rfl
theorem gen_abs_i16 (v : BitVec 16) : Gen.Math.abs_i16 v = Model.Math.abs true v := by rfl
theorem gen_clamp_i16 (v lo hi : BitVec 16) : Gen.Math.clamp_i16 v lo hi = Model.Math.clamp true v lo hi := by rfl
theorem gen_clamp01_i16 (v : BitVec 16) : Gen.Math.clamp01_i16 v = Model.Math.clamp01 true v := by rfl
theorem gen_compare_i16 (a b : BitVec 16) : Gen.Math.compare_i16 a b = Model.Math.compare true a b := by rfl
theorem gen_less_i16 (a b : BitVec 16) : Gen.Math.less_i16 a b = Model.Math.less true a b := by rfl
/-- Digits10 at int16: the number of decimal digits of |v|, for every v (the minimum -32768 included) -/
theorem digits10_i16 (v : BitVec 16) : Gen.Math.digits10_i16 v = numDigits v.toInt.natAbs := by
  rw [gen_digits10_i16]; exact digits10_toInt true (by decide) v
theorem digitsSign10_i16 (v : BitVec 16) :
    Gen.Math.digitsSign10_i16 v = numDigits v.toInt.natAbs + (if v.toInt < 0 then 1 else 0) := by
  rw [gen_digitsSign10_i16]; exact digitsSign10_signed (by decide) v
/-- the case that was wrong before the repair -/
theorem digits10_i16_min : Gen.Math.digits10_i16 (BitVec.intMin 16) = 5 ∧ Gen.Math.digitsSign10_i16 (BitVec.intMin 16) = 6 := by
  decide
/-- Abs is the magnitude wherever it is representable -/
theorem abs_i16 (v : BitVec 16) (h : v.toInt ≠ -32768) : (Gen.Math.abs_i16 v).toInt = v.toInt.natAbs := by
  rw [gen_abs_i16]
  exact abs_signed (by decide) v h
example : (5#16).toInt ≠ -32768 := by decide
/-- and the minimum is returned unchanged (Go's `-v` wraps) -/
theorem abs_i16_min (v : BitVec 16) (h : v.toInt = -32768) : Gen.Math.abs_i16 v = v := by
  rw [gen_abs_i16]
  exact abs_signed_min (by decide) v h
example : (BitVec.intMin 16).toInt = -32768 := by decide
/-- Clamp(v,lo,hi) with lo ≤ hi: v when lo ≤ v ≤ hi, else the nearer bound -/
theorem clamp_i16 (v lo hi : BitVec 16) (h : lo.toInt ≤ hi.toInt) :
    (lo.toInt ≤ v.toInt → v.toInt ≤ hi.toInt → Gen.Math.clamp_i16 v lo hi = v) ∧
    (v.toInt < lo.toInt → Gen.Math.clamp_i16 v lo hi = lo) ∧
    (hi.toInt < v.toInt → Gen.Math.clamp_i16 v lo hi = hi) := by
  rw [gen_clamp_i16]
  exact clamp_signed v lo hi h
example : (1#16).toInt ≤ (3#16).toInt := by decide
/-- Clamp01 is Clamp to [0,1] -/
theorem clamp01_i16 (v : BitVec 16) :
    Gen.Math.clamp01_i16 v = Gen.Math.clamp_i16 v 0#16 1#16 ∧
    (Gen.Math.clamp01_i16 v).toInt = Spec.Math.clamp v.toInt 0 1 := by
  rw [gen_clamp01_i16, gen_clamp_i16]
  exact clamp01_signed (by decide) v
/-- Compare agrees with the built-in order -/
theorem compare_i16 (a b : BitVec 16) :
    Gen.Math.compare_i16 a b = Spec.Math.compare a.toInt b.toInt ∧
    (Gen.Math.compare_i16 a b = 0 ↔ a = b) ∧
    (Gen.Math.compare_i16 a b = -1 ↔ a.toInt < b.toInt) ∧
    (Gen.Math.compare_i16 a b = 1 ↔ b.toInt < a.toInt) := by
  rw [gen_compare_i16]
  exact compare_signed a b
theorem less_i16 (a b : BitVec 16) : Gen.Math.less_i16 a b = decide (a.toInt < b.toInt) := by
  rw [gen_less_i16]
  exact less_signed a b

/-! ### int32 -/
theorem gen_digits10_i32 (v : BitVec 32) : Gen.Math.digits10_i32 v = Model.Math.digits10 true v := by rfl
theorem gen_digitsSign10_i32 (v : BitVec 32) : Gen.Math.digitsSign10_i32 v = Model.Math.digitsSign10 true v := by
  unfold Gen.Math.digitsSign10_i32 Model.Math.digitsSign10
  rw [gen_digits10_i32, gen_digits10_i32]; rfl
theorem gen_abs_i32 (v : BitVec 32) : Gen.Math.abs_i32 v = Model.Math.abs true v := by rfl
theorem gen_clamp_i32 (v lo hi : BitVec 32) : Gen.Math.clamp_i32 v lo hi = Model.Math.clamp true v lo hi := by rfl
theorem gen_clamp01_i32 (v : BitVec 32) : Gen.Math.clamp01_i32 v = Model.Math.clamp01 true v := by rfl
theorem gen_compare_i32 (a b : BitVec 32) : Gen.Math.compare_i32 a b = Model.Math.compare true a b := by rfl
theorem gen_less_i32 (a b : BitVec 32) : Gen.Math.less_i32 a b = Model.Math.less true a b := by rfl
/-- Digits10 at int32: the number of decimal digits of |v|, for every v (the minimum -2147483648 included) -/
theorem digits10_i32 (v : BitVec 32) : Gen.Math.digits10_i32 v = numDigits v.toInt.natAbs := by
  rw [gen_digits10_i32]; exact digits10_toInt true (by decide) v
theorem digitsSign10_i32 (v : BitVec 32) :
    Gen.Math.digitsSign10_i32 v = numDigits v.toInt.natAbs + (if v.toInt < 0 then 1 else 0) := by
  rw [gen_digitsSign10_i32]; exact digitsSign10_signed (by decide) v
/-- the case that was wrong before the repair -/
theorem digits10_i32_min : Gen.Math.digits10_i32 (BitVec.intMin 32) = 10 ∧ Gen.Math.digitsSign10_i32 (BitVec.intMin 32) = 11 := by
  decide
/-- Abs is the magnitude wherever it is representable -/
theorem abs_i32 (v : BitVec 32) (h : v.toInt ≠ -2147483648) : (Gen.Math.abs_i32 v).toInt = v.toInt.natAbs := by
  rw [gen_abs_i32]
  exact abs_signed (by decide) v h
example : (5#32).toInt ≠ -2147483648 := by decide
/-- and the minimum is returned unchanged (Go's `-v` wraps) -/
theorem abs_i32_min (v : BitVec 32) (h : v.toInt = -2147483648) : Gen.Math.abs_i32 v = v := by
  rw [gen_abs_i32]
  exact abs_signed_min (by decide) v h
example : (BitVec.intMin 32).toInt = -2147483648 := by decide
/-- Clamp(v,lo,hi) with lo ≤ hi: v when lo ≤ v ≤ hi, else the nearer bound -/
theorem clamp_i32 (v lo hi : BitVec 32) (h : lo.toInt ≤ hi.toInt) :
    (lo.toInt ≤ v.toInt → v.toInt ≤ hi.toInt → Gen.Math.clamp_i32 v lo hi = v) ∧
    (v.toInt < lo.toInt → Gen.Math.clamp_i32 v lo hi = lo) ∧
    (hi.toInt < v.toInt → Gen.Math.clamp_i32 v lo hi = hi) := by
  rw [gen_clamp_i32]
  exact clamp_signed v lo hi h
example : (1#32).toInt ≤ (3#32).toInt := by decide
/-- Clamp01 is Clamp to [0,1] -/
theorem clamp01_i32 (v : BitVec 32) :
    Gen.Math.clamp01_i32 v = Gen.Math.clamp_i32 v 0#32 1#32 ∧
    (Gen.Math.clamp01_i32 v).toInt = Spec.Math.clamp v.toInt 0 1 := by
  rw [gen_clamp01_i32, gen_clamp_i32]
  exact clamp01_signed (by decide) v
/-- Compare agrees with the built-in order -/
theorem compare_i32 (a b : BitVec 32) :
    Gen.Math.compare_i32 a b = Spec.Math.compare a.toInt b.toInt ∧
    (Gen.Math.compare_i32 a b = 0 ↔ a = b) ∧
    (Gen.Math.compare_i32 a b = -1 ↔ a.toInt < b.toInt) ∧
    (Gen.Math.compare_i32 a b = 1 ↔ b.toInt < a.toInt) := by
  rw [gen_compare_i32]
  exact compare_signed a b
theorem less_i32 (a b : BitVec 32) : Gen.Math.less_i32 a b = decide (a.toInt < b.toInt) := by
  rw [gen_less_i32]
  exact less_signed a b

/-! ### int64 -/
theorem gen_digits10_i64 (v : BitVec 64) : Gen.Math.digits10_i64 v = Model.Math.digits10 true v := by rfl
theorem gen_digitsSign10_i64 (v : BitVec 64) : Gen.Math.digitsSign10_i64 v = Model.Math.digitsSign10 true v := by
  unfold Gen.Math.digitsSign10_i64 Model.Math.digitsSign10
  rw [gen_digits10_i64, gen_digits10_i64]; rfl
theorem gen_abs_i64 (v : BitVec 64) : Gen.Math.abs_i64 v = Model.Math.abs true v := by rfl
theorem gen_clamp_i64 (v lo hi : BitVec 64) : Gen.Math.clamp_i64 v lo hi = Model.Math.clamp true v lo hi := by rfl
theorem gen_clamp01_i64 (v : BitVec 64) : Gen.Math.clamp01_i64 v = Model.Math.clamp01 true v := by rfl
theorem gen_compare_i64 (a b : BitVec 64) : Gen.Math.compare_i64 a b = Model.Math.compare true a b := by rfl
theorem gen_less_i64 (a b : BitVec 64) : Gen.Math.less_i64 a b = Model.Math.less true a b := by rfl
/-- Digits10 at int64: the number of decimal digits of |v|, for every v (the minimum -9223372036854775808 included) -/
theorem digits10_i64 (v : BitVec 64) : Gen.Math.digits10_i64 v = numDigits v.toInt.natAbs := by
  rw [gen_digits10_i64]; exact digits10_toInt true (by decide) v
theorem digitsSign10_i64 (v : BitVec 64) :
    Gen.Math.digitsSign10_i64 v = numDigits v.toInt.natAbs + (if v.toInt < 0 then 1 else 0) := by
  rw [gen_digitsSign10_i64]; exact digitsSign10_signed (by decide) v
/-- the case that was wrong before the repair -/
theorem digits10_i64_min : Gen.Math.digits10_i64 (BitVec.intMin 64) = 19 ∧ Gen.Math.digitsSign10_i64 (BitVec.intMin 64) = 20 := by
  decide
/-- Abs is the magnitude wherever it is representable -/
theorem abs_i64 (v : BitVec 64) (h : v.toInt ≠ -9223372036854775808) : (Gen.Math.abs_i64 v).toInt = v.toInt.natAbs := by
  rw [gen_abs_i64]
  exact abs_signed (by decide) v h
example : (5#64).toInt ≠ -9223372036854775808 := by decide
/-- and the minimum is returned unchanged (Go's `-v` wraps) -/
theorem abs_i64_min (v : BitVec 64) (h : v.toInt = -9223372036854775808) : Gen.Math.abs_i64 v = v := by
  rw [gen_abs_i64]
  exact abs_signed_min (by decide) v h
example : (BitVec.intMin 64).toInt = -9223372036854775808 := by decide
/-- Clamp(v,lo,hi) with lo ≤ hi: v when lo ≤ v ≤ hi, else the nearer bound -/
theorem clamp_i64 (v lo hi : BitVec 64) (h : lo.toInt ≤ hi.toInt) :
    (lo.toInt ≤ v.toInt → v.toInt ≤ hi.toInt → Gen.Math.clamp_i64 v lo hi = v) ∧
    (v.toInt < lo.toInt → Gen.Math.clamp_i64 v lo hi = lo) ∧
    (hi.toInt < v.toInt → Gen.Math.clamp_i64 v lo hi = hi) := by
  rw [gen_clamp_i64]
  exact clamp_signed v lo hi h
example : (1#64).toInt ≤ (3#64).toInt := by decide
/-- Clamp01 is Clamp to [0,1] -/
theorem clamp01_i64 (v : BitVec 64) :
    Gen.Math.clamp01_i64 v = Gen.Math.clamp_i64 v 0#64 1#64 ∧
    (Gen.Math.clamp01_i64 v).toInt = Spec.Math.clamp v.toInt 0 1 := by
  rw [gen_clamp01_i64, gen_clamp_i64]
  exact clamp01_signed (by decide) v
/-- Compare agrees with the built-in order -/
theorem compare_i64 (a b : BitVec 64) :
    Gen.Math.compare_i64 a b = Spec.Math.compare a.toInt b.toInt ∧
    (Gen.Math.compare_i64 a b = 0 ↔ a = b) ∧
    (Gen.Math.compare_i64 a b = -1 ↔ a.toInt < b.toInt) ∧
    (Gen.Math.compare_i64 a b = 1 ↔ b.toInt < a.toInt) := by
  rw [gen_compare_i64]
  exact compare_signed a b
theorem less_i64 (a b : BitVec 64) : Gen.Math.less_i64 a b = decide (a.toInt < b.toInt) := by
  rw [gen_less_i64]
  exact less_signed a b

/-! ### uint8 -/
theorem gen_digits10_u8 (v : BitVec 8) : Gen.Math.digits10_u8 v = Model.Math.digits10 false v := by rfl
theorem gen_digitsSign10_u8 (v : BitVec 8) : Gen.Math.digitsSign10_u8 v = Model.Math.digitsSign10 false v := by
  unfold Gen.Math.digitsSign10_u8 Model.Math.digitsSign10
  rw [gen_digits10_u8, gen_digits10_u8]; rfl
theorem gen_abs_u8 (v : BitVec 8) : Gen.Math.abs_u8 v = Model.Math.abs false v := by rfl
theorem gen_clamp_u8 (v lo hi : BitVec 8) : Gen.Math.clamp_u8 v lo hi = Model.Math.clamp false v lo hi := by rfl
theorem gen_clamp01_u8 (v : BitVec 8) : Gen.Math.clamp01_u8 v = Model.Math.clamp01 false v := by rfl
theorem gen_compare_u8 (a b : BitVec 8) : Gen.Math.compare_u8 a b = Model.Math.compare false a b := by rfl
theorem gen_less_u8 (a b : BitVec 8) : Gen.Math.less_u8 a b = Model.Math.less false a b := by rfl
/-- Digits10 at uint8: the number of decimal digits of v, for every v -/
theorem digits10_u8 (v : BitVec 8) : Gen.Math.digits10_u8 v = numDigits v.toNat := by
  rw [gen_digits10_u8]; exact digits10_toInt false (by decide) v
theorem digitsSign10_u8 (v : BitVec 8) :
    Gen.Math.digitsSign10_u8 v = numDigits v.toNat + (if (v.toNat : Int) < 0 then 1 else 0) := by
  rw [gen_digitsSign10_u8]; exact digitsSign10_toInt false (by decide) v
theorem abs_u8 (v : BitVec 8) : Gen.Math.abs_u8 v = v := by
  rw [gen_abs_u8]; exact abs_unsigned v
/-- Clamp(v,lo,hi) with lo ≤ hi: v when lo ≤ v ≤ hi, else the nearer bound -/
theorem clamp_u8 (v lo hi : BitVec 8) (h : (lo.toNat : Int) ≤ (hi.toNat : Int)) :
    ((lo.toNat : Int) ≤ (v.toNat : Int) → (v.toNat : Int) ≤ (hi.toNat : Int) → Gen.Math.clamp_u8 v lo hi = v) ∧
    ((v.toNat : Int) < (lo.toNat : Int) → Gen.Math.clamp_u8 v lo hi = lo) ∧
    ((hi.toNat : Int) < (v.toNat : Int) → Gen.Math.clamp_u8 v lo hi = hi) := by
  rw [gen_clamp_u8]
  exact clamp_unsigned v lo hi h
example : ((1#8).toNat : Int) ≤ ((3#8).toNat : Int) := by decide
/-- Clamp01 is Clamp to [0,1] -/
theorem clamp01_u8 (v : BitVec 8) :
    Gen.Math.clamp01_u8 v = Gen.Math.clamp_u8 v 0#8 1#8 ∧
    ((Gen.Math.clamp01_u8 v).toNat : Int) = Spec.Math.clamp (v.toNat : Int) 0 1 := by
  rw [gen_clamp01_u8, gen_clamp_u8]
  exact clamp01_unsigned (by decide) v
/-- Compare agrees with the built-in order -/
theorem compare_u8 (a b : BitVec 8) :
    Gen.Math.compare_u8 a b = Spec.Math.compare (a.toNat : Int) (b.toNat : Int) ∧
    (Gen.Math.compare_u8 a b = 0 ↔ a = b) ∧
    (Gen.Math.compare_u8 a b = -1 ↔ (a.toNat : Int) < (b.toNat : Int)) ∧
    (Gen.Math.compare_u8 a b = 1 ↔ (b.toNat : Int) < (a.toNat : Int)) := by
  rw [gen_compare_u8]
  exact compare_unsigned a b
theorem less_u8 (a b : BitVec 8) : Gen.Math.less_u8 a b = decide ((a.toNat : Int) < (b.toNat : Int)) := by
  rw [gen_less_u8]
  exact less_unsigned a b

/-! ### uint16 -/
theorem gen_digits10_u16 (v : BitVec 16) : Gen.Math.digits10_u16 v = Model.Math.digits10 false v := by rfl
theorem gen_digitsSign10_u16 (v : BitVec 16) : Gen.Math.digitsSign10_u16 v = Model.Math.digitsSign10 false v := by
  unfold Gen.Math.digitsSign10_u16 Model.Math.digitsSign10
  rw [gen_digits10_u16, gen_digits10_u16]; rfl
theorem gen_abs_u16 (v : BitVec 16) : Gen.Math.abs_u16 v = Model.Math.abs false v := by rfl
theorem gen_clamp_u16 (v lo hi : BitVec 16) : Gen.Math.clamp_u16 v lo hi = Model.Math.clamp false v lo hi := by rfl
theorem gen_clamp01_u16 (v : BitVec 16) : Gen.Math.clamp01_u16 v = Model.Math.clamp01 false v := by rfl
theorem gen_compare_u16 (a b : BitVec 16) : Gen.Math.compare_u16 a b = Model.Math.compare false a b := by rfl
theorem gen_less_u16 (a b : BitVec 16) : Gen.Math.less_u16 a b = Model.Math.less false a b := by rfl
/-- Digits10 at uint16: the number of decimal digits of v, for every v -/
theorem digits10_u16 (v : BitVec 16) : Gen.Math.digits10_u16 v = numDigits v.toNat := by
  rw [gen_digits10_u16]; exact digits10_toInt false (by decide) v
theorem digitsSign10_u16 (v : BitVec 16) :
    Gen.Math.digitsSign10_u16 v = numDigits v.toNat + (if (v.toNat : Int) < 0 then 1 else 0) := by
  rw [gen_digitsSign10_u16]; exact digitsSign10_toInt false (by decide) v
theorem abs_u16 (v : BitVec 16) : Gen.Math.abs_u16 v = v := by
  rw [gen_abs_u16]; exact abs_unsigned v
/-- Clamp(v,lo,hi) with lo ≤ hi: v when lo ≤ v ≤ hi, else the nearer bound -/
theorem clamp_u16 (v lo hi : BitVec 16) (h : (lo.toNat : Int) ≤ (hi.toNat : Int)) :
    ((lo.toNat : Int) ≤ (v.toNat : Int) → (v.toNat : Int) ≤ (hi.toNat : Int) → Gen.Math.clamp_u16 v lo hi = v) ∧
    ((v.toNat : Int) < (lo.toNat : Int) → Gen.Math.clamp_u16 v lo hi = lo) ∧
    ((hi.toNat : Int) < (v.toNat : Int) → Gen.Math.clamp_u16 v lo hi = hi) := by
  rw [gen_clamp_u16]
  exact clamp_unsigned v lo hi h
example : ((1#16).toNat : Int) ≤ ((3#16).toNat : Int) := by decide
/-- Clamp01 is Clamp to [0,1] -/
theorem clamp01_u16 (v : BitVec 16) :
    Gen.Math.clamp01_u16 v = Gen.Math.clamp_u16 v 0#16 1#16 ∧
    ((Gen.Math.clamp01_u16 v).toNat : Int) = Spec.Math.clamp (v.toNat : Int) 0 1 := by
  rw [gen_clamp01_u16, gen_clamp_u16]
  exact clamp01_unsigned (by decide) v
/-- Compare agrees with the built-in order -/
theorem compare_u16 (a b : BitVec 16) :
    Gen.Math.compare_u16 a b = Spec.Math.compare (a.toNat : Int) (b.toNat : Int) ∧
    (Gen.Math.compare_u16 a b = 0 ↔ a = b) ∧
    (Gen.Math.compare_u16 a b = -1 ↔ (a.toNat : Int) < (b.toNat : Int)) ∧
    (Gen.Math.compare_u16 a b = 1 ↔ (b.toNat : Int) < (a.toNat : Int)) := by
  rw [gen_compare_u16]
  exact compare_unsigned a b
theorem less_u16 (a b : BitVec 16) : Gen.Math.less_u16 a b = decide ((a.toNat : Int) < (b.toNat : Int)) := by
  rw [gen_less_u16]
  exact less_unsigned a b

/-! ### uint32 -/
theorem gen_digits10_u32 (v : BitVec 32) : Gen.Math.digits10_u32 v = Model.Math.digits10 false v := by rfl
theorem gen_digitsSign10_u32 (v : BitVec 32) : Gen.Math.digitsSign10_u32 v = Model.Math.digitsSign10 false v := by
  unfold Gen.Math.digitsSign10_u32 Model.Math.digitsSign10
  rw [gen_digits10_u32, gen_digits10_u32]; rfl
theorem gen_abs_u32 (v : BitVec 32) : Gen.Math.abs_u32 v = Model.Math.abs false v := by rfl
theorem gen_clamp_u32 (v lo hi : BitVec 32) : Gen.Math.clamp_u32 v lo hi = Model.Math.clamp false v lo hi := by rfl
theorem gen_clamp01_u32 (v : BitVec 32) : Gen.Math.clamp01_u32 v = Model.Math.clamp01 false v := by rfl
theorem gen_compare_u32 (a b : BitVec 32) : Gen.Math.compare_u32 a b = Model.Math.compare false a b := by rfl
theorem gen_less_u32 (a b : BitVec 32) : Gen.Math.less_u32 a b = Model.Math.less false a b := by rfl
/-- Digits10 at uint32: the number of decimal digits of v, for every v -/
theorem digits10_u32 (v : BitVec 32) : Gen.Math.digits10_u32 v = numDigits v.toNat := by
  rw [gen_digits10_u32]; exact digits10_toInt false (by decide) v
theorem digitsSign10_u32 (v : BitVec 32) :
    Gen.Math.digitsSign10_u32 v = numDigits v.toNat + (if (v.toNat : Int) < 0 then 1 else 0) := by
  rw [gen_digitsSign10_u32]; exact digitsSign10_toInt false (by decide) v
theorem abs_u32 (v : BitVec 32) : Gen.Math.abs_u32 v = v := by
  rw [gen_abs_u32]; exact abs_unsigned v
/-- Clamp(v,lo,hi) with lo ≤ hi: v when lo ≤ v ≤ hi, else the nearer bound -/
theorem clamp_u32 (v lo hi : BitVec 32) (h : (lo.toNat : Int) ≤ (hi.toNat : Int)) :
    ((lo.toNat : Int) ≤ (v.toNat : Int) → (v.toNat : Int) ≤ (hi.toNat : Int) → Gen.Math.clamp_u32 v lo hi = v) ∧
    ((v.toNat : Int) < (lo.toNat : Int) → Gen.Math.clamp_u32 v lo hi = lo) ∧
    ((hi.toNat : Int) < (v.toNat : Int) → Gen.Math.clamp_u32 v lo hi = hi) := by
  rw [gen_clamp_u32]
  exact clamp_unsigned v lo hi h
example : ((1#32).toNat : Int) ≤ ((3#32).toNat : Int) := by decide
/-- Clamp01 is Clamp to [0,1] -/
theorem clamp01_u32 (v : BitVec 32) :
    Gen.Math.clamp01_u32 v = Gen.Math.clamp_u32 v 0#32 1#32 ∧
    ((Gen.Math.clamp01_u32 v).toNat : Int) = Spec.Math.clamp (v.toNat : Int) 0 1 := by
  rw [gen_clamp01_u32, gen_clamp_u32]
  exact clamp01_unsigned (by decide) v
/-- Compare agrees with the built-in order -/
theorem compare_u32 (a b : BitVec 32) :
    Gen.Math.compare_u32 a b = Spec.Math.compare (a.toNat : Int) (b.toNat : Int) ∧
    (Gen.Math.compare_u32 a b = 0 ↔ a = b) ∧
    (Gen.Math.compare_u32 a b = -1 ↔ (a.toNat : Int) < (b.toNat : Int)) ∧
    (Gen.Math.compare_u32 a b = 1 ↔ (b.toNat : Int) < (a.toNat : Int)) := by
  rw [gen_compare_u32]
  exact compare_unsigned a b
theorem less_u32 (a b : BitVec 32) : Gen.Math.less_u32 a b = decide ((a.toNat : Int) < (b.toNat : Int)) := by
  rw [gen_less_u32]
  exact less_unsigned a b

/-! ### uint64 -/
theorem gen_digits10_u64 (v : BitVec 64) : Gen.Math.digits10_u64 v = Model.Math.digits10 false v := by rfl
theorem gen_digitsSign10_u64 (v : BitVec 64) : Gen.Math.digitsSign10_u64 v = Model.Math.digitsSign10 false v := by
  unfold Gen.Math.digitsSign10_u64 Model.Math.digitsSign10
  rw [gen_digits10_u64, gen_digits10_u64]; rfl
theorem gen_abs_u64 (v : BitVec 64) : Gen.Math.abs_u64 v = Model.Math.abs false v := by rfl
theorem gen_clamp_u64 (v lo hi : BitVec 64) : Gen.Math.clamp_u64 v lo hi = Model.Math.clamp false v lo hi := by rfl
theorem gen_clamp01_u64 (v : BitVec 64) : Gen.Math.clamp01_u64 v = Model.Math.clamp01 false v := by rfl
theorem gen_compare_u64 (a b : BitVec 64) : Gen.Math.compare_u64 a b = Model.Math.compare false a b := by rfl
theorem gen_less_u64 (a b : BitVec 64) : Gen.Math.less_u64 a b = Model.Math.less false a b := by rfl
/-- Digits10 at uint64: the number of decimal digits of v, for every v -/
theorem digits10_u64 (v : BitVec 64) : Gen.Math.digits10_u64 v = numDigits v.toNat := by
  rw [gen_digits10_u64]; exact digits10_toInt false (by decide) v
theorem digitsSign10_u64 (v : BitVec 64) :
    Gen.Math.digitsSign10_u64 v = numDigits v.toNat + (if (v.toNat : Int) < 0 then 1 else 0) := by
  rw [gen_digitsSign10_u64]; exact digitsSign10_toInt false (by decide) v
theorem abs_u64 (v : BitVec 64) : Gen.Math.abs_u64 v = v := by
  rw [gen_abs_u64]; exact abs_unsigned v
/-- Clamp(v,lo,hi) with lo ≤ hi: v when lo ≤ v ≤ hi, else the nearer bound -/
theorem clamp_u64 (v lo hi : BitVec 64) (h : (lo.toNat : Int) ≤ (hi.toNat : Int)) :
    ((lo.toNat : Int) ≤ (v.toNat : Int) → (v.toNat : Int) ≤ (hi.toNat : Int) → Gen.Math.clamp_u64 v lo hi = v) ∧
    ((v.toNat : Int) < (lo.toNat : Int) → Gen.Math.clamp_u64 v lo hi = lo) ∧
    ((hi.toNat : Int) < (v.toNat : Int) → Gen.Math.clamp_u64 v lo hi = hi) := by
  rw [gen_clamp_u64]
  exact clamp_unsigned v lo hi h
example : ((1#64).toNat : Int) ≤ ((3#64).toNat : Int) := by decide
/-- Clamp01 is Clamp to [0,1] -/
theorem clamp01_u64 (v : BitVec 64) :
    Gen.Math.clamp01_u64 v = Gen.Math.clamp_u64 v 0#64 1#64 ∧
    ((Gen.Math.clamp01_u64 v).toNat : Int) = Spec.Math.clamp (v.toNat : Int) 0 1 := by
  rw [gen_clamp01_u64, gen_clamp_u64]
  exact clamp01_unsigned (by decide) v
/-- Compare agrees with the built-in order -/
theorem compare_u64 (a b : BitVec 64) :
    Gen.Math.compare_u64 a b = Spec.Math.compare (a.toNat : Int) (b.toNat : Int) ∧
    (Gen.Math.compare_u64 a b = 0 ↔ a = b) ∧
    (Gen.Math.compare_u64 a b = -1 ↔ (a.toNat : Int) < (b.toNat : Int)) ∧
    (Gen.Math.compare_u64 a b = 1 ↔ (b.toNat : Int) < (a.toNat : Int)) := by
  rw [gen_compare_u64]
  exact compare_unsigned a b
theorem less_u64 (a b : BitVec 64) : Gen.Math.less_u64 a b = decide ((a.toNat : Int) < (b.toNat : Int)) := by
  rw [gen_less_u64]
  exact less_unsigned a b

/-! ## Part 2 — the model -/

set_option linter.unusedVariables false in -- `hw` is not needed
/-- the model's Digits10 / DigitsSign10 (any width up to 64) against the specification on mathematical integers -/
theorem model_digits10 (sg : Bool) {w : Nat} (hw : 0 < w) (hw64 : w ≤ 64) (v : BitVec w) :
    Model.Math.digits10 sg v = Spec.Math.digits10 (Model.Math.toInt sg v) ∧
    Model.Math.digitsSign10 sg v = Spec.Math.digitsSign10 (Model.Math.toInt sg v) :=
  ⟨digits10_toInt sg hw64 v, digitsSign10_toInt sg hw64 v⟩

example : (0 : Nat) < 8 ∧ 8 ≤ 64 := by decide

/-- Min: panics (custom) exactly for no arguments; otherwise the result is an argument and no argument is smaller.
`lt` is any transitive irreflexive relation (ints, floats without NaN, strings). -/
theorem min {α : Type} (lt : α → α → Bool)
    (irrefl : ∀ a, lt a a = false) (trans : ∀ a b c, lt a b = true → lt b c = true → lt a c = true)
    (l : List α) :
    (l = [] → Model.Math.min lt l = .error Model.Math.pCustom) ∧
    (l ≠ [] → ∃ r, Model.Math.min lt l = .ok r ∧ r ∈ l ∧ ∀ y ∈ l, lt y r = false) :=
  min_spec lt irrefl trans l

example : (∀ a : Int, decide (a < a) = false) ∧ (∀ a b c : Int, decide (a < b) = true → decide (b < c) = true → decide (a < c) = true) :=
  ⟨fun a => decide_eq_false (Int.lt_irrefl a),
    fun _ _ _ h1 h2 => decide_eq_true (Int.lt_trans (of_decide_eq_true h1) (of_decide_eq_true h2))⟩

/-- Max: the result is an argument and is smaller than no argument -/
theorem max {α : Type} (lt : α → α → Bool)
    (irrefl : ∀ a, lt a a = false) (trans : ∀ a b c, lt a b = true → lt b c = true → lt a c = true)
    (l : List α) :
    (l = [] → Model.Math.max lt l = .error Model.Math.pCustom) ∧
    (l ≠ [] → ∃ r, Model.Math.max lt l = .ok r ∧ r ∈ l ∧ ∀ y ∈ l, lt r y = false) :=
  max_spec lt irrefl trans l

/-- Min / Max at the integer types: the mathematical minimum / maximum of the arguments -/
theorem min_int (sg : Bool) {w : Nat} (l : List (BitVec w)) (hl : l ≠ []) :
    ∃ r, Model.Math.min (Model.Math.lt sg) l = .ok r ∧ r ∈ l ∧ ∀ y ∈ l, Model.Math.toInt sg r ≤ Model.Math.toInt sg y := by
  obtain ⟨r, h1, h2, h3⟩ := (min_spec (Model.Math.lt sg) (lt_irrefl sg) (lt_trans sg) l).2 hl
  exact ⟨r, h1, h2, fun y hy => (lt_eq_false_iff sg y r).1 (h3 y hy)⟩

theorem max_int (sg : Bool) {w : Nat} (l : List (BitVec w)) (hl : l ≠ []) :
    ∃ r, Model.Math.max (Model.Math.lt sg) l = .ok r ∧ r ∈ l ∧ ∀ y ∈ l, Model.Math.toInt sg y ≤ Model.Math.toInt sg r := by
  obtain ⟨r, h1, h2, h3⟩ := (max_spec (Model.Math.lt sg) (lt_irrefl sg) (lt_trans sg) l).2 hl
  exact ⟨r, h1, h2, fun y hy => (lt_eq_false_iff sg r y).1 (h3 y hy)⟩

example : ([1#8, 2#8] : List (BitVec 8)) ≠ [] := by decide

/-- Sum is the left-to-right wrapping sum, 0 for no arguments -/
theorem sum (sg : Bool) {w : Nat} (hw : 0 < w) (vs : List (BitVec w)) :
    Model.Math.toInt sg (Model.Math.sum vs) = Spec.Math.sum sg w (vs.map (Model.Math.toInt sg)) ∧
    Model.Math.sum ([] : List (BitVec w)) = 0#w ∧
    ∀ x, Model.Math.sum (vs ++ [x]) = Model.Math.sum vs + x :=
  ⟨sum_toInt sg hw vs, rfl, fun _ => by rw [Model.Math.sum, List.foldl_append]; rfl⟩

/-- Product is the left-to-right wrapping product, 1 for no arguments -/
theorem product (sg : Bool) {w : Nat} (hw : 1 < w) (vs : List (BitVec w)) :
    Model.Math.toInt sg (Model.Math.product vs) = Spec.Math.product sg w (vs.map (Model.Math.toInt sg)) ∧
    Model.Math.product ([] : List (BitVec w)) = 1#w ∧
    ∀ x, Model.Math.product (vs ++ [x]) = Model.Math.product vs * x :=
  ⟨product_toInt sg hw vs, rfl, fun _ => by rw [Model.Math.product, List.foldl_append]; rfl⟩

example : (1 : Nat) < 8 := by decide

/-- Coal returns the first non-zero argument, or zero -/
theorem coal {α : Type} [DecidableEq α] (z : α) (l : List α) :
    Model.Math.coal z l = (l.find? (fun v => decide (v ≠ z))).getD z :=
  coal_spec z l

theorem coal_int (l : List Int) : Model.Math.coal 0 l = Spec.Math.coal l := by
  induction l with
  | nil => rfl
  | cons v vs ih => simp only [Model.Math.coal, Spec.Math.coal, ih]

/-- IsZero: true for the zero value; otherwise the `IsZero()` method decides when the type has one -/
theorem isZero {α : Type} [DecidableEq α] (z : α) (m : Option (α → Bool)) (v : α) :
    (v = z → Model.Math.isZero z m v = true) ∧
    (v ≠ z → Model.Math.isZero z none v = false) ∧
    (v ≠ z → ∀ f, Model.Math.isZero z (some f) v = f v) := by
  refine ⟨fun h => ?_, fun h => ?_, fun h f => ?_⟩ <;> simp [Model.Math.isZero, h]

theorem tern {α : Type} (a b : α) : Model.Math.tern true a b = a ∧ Model.Math.tern false a b = b := ⟨rfl, rfl⟩

theorem ternCast {α : Type} (v : Option α) (b : α) :
    Model.Math.ternCast false v b = .ok b ∧ (∀ a, Model.Math.ternCast true (some a) b = .ok a) := ⟨rfl, fun _ => rfl⟩

theorem zero_ref_deref {α : Type} (z v : α) :
    Model.Math.zero z = z ∧ Model.Math.zeroOf z v = z ∧
    Model.Math.derefZero z (Model.Math.ref v) = v ∧ Model.Math.derefZero z none = z ∧
    Model.Math.isNil (none : Option α) = true ∧ Model.Math.isNil (some v) = false := ⟨rfl, rfl, rfl, rfl, rfl, rfl⟩

end C20

#print axioms C20.gen_digits10_i8
#print axioms C20.gen_digitsSign10_i8
#print axioms C20.gen_abs_i8
#print axioms C20.gen_clamp_i8
#print axioms C20.gen_clamp01_i8
#print axioms C20.gen_compare_i8
#print axioms C20.gen_less_i8
#print axioms C20.digits10_i8
#print axioms C20.digitsSign10_i8
#print axioms C20.digits10_i8_min
#print axioms C20.abs_i8
#print axioms C20.abs_i8_min
#print axioms C20.clamp_i8
#print axioms C20.clamp01_i8
#print axioms C20.compare_i8
#print axioms C20.less_i8
#print axioms C20.gen_digits10_i16
#print axioms C20.gen_digitsSign10_i16
#print axioms C20.gen_abs_i16
#print axioms C20.gen_clamp_i16
#print axioms C20.gen_clamp01_i16
#print axioms C20.gen_compare_i16
#print axioms C20.gen_less_i16
#print axioms C20.digits10_i16
#print axioms C20.digitsSign10_i16
#print axioms C20.digits10_i16_min
#print axioms C20.abs_i16
#print axioms C20.abs_i16_min
#print axioms C20.clamp_i16
#print axioms C20.clamp01_i16
#print axioms C20.compare_i16
#print axioms C20.less_i16
#print axioms C20.gen_digits10_i32
#print axioms C20.gen_digitsSign10_i32
#print axioms C20.gen_abs_i32
#print axioms C20.gen_clamp_i32
#print axioms C20.gen_clamp01_i32
#print axioms C20.gen_compare_i32
#print axioms C20.gen_less_i32
#print axioms C20.digits10_i32
#print axioms C20.digitsSign10_i32
#print axioms C20.digits10_i32_min
#print axioms C20.abs_i32
#print axioms C20.abs_i32_min
#print axioms C20.clamp_i32
#print axioms C20.clamp01_i32
#print axioms C20.compare_i32
#print axioms C20.less_i32
#print axioms C20.gen_digits10_i64
#print axioms C20.gen_digitsSign10_i64
#print axioms C20.gen_abs_i64
#print axioms C20.gen_clamp_i64
#print axioms C20.gen_clamp01_i64
#print axioms C20.gen_compare_i64
#print axioms C20.gen_less_i64
#print axioms C20.digits10_i64
#print axioms C20.digitsSign10_i64
#print axioms C20.digits10_i64_min
#print axioms C20.abs_i64
#print axioms C20.abs_i64_min
#print axioms C20.clamp_i64
#print axioms C20.clamp01_i64
#print axioms C20.compare_i64
#print axioms C20.less_i64
#print axioms C20.gen_digits10_u8
#print axioms C20.gen_digitsSign10_u8
#print axioms C20.gen_abs_u8
#print axioms C20.gen_clamp_u8
#print axioms C20.gen_clamp01_u8
#print axioms C20.gen_compare_u8
#print axioms C20.gen_less_u8
#print axioms C20.digits10_u8
#print axioms C20.digitsSign10_u8
#print axioms C20.abs_u8
#print axioms C20.clamp_u8
#print axioms C20.clamp01_u8
#print axioms C20.compare_u8
#print axioms C20.less_u8
#print axioms C20.gen_digits10_u16
#print axioms C20.gen_digitsSign10_u16
#print axioms C20.gen_abs_u16
#print axioms C20.gen_clamp_u16
#print axioms C20.gen_clamp01_u16
#print axioms C20.gen_compare_u16
#print axioms C20.gen_less_u16
#print axioms C20.digits10_u16
#print axioms C20.digitsSign10_u16
#print axioms C20.abs_u16
#print axioms C20.clamp_u16
#print axioms C20.clamp01_u16
#print axioms C20.compare_u16
#print axioms C20.less_u16
#print axioms C20.gen_digits10_u32
#print axioms C20.gen_digitsSign10_u32
#print axioms C20.gen_abs_u32
#print axioms C20.gen_clamp_u32
#print axioms C20.gen_clamp01_u32
#print axioms C20.gen_compare_u32
#print axioms C20.gen_less_u32
#print axioms C20.digits10_u32
#print axioms C20.digitsSign10_u32
#print axioms C20.abs_u32
#print axioms C20.clamp_u32
#print axioms C20.clamp01_u32
#print axioms C20.compare_u32
#print axioms C20.less_u32
#print axioms C20.gen_digits10_u64
#print axioms C20.gen_digitsSign10_u64
#print axioms C20.gen_abs_u64
#print axioms C20.gen_clamp_u64
#print axioms C20.gen_clamp01_u64
#print axioms C20.gen_compare_u64
#print axioms C20.gen_less_u64
#print axioms C20.digits10_u64
#print axioms C20.digitsSign10_u64
#print axioms C20.abs_u64
#print axioms C20.clamp_u64
#print axioms C20.clamp01_u64
#print axioms C20.compare_u64
#print axioms C20.less_u64
#print axioms C20.model_digits10
#print axioms C20.min
#print axioms C20.max
#print axioms C20.min_int
#print axioms C20.max_int
#print axioms C20.sum
#print axioms C20.product
#print axioms C20.coal
#print axioms C20.coal_int
#print axioms C20.isZero
#print axioms C20.tern
#print axioms C20.ternCast
#print axioms C20.zero_ref_deref
