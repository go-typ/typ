import TypVerif.Lemmas.SetsWorld
/-
C03: the set operations of `maps.Set` and `sync2.Set` (models in `Model/Sets.lean`) equal set algebra, for
receivers and arguments of either implementation in any well-formed internal layout (`SetOK`: duplicate-free
Go map / `SeqInv` of the concurrent map — every reachable layout, see `sync_reachable_inv`), the argument being
allowed to be the receiver itself (`Two.arg = none`).  `mem` is the membership model; `t.recv` is A,
`t.argSet` is B.
-/
namespace C03
open TypVerif
open TypVerif.Model.Sets
open TypVerif.Lemmas.Sets

set_option linter.unusedSectionVars false

variable {α : Type} [DecidableEq α]

/-- Union returns A ∪ B as a well-formed set -/
theorem union (t : Two α) (h : TwoOK t) :
    SetOK (union t).2 ∧ ∀ x, mem (Model.Sets.union t).2 x = (mem t.recv x || mem t.argSet x) :=
  ⟨(union_ok t h).res, (union_ok t h).memRes⟩

/-- Intersect returns A ∩ B -/
theorem intersect (t : Two α) (h : TwoOK t) :
    SetOK (intersect t).2 ∧ ∀ x, mem (Model.Sets.intersect t).2 x = (mem t.recv x && mem t.argSet x) :=
  ⟨(intersect_ok t h).res, (intersect_ok t h).memRes⟩

/-- SetDiff returns A \ B -/
theorem setdiff (t : Two α) (h : TwoOK t) :
    SetOK (setDiff t).2 ∧ ∀ x, mem (setDiff t).2 x = (mem t.recv x && !mem t.argSet x) :=
  ⟨(setDiff_ok t h).res, (setDiff_ok t h).memRes⟩

/-- SymDiff returns A △ B -/
theorem symdiff (t : Two α) (h : TwoOK t) :
    SetOK (symDiff t).2 ∧ ∀ x, mem (symDiff t).2 x = (mem t.recv x != mem t.argSet x) :=
  ⟨(symDiff_ok t h).res, (symDiff_ok t h).memRes⟩

/-- the four operations leave the membership of A and B unchanged (the *layout* of a concurrent operand
may change: `Range` promotes, `Has` counts misses) and keep both operands well-formed -/
theorem operands_unchanged (t : Two α) (h : TwoOK t) :
    (∀ r ∈ [(Model.Sets.union t).1, (Model.Sets.intersect t).1, (setDiff t).1, (symDiff t).1],
      TwoOK r ∧ (∀ x, mem r.recv x = mem t.recv x) ∧ (∀ x, mem r.argSet x = mem t.argSet x) ∧
      r.arg.isSome = t.arg.isSome) := by
  intro r hr
  simp only [List.mem_cons, List.not_mem_nil, or_false] at hr
  rcases hr with rfl | rfl | rfl | rfl
  · exact ⟨(union_ok t h).ok, (union_ok t h).memRecv, (union_ok t h).memArg, (union_ok t h).alias⟩
  · exact ⟨(intersect_ok t h).ok, (intersect_ok t h).memRecv, (intersect_ok t h).memArg, (intersect_ok t h).alias⟩
  · exact ⟨(setDiff_ok t h).ok, (setDiff_ok t h).memRecv, (setDiff_ok t h).memArg, (setDiff_ok t h).alias⟩
  · exact ⟨(symDiff_ok t h).ok, (symDiff_ok t h).memRecv, (symDiff_ok t h).memArg, (symDiff_ok t h).alias⟩

/-- Add reports true exactly when the value was absent, and afterwards it is a member (nothing else changes) -/
theorem add_reports_change (s : AnySet α) (h : SetOK s) (v : α) :
    SetOK (add s v).1 ∧ (add s v).2 = !mem s v ∧ ∀ x, mem (add s v).1 x = (decide (x = v) || mem s x) :=
  ⟨(add_ok s h v).1, (add_ok s h v).2.2, (add_ok s h v).2.1⟩

/-- Remove reports true exactly when the value was present, and afterwards it is not a member -/
theorem remove_reports_change (s : AnySet α) (h : SetOK s) (v : α) :
    SetOK (remove s v).1 ∧ (remove s v).2 = mem s v ∧ ∀ x, mem (remove s v).1 x = (!decide (x = v) && mem s x) :=
  ⟨(remove_ok s h v).1, (remove_ok s h v).2.2, (remove_ok s h v).2.1⟩

/-- Has agrees with the membership model and does not change it -/
theorem has (s : AnySet α) (h : SetOK s) (v : α) :
    SetOK (has s v).1 ∧ (Model.Sets.has s v).2 = mem s v ∧ ∀ x, mem (Model.Sets.has s v).1 x = mem s x :=
  ⟨(has_ok s h v).1, (has_ok s h v).2.2, (has_ok s h v).2.1⟩

/-- AddSet makes the receiver A ∪ B and returns |B \ A| (`keys`: any duplicate-free enumeration of B) -/
theorem addSet_count (t : Two α) (h : TwoOK t) :
    TwoOK (addSet t).1 ∧ (∀ x, mem (addSet t).1.recv x = (mem t.recv x || mem t.argSet x)) ∧
    (∀ b, t.arg = some b → ∃ b', (addSet t).1.arg = some b' ∧ ∀ x, mem b' x = mem b x) ∧
    (∀ keys : List α, keys.Nodup → (∀ x, x ∈ keys ↔ mem t.argSet x = true) →
      (addSet t).2 = (keys.filter (fun v => !mem t.recv v)).length) :=
  addSet_ok t h

/-- RemoveSet makes the receiver A \ B and returns |A ∩ B| -/
theorem removeSet_count (t : Two α) (h : TwoOK t) :
    TwoOK (removeSet t).1 ∧ (∀ x, mem (removeSet t).1.recv x = (mem t.recv x && !mem t.argSet x)) ∧
    (∀ b, t.arg = some b → ∃ b', (removeSet t).1.arg = some b' ∧ ∀ x, mem b' x = mem b x) ∧
    (∀ keys : List α, keys.Nodup → (∀ x, x ∈ keys ↔ mem t.argSet x = true) →
      (removeSet t).2 = (keys.filter (fun v => mem t.recv v)).length) :=
  removeSet_ok t h

/-- a full Range (also: Slice, String) enumerates every member exactly once and nothing else -/
theorem range_enumerates (s : AnySet α) (h : SetOK s) :
    (rangeAll s).2.Nodup ∧ (∀ x, x ∈ (rangeAll s).2 ↔ mem s x = true) ∧
    SetOK (rangeAll s).1 ∧ (∀ x, mem (rangeAll s).1 x = mem s x) ∧
    (slice s).2 = (rangeAll s).2 ∧ (string s).2 = (rangeAll s).2 :=
  ⟨(rangeAll_ok s h).2.2.1, (rangeAll_ok s h).2.2.2, (rangeAll_ok s h).1, (rangeAll_ok s h).2.1, rfl, rfl⟩

/-- Range stops as soon as its callback says so: with the callback answering false on its n-th call the
callback sequence is the first n values of the full enumeration (all of them when n ≤ 0) -/
theorem range_stops (s : AnySet α) (h : SetOK s) (n : Int) :
    (rangeN s n).2 = Spec.PMap.cut n (rangeAll s).2 ∧ SetOK (rangeN s n).1 ∧ (∀ x, mem (rangeN s n).1 x = mem s x) :=
  ⟨(rangeN_ok s h n).2.2.1, (rangeN_ok s h n).1, (rangeN_ok s h n).2.1⟩

/-- Len is the number of members -/
theorem len (s : AnySet α) (h : SetOK s) (keys : List α) (hk : keys.Nodup) (hkm : ∀ x, x ∈ keys ↔ mem s x = true) :
    (len s).2 = keys.length ∧ SetOK (len s).1 ∧ ∀ x, mem (Model.Sets.len s).1 x = mem s x :=
  ⟨(len_ok s h).2.2 keys hk hkm, (len_ok s h).1, (len_ok s h).2.1⟩

/-- Clone has the same members, and the receiver keeps its own -/
theorem clone (s : AnySet α) (h : SetOK s) :
    SetOK (clone s).2 ∧ (∀ x, mem (clone s).2 x = mem s x) ∧ SetOK (clone s).1 ∧ (∀ x, mem (Model.Sets.clone s).1 x = mem s x) :=
  ⟨(clone_ok s h).2.1, (clone_ok s h).2.2.2, (clone_ok s h).1, (clone_ok s h).2.2.1⟩

/-- NewSetFromSlice (and NewSetFromKeys / NewSetFromValues, which add the keys / values of the Go map in
iteration order) has exactly the listed members -/
theorem fromSlice (kind : Nat) (l : List α) :
    SetOK (fromSlice kind l) ∧ ∀ x, mem (Model.Sets.fromSlice kind l) x = l.contains x :=
  fromSlice_ok kind l

theorem fromKeys {β : Type} (kind : Nat) (pairs : List (α × β)) :
    SetOK (fromKeys kind pairs) ∧ ∀ x, mem (Model.Sets.fromKeys kind pairs) x = ((goMapOf pairs).map Prod.fst).contains x :=
  fromSlice_ok kind _

theorem fromValues {κ : Type} [DecidableEq κ] (kind : Nat) (pairs : List (κ × α)) :
    SetOK (fromValues kind pairs) ∧ ∀ x, mem (Model.Sets.fromValues kind pairs) x = ((goMapOf pairs).map Prod.snd).contains x :=
  fromSlice_ok kind _

/-- CartesianProduct yields exactly the |A|*|B| distinct pairs -/
theorem cartesian (t : Two α) (h : TwoOK t) :
    (product t).2.Nodup ∧
    (∀ a b, (a, b) ∈ (product t).2 ↔ mem t.recv a = true ∧ mem t.argSet b = true) ∧
    (∀ ka kb : List α, ka.Nodup → (∀ x, x ∈ ka ↔ mem t.recv x = true) → kb.Nodup → (∀ x, x ∈ kb ↔ mem t.argSet x = true) →
      (product t).2.length = ka.length * kb.length) ∧
    TwoOK (product t).1 ∧ (∀ x, mem (product t).1.recv x = mem t.recv x) ∧ (∀ x, mem (product t).1.argSet x = mem t.argSet x) :=
  ⟨(product_ok t h).2.2.2.1, (product_ok t h).2.2.2.2.1, (product_ok t h).2.2.2.2.2, (product_ok t h).1,
   (product_ok t h).2.1, (product_ok t h).2.2.1⟩

/-- every program over set handles (both implementations, every method, self-aliased calls) keeps every set
well-formed; for the concurrent sets this is `SeqInv` of the inner map: the layouts quantified over above are
all the reachable ones -/
theorem sync_reachable_inv (ops : List (WOp α)) : ∀ s ∈ wrun ops, SetOK s :=
  wrun_ok ops

/-! Non-vacuity: mixed pairings and a self-aliased call, on layouts that went through promotion. -/

def demoOps : List (WOp Int) :=
  [.new 1, .add 0 1, .add 0 2, .add 0 3, .has 0 1, .has 0 1, .has 0 1, .remove 0 2, .add 0 4]
def demoA : AnySet Int := (wrun demoOps)[0]'(by decide)
def demoB : AnySet Int := .mapSet [3, 4, 5]

example : TwoOK ({ recv := demoA, arg := some demoB } : Two Int) :=
  ⟨sync_reachable_inv demoOps _ (List.getElem_mem _),
   fun b hb => by injection hb with hb; subst hb; show [3, 4, 5].Nodup; decide⟩

example : [0, 1, 2, 3, 4, 5, 6].map (fun (x : Int) => mem (Model.Sets.union { recv := demoA, arg := some demoB }).2 x) =
    [false, true, false, true, true, true, false] := by decide +kernel
example : [0, 1, 2, 3, 4, 5, 6].map (fun (x : Int) => mem (symDiff { recv := demoB, arg := some demoA }).2 x) =
    [false, true, false, false, false, true, false] := by decide +kernel
example : (removeSet { recv := demoA, arg := none }).2 = 3 := by decide +kernel
example : (addSet { recv := demoB, arg := some demoA }).2 = 1 := by decide +kernel
example : (product { recv := demoA, arg := none }).2.length = 9 := by decide +kernel
example : (rangeN demoA 2).2.length = 2 := by decide +kernel

end C03
