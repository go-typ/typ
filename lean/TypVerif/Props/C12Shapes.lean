import TypVerif.Lemmas.FilterMask
import TypVerif.Gen.SlicesShapes
import TypVerif.Gen.SortShapes
/-
C12, tie 4B — GOLDEN FUNCTION SHAPES (written by tools/mkshapes.py; do not edit by hand).  For every function of the source files this property's model mirrors,
the extractor regenerates on every run: its calls, its stores through selectors / indices / pointers, its conditions and loop headers, its select cases and
its return expressions, in source order.  The theorems below state that these equal the shapes of the tree the model was written against.  They are the STATIC,
all-paths complement of the differential runs: a guard dropped, a fast path or a threshold added, an early return, a changed comparison or a different callee
on ANY path - also one that no generated input happens to take - changes the regenerated list and breaks the evaluation (`rfl`; for a list filtered by function name the mask of `Lemmas/FilterMask.lean`, then `rfl`).  A broken shape theorem is reported like a
broken proof (with a failing input when the search finds one, else `no-failing-input-found`); after a deliberate change of the source the changed functions are
re-read against the model and this file is regenerated.
-/
namespace C12

/-- slices/slices.go, the splicing helpers: 9 function(s) -/
theorem gen_shapes_splice :
    Gen.SlicesShapes.funcs.filter (fun f => (["Fill", "Insert", "InsertSlice", "Remove", "RemoveSlice", "Repeat", "Concat", "Clone", "Grow"]).contains f.1) =
      [("Fill", ["if len(slice) == 0", "call len", "return ", "store slice[0]", "for i < len(slice)", "call len", "call copy"]),
       ("Insert", ["store *slice", "call append", "call copy", "store (*slice)[index]"]),
       ("InsertSlice", ["store *slice", "call append", "call copy", "call len", "call copy"]),
       ("Remove", ["call copy", "store *slice", "call len"]),
       ("RemoveSlice", ["call copy", "store *slice", "call len"]),
       ("Repeat", ["call make", "call Fill", "return result"]),
       ("Concat", ["call make", "call len", "call len", "call copy", "call len", "call copy", "call len", "return result"]),
       ("Clone", ["call make", "call len", "call copy", "return newSlice"]),
       ("Grow", ["return append(slice, make(S, n)...)", "call append", "call make"])] :=
  (TypVerif.Lemmas.filter_of_mask _ _ [true, true, true, true, true, false, false, true, false, false, false, false, false, false, false, false, false, false, false, false, false, false, false, false, false, false, false, false, true, false, false, false, false, false, false, false, false, false, false, false, true, true] (by decide +kernel)).trans rfl

/-- slices/sort.go, Reverse: 1 function(s) -/
theorem gen_shapes_reverse :
    Gen.SortShapes.funcs.filter (fun f => (["Reverse"]).contains f.1) =
      [("Reverse", ["for i < len(slice) / 2", "call len", "call len", "store slice[i]", "store slice[j]"])] :=
  (TypVerif.Lemmas.filter_of_mask _ _ [false, false, false, false, false, false, false, false, false, false, false, false, true, false, false, false, false] (by decide +kernel)).trans rfl

end C12
