import TypVerif.Lemmas.OncePanicProgress
import TypVerif.Lemmas.OncePanicRefine
import TypVerif.Props.C17
/-
C17, panic case: "… exactly one of those functions is invoked, exactly once" — also when that function PANICS.
Go's sync.Once counts the panicking invocation (deferred `done.Store(1)`, deferred `m.Unlock()`), the result fields
of Once1/2/3 keep their zero values, the panic reaches the caller whose function it was and nobody else; every
waiting or later `Do` returns the zero values without invoking its function.

System: `Model.OncePanic.sys n arity res` — `n` goroutines (any n), goroutine `t` passes `f_t`, which returns
`res t` (any `res`) OR PANICS (nondeterministic alternative `fpanic t` to `fend t (res t)`), every interleaving of the
atomic actions of sync.Once.Do / doSlow and of the wrapper.  `Exec sys init ls s` = an execution from the initial
state with labels `ls` (all schedules, any length); `visible ls` = its events; `Reachable` = its states.
-/
namespace C17
open TypVerif TypVerif.Conc TypVerif.Model TypVerif.Model.OncePanic TypVerif.Lemmas.OncePanic

/-- At most one `fstart` event in any execution: one function is invoked, once — whether it returns or panics
(a panicking invocation still counts, nobody runs a second function afterwards). -/
theorem panic_exactly_once {n a : Nat} {res : Nat → List Int} {ls : List (Option Event)}
    {s : (sys n a res).State} (h : Exec (sys n a res) (sys n a res).init ls s) :
    (visible ls).countP Event.isFstart ≤ 1 := by
  have h1 := exec_invoked h
  have h2 := Lemmas.Once.invocations_le_one (inv_exec h (inv_init n a)).base.good
  simp only [Once.State.invocations] at h2
  have h3 : (init n a).base.invoked.length = 0 := rfl
  have h4 : ((sys n a res).init).base.invoked.length = 0 := h3
  omega

/-- state form: the invocation record never has more than one entry -/
theorem panic_exactly_once_state {n a : Nat} {res : Nat → List Int} {s : (sys n a res).State}
    (h : Reachable (sys n a res) s) : s.base.invocations ≤ 1 :=
  Lemmas.Once.invocations_le_one (inv_reachable n a res s h).base.good

/-- The invocation ends at most once, and in one way: at most one event among all `fend _ _` / `fpanic _`
(so "ended in `fpanic`" and "ended in `fend`" below exclude each other). -/
theorem panic_one_ending {n a : Nat} {res : Nat → List Int} {ls : List (Option Event)}
    {s : (sys n a res).State} (h : Exec (sys n a res) (sys n a res).init ls s) :
    (visible ls).countP Event.isEnd ≤ 1 := by
  have h1 := exec_end_count h (inv_init n a)
  have h2 := Bool.toNat_le s.base.fres.isSome
  omega

/-- If the invocation ended in `fpanic`, every `ret u r` of the execution has `r = [0,…,0]` (the result fields were
never assigned); if it ended in `fend t r0`, every `ret u r` has `r = r0`. -/
theorem panic_results_zero {n a : Nat} {res : Nat → List Int} {ls : List (Option Event)}
    {s : (sys n a res).State} (h : Exec (sys n a res) (sys n a res).init ls s) :
    (∀ t, Event.fpanic t ∈ visible ls → ∀ u r, Event.ret u r ∈ visible ls → r = List.replicate a 0) ∧
    (∀ t r0, Event.fend t r0 ∈ visible ls → ∀ u r, Event.ret u r ∈ visible ls → r = r0) := by
  have hi := inv_init n a
  constructor
  · intro t ht u r hr
    have h1 := (exec_fpanic h hi t (mem_visible.mp ht)).2
    have h2 := (exec_ret h hi u r (mem_visible.mp hr)).1
    rw [h1] at h2
    exact (Option.some.inj h2).symm
  · intro t r0 ht u r hr
    have h1 := exec_fend h hi t r0 (mem_visible.mp ht)
    have h2 := (exec_ret h hi u r (mem_visible.mp hr)).1
    rw [h1] at h2
    exact (Option.some.inj h2).symm

/-- No `ret` happens before the invocation has ended: whatever precedes a `ret` in an execution contains the
`fend` or the `fpanic`. -/
theorem panic_after_completion {n a : Nat} {res : Nat → List Int} {l1 l2 : List (Option Event)} {u : Nat}
    {r : List Int} {s : (sys n a res).State}
    (h : Exec (sys n a res) (sys n a res).init (l1 ++ some (Event.ret u r) :: l2) s) :
    ∃ e, e ∈ visible l1 ∧ e.isEnd = true := by
  obtain ⟨m, h1, h2⟩ := exec_of_append h
  cases h2 with
  | cons hm _ =>
    -- the record is empty at the start and filled where a `ret` is shown, so an end event has been counted
    have hc := exec_end_count h1 (inv_init n a)
    rw [(step_ret (inv_exec h1 (inv_init n a)) hm).1] at hc
    exact List.countP_pos_iff.1 (Nat.pos_of_ne_zero fun h0 => by rw [h0] at hc; cases hc)

/-- the goroutine whose function panicked never returns from `Do`: no `ret t _` anywhere in an execution
that contains `fpanic t` (before or after it), and `t` ends at `store`/`unlock`/gone, never `returned`. -/
theorem panic_panicker_never_returns {n a : Nat} {res : Nat → List Int} {ls : List (Option Event)}
    {s : (sys n a res).State} (h : Exec (sys n a res) (sys n a res).init ls s) {t : Nat}
    (ht : Event.fpanic t ∈ visible ls) :
    (∀ r, Event.ret t r ∉ visible ls) ∧ s.base.pc t ≠ .returned := by
  have hi := inv_init n a
  have hp := (exec_fpanic h hi t (mem_visible.mp ht)).1
  have hpc := ((inv_exec h hi).pan t hp).2
  have hne : s.base.pc t ≠ .returned := by
    intro e; rw [e] at hpc; simp at hpc
  exact ⟨fun r hr => hne (exec_ret h hi t r (mem_visible.mp hr)).2, hne⟩

/-- After the invocation has ended (in particular after `fpanic`) nobody is stuck: every goroutine `t` that has not
returned and is not the goroutine the panic took away has an enabled step, or it waits at `m.Lock()` and the
holder `h` of the mutex is past the function call (only `Do`'s own steps `check`/`assign`/`store`/`unlock` remain,
no user code) and has an enabled step. -/
theorem panic_no_deadlock_of_waiters {n a : Nat} {res : Nat → List Int} {s : (sys n a res).State}
    (h : Reachable (sys n a res) s) (hend : s.ended = true) (t : Nat) (ht : t < n)
    (hnr : s.base.pc t ≠ .returned) (hu : s.unwound t = false) :
    (∃ p, p ∈ stepT res s t ∧ p ∈ (sys n a res).succ s) ∨
    (s.base.pc t = .lock ∧ ∃ h, s.base.mu = some h ∧ h ≠ t ∧
      (s.base.pc h = .check ∨ (∃ r, s.base.pc h = .assign r) ∨ s.base.pc h = .store ∨ s.base.pc h = .unlock) ∧
      ∃ p, p ∈ stepT res s h ∧ p ∈ (sys n a res).succ s) := by
  have hi := inv_reachable n a res s h
  have hlen := len_reachable n a res s h
  have hsucc : ∀ u lb sb, u < n → s.unwound u = false → Lemmas.Once.Step res s.base u lb sb →
      ∃ p, p ∈ stepT res s u ∧ p ∈ (sys n a res).succ s :=
    fun u lb sb hun huu hs => ⟨_, base_step_mem huu hs, mem_succ.mpr ⟨u, by rw [hlen]; exact hun, base_step_mem huu hs⟩⟩
  rcases enabled_or_waiting res hi hnr with ⟨lb, sb, hs⟩ | ⟨hl, h', hmu, hne, hlt, hho, huh, lb, sb, hen⟩
  · exact Or.inl (hsucc t lb sb ht hu hs)
  · right
    refine ⟨hl, h', hmu, hne, ?_, hsucc h' lb sb (by rw [← hlen]; exact hlt) huh hen⟩
    have hT := hi.base.good.thread h'
    unfold Lemmas.Once.ThreadOk at hT
    obtain ⟨r, hr⟩ := Option.isSome_iff_exists.mp hend
    cases hpc : s.base.pc h' <;> rw [hpc] at hT hho
    case check => exact .inl rfl
    case assign r => exact .inr (.inl ⟨r, rfl⟩)
    case store => exact .inr (.inr (.inl rfl))
    case unlock => exact .inr (.inr (.inr rfl))
    case callF | inF => exact nomatch hT.2.2.2.symm.trans hr
    all_goals cases hho

/-- The mutex is released by the deferred `Unlock`: once the panic has left `Do`, the goroutine it took away
does not hold the mutex. -/
theorem panic_mutex_released {n a : Nat} {res : Nat → List Int} {s : (sys n a res).State}
    (h : Reachable (sys n a res) s) {t : Nat} (hu : s.unwound t = true) : s.base.mu ≠ some t := by
  intro hm
  have := (holds_facts ((inv_reachable n a res s h).base.holder t hm).2).2.1
  simp [State.unwound] at hu
  exact this hu.2

/-- every waiting or later caller can still return: from any reachable state in which the invocation has
ended, every goroutine `t` that has not returned and whose function did not panic has a schedule on which it
returns — with the recorded results, which are `[0,…,0]` if the invocation panicked. -/
theorem panic_waiters_can_return {n a : Nat} {res : Nat → List Int} {s : (sys n a res).State}
    (h : Reachable (sys n a res) s) (hend : s.ended = true) (t : Nat) (ht : t < n)
    (hp : t ∉ s.panicked) (hnr : s.base.pc t ≠ .returned) :
    ∃ ls s' r, Exec (sys n a res) s ls s' ∧ Event.ret t r ∈ visible ls ∧ s.base.fres = some r ∧
      (s.panicked ≠ [] → r = List.replicate a 0) := by
  have hi := inv_reachable n a res s h
  have hlen := len_reachable n a res s h
  obtain ⟨ls, s', r, he, hr⟩ := can_return res t _ s hi (Nat.le_refl _) (by rw [hlen]; exact ht) hp hnr
  obtain ⟨r0, hr0⟩ := Option.isSome_iff_exists.mp hend
  have h1 := exec_fres_stable he hi r0 hr0
  have h2 := (exec_ret he hi t r hr).1
  rw [h1] at h2
  have e : r0 = r := Option.some.inj h2
  subst e
  refine ⟨ls, s', r0, he, mem_visible.mpr hr, hr0, ?_⟩
  intro hne
  cases hpl : s.panicked with
  | nil => exact absurd hpl hne
  | cons u us =>
    have := (hi.pan u (by simp [hpl])).1
    rw [hr0] at this
    exact Option.some.inj this

/-- The judge's translation is sound: replacing `fpanic t` by `fend t [0,…,0]` (`glue`; nothing else is changed or
dropped) turns the events of any execution of the extended system into the events of an execution of the ORIGINAL
`Model.Once` system — for `res'` = `res` except that the panicked goroutine's function "returns zeros" — which ends
in the same `Model.Once` state and in which the panicked goroutine never takes its `ret` step.  Hence `Props/C17`'s
theorems and the judge's state set over `Model.Once` apply to panic traces. -/
theorem panic_refines_glue {n a : Nat} {res : Nat → List Int} {ls : List (Option Event)}
    {s : (sys n a res).State} (h : Exec (sys n a res) (sys n a res).init ls s) :
    ∃ (res' : Nat → List Int) (ls' : List (Option Once.Event)),
      Exec (Once.sys n a res') (Once.sys n a res').init ls' s.base ∧
      visible ls' = (visible ls).map (glue a) ∧
      (∀ u, Event.fpanic u ∉ visible ls → res' u = res u) ∧
      (∀ t, Event.fpanic t ∈ visible ls → res' t = List.replicate a 0 ∧
        s.base.pc t ≠ .returned ∧ ∀ r, Once.Event.ret t r ∉ visible ls') :=
  refines h

/-- Consequently the history predicate the judge evaluates (`Spec.Once`, on the translated events) holds for every
execution of the extended system: at most one `fstart`, every `ret` after the (translated) end and with its tuple. -/
theorem panic_spec_holds_glue {n a : Nat} {res : Nat → List Int} {ls : List (Option Event)}
    {s : (sys n a res).State} (h : Exec (sys n a res) (sys n a res).init ls s) :
    Spec.Once.holds ((visible ls).map (glue a)) = true := by
  obtain ⟨res', ls', he, hv, _⟩ := panic_refines_glue h
  rw [← hv]
  exact spec_holds he

/-! ### non-vacuity: two goroutines; goroutine 1 arrives while f_0 runs; f_0 panics; goroutine 0 runs the deferred
`done.Store(1)` and `Unlock` and is gone; goroutine 1 acquires the mutex, sees `done = 1`, returns zeros -/
def panicDemoRes : Nat → List Int := fun t => [10 + t, 20 + t]
def panicDemoSched : List (Nat × Nat) :=
  [(0,0),(0,0),(0,0),(0,0),(0,0), (1,0),(1,0), (0,1),(0,0),(0,0), (1,0),(1,0),(1,0),(1,0)]
def panicDemoTrace : List Event := [.call 0, .fstart 0, .call 1, .fpanic 0, .ret 1 [0, 0]]
def panicDemoLs : List (Option Event) := (runSched panicDemoRes (init 2 2) panicDemoSched).1
def panicDemoEnd : State := (runSched panicDemoRes (init 2 2) panicDemoSched).2

theorem panicDemoExec :
    Exec (sys 2 2 panicDemoRes) (sys 2 2 panicDemoRes).init panicDemoLs panicDemoEnd :=
  runSched_exec 2 2 panicDemoRes panicDemoSched (init 2 2)

theorem panicDemoVisible : visible panicDemoLs = panicDemoTrace := by decide +kernel

/-- the state just after `fpanic 0` (goroutine 1 waits at `Lock`, goroutine 0 still holds the mutex) -/
def panicDemoMid : State := (runSched panicDemoRes (init 2 2) (panicDemoSched.take 8)).2
theorem panicDemoMidReach : Reachable (sys 2 2 panicDemoRes) panicDemoMid :=
  Exec.reachable (runSched_exec 2 2 panicDemoRes (panicDemoSched.take 8) (init 2 2)) Reachable.init

-- the execution exists and shows exactly the panic trace; the theorems apply to it
example : (visible panicDemoLs).countP Event.isFstart ≤ 1 := panic_exactly_once panicDemoExec
example : (visible panicDemoLs).countP Event.isFstart = 1 := by rw [panicDemoVisible]; decide
example : (visible panicDemoLs).countP Event.isEnd = 1 := by rw [panicDemoVisible]; decide
example : ∀ u r, Event.ret u r ∈ visible panicDemoLs → r = [0, 0] :=
  (panic_results_zero panicDemoExec).1 0 (by rw [panicDemoVisible]; decide)
example : Event.ret 1 [0, 0] ∈ visible panicDemoLs := by rw [panicDemoVisible]; decide
example : ∀ r, Event.ret 0 r ∉ visible panicDemoLs :=
  (panic_panicker_never_returns panicDemoExec (by rw [panicDemoVisible]; decide)).1
-- `panic_after_completion`: the labels split around goroutine 1's `ret`; the prefix contains the `fpanic`
theorem panicDemoSplit : panicDemoLs = panicDemoLs.take 13 ++ some (Event.ret 1 [0, 0]) :: [] := by decide +kernel
example : ∃ e, e ∈ visible (panicDemoLs.take 13) ∧ e.isEnd = true :=
  panic_after_completion (l2 := []) (u := 1) (r := [0, 0]) (s := panicDemoEnd) (by rw [← panicDemoSplit]; exact panicDemoExec)
example : Event.fpanic 0 ∈ visible (panicDemoLs.take 13) := by decide
example : Spec.Once.holds (panicDemoTrace.map (glue 2)) = true := by decide
-- after the panic: goroutine 1 waits at `Lock`, the holder (goroutine 0) is at the deferred `done.Store(1)`
example : panicDemoMid.ended = true ∧ panicDemoMid.panicked = [0] ∧ panicDemoMid.base.pc 1 = .lock ∧
    panicDemoMid.base.mu = some 0 ∧ panicDemoMid.base.pc 0 = .store ∧ panicDemoMid.unwound 1 = false := by decide
example : ∃ ls s' r, Exec (sys 2 2 panicDemoRes) panicDemoMid ls s' ∧ Event.ret 1 r ∈ visible ls ∧
    panicDemoMid.base.fres = some r ∧ (panicDemoMid.panicked ≠ [] → r = List.replicate 2 0) :=
  panic_waiters_can_return panicDemoMidReach (by decide) 1 (by decide) (by decide) (by decide)
-- in the final state goroutine 0 is gone and does not hold the mutex
example : panicDemoEnd.unwound 0 = true ∧ panicDemoEnd.base.mu = none ∧ panicDemoEnd.base.pc 1 = .returned := by decide
-- the glue image of the demo trace is accepted by the original model, with goroutine 0 never returning
example : panicDemoTrace.map (glue 2) = [.call 0, .fstart 0, .call 1, .fend 0 [0, 0], .ret 1 [0, 0]] := by decide
example : Conc.accepts (Once.sys 2 2 (fun _ => [0, 0])) 64 (panicDemoTrace.map (glue 2)) = true := by decide +kernel

-- the generic acceptor on the extended model (the judge itself steps `red` over `Model.Once` after `glue`); `= false` below is its
-- answer at fuel 64, an illustration: that the model has no such trace is what the theorems above say
example : Conc.accepts (sys 2 2 panicDemoRes) 64 panicDemoTrace = true := by decide +kernel
-- the panicking goroutine does not return
example : Conc.accepts (sys 2 2 panicDemoRes) 64 [.call 0, .fstart 0, .call 1, .fpanic 0, .ret 0 [0, 0]] = false := by decide +kernel
-- nobody gets anything but zeros after a panic
example : Conc.accepts (sys 2 2 panicDemoRes) 64 [.call 0, .fstart 0, .call 1, .fpanic 0, .ret 1 [10, 20]] = false := by decide +kernel
-- nobody's function runs after the panic
example : Conc.accepts (sys 2 2 panicDemoRes) 64 [.call 0, .fstart 0, .call 1, .fpanic 0, .fstart 1] = false := by decide +kernel
-- nobody returns before the panic
example : Conc.accepts (sys 2 2 panicDemoRes) 64 [.call 0, .fstart 0, .call 1, .ret 1 [0, 0]] = false := by decide +kernel
-- the non-panicking behaviour is still there
example : Conc.accepts (sys 2 2 panicDemoRes) 64
    [.call 0, .fstart 0, .call 1, .fend 0 [10, 20], .ret 1 [10, 20], .ret 0 [10, 20]] = true := by decide +kernel

end C17

#print axioms C17.panic_exactly_once
#print axioms C17.panic_exactly_once_state
#print axioms C17.panic_one_ending
#print axioms C17.panic_results_zero
#print axioms C17.panic_after_completion
#print axioms C17.panic_panicker_never_returns
#print axioms C17.panic_no_deadlock_of_waiters
#print axioms C17.panic_mutex_released
#print axioms C17.panic_waiters_can_return
#print axioms C17.panic_refines_glue
#print axioms C17.panic_spec_holds_glue
