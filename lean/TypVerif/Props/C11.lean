import TypVerif.Lemmas.Bimap
import TypVerif.Lemmas.BimapSim
/-
C11 — "After any sequence of Add, RemoveForward, RemoveReverse and Clear on a Bimap (zero value or clone), the
forward and reverse lookups are inverse bijections of each other: GetForward(k) = (v,true) exactly when
GetReverse(v) = (k,true), ContainsForward/ContainsReverse agree with them, and Len is the number of such pairs.
Add(k,v) evicts any earlier pair that used key k or value v, removals delete the whole pair from both
directions, Range visits every pair exactly once, and Clone is independent of the original."

Model: `TypVerif.Model.Bimap` (two Go maps = nil | association list; `run : List Op → Except String World`,
worlds bind handles to bimaps, `new h` binds the zero value, `clone h r` binds `r` to `h.Clone()`).
`Reachable b` = `b` is bound to some handle after some operation sequence from the empty world.
`WF b` = the representation invariant (both maps nil or both allocated, no duplicate keys, lookups mutually
inverse); `C11.reachable_inv` shows every reachable bimap satisfies it, so the theorems stated for `WF b`
hold in every reachable state.
-/
open TypVerif.Model.Bimap TypVerif.Lemmas.Bimap
open TypVerif

namespace C11

variable {K V : Type} [DecidableEq K] [DecidableEq V] [Inhabited K] [Inhabited V]

private def exOps : List (Op Int Int) := [.new 0, .add 0 1 2, .add 0 3 4]
/-- the state `exOps` binds to handle 0, {1↦2, 3↦4}: a concrete reachable state for the non-vacuity examples -/
private def exB : Bimap Int Int := ⟨.mk [(1, 2), (3, 4)], .mk [(2, 1), (4, 3)]⟩
private theorem exRun : run exOps = .ok [(0, exB)] := rfl
private theorem exReach : Reachable exB := ⟨exOps, _, 0, exRun, rfl⟩

/-- No operation sequence panics: in particular `Add` on the zero value allocates before it assigns. -/
theorem no_panic (ops : List (Op K V)) : ∃ w, run ops = .ok w := by
  obtain ⟨w, h, _⟩ := runFrom_sim sim_nil ops
  exact ⟨w, h⟩

/-- Every bimap bound to any handle after any operation sequence satisfies the representation invariant. -/
theorem reachable_inv (ops : List (Op K V)) (w : World K V) (h : Int) (b : Bimap K V)
    (hr : run ops = .ok w) (hb : lookup w h = some b) : WF b :=
  reachable_wf ⟨ops, w, h, hr, hb⟩

example : ∃ (w : World Int Int) (b : Bimap Int Int), run exOps = .ok w ∧ lookup w 0 = some b :=
  ⟨_, exB, exRun, rfl⟩

/-- The two lookups are inverse to each other in every reachable state (all op sequences, including clones into
other handles; all handles), both as options and as the Go result tuples. -/
theorem inverse_inv (ops : List (Op K V)) (w : World K V) (h : Int) (b : Bimap K V)
    (hr : run ops = .ok w) (hb : lookup w h = some b) (k : K) (v : V) :
    (b.getForward? k = some v ↔ b.getReverse? v = some k) ∧
    (b.getForward k = (v, true) ↔ b.getReverse v = (k, true)) := by
  have wf := reachable_inv ops w h b hr hb
  refine ⟨wf.inv k v, ?_⟩
  rw [Bimap.getForward, Bimap.getReverse, commaOk_eq_true_iff, commaOk_eq_true_iff]
  exact wf.inv k v

example : ∃ (w : World Int Int) (b : Bimap Int Int), run exOps = .ok w ∧ lookup w 0 = some b ∧
    b.getForward 3 = (4, true) ∧ b.getReverse 4 = (3, true) :=
  ⟨_, exB, exRun, rfl, by decide +kernel, by decide +kernel⟩

/-- `Add k v` on a well-formed bimap: never panics, installs `k ↔ v`, evicts the old partner `v0` of `k` and the
old owner `k0` of `v` from both directions, and changes nothing else. -/
theorem add_evicts {b : Bimap K V} (wf : WF b) (k : K) (v : V) :
    ∃ b', b.add k v = .ok b' ∧ WF b' ∧
      b'.getForward? k = some v ∧ b'.getReverse? v = some k ∧
      (∀ v0, b.getForward? k = some v0 → v0 ≠ v → b'.getReverse? v0 = none) ∧
      (∀ k0, b.getReverse? v = some k0 → k0 ≠ k → b'.getForward? k0 = none) ∧
      (∀ k', k' ≠ k → b.getReverse? v ≠ some k' → b'.getForward? k' = b.getForward? k') ∧
      (∀ v', v' ≠ v → b.getForward? k ≠ some v' → b'.getReverse? v' = b.getReverse? v') := by
  obtain ⟨b', hb', wf', hF, hR⟩ := add_spec wf k v
  refine ⟨b', hb', wf', ?_, ?_, ?_, ?_, ?_, ?_⟩
  · rw [hF, if_pos rfl]
  · rw [hR, if_pos rfl]
  · intro v0 h0 hne
    rw [hR, if_neg (Ne.symm hne), if_pos h0]
  · intro k0 h0 hne
    rw [hF, if_neg (Ne.symm hne), if_pos h0]
  · intro k' hne hr
    rw [hF, if_neg (Ne.symm hne), if_neg hr]
  · intro v' hne hf
    rw [hR, if_neg (Ne.symm hne), if_neg hf]

-- non-vacuous: a reachable (hence well-formed) bimap in which `Add 1 4` evicts two different pairs
example : WF exB ∧ exB.getForward? 1 = some 2 ∧ (2 : Int) ≠ 4 ∧ exB.getReverse? 4 = some 3 ∧ (3 : Int) ≠ 1 :=
  ⟨reachable_wf exReach, by decide +kernel, by decide +kernel, by decide +kernel, by decide +kernel⟩

/-- Removals delete the whole pair from both directions and nothing else; they do nothing when the key
(resp. value) is absent. -/
theorem remove_both {b : Bimap K V} (wf : WF b) :
    (∀ k v, b.getForward? k = some v →
      WF (b.removeForward k) ∧
      (b.removeForward k).getForward? k = none ∧ (b.removeForward k).getReverse? v = none ∧
      (∀ k', k' ≠ k → (b.removeForward k).getForward? k' = b.getForward? k') ∧
      (∀ v', v' ≠ v → (b.removeForward k).getReverse? v' = b.getReverse? v')) ∧
    (∀ k, b.getForward? k = none → b.removeForward k = b) ∧
    (∀ v k, b.getReverse? v = some k →
      WF (b.removeReverse v) ∧
      (b.removeReverse v).getReverse? v = none ∧ (b.removeReverse v).getForward? k = none ∧
      (∀ v', v' ≠ v → (b.removeReverse v).getReverse? v' = b.getReverse? v') ∧
      (∀ k', k' ≠ k → (b.removeReverse v).getForward? k' = b.getForward? k')) ∧
    (∀ v, b.getReverse? v = none → b.removeReverse v = b) := by
  refine ⟨?_, fun k h => removeForward_absent h, ?_, fun v h => removeReverse_absent h⟩
  · intro k v hkv
    obtain ⟨wf', hF, hR⟩ := removeForward_spec wf k
    refine ⟨wf', ?_, ?_, ?_, ?_⟩
    · rw [hF, if_pos rfl]
    · rw [hR, if_pos hkv]
    · intro k' hne; rw [hF, if_neg (Ne.symm hne)]
    · intro v' hne; rw [hR, if_neg fun e => hne (Option.some.inj (e.symm.trans hkv))]
  · intro v k hvk
    obtain ⟨wf', hF, hR⟩ := removeReverse_spec wf v
    refine ⟨wf', ?_, ?_, ?_, ?_⟩
    · rw [hR, if_pos rfl]
    · rw [hF, if_pos hvk]
    · intro v' hne; rw [hR, if_neg (Ne.symm hne)]
    · intro k' hne; rw [hF, if_neg fun e => hne (Option.some.inj (e.symm.trans hvk))]

example : WF exB ∧ exB.getForward? 1 = some 2 ∧ exB.getForward? 7 = none ∧
    exB.getReverse? 4 = some 3 ∧ exB.getReverse? 7 = none :=
  ⟨reachable_wf exReach, by decide +kernel, by decide +kernel, by decide +kernel, by decide +kernel⟩

/-- `Len` is the number of pairs: the forward entry list has no duplicates and lists exactly the pairs
`fwd k = some v`; `Len` is its length, equals the size of the reverse map, and equals the length of ANY
duplicate-free enumeration of the pairs. -/
theorem len_eq_pairs (ops : List (Op K V)) (w : World K V) (h : Int) (b : Bimap K V)
    (hr : run ops = .ok w) (hb : lookup w h = some b) :
    b.len = b.forward.entries.length ∧ b.forward.entries.Nodup ∧
    (∀ k v, (k, v) ∈ b.forward.entries ↔ b.getForward? k = some v) ∧
    b.len = b.reverse.entries.length ∧
    (∀ v k, (v, k) ∈ b.reverse.entries ↔ b.getReverse? v = some k) ∧
    (∀ ps : List (K × V), ps.Nodup → (∀ k v, (k, v) ∈ ps ↔ b.getForward? k = some v) → ps.length = b.len) := by
  have wf := reachable_inv ops w h b hr hb
  exact ⟨rfl, fwd_entries_nodup wf, fwd_mem_iff wf, (len_reverse wf).symm, rev_mem_iff wf,
    fun ps nd hps => len_eq_of_enum wf ps nd hps⟩

example : ∃ (w : World Int Int) (b : Bimap Int Int), run exOps = .ok w ∧ lookup w 0 = some b ∧ b.len = 2 :=
  ⟨_, exB, exRun, rfl, by decide +kernel⟩

/-- `Range` visits every pair exactly once, whatever the iteration order of the Go map: for every permutation
`order` of the forward entries, the callback trace with a never-stopping callback (`recorder 0`) is `order`,
it has no duplicates, contains exactly the current pairs, and has `Len` elements; with a callback that returns
false on its `n`-th call the trace is the prefix of length `n`.  (The model's own `Range` is the instance
`order = b.forward.entries`.) -/
theorem range_once (ops : List (Op K V)) (w : World K V) (h : Int) (b : Bimap K V)
    (hr : run ops = .ok w) (hb : lookup w h = some b)
    (order : List (K × V)) (hp : order.Perm b.forward.entries) :
    Bimap.rangeLoop (Bimap.recorder 0) order [] = order ∧
    order.Nodup ∧ (∀ k v, (k, v) ∈ order ↔ b.getForward? k = some v) ∧ order.length = b.len ∧
    (∀ n, 0 < n → Bimap.rangeLoop (Bimap.recorder n) order [] = order.take n) ∧
    (∀ {σ : Type} (f : σ → K → V → σ × Bool) (s : σ), b.range f s = Bimap.rangeLoop f b.forward.entries s) := by
  have wf := reachable_inv ops w h b hr hb
  refine ⟨?_, ?_, ?_, hp.length_eq, ?_, fun _ _ => rfl⟩
  · exact rangeLoop_recorder_zero order []
  · exact hp.nodup_iff.mpr (fwd_entries_nodup wf)
  · intro k v; rw [hp.mem_iff, fwd_mem_iff wf]
  · intro n hn
    cases n with
    | zero => exact absurd hn (Nat.lt_irrefl 0)
    | succ d =>
      have := rangeLoop_recorder_stop d order []
      rwa [List.length_nil, Nat.zero_add, List.nil_append] at this

example : ∃ (w : World Int Int) (b : Bimap Int Int), run exOps = .ok w ∧ lookup w 0 = some b ∧
    [((3 : Int), (4 : Int)), (1, 2)].Perm b.forward.entries :=
  ⟨_, exB, exRun, rfl, (List.Perm.swap _ _ _)⟩

/-- `ContainsForward`/`ContainsReverse` are the `ok` components of the lookups (any bimap), and in reachable
states a key is contained iff some contained value maps back to it (and symmetrically). -/
theorem contains_agree (ops : List (Op K V)) (w : World K V) (h : Int) (b : Bimap K V)
    (hr : run ops = .ok w) (hb : lookup w h = some b) :
    (∀ k, b.containsForward k = (b.getForward k).2) ∧
    (∀ v, b.containsReverse v = (b.getReverse v).2) ∧
    (∀ k, b.containsForward k = true ↔ ∃ v, b.containsReverse v = true ∧ b.getReverse v = (k, true)) ∧
    (∀ v, b.containsReverse v = true ↔ ∃ k, b.containsForward k = true ∧ b.getForward k = (v, true)) := by
  have wf := reachable_inv ops w h b hr hb
  refine ⟨fun k => ?_, fun v => ?_, fun k => ?_, fun v => ?_⟩
  · rw [Bimap.getForward, commaOk_eq]; rfl
  · rw [Bimap.getReverse, commaOk_eq]; rfl
  · refine Option.isSome_iff_exists.trans (exists_congr fun v => ?_)
    rw [Bimap.getReverse, commaOk_eq_true_iff]
    exact ⟨fun e => ⟨Option.isSome_iff_exists.mpr ⟨k, (wf.inv k v).mp e⟩, (wf.inv k v).mp e⟩,
      fun e => (wf.inv k v).mpr e.2⟩
  · refine Option.isSome_iff_exists.trans (exists_congr fun k => ?_)
    rw [Bimap.getForward, commaOk_eq_true_iff]
    exact ⟨fun e => ⟨Option.isSome_iff_exists.mpr ⟨v, (wf.inv k v).mpr e⟩, (wf.inv k v).mpr e⟩,
      fun e => (wf.inv k v).mp e.2⟩

example : ∃ (w : World Int Int) (b : Bimap Int Int), run exOps = .ok w ∧ lookup w 0 = some b ∧
    b.containsForward 1 = true ∧ b.containsForward 2 = false :=
  ⟨_, exB, exRun, rfl, by decide +kernel, by decide +kernel⟩

/-- After `Clear` both lookups are empty and `Len = 0`; the result is well formed, so it can be used again
(`Add` succeeds); clearing the zero value leaves the zero value, which is still usable. -/
theorem clear {b : Bimap K V} (wf : WF b) :
    WF b.clear ∧
    (∀ k, b.clear.getForward? k = none ∧ b.clear.getForward k = (default, false) ∧
      b.clear.containsForward k = false) ∧
    (∀ v, b.clear.getReverse? v = none ∧ b.clear.getReverse v = (default, false) ∧
      b.clear.containsReverse v = false) ∧
    b.clear.len = 0 ∧
    (∀ k v, ∃ b', b.clear.add k v = .ok b' ∧ b'.getForward? k = some v ∧ b'.getReverse? v = some k) ∧
    (zero : Bimap K V).clear = zero := by
  obtain ⟨wf', hF, hR, hl⟩ := clear_spec wf
  refine ⟨wf', ?_, ?_, hl, ?_, rfl⟩
  · exact fun k => ⟨hF k, (commaOk_eq_false_iff _ k).mpr (hF k), congrArg Option.isSome (hF k)⟩
  · exact fun v => ⟨hR v, (commaOk_eq_false_iff _ v).mpr (hR v), congrArg Option.isSome (hR v)⟩
  · intro k v
    obtain ⟨b', hb', _, h1, h2, _⟩ := add_evicts wf' k v
    exact ⟨b', hb', h1, h2⟩

example : WF exB ∧ exB.len = 2 ∧ WF (zero : Bimap Int Int) :=
  ⟨reachable_wf exReach, by decide +kernel, wf_zero⟩

omit [Inhabited K] [Inhabited V] in
/-- `Clone` has the same lookups and the same `Len` as the original, is well formed, and its maps are
allocated even when the original is the zero value. -/
theorem clone_eq {b : Bimap K V} (wf : WF b) :
    WF b.clone ∧
    (∀ k, b.clone.getForward? k = b.getForward? k) ∧
    (∀ v, b.clone.getReverse? v = b.getReverse? v) ∧
    b.clone.len = b.len ∧
    b.clone.forward.isNil = false ∧ b.clone.reverse.isNil = false := by
  obtain ⟨wf', n1, n2, hF, hR⟩ := clone_spec wf
  refine ⟨wf', hF, hR, ?_, n1, n2⟩
  apply len_eq_of_enum wf _ (fwd_entries_nodup wf')
  intro k v
  rw [fwd_mem_iff wf', hF]

example : WF exB ∧ WF (zero : Bimap Int Int) ∧ (zero : Bimap Int Int).forward.isNil = true :=
  ⟨reachable_wf exReach, wf_zero, rfl⟩

/-- `Clone` is independent of the original (frame property of the world model): after any history, further
operations none of which targets handle `h` (e.g. any operations on a clone of `h`, or on the original when `h`
is the clone) leave the bimap bound to `h` unchanged — and one operation changes at most its target. -/
theorem clone_independent (ops : List (Op K V)) (w : World K V) (hr : run ops = .ok w) :
    (∀ (ops' : List (Op K V)) (h : Int), (∀ op ∈ ops', op.target ≠ h) →
      ∃ w', run (ops ++ ops') = .ok w' ∧ lookup w' h = lookup w h) ∧
    (∀ (op : Op K V) (w' : World K V), step w op = .ok w' → ∀ h, h ≠ op.target → lookup w' h = lookup w h) := by
  have hw := sim_run ops hr
  constructor
  · intro ops' h hfar
    obtain ⟨w', h1, _, h2⟩ := runFrom_sim hw ops'
    refine ⟨w', ?_, h2 h hfar⟩
    unfold run at hr ⊢
    rw [runFrom_append, hr]
    exact h1
  · intro op w' hs h hne
    obtain ⟨w1, h1, _, fr⟩ := step_sim hw op
    cases hs.symm.trans h1
    exact fr h hne

-- non-vacuous: clone handle 0 into 1, then mutate 1 only; handle 0 keeps `exB`
example : ∃ w : World Int Int, run (exOps ++ [.clone 0 1]) = .ok w ∧ lookup w 0 = some exB ∧
    (∀ op ∈ ([.add 1 1 4, .rmf 1 3, .clear 1] : List (Op Int Int)), op.target ≠ 0) :=
  ⟨_, rfl, rfl, by decide +kernel⟩

/-- Refinement: running the model and the specification (`Spec.Bimap`: a set of pairs that is an
injective finite map) on the same operation sequence binds the same handles, and for every handle the two
lookups, the containment tests and `Len` of the model are those of the specification object. -/
theorem refines_spec (ops : List (Op K V)) (w : World K V) (hr : run ops = .ok w) (h : Int) :
    ORel (fun (b : Bimap K V) (s : Spec.Bimap.Rel K V) =>
        Spec.Bimap.Injective s ∧
        (∀ k, b.getForward? k = Spec.Bimap.fwd s k) ∧
        (∀ v, b.getReverse? v = Spec.Bimap.rev s v) ∧
        (∀ k, b.containsForward k = Spec.Bimap.containsKey s k) ∧
        (∀ v, b.containsReverse v = Spec.Bimap.containsVal s v) ∧
        b.len = Spec.Bimap.len s)
      (lookup w h) (Spec.Bimap.wget (Spec.Bimap.run ops) h) := by
  refine orel_imp (fun b s r => ⟨r.inj, r.fwd_eq, r.rev_eq, fun k => ?_, fun v => ?_, r.len_eq⟩) (sim_run ops hr h)
  · exact congrArg Option.isSome (r.fwd_eq k)
  · exact congrArg Option.isSome (r.rev_eq v)

example : Spec.Bimap.wget (Spec.Bimap.run exOps) 0 = some [((3 : Int), (4 : Int)), (1, 2)] := by decide +kernel

/-- The specification objects reached are injective finite maps whose two lookups are mutually inverse
(so the specification itself states the property). -/
theorem spec_inverse (ops : List (Op K V)) (h : Int) (s : Spec.Bimap.Rel K V)
    (hs : Spec.Bimap.wget (Spec.Bimap.run ops) h = some s) (k : K) (v : V) :
    Spec.Bimap.fwd s k = some v ↔ Spec.Bimap.rev s v = some k := by
  -- through the model: injectivity of a reached relation is known only as `Rep.inj` of the simulation
  obtain ⟨w, hr⟩ := no_panic ops
  have := sim_run ops hr h
  rw [hs] at this
  obtain ⟨b, _, r⟩ := orel_some_right this
  exact Lemmas.Bimap.spec_inverse r.inj k v

example : Spec.Bimap.wget (Spec.Bimap.run exOps) 0 = some [((3 : Int), (4 : Int)), (1, 2)] := by decide +kernel

end C11

#print axioms C11.no_panic
#print axioms C11.reachable_inv
#print axioms C11.inverse_inv
#print axioms C11.add_evicts
#print axioms C11.remove_both
#print axioms C11.len_eq_pairs
#print axioms C11.range_once
#print axioms C11.contains_agree
#print axioms C11.clear
#print axioms C11.clone_eq
#print axioms C11.clone_independent
#print axioms C11.refines_spec
#print axioms C11.spec_inverse
