import TypVerif.Lemmas.FilterMask
import TypVerif.Gen.MapSetShapes
import TypVerif.Gen.MapsShapes
import TypVerif.Gen.SlicesShapes
/-
C14, tie 4B — GOLDEN FUNCTION SHAPES (written by tools/mkshapes.py; do not edit by hand).  For every function of the source files this property's model mirrors,
the extractor regenerates on every run: its calls, its stores through selectors / indices / pointers, its conditions and loop headers, its select cases and
its return expressions, in source order.  The theorems below state that these equal the shapes of the tree the model was written against.  They are the STATIC,
all-paths complement of the differential runs: a guard dropped, a fast path or a threshold added, an early return, a changed comparison or a different callee
on ANY path - also one that no generated input happens to take - changes the regenerated list and breaks the evaluation (`rfl`; for a list filtered by function name the mask of `Lemmas/FilterMask.lean`, then `rfl`).  A broken shape theorem is reported like a
broken proof (with a failing input when the search finds one, else `no-failing-input-found`); after a deliberate change of the source the changed functions are
re-read against the model and this file is regenerated.
-/
namespace C14

/-- slices/slices.go, the functional helpers: 27 function(s) -/
theorem gen_shapes_functional :
    Gen.SlicesShapes.funcs.filter (fun f => !(["Fill", "Insert", "InsertSlice", "Remove", "RemoveSlice", "Repeat", "Concat", "Clone", "Grow", "Pairs", "PairsFunc", "Windowed", "WindowedFunc", "Chunk", "ChunkFunc"]).contains f.1) =
      [("Index", ["range slice", "if v == value", "return i", "return -1"]),
       ("IndexFunc", ["range slice", "if f(v)", "call f", "return i", "return -1"]),
       ("Trim", ["return TrimLeft[S, E](TrimRight[S, E](slice, unwanted), unwanted)", "call TrimLeft[S, E]", "call TrimRight[S, E]"]),
       ("TrimFunc", ["return TrimLeftFunc(TrimRightFunc(slice, unwanted), unwanted)", "call TrimLeftFunc", "call TrimRightFunc"]),
       ("TrimLeft", ["for len(slice) > 0 && Contains(unwanted, slice[0])", "call len", "call Contains", "return slice"]),
       ("TrimLeftFunc", ["for len(slice) > 0 && unwanted(slice[0])", "call len", "call unwanted", "return slice"]),
       ("TrimRight", ["for len(slice) > 0 && Contains(unwanted, slice[len(slice) - 1])", "call len", "call Contains", "call len", "call len", "return slice"]),
       ("TrimRightFunc", ["for len(slice) > 0 && unwanted(slice[len(slice) - 1])", "call len", "call unwanted", "call len", "call len", "return slice"]),
       ("Distinct", ["call make", "call len", "range slice", "if !Contains(result, v)", "call Contains", "call append", "return result"]),
       ("DistinctFunc", ["call make", "call len", "range slice", "if !ContainsFunc(result, v, equals)", "call ContainsFunc", "call append", "return result"]),
       ("Contains", ["range slice", "if v == value", "return true", "return false"]),
       ("ContainsFunc", ["range slice", "if equals(v, value)", "call equals", "return true", "return false"]),
       ("TryGet", ["if index < 0 || index >= len(slice)", "call len", "return typ.Zero[E](), false", "call typ.Zero[E]", "return slice[index], true"]),
       ("SafeGet", ["if index < 0 || index >= len(slice)", "call len", "return typ.Zero[E]()", "call typ.Zero[E]", "return slice[index]"]),
       ("SafeGetOr", ["if index < 0 || index >= len(slice)", "call len", "return fallback", "return slice[index]"]),
       ("Any", ["range slice", "if cond(v)", "call cond", "return true", "return false"]),
       ("All", ["range slice", "if !cond(v)", "call cond", "return false", "return true"]),
       ("Map", ["call make", "call len", "range slice", "store result[i]", "call conv", "return result"]),
       ("MapErr", ["call make", "call len", "range slice", "store result[i]", "call conv", "if err != nil", "return nil, err", "return result, nil"]),
       ("Filter", ["call make", "call len", "range slice", "if match(v)", "call match", "call append", "return result"]),
       ("Fold", ["range slice", "call acc", "return state"]),
       ("FoldReverse", ["for i >= 0", "call len", "call acc", "return state"]),
       ("GroupBy", ["range slice", "call keyer", "store m[key]", "call append", "if !ok", "call append", "call make", "call len", "range orderedKeys", "store groups[i]", "return groups"]),
       ("CountBy", ["range slice", "call keyer", "store m[key]", "if !ok", "call append", "call make", "call len", "range orderedKeys", "store groups[i]", "return groups"]),
       ("Except", ["call maps.NewSetFromSlice", "return ExceptSet(slice, set)", "call ExceptSet"]),
       ("ExceptSet", ["call make", "call len", "range slice", "if !exclude.Has(v)", "call exclude.Has", "call append", "return result"]),
       ("Last", ["return slice[len(slice) - 1]", "call len"])] :=
  (TypVerif.Lemmas.filter_of_mask _ _ [false, false, false, false, false, true, true, false, true, true, true, true, true, true, true, true, true, true, true, true, true, true, true, true, true, true, true, true, false, true, true, false, false, false, false, false, false, true, true, true, false, false] (by decide +kernel)).trans rfl

/-- maps/maps.go: 7 function(s) -/
theorem gen_shapes_maps :
    Gen.MapsShapes.funcs =
      [("ContainsValue", ["range m", "if v == value", "return true", "return false"]),
       ("KeyOf", ["range m", "if v == value", "return k, true", "return typ.Zero[K](), false", "call typ.Zero[K]"]),
       ("Clone", ["call make", "call len", "range m", "store newMap[k]", "return newMap"]),
       ("Clear", ["range m", "call delete"]),
       ("HasKey", ["return ok"]),
       ("Keys", ["call make", "call len", "range m", "call append", "return keys"]),
       ("Values", ["call make", "call len", "range m", "call append", "return values"])] := rfl

/-- maps/set.go, NewSetFromSlice / Set.Add / Set.Has - DEPENDENCIES of Except / ExceptSet: 3 function(s) -/
theorem gen_shapes_dep_set :
    Gen.MapSetShapes.funcs.filter (fun f => (["NewSetFromSlice", "Set.Add", "Set.Has"]).contains f.1) =
      [("NewSetFromSlice", ["call make", "range slice", "call set.Add", "return set"]),
       ("Set.Has", ["return has"]),
       ("Set.Add", ["if s.Has(value)", "call s.Has", "return false", "store s[value]", "return true"])] :=
  (TypVerif.Lemmas.filter_of_mask _ _ [true, false, false, false, false, true, true, false, false, false, false, false, false, false, false, false, false] (by decide +kernel)).trans rfl

end C14
