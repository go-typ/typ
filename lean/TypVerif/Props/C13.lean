import TypVerif.Lemmas.Chunk
/-
C13: "For every slice of length n and every size >= 1: Chunk returns ceil(n/size) consecutive non-empty
pieces, each of length size except possibly a shorter last one, whose concatenation is the input; Windowed
returns the n-size+1 contiguous windows of that size in order (none when n < size); Pairs returns the n-1
adjacent pairs in order. ChunkFunc, WindowedFunc and PairsFunc invoke their callback with exactly the same
sequence of pieces as the slice-returning variant returns."
-/
namespace C13
open TypVerif TypVerif.Model.Chunk

variable {α : Type}

/-- the Go loop of `Chunk` computes the take/drop specification -/
theorem chunk_eq_spec (s : List α) (size : Nat) (hsize : 1 ≤ size) :
    chunk s size = Spec.Chunk.chunks size s :=
  Lemmas.Chunk.chunk_eq_spec s hsize
example : chunk [1, 2, 3, 4, 5] 2 = [[1, 2], [3, 4], [5]] := by decide

/-- the concatenation of the pieces is the input -/
theorem chunk_join (s : List α) (size : Nat) (hsize : 1 ≤ size) : (chunk s size).flatten = s := by
  rw [chunk_eq_spec s size hsize]; exact Lemmas.Chunk.chunks_flatten hsize s
example : (chunk [1, 2, 3, 4, 5] 2).flatten = [1, 2, 3, 4, 5] := by decide

/-- every piece is non-empty and at most `size` long, and every piece but the last has length exactly `size` -/
theorem chunk_lengths (s : List α) (size : Nat) (hsize : 1 ≤ size) :
    (∀ c ∈ chunk s size, 0 < c.length ∧ c.length ≤ size) ∧
    (∀ (i : Nat) (h : i < (chunk s size).length), i + 1 < (chunk s size).length →
        ((chunk s size)[i]).length = size) := by
  rw [chunk_eq_spec s size hsize]
  exact ⟨Lemmas.Chunk.chunks_mem_bounds hsize s, Lemmas.Chunk.chunks_getElem_length hsize s⟩
example : (chunk [1, 2, 3, 4, 5] 2).map List.length = [2, 2, 1] := by decide

/-- the number of pieces is `⌈n/size⌉` -/
theorem chunk_count (s : List α) (size : Nat) (hsize : 1 ≤ size) :
    (chunk s size).length = Spec.Chunk.ceilDiv s.length size := by
  rw [chunk_eq_spec s size hsize]; exact Lemmas.Chunk.chunks_length hsize s
example : (chunk [1, 2, 3, 4, 5] 2).length = 3 ∧ Spec.Chunk.ceilDiv 5 2 = 3 := by decide

/-- the `lim` computed by the arithmetic kernel (`div`, `rounded`, `lim`) of `Chunk` is `⌈n/size⌉`
(for every `n`, in particular every `n > 0`, the only case in which Go evaluates it) -/
theorem lim_is_ceil (n size : Nat) (hsize : 1 ≤ size) :
    (kernel n size).2.2 = Spec.Chunk.ceilDiv n size :=
  Lemmas.Chunk.kernel_lim hsize
example : (kernel 5 2).2.2 = 3 ∧ (kernel 4 2).2.2 = 2 ∧ (kernel 1 3).2.2 = 1 := by decide

/-- `Windowed` returns the windows `s[i:i+size]`, `i = 0 .. n-size`, in order (none when `n < size`) -/
theorem windowed_eq_spec (s : List α) (size : Nat) :
    windowed s size = Spec.Chunk.windows size s :=
  Lemmas.Chunk.windowed_eq_spec s size
example : windowed [1, 2, 3, 4] 2 = [[1, 2], [2, 3], [3, 4]] := by decide
example : windowed [1, 2, 3] 4 = [] := by decide

theorem windowed_count (s : List α) (size : Nat) :
    (windowed s size).length = s.length + 1 - size := by
  rw [windowed_eq_spec]; exact Lemmas.Chunk.windows_length s size

/-- the `i`-th window is `s[i:i+size]`, of length exactly `size` (it exists only if `i + size ≤ n`) -/
theorem windowed_lengths (s : List α) (size : Nat) (i : Nat) (h : i < (windowed s size).length) :
    (windowed s size)[i] = (s.drop i).take size ∧ ((windowed s size)[i]).length = size := by
  have hc := windowed_count s size
  have e := (List.getElem_of_eq (windowed_eq_spec s size) h).trans (Lemmas.Chunk.windows_getElem s size i _)
  refine ⟨e, ?_⟩
  rw [e, List.length_take, List.length_drop]; omega
example : (windowed [1, 2, 3, 4] 2).length = 3 := by decide

/-- `Pairs` returns the adjacent pairs in order -/
theorem pairs_eq_spec [Inhabited α] (s : List α) : pairs s = s.zip s.tail :=
  Lemmas.Chunk.pairs_eq_spec s
example : pairs [1, 2, 3] = [(1, 2), (2, 3)] := by decide

theorem pairs_count [Inhabited α] (s : List α) : (pairs s).length = s.length - 1 := by
  rw [pairs_eq_spec]; simp [List.length_zip]

/-- `ChunkFunc`'s callback trace is what `Chunk` returns -/
theorem chunkFunc_same (s : List α) (size : Nat) (hsize : 1 ≤ size) : chunkFunc s size = chunk s size := by
  rw [chunk_eq_spec s size hsize]; exact Lemmas.Chunk.chunkFunc_eq_spec s hsize
example : chunkFunc [1, 2, 3, 4, 5] 2 = [[1, 2], [3, 4], [5]] := by decide

theorem windowedFunc_same (s : List α) (size : Nat) : windowedFunc s size = windowed s size := by
  rw [windowed_eq_spec]; exact Lemmas.Chunk.windowedFunc_eq_spec s size

theorem pairsFunc_same [Inhabited α] (s : List α) : pairsFunc s = pairs s := by
  rw [pairs_eq_spec]; exact Lemmas.Chunk.pairsFunc_eq_spec s

end C13

#print axioms C13.chunk_eq_spec
#print axioms C13.chunk_join
#print axioms C13.chunk_lengths
#print axioms C13.chunk_count
#print axioms C13.lim_is_ceil
#print axioms C13.windowed_eq_spec
#print axioms C13.windowed_count
#print axioms C13.windowed_lengths
#print axioms C13.pairs_eq_spec
#print axioms C13.pairs_count
#print axioms C13.chunkFunc_same
#print axioms C13.windowedFunc_same
#print axioms C13.pairsFunc_same
