import TypVerif.Lemmas.Sorted
/-
C07: "Starting from NewSorted/NewSortedOrdered over any input (which is copied, never aliased or reordered) and after
any sequence of Add, Remove and RemoveAt, the contents are in non-decreasing order under the less function and are
exactly the multiset of values put in and not taken out. When less is a strict total order consistent with ==, Add
returns the position at which the new value now sits, Index returns the first position holding the value or -1,
Contains agrees with Index, and Remove deletes one occurrence and returns its former position - or returns -1 and
changes nothing when the value is absent. Get and RemoveAt act on exactly the given position and panic for positions
outside [0,Len)."

Model: `Model/Sorted.lean` (binary search = `Model/GoSearch.lean`, the real `sort.Search` loop; `sort.SliceStable`
by contract, reference implementation `List.mergeSort`).  `NewSortedOrdered(values...)` is `NewSorted(values, typ.Less)`,
i.e. the instance `less := (· < ·)`.
`bagStep` / `bagFrom` / `bagOf` (what `multiset` speaks of) and `resultsFrom` / `specStep` / `specRun` (what `refines_spec` speaks of)
are defined in `Lemmas/Sorted.lean`, before `step_perm` and before `step_refines`.
-/
open TypVerif.Model TypVerif.Model.Sorted TypVerif.Spec.Order TypVerif.Lemmas.Sorted

namespace C07

/-- Sortedness is an invariant for every strict weak `less` (no consistency with `==` needed). -/
theorem sorted_inv {α : Type} [DecidableEq α] {less : α → α → Bool} (hw : StrictWeak less) :
    ∀ (init : List α) (ops : List (Op α)), IsSorted less (run less init ops).s.slice :=
  fun init ops => runFrom_sorted (newSorted init less).s hw (stableSort_sorted hw init) ops

example : ∀ (init : List Int) (ops : List (Op Int)),
    IsSorted (fun a b => decide (Int.tdiv a 2 < Int.tdiv b 2))
      (run (fun a b => decide (Int.tdiv a 2 < Int.tdiv b 2)) init ops).s.slice :=
  sorted_inv strictWeak_int_half

/-- The contents are the multiset "init + added − removed" — for EVERY `less`, even an inconsistent one.
`bagOf` (Lemmas/Sorted.lean) is the bookkeeping over the history: `Add v` puts `v` in, `Remove v` takes one `v` out when it
reports a position, `RemoveAt i` takes out the value `Get i` shows when `i` is in range. -/
theorem multiset {α : Type} [DecidableEq α] (less : α → α → Bool) (init : List α) (ops : List (Op α)) :
    (run less init ops).s.slice.Perm (bagOf less init ops) :=
  runFrom_perm _ _ (stableSort_perm less init) ops

/-- The input list is the caller's, unchanged, whatever happens afterwards (the model never writes it; that the Go copy does
not alias it is checked on the `input` lines of the correspondence). -/
theorem input_untouched {α : Type} [DecidableEq α] (less : α → α → Bool) (init : List α) (ops : List (Op α)) :
    (run less init ops).input = init := rfl

/-- Add returns the lower bound (number of elements `less` than the value), the value sits there afterwards, it is the first
position holding it, and the rest of the content is unchanged around it.  Needs only a strict weak order. -/
theorem add_pos {α : Type} [DecidableEq α] (s : Sorted α) (hw : StrictWeak s.less) (hs : IsSorted s.less s.slice) (v : α) :
    (s.add v).2 = (TypVerif.Spec.Sorted.lowerBound s.less s.slice v : Nat) ∧
    (s.add v).1.slice[(s.add v).2.toNat]? = some v ∧
    (s.add v).1.slice.idxOf v = (s.add v).2.toNat ∧
    (s.add v).1.slice = s.slice.take (s.add v).2.toNat ++ v :: s.slice.drop (s.add v).2.toNat := by
  rw [add_ret, Int.toNat_natCast]
  exact ⟨by rw [search_eq_lowerBound s hw hs v], add_getElem s v, add_idxOf s hw hs v, add_slice s v⟩

example := add_pos (⟨[1, 3, 3, 5], fun a b : Int => decide (a < b)⟩) strictTotal_int_lt.toStrictWeak
  (by unfold IsSorted; decide) 3
example : (((⟨[1, 3, 3, 5], fun a b => decide (a < b)⟩ : Sorted Int).add 3).1.slice,
    ((⟨[1, 3, 3, 5], fun a b => decide (a < b)⟩ : Sorted Int).add 3).2) = ([1, 3, 3, 3, 5], 1) := by decide

/-- Index returns the first position holding the value, or -1. -/
theorem index_first {α : Type} [DecidableEq α] (s : Sorted α) (ht : StrictTotal s.less) (hs : IsSorted s.less s.slice) (v : α) :
    s.index v = if v ∈ s.slice then (s.slice.idxOf v : Int) else -1 :=
  TypVerif.Lemmas.Sorted.index_first s ht hs v

example := index_first (⟨[1, 3, 3, 5], fun a b : Int => decide (a < b)⟩) strictTotal_int_lt (by unfold IsSorted; decide) 3

/-- With a merely strict weak order Index may miss a present value: the hypothesis `StrictTotal` is necessary. -/
example : ((⟨[2, 3], fun a b => decide (Int.tdiv a 2 < Int.tdiv b 2)⟩ : Sorted Int).index 3) = -1 := by decide

/-- Contains agrees with Index (by definition) and with membership. -/
theorem contains_iff {α : Type} [DecidableEq α] (s : Sorted α) (ht : StrictTotal s.less) (hs : IsSorted s.less s.slice) (v : α) :
    (s.contains v = true ↔ s.index v ≠ -1) ∧ (s.contains v = true ↔ v ∈ s.slice) :=
  ⟨by simp [Sorted.contains], TypVerif.Lemmas.Sorted.contains_iff s ht hs v⟩

/-- Remove of a present value deletes one occurrence (the first) and returns its former position. -/
theorem remove_present {α : Type} [DecidableEq α] (s : Sorted α) (ht : StrictTotal s.less) (hs : IsSorted s.less s.slice) (v : α)
    (hv : v ∈ s.slice) :
    s.remove v = ({ s with slice := s.slice.erase v }, (s.slice.idxOf v : Int)) :=
  TypVerif.Lemmas.Sorted.remove_present s ht hs v hv

example := remove_present (⟨[1, 3, 3, 5], fun a b : Int => decide (a < b)⟩) strictTotal_int_lt
  (by unfold IsSorted; decide) 3 (by decide)
example : (((⟨[1, 3, 3, 5], fun a b => decide (a < b)⟩ : Sorted Int).remove 3).1.slice,
    ((⟨[1, 3, 3, 5], fun a b => decide (a < b)⟩ : Sorted Int).remove 3).2) = ([1, 3, 5], 1) := by decide

/-- Remove of an absent value returns -1 and changes nothing — for EVERY `less` (this is the clause the `fix:` commit
repaired: the pinned tree passed -1 on to `slices.Remove`). -/
theorem remove_absent {α : Type} [DecidableEq α] (s : Sorted α) (v : α) (hv : v ∉ s.slice) :
    s.remove v = (s, -1) :=
  TypVerif.Lemmas.Sorted.remove_absent s v hv

/-- Get and RemoveAt act on exactly the given position when it is inside `[0, Len)`. -/
theorem get_removeAt_exact {α : Type} (s : Sorted α) (i : Int) (h0 : 0 ≤ i) (h1 : i < s.len) :
    s.get i = .ok (s.slice[i.toNat]'(by simp only [Sorted.len] at h1; omega)) ∧
    s.removeAtIdx i = .ok { s with slice := s.slice.eraseIdx i.toNat } :=
  ⟨(get_eq s i).trans (dif_pos ⟨h0, h1⟩), (removeAtIdx_eq s i).trans (if_pos ⟨h0, h1⟩)⟩

/-- … and panic (class custom; `step` leaves the state unchanged) exactly for positions outside `[0, Len)`. -/
theorem get_removeAt_panic_iff {α : Type} (s : Sorted α) (i : Int) :
    (s.get i = .error "custom" ↔ ¬ (0 ≤ i ∧ i < s.len)) ∧
    (s.removeAtIdx i = .error "custom" ↔ ¬ (0 ≤ i ∧ i < s.len)) :=
  ⟨get_panic_iff s i, removeAtIdx_panic_iff s i⟩

/-- Altogether, under a strict total order the model (binary search and splices) computes exactly the functional
specification `Spec.Sorted` (sorted arrangement of a multiset, `idxOf`, `erase`, `eraseIdx`) that the driver uses as
`spec` for less ids 0 and 1: same final content, same result on every line. -/
theorem refines_spec {α : Type} [DecidableEq α] {less : α → α → Bool} (ht : StrictTotal less) (init : List α) (ops : List (Op α)) :
    ((run less init ops).s.slice, resultsFrom (newSorted init less).s ops) =
      specRun less (TypVerif.Spec.Sorted.new less init) ops :=
  runFrom_refines (newSorted init less).s ht (stableSort_sorted ht.toStrictWeak init) ops

example : StrictTotal (fun a b : Int => decide (a < b)) := strictTotal_int_lt
example : StrictTotal (fun a b : Int => decide (a > b)) := strictTotal_int_gt

end C07

#print axioms C07.sorted_inv
#print axioms C07.multiset
#print axioms C07.input_untouched
#print axioms C07.add_pos
#print axioms C07.index_first
#print axioms C07.contains_iff
#print axioms C07.remove_present
#print axioms C07.remove_absent
#print axioms C07.get_removeAt_exact
#print axioms C07.get_removeAt_panic_iff
#print axioms C07.refines_spec
