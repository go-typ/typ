import TypVerif.Props.C04trace
import TypVerif.Lemmas.SyncMapTraceComplete
/-
C04, COMPLETENESS of the step-trace judge "C04conc" (map mode): the converse of `Props/C04trace.lean`.  Acceptance of a
step trace by the judge is the pure function `Model.SyncMapTrace.replay` / `replayPad`, and

  every execution of the step-level model `SyncMapConc.sys` from its initial state  ⇒  the line list that records it
  (one line per step: `inv t op`, `step t <hook label>`, `iter t k`, `res t r`) is accepted, by `replay` from `init n`
  and by the judge's `replayPad` from `init 0`, with the model's final state                 (`trace_accept_complete`,
                                                                                              `judge_accept_complete`)

so that, together with `C04.trace_accept_sound`,

  "accepted by the replay"  =  "is an execution of the model", exactly                        (`trace_accept_iff`).

Consequence for the judge: it never rejects a faithful recording of a run the model allows (no false alarms from the
replay itself); a rejection means the recorded run left the model.

One fact about the model is used: a `range` choice is recorded by its KEY only (`iter t k`) and the replay takes the first
remaining pair with that key, so pick steps are reproduced exactly because the remaining pairs of an iterating goroutine
have pairwise distinct keys — which is part of the invariant proved for every reachable state (`C04.conc_inv`; used
through `Lemmas.SyncMapTrace.picksNodup_of_reachable`).  Hence the statements are about executions from the INITIAL state
(or from a reachable state), not from arbitrary states.

What this covers: the pure replay functions on parsed lines.  What it does NOT cover: parsing of the text lines into
`Line Int Int`, the set-mode (`cset`) composites, the printing of verdicts — these stay unverified driver glue; and, as
for soundness, that the recorded lines are a faithful record of what the real code did (hooks: `C04.gen_*`).
-/
namespace C04
open TypVerif TypVerif.Conc TypVerif.Model TypVerif.Model.SyncMapConc TypVerif.Model.SyncMapTrace TypVerif.Model.RelObj
open TypVerif.Lemmas.Smc (evOf mapSpec)

set_option linter.unusedSectionVars false

variable {K V : Type} [DecidableEq K] [DecidableEq V] [Inhabited V]

/-- **Every step of the model is accepted by the replay, with the corresponding line.**  In a reachable state `s`, for
every step `(l, s')` of the model there is a line — `inv t op` for an invocation, `res t r` for a return, `iter t k` for
a `range` choice, `step t <label of the hook goroutine t is parked at>` for every other atomic step (`LineFor`) — that
`applyLine` accepts in `s`, with result exactly `s'`, and whose visible event is the step's label.
Covers: one line of the pure replay.  Does not cover: text parsing, set mode (driver glue). -/
theorem line_accept_complete (menu : List (Op K V)) (n : Nat) (zst : Bool) {s s' : State K V}
    {l : Option (SyncMapConc.Event K V)} (hs : Reachable (sys K V menu n zst) s)
    (h : (l, s') ∈ SyncMapConc.succ menu s) :
    ∃ ln, applyLine s ln = some s' ∧ ln.event = l ∧ Lemmas.SyncMapTrace.LineFor menu s ln :=
  Lemmas.SyncMapTrace.applyLine_complete menu (Lemmas.SyncMapTrace.picksNodup_of_reachable hs) h

/-- **Every execution of the model is an accepted step trace.**  If the model `sys K V menu n zst` has an execution from
`init n zst` to `s` with labels `evs` (one label per step: `some (inv/res ..)` or `none`), then there is a line list
`ls` — one line per step — that the pure replay accepts from `init n zst` with final state exactly `s` and whose
line-by-line visible events are exactly `evs`; with the by-products: the trace's API-level history is the execution's
visible history, it has one line per step, and it invokes menu operations only.
Covers: the pure replay on parsed lines.  Does not cover: text parsing, set-mode composites (driver glue). -/
theorem trace_accept_complete_from (menu : List (Op K V)) (n : Nat) (zst : Bool) {s : State K V}
    {evs : List (Option (SyncMapConc.Event K V))}
    (h : Exec (sys K V menu n zst) (SyncMapConc.init n zst) evs s) :
    ∃ ls, replay (SyncMapConc.init n zst) ls = some s ∧ ls.map Line.event = evs ∧ eventsOf ls = visible evs ∧
      ls.length = evs.length ∧ ∀ t op, Line.inv t op ∈ ls → op ∈ menu := by
  obtain ⟨ls, h1, h2, h3⟩ := Lemmas.SyncMapTrace.replay_complete menu n zst h Reachable.init
  refine ⟨ls, h1, h2, ?_, ?_, h3⟩
  · rw [← h2, Lemmas.SyncMapTrace.visible_map_event]
  · rw [← h2, List.length_map]

/-- the same without the by-products -/
theorem trace_accept_complete (menu : List (Op K V)) (n : Nat) (zst : Bool) {s : State K V}
    {evs : List (Option (SyncMapConc.Event K V))}
    (h : Exec (sys K V menu n zst) (SyncMapConc.init n zst) evs s) :
    ∃ ls, replay (SyncMapConc.init n zst) ls = some s ∧ ls.map Line.event = evs := by
  obtain ⟨ls, h1, h2, _⟩ := trace_accept_complete_from menu n zst h
  exact ⟨ls, h1, h2⟩

/-- **Accepted = execution, exactly.**  For a list of labels `evs` and a state `s`: some line list invoking only menu
operations is accepted by the replay from `init n zst` with final state `s` and line-by-line events `evs`  IFF  the model
`sys K V menu n zst` has an execution from `init n zst` to `s` with labels `evs`.  (→ is `trace_accept_sound`'s core
`replay_exec`; ← is completeness, the menu condition holds because the model only invokes menu operations.)
Covers: the pure replay.  Does not cover: text parsing, set mode, faithfulness of the recording. -/
theorem trace_accept_iff (menu : List (Op K V)) (n : Nat) (zst : Bool) (evs : List (Option (SyncMapConc.Event K V)))
    (s : State K V) :
    (∃ ls, replay (SyncMapConc.init n zst) ls = some s ∧ ls.map Line.event = evs ∧
        ∀ t op, Line.inv t op ∈ ls → op ∈ menu) ↔
      Exec (sys K V menu n zst) (SyncMapConc.init n zst) evs s := by
  constructor
  · rintro ⟨ls, h1, h2, h3⟩
    rw [← h2]
    exact Lemmas.SyncMapTrace.replay_exec menu n zst h3 h1
  · intro h
    obtain ⟨ls, h1, h2, _, _, h3⟩ := trace_accept_complete_from menu n zst h
    exact ⟨ls, h1, h2, h3⟩

/-- the replay is a function: an accepted line list determines the final state (and, by `trace_accept_sound`, the
execution's labels) -/
theorem trace_accept_functional {s₀ s₁ s₂ : State K V} {ls : List (Line K V)}
    (h₁ : replay s₀ ls = some s₁) (h₂ : replay s₀ ls = some s₂) : s₁ = s₂ :=
  Option.some.inj (h₁.symm.trans h₂)

/-- **What the judge computes, completeness.**  The judge starts a `cmap` scenario in `init 0` and appends idle
goroutines when an `inv` line mentions a goroutine id it has not seen (`replayPad`).  Every execution of the model with
`n` goroutines from `init n zst` to `s` is recorded by a line list `ls` (labels exactly `evs`) that the judge ACCEPTS:
`replayPad (init 0 zst) ls = some s''`, and the judge's final state `s''` is the model's final state except that
goroutines that were never invoked are not materialised — `pad s'' n = s` (EXACT form, not just `isSome`); the same `ls`
is accepted by `replay` from `init n zst` with final state `s`.
Covers: the pure `replayPad`, which `Drv/C04conc.lean` folds over the lines of a `cmap` scenario.
Does not cover: text parsing, set-mode composites, verdict printing (driver glue). -/
theorem judge_accept_complete (menu : List (Op K V)) (n : Nat) (zst : Bool) {s : State K V}
    {evs : List (Option (SyncMapConc.Event K V))}
    (h : Exec (sys K V menu n zst) (SyncMapConc.init n zst) evs s) :
    ∃ ls, replay (SyncMapConc.init n zst) ls = some s ∧ ls.map Line.event = evs ∧
      (∀ t op, Line.inv t op ∈ ls → op ∈ menu) ∧
      ∃ s'', replayPad (SyncMapConc.init 0 zst) ls = some s'' ∧ pad s'' n = s ∧ s''.pcs.length ≤ n := by
  obtain ⟨ls, h1, h2, _, _, h3⟩ := trace_accept_complete_from menu n zst h
  refine ⟨ls, h1, h2, h3, Lemmas.SyncMapTrace.replayPad_of_replay_pad (Nat.zero_le _) ?_⟩
  rw [Lemmas.SyncMapTrace.pad_init]
  exact h1

/-- in particular the judge does not reject -/
theorem judge_accept_complete_isSome (menu : List (Op K V)) (n : Nat) (zst : Bool) {s : State K V}
    {evs : List (Option (SyncMapConc.Event K V))}
    (h : Exec (sys K V menu n zst) (SyncMapConc.init n zst) evs s) :
    ∃ ls, ls.map Line.event = evs ∧ (replayPad (SyncMapConc.init 0 zst) ls).isSome = true := by
  obtain ⟨ls, _, h2, _, s'', h4, _⟩ := judge_accept_complete menu n zst h
  exact ⟨ls, h2, by rw [h4]; rfl⟩

/-! Non-vacuity.  (1) The model does run: the execution recorded by the `demo` trace of `C04trace.lean` exists (by
soundness), so the hypothesis of the completeness theorems is satisfiable with a non-trivial execution, and the theorem
returns an accepted line list for it.  (2) The line list of a concrete execution is accepted with the expected final
state, by both replays, and the judge's state differs from the model's by the never-invoked goroutine only. -/

private def demo : List (Line Int Int) :=
  [.inv 0 (.store 1 5), .step 0 "op:store", .step 0 "Store.readLoad1", .step 0 "lock", .step 0 "Store.readLoad2",
   .step 0 "dirtyLocked.readLoad1", .step 0 "Store.readStore1", .res 0 .done,
   .inv 1 (.load 1), .step 1 "op:load", .step 1 "Load.readLoad1", .step 1 "lock", .step 1 "Load.readLoad2",
   .step 1 "missLocked.readStore1", .step 1 "load.loadPtr1", .res 1 (.val (some 5))]

/-- the final state of the demo execution: key 1 ↦ entry 0 ↦ pointer 0 to 5, promoted into `read`, all idle -/
private def demoFinal (n : Nat) : State Int Int :=
  { sh := { entries := [.val 0 5], readM := [(1, 0)], nextPtr := 1 }, pcs := List.replicate n .idle }

example : replay (SyncMapConc.init 3 false) demo = some (demoFinal 3) := by decide +kernel
/-- the judge materialises goroutines 0 and 1 only; padding to 3 gives the model's state -/
example : replayPad (SyncMapConc.init 0 false) demo = some (demoFinal 2) := by decide +kernel
example : pad (demoFinal 2) 3 = demoFinal 3 := by decide +kernel

/-- the hypothesis of the completeness theorems is satisfiable by a 16-step execution, and the conclusion holds for it -/
example : ∃ evs, Exec (sys Int Int [.store 1 5, .load 1] 3 false) (SyncMapConc.init 3 false) evs (demoFinal 3) ∧
    evs.length = 16 ∧
    ∃ ls, replay (SyncMapConc.init 3 false) ls = some (demoFinal 3) ∧ ls.map Line.event = evs := by
  have hr : replay (SyncMapConc.init 3 false) demo = some (demoFinal 3) := by decide +kernel
  have hi : invoked demo = [Op.store (1 : Int) (5 : Int), .load 1] := by decide +kernel
  have hm : ∀ t op, Line.inv t op ∈ demo → op ∈ [Op.store (1 : Int) (5 : Int), .load 1] :=
    fun t op h => hi ▸ Lemmas.SyncMapTrace.mem_invoked h
  have hex := Lemmas.SyncMapTrace.replay_exec [.store 1 5, .load 1] 3 false hm hr
  exact ⟨_, hex, by decide +kernel, trace_accept_complete _ 3 false hex⟩

/-- a trace with a `range` choice (`iter`): Store, then Range promotes the dirty map and visits key 1 -/
example : replay (SyncMapConc.init 2 false)
    ([.inv 0 (.store 1 5), .step 0 "op:store", .step 0 "Store.readLoad1", .step 0 "lock", .step 0 "Store.readLoad2",
      .step 0 "dirtyLocked.readLoad1", .step 0 "Store.readStore1", .res 0 .done,
      .inv 1 .range, .step 1 "op:range", .step 1 "Range.readLoad1", .step 1 "lock", .step 1 "Range.readLoad2",
      .step 1 "Range.readStore1", .iter 1 1, .step 1 "load.loadPtr1", .res 1 (.pairs [(1, 5)])] : List (Line Int Int))
    = some (demoFinal 2) := by decide +kernel

/-- the side condition `PicksNodup` is needed: in an (unreachable) state where a `Range` loop still has two pairs with
the same key, the model can pick the second one but `iter` can only name the first -/
example :
    let s : State Int Int := { sh := {}, pcs := [.rangePick [(1, 0), (1, 1)] []] }
    (none, setPc s 0 s.sh (.rangeLoad [] [] 1 1)) ∈ SyncMapConc.succ [] s ∧
    applyLine s (.iter 0 1) = some (setPc s 0 s.sh (.rangeLoad [] [] 1 0)) := by decide +kernel

end C04

#print axioms C04.line_accept_complete
#print axioms C04.trace_accept_complete
#print axioms C04.trace_accept_complete_from
#print axioms C04.trace_accept_iff
#print axioms C04.trace_accept_functional
#print axioms C04.judge_accept_complete
#print axioms C04.judge_accept_complete_isSome
