import TypVerif.Lemmas.ConcAccept
import TypVerif.Lemmas.C19Accept
import TypVerif.Props.C19
/-
C19 — ACCEPTANCE IS SOUND for the timed-helper lines of the judge `Drv/C19.lean`
(`sendtimeout / sendcontext / recvtimeout / recvcontext`, functions `sendLine` / `recvLine`).

For such a line the judge builds the scenario parameters (`sendScenario` / `recvScenario`), enumerates the outcomes of the scenario
system by `sendOutcomes fuel p` / `recvOutcomes fuel p` (= `Conc.tauClosure` from the initial state, projected by `sendFinal` /
`recvFinal`, duplicates removed), renders them (`renderSend` / `renderRecv`) and accepts the implementation's result string `impl`
iff it is one of the rendered outcomes (`verdict`: then, and — apart from the judge's own diagnostic strings — only then, the
`model` field of the output is `impl`).

Proved here: every enumerated outcome is the outcome — by the driver's own projection `sendFinal` / `recvFinal` — of an execution
of `sendSys p` / `recvSys p` from its initial state (for the send scenarios: a terminated one, `succS p s = []`); an accepted result
string is the rendering of the outcome of such an execution; hence the theorems of `Props/C19.lean`, which quantify over all
reachable states, apply to the run the accepted line stands for (`send_accepted`, `recv_accepted`).

"Accepted" is `(sendLine …).model = impl` together with `¬ Diagnostic impl`: `impl` is not one of the strings the judge itself
emits (`bad-op`, `rejected:not-in-{…`, `violated:…`); see `Lemmas/C19Accept.lean`.  The rendering function `Proto.Val.render` is a
`partial def`, opaque to the kernel; the statements speak of `renderSend o = impl` and never look inside.
Soundness only here; that the fuel-bounded closure loses no outcome of the model is `sendOutcomes_complete` /
`recvOutcomes_complete` (`Props/C19complete.lean`).
-/
namespace C19
open TypVerif TypVerif.Conc TypVerif.Model.Chan TypVerif.Model.ChanHelpers TypVerif.Drv.C19
open TypVerif.Lemmas.C19Accept (Diagnostic)

/-- every enumerated send outcome is the projection (`sendFinal`: returned bool, what the peer got, what remains in the
channel) of a state reached by an execution of the scenario system from its initial state -/
theorem sendOutcomes_sound (fuel : Nat) (p : Params) : ∀ o ∈ sendOutcomes fuel p,
    ∃ (ls : List (Option Unit)) (s : SState),
      Exec (sendSys p) (initS p) ls s ∧ visible ls = [] ∧ sendFinal s = some o :=
  Lemmas.C19Accept.sendOutcomes_sound fuel p

/-- the execution behind an enumerated send outcome is terminated when there are no peer senders and under the judge's timing assumption (both hold for
`sendScenario`): the final state has no successor -/
theorem sendOutcomes_terminated (fuel : Nat) (p : Params) (hp : p.promptPoll = true) (hs : p.peerSends = []) :
    ∀ o ∈ sendOutcomes fuel p, ∃ (ls : List (Option Unit)) (s : SState),
      Exec (sendSys p) (initS p) ls s ∧ sendFinal s = some o ∧ succS p s = [] := by
  intro o ho
  obtain ⟨ls, s, hex, _, hf⟩ := sendOutcomes_sound fuel p o ho
  exact ⟨ls, s, hex, hf, Lemmas.C19Accept.sendFinal_terminal p hp hs (Exec.reachable hex .init) hf⟩

/-- every enumerated receive outcome is the projection (`recvFinal`: value, ok, buffer ++ what the blocked peer still sends) of a
state reached by an execution from the initial state in which the helper has returned -/
theorem recvOutcomes_sound (fuel : Nat) (p : Params) : ∀ o ∈ recvOutcomes fuel p,
    ∃ (ls : List (Option Unit)) (s : RState),
      Exec (recvSys p) (initR p) ls s ∧ visible ls = [] ∧ recvFinal s = some o :=
  Lemmas.C19Accept.recvOutcomes_sound fuel p

/-- what the projections say -/
theorem sendFinal_eq {s : SState} {o : Bool × List Int × List Int} (h : sendFinal s = some o) :
    s.pc = .done o.1 ∧ (s.budget = 0 ∨ s.ch.buf = []) ∧ o.2.1 = s.taken ∧ o.2.2 = s.ch.buf :=
  Lemmas.C19Accept.sendFinal_eq h

theorem recvFinal_eq {s : RState} {o : Int × Bool × List Int} (h : recvFinal s = some o) :
    s.pc = .done o.1 o.2.1 ∧ o.2.2 = s.ch.buf ++ s.supply := by
  unfold recvFinal at h
  split at h
  · rename_i v ok hpc
    simp only [Option.some.injEq] at h
    subst h
    exact ⟨hpc, rfl⟩
  · cases h

/-- when does `verdict` return the implementation's string as the model's: exactly in the accepted rows, or when the
implementation's string is one of the judge's own diagnostics -/
theorem verdict_model (impl : String) (allowed : List String) (cons : Option String) (tags : List String)
    (h : (verdict impl allowed cons tags).model = impl) : impl ∈ allowed ∨ Diagnostic impl :=
  Lemmas.C19Accept.verdict_model impl allowed cons tags h

/-- no rendered send outcome is one of the judge's diagnostics: `¬ Diagnostic impl` excludes no outcome of the model (send side;
on the receive side the rendering starts with `toString (v : Int)`, not analysed) -/
theorem renderSend_not_diagnostic (o : Bool × List Int × List Int) : ¬ Diagnostic (renderSend o) := by
  intro h
  have := Lemmas.C19Accept.diag_head h
  obtain ⟨b, g, r⟩ := o
  cases b <;> simp [renderSend, boolStr] at this

/-- **send lines**: an accepted result string is the rendered outcome of an execution of the scenario system -/
theorem sendLine_accept_sound (op : String) (mode : Mode) (blocking : Bool) (cap fill peer : Nat) (impl : String)
    (h : (sendLine op mode blocking cap fill peer impl).model = impl) (hnd : ¬ Diagnostic impl) :
    ∃ (ls : List (Option Unit)) (s : SState) (o : Bool × List Int × List Int),
      Exec (sendSys (sendScenario mode cap fill peer)) (initS (sendScenario mode cap fill peer)) ls s ∧
      sendFinal s = some o ∧ renderSend o = impl :=
  Lemmas.C19Accept.sendLine_accept_sound op mode blocking cap fill peer impl h hnd

/-- **receive lines** -/
theorem recvLine_accept_sound (op : String) (mode : Mode) (blocking : Bool) (cap fill : Nat) (closed : Bool) (peer : Nat)
    (impl : String) (h : (recvLine op mode blocking cap fill closed peer impl).model = impl) (hnd : ¬ Diagnostic impl) :
    ∃ (ls : List (Option Unit)) (s : RState) (o : Int × Bool × List Int),
      Exec (recvSys (recvScenario mode cap fill closed peer)) (initR (recvScenario mode cap fill closed peer)) ls s ∧
      recvFinal s = some o ∧ renderRecv o = impl :=
  Lemmas.C19Accept.recvLine_accept_sound op mode blocking cap fill closed peer impl h hnd

/-- the helper's value 99 is not among the pre-filled values 1..fill (the hypothesis of `send_iff`) as long as `fill < 99` -/
theorem val_not_in_fill (fill : Nat) (h : fill < 99) : (99 : Int) ∉ fillList fill := by
  intro hm
  unfold fillList at hm
  obtain ⟨i, hi, he⟩ := List.mem_map.1 hm
  have := List.mem_range.1 hi
  omega

/-- **Corollary (send)**, connecting to `C19.send_iff` and `C19.nonpositive_timeout_blocks`: an accepted send line
(`fill < 99`, so that the helper's value is recognisable) stands for a terminated execution of the scenario system whose
final state `s` has the helper returned with `r`, the peer's receipts `got` and the channel content `rem` rendered as `impl`;
in that execution `r = true` iff the helper's send statement / case fired — the value was handed over —, and then 99 is
in `got ++ rem` exactly once; `r = false` means 99 is nowhere and the timer / context case was ready; and without a limit
(non-positive timeout, or a context that is never cancelled — the judge's `blocking`) the result is `true`. -/
theorem send_accepted (op : String) (mode : Mode) (blocking : Bool) (cap fill peer : Nat) (impl : String)
    (hfill : fill < 99)
    (h : (sendLine op mode blocking cap fill peer impl).model = impl) (hnd : ¬ Diagnostic impl) :
    ∃ (ls : List (Option Unit)) (s : SState) (r : Bool) (got rem : List Int),
      Exec (sendSys (sendScenario mode cap fill peer)) (initS (sendScenario mode cap fill peer)) ls s ∧
      succS (sendScenario mode cap fill peer) s = [] ∧
      s.pc = .done r ∧ got = s.taken ∧ rem = s.ch.buf ∧ renderSend (r, got, rem) = impl ∧
      (r = true ↔ s.sendFired = true) ∧
      (got ++ rem).count 99 = (if r then 1 else 0) ∧
      (r = false → 99 ∉ got ∧ 99 ∉ rem ∧ s.fired = true) ∧
      ((∃ tmo, mode = .timeout tmo ∧ tmo ≤ 0) → r = true) ∧
      (mode = .context false false → r = true) := by
  obtain ⟨ls, s, o, hex, hf, hr⟩ := sendLine_accept_sound op mode blocking cap fill peer impl h hnd
  obtain ⟨r, got, rem⟩ := o
  obtain ⟨hpc, _, hgot, hrem⟩ := sendFinal_eq hf
  simp only at hpc hgot hrem
  have hreach : Reachable (sendSys (sendScenario mode cap fill peer)) s := Exec.reachable hex .init
  have h1 : (sendScenario mode cap fill peer).val ∉ (sendScenario mode cap fill peer).fill := val_not_in_fill fill hfill
  have h2 : (sendScenario mode cap fill peer).val ∉ (sendScenario mode cap fill peer).peerSends := by
    simp [sendScenario]
  obtain ⟨hiff, hcount, hfalse⟩ := send_iff _ h1 h2 s hreach r hpc
  refine ⟨ls, s, r, got, rem, hex, Lemmas.C19Accept.sendFinal_terminal _ rfl rfl hreach hf, hpc, hgot, hrem, hr, hiff, ?_, ?_, ?_, ?_⟩
  · rw [hgot, hrem, List.count_append, Nat.add_comm, ← List.count_append]
    exact hcount
  · intro hr0
    obtain ⟨a, b, _, d⟩ := hfalse hr0
    rw [hgot, hrem]
    exact ⟨b, a, d⟩
  · rintro ⟨tmo, hm, ht⟩
    have := ((nonpositive_timeout_blocks (sendScenario mode cap fill peer) tmo (by simp [sendScenario, hm]) ht).1
      h1 h2 s hreach).2.2.2.2.2
    cases r with
    | true => rfl
    | false => exact absurd hpc this
  · intro hm
    have hnf := Lemmas.C19Accept.never_firedS (sendScenario mode cap fill peer) (by simp [sendScenario, hm]) s hreach
    cases r with
    | true => rfl
    | false =>
      have := (hfalse rfl).2.2.2
      rw [hnf] at this
      cases this

/-- **Corollary (receive)**, connecting to `C19.recv_iff`, `C19.recv_closed_drained` (through `recv_iff`) and
`C19.nonpositive_timeout_blocks`: an accepted receive line stands for an execution of the scenario system in whose final state
`s` the helper has returned `(v, ok)` and the harness's drain yields `rem`, rendered as `impl`; in that execution `ok = true` iff
the helper consumed exactly `[v]`, and then `v` was the head of the channel at the helper's receive step; `ok = false` gives the
zero value, nothing consumed, and — if the receive case fired — a closed and drained channel; nothing is lost or invented
(`(if ok then [v] else []) ++ rem` is the pre-filled content followed by the peer's 77 if a peer sends); and without a limit
`ok = false` happens only on a closed and drained channel. -/
theorem recv_accepted (op : String) (mode : Mode) (blocking : Bool) (cap fill : Nat) (closed : Bool) (peer : Nat)
    (impl : String) (h : (recvLine op mode blocking cap fill closed peer impl).model = impl) (hnd : ¬ Diagnostic impl) :
    ∃ (ls : List (Option Unit)) (s : RState) (v : Int) (ok : Bool) (rem : List Int),
      Exec (recvSys (recvScenario mode cap fill closed peer)) (initR (recvScenario mode cap fill closed peer)) ls s ∧
      s.pc = .done v ok ∧ rem = s.ch.buf ++ s.supply ∧ renderRecv (v, ok, rem) = impl ∧
      (ok = true ↔ s.consumed = [v]) ∧
      (ok = true → s.recvFired = true ∧ s.headAt = some v) ∧
      (ok = false → v = 0 ∧ s.consumed = []) ∧
      (ok = false → s.recvFired = true → s.ch.closed = true ∧ s.ch.buf = []) ∧
      (ok = false → s.recvFired = false → s.fired = true) ∧
      (if ok then [v] else []) ++ rem = fillList fill ++ (if peer = 1 ∧ closed = false then [77] else []) ∧
      (((∃ tmo, mode = .timeout tmo ∧ tmo ≤ 0) ∨ mode = .context false false) → ok = false →
        s.ch.closed = true ∧ s.ch.buf = []) := by
  obtain ⟨ls, s, o, hex, hf, hr⟩ := recvLine_accept_sound op mode blocking cap fill closed peer impl h hnd
  obtain ⟨v, ok, rem⟩ := o
  obtain ⟨hpc, hrem⟩ := recvFinal_eq hf
  simp only at hpc hrem
  have hreach : Reachable (recvSys (recvScenario mode cap fill closed peer)) s := Exec.reachable hex .init
  obtain ⟨hdone, _, _, hcons⟩ := recv_iff _ s hreach
  obtain ⟨hiff, htrue, hfalse, hfired, hnot⟩ := hdone v ok hpc
  have hsent := (hcons rfl).2
  have hss := Lemmas.C19Accept.sent_supply (recvScenario mode cap fill closed peer) s hreach
  refine ⟨ls, s, v, ok, rem, hex, hpc, hrem, hr, hiff, htrue, hfalse, fun a b => (hfired a b).2, hnot, ?_, ?_⟩
  · have hcv : s.consumed = (if ok then [v] else []) := by
      cases ok with
      | true => exact hiff.1 rfl
      | false => exact (hfalse rfl).2
    rw [hrem, ← hcv, ← List.append_assoc, ← hsent, hss]
    rfl
  · intro hb hok
    rcases hb with ⟨tmo, hm, ht⟩ | hm
    · have := ((nonpositive_timeout_blocks (recvScenario mode cap fill closed peer) tmo (by simp [recvScenario, hm]) ht).2
        s hreach).2.2.2.2 v (by rw [hpc, hok])
      exact ⟨this.2.2.1, this.2.2.2.1⟩
    · have hnf := Lemmas.C19Accept.never_firedR (recvScenario mode cap fill closed peer) (by simp [recvScenario, hm]) s hreach
      cases hrf : s.recvFired with
      | true => exact (hfired hok hrf).2
      | false =>
        have := hnot hok hrf
        rw [hnf] at this
        cases this

/-- the judge's `blocking` argument of the context lines: `ctx = 0` is the context that is never cancelled -/
example : ctxMode 0 = .context false false := rfl

/-! non-vacuity: outcomes the enumeration finds — full channel, one peer receiver, 2 ms timer: both results; closed drained channel -/
example : (true, [1], [99]) ∈ sendOutcomes fuel (sendScenario (.timeout 2) 1 1 1) ∧
    (false, [1], []) ∈ sendOutcomes fuel (sendScenario (.timeout 2) 1 1 1) := by decide +kernel
example : recvOutcomes fuel (recvScenario (.timeout 2) 2 0 true 0) = [(0, false, [])] := by decide +kernel
example : ¬ Diagnostic "true [1] [99]" := fun h => by
  have := Lemmas.C19Accept.diag_head h
  simp at this

end C19

#print axioms C19.sendOutcomes_sound
#print axioms C19.sendOutcomes_terminated
#print axioms C19.recvOutcomes_sound
#print axioms C19.sendFinal_eq
#print axioms C19.recvFinal_eq
#print axioms C19.verdict_model
#print axioms C19.renderSend_not_diagnostic
#print axioms C19.sendLine_accept_sound
#print axioms C19.recvLine_accept_sound
#print axioms C19.val_not_in_fill
#print axioms C19.send_accepted
#print axioms C19.recv_accepted
