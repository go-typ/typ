import TypVerif.Lemmas.SetConc
import TypVerif.Props.C04conc
import TypVerif.Props.C05
/-
C05, concurrent half: `sync2.Set` is an atomic set under every schedule — a corollary of C04's concurrent theorem.

`Set[T]` wraps `Map[T, struct{}]` (`sync2/set.go`): `Add(v) = !loaded of m.LoadOrStore(v, struct{}{})`,
`Remove(v) = loaded of m.LoadAndDelete(v)`, `Has(v) = ok of m.Load(v)` (`C05.atomic_seq`).  A concurrent execution of
Add/Remove/Has on a Set therefore IS an execution of the step-level map model `Model.SyncMapConc` with `V := Unit`,
`zst := true` and a menu of `.loadOrStore v ()`, `.loadAndDelete v`, `.load v` operations; the Set-level history
(`Lemmas.SetConc.setHist`) renames the invocations and replaces every response by the Bool the Set method computes from it.
The set specification is `Lemmas.SetConc.setSpec` (`Spec.AtomicSet.sstep` as an `AtomicObj.Spec`).
-/
namespace C05
open TypVerif TypVerif.Conc TypVerif.Model TypVerif.Model.AtomicObj
open TypVerif.Model.SyncMapConc (Op Res sys)
open TypVerif.Spec.AtomicSet
open TypVerif.Lemmas.Smc (mapSpec applyOp evOf)
open TypVerif.Lemmas.SetConc

set_option linter.unusedSectionVars false   -- several statements below do not use the section's `[DecidableEq α]`

variable {α : Type} [DecidableEq α]

/-- **The homomorphism.**  Membership `φ m v = (m v).isSome` maps every step of the map specification on a set-shaped
operation (`LoadOrStore(v, {})`, `LoadAndDelete(v)`, `Load(v)`) to the step of the set specification on `Add(v)`,
`Remove(v)`, `Has(v)`, the set-level result being `!loaded`, `loaded`, `ok` of the map-level result. -/
theorem set_hom {m m' : α → Option Unit} {op : Op α Unit} {r : Res α Unit} {sop : SOp α}
    (h : (m', r) ∈ applyOp m op) (hs : toSetOp op = some sop) : sstep (φ m) sop = (φ m', toSetRes op r) :=
  sstep_hom h hs

/-- **Transfer.**  If a history of map calls is linearizable with respect to the ordinary map `α → Option Unit` and all
its invocations are set-shaped, then its translation to the Set level is linearizable with respect to the set
specification (the witness is the translated log: same positions of the linearization points). -/
theorem set_transfer {h : List (Event (Op α Unit) (Res α Unit))} (hl : Linearizable (mapSpec α Unit) h)
    (hs : ∀ t op, Event.inv t op ∈ h → (toSetOp op).isSome = true) :
    Linearizable (setSpec α) (setHist h) :=
  transfer hl hs

/-- **`sync2.Set` is linearizable for every schedule.**  For any number `n` of goroutines calling, in any order and any
number of times, operations from any finite menu of `Add`/`Remove`/`Has` calls (i.e. of the map calls `Set` makes for them;
value type `struct{}`, so `zst = true`): the Set-level invocation/response history of EVERY execution of the step-level
model of `sync2.Map` is linearizable with respect to the sequential set (one Bool per value; `Add` reports "was absent",
`Remove` and `Has` report "was present"). -/
theorem conc_linearizable (menu : List (Op α Unit)) (hmenu : ∀ op ∈ menu, (toSetOp op).isSome = true) (n : Nat)
    {s : SyncMapConc.State α Unit} {ls : List (Option (SyncMapConc.Event α Unit))}
    (he : Exec (sys α Unit menu n true) (SyncMapConc.init n true) ls s) :
    Linearizable (setSpec α) (setHist (ls.filterMap (·.bind evOf))) :=
  transfer (C04.conc_linearizable menu n true he) (fun t op hm => hmenu op (hist_inv_menu he t op hm))

/-- **Alternation for every schedule.**  Consequently every such execution has a linearization — a log `log` that
completes the Set-level history by one linearization point per call, each inside the call's interval and carrying the
call's result (`runThread`; hence consistent with real time: `Lemmas.AtomicObj.lin_in_interval`) — whose sequence of
`(call, result)` pairs, oldest first, is a sequential history `srun ops` of the set specification; in it, for each value
`v`, the successful Adds and Removes alternate starting with an Add, and `#okAdd = #okRemove + (1 if v is finally a
member else 0)`, so the difference is 0 or 1 and equals the final membership. -/
theorem conc_alternate (menu : List (Op α Unit)) (hmenu : ∀ op ∈ menu, (toSetOp op).isSome = true) (n : Nat)
    {s : SyncMapConc.State α Unit} {ls : List (Option (SyncMapConc.Event α Unit))}
    (he : Exec (sys α Unit menu n true) (SyncMapConc.init n true) ls s) :
    ∃ (log : List (Entry (SOp α) Bool)) (ops : List (SOp α)),
      histOf log = setHist (ls.filterMap (·.bind evOf)) ∧
      (∀ t, (runThread t log).isSome = true) ∧
      SeqRun (setSpec α) (linsOf log) (srun ops).1 ∧
      (srun ops).2 = (linsOf log).reverse ∧
      ∀ v, Alternates true (events v (linsOf log).reverse) ∧
        countTrue (events v (linsOf log).reverse) =
          countFalse (events v (linsOf log).reverse) + (if (srun ops).1 v then 1 else 0) := by
  obtain ⟨log, ops, h1, h2, h3, h4⟩ := linearization_srun (conc_linearizable menu hmenu n he)
  refine ⟨log, ops, h1, h2, h3, h4, ?_⟩
  intro v
  rw [← h4]
  exact alternate ops v

/-- **Two Adds of one value cannot both report success** unless a successful Remove of that value takes effect between
them: in the linearization of `conc_alternate` (any log/sequential history with the alternation property), between the
linearization points of two successful `Add v` lies the point of a successful `Remove v`.  (For two overlapping Adds and no
Remove at all, at most one reports `true`.) -/
theorem conc_add_add (v : α) (lins pre mid post : List (SOp α × Bool)) (halt : Alternates true (events v lins))
    (hsplit : lins = pre ++ (SOp.add v, true) :: (mid ++ (SOp.add v, true) :: post)) :
    (SOp.remove v, true) ∈ mid := by
  subst hsplit
  exact add_add_remove v true pre mid post halt

/-- **Two Adds of one value cannot both report success (history level).**  If no goroutine ever calls `Remove v` (the menu
has no `LoadAndDelete v`), then in EVERY execution at most one completed `Add v` call returns `true` — however the calls
overlap.  (`calls h`: the completed calls of the history `h`, each response paired with the goroutine's most recent
invocation.  Proof: every completed call has its own linearization point with the same operation and result
(`Lemmas.SetConc.calls_le_lins`), and by `conc_alternate` `#okAdd = #okRemove + (0 or 1) = 0 + (0 or 1)`.) -/
theorem conc_add_once (menu : List (Op α Unit)) (hmenu : ∀ op ∈ menu, (toSetOp op).isSome = true) (v : α)
    (hnorem : ∀ op ∈ menu, op ≠ .loadAndDelete v) (n : Nat)
    {s : SyncMapConc.State α Unit} {ls : List (Option (SyncMapConc.Event α Unit))}
    (he : Exec (sys α Unit menu n true) (SyncMapConc.init n true) ls s) :
    (calls (setHist (ls.filterMap (·.bind evOf)))).countP (fun c => decide (c.2 = (SOp.add v, true))) ≤ 1 := by
  obtain ⟨log, ops, h1, h2, _, _, h5⟩ := conc_alternate menu hmenu n he
  rw [← h1, calls_histOf]
  apply add_once_log log h2 v
  · intro t hm
    rw [h1] at hm
    obtain ⟨op, ho1, ho2⟩ := inv_mem_setHist t _ _ hm
    exact hnorem op (hist_inv_menu he t op ho1) (toSetOp_remove ho2)
  · rw [(h5 v).2]
    exact Nat.add_le_add_left (by split <;> decide) _

/-- **Every completed call has its own linearization point** carrying the same goroutine, operation and result: in a
well-formed log, for every predicate, no more completed calls than linearization entries satisfy it (generic in the
specification; with `lin_in_interval` this is what makes the sequential history of the points speak about the results
the callers actually saw). -/
theorem calls_have_points {O R : Type} [DecidableEq O] [DecidableEq R] (log : List (Entry O R))
    (hthr : ∀ t, (runThread t log).isSome = true) (Q : Nat × O × R → Bool) :
    (calls (histOf log)).countP Q ≤ (linsT log).countP Q := by
  rw [calls_histOf]
  exact calls_le_lins log hthr Q

/-- a legal sequential history of `setSpec` (as used by `Linearizable`) is exactly a history of `Spec.AtomicSet.srun` -/
theorem seq_is_srun (h : List (SOp α × Bool)) (σ : α → Bool) (hs : SeqRun (setSpec α) h σ) :
    srun (h.reverse.map Prod.fst) = (σ, h.reverse) :=
  seqRun_srun h σ hs

/-! Non-vacuity -/

/-- the menu of a Set on two values -/
def menu2 : List (Op Int Unit) :=
  [.loadOrStore 1 (), .loadAndDelete 1, .load 1, .loadOrStore 2 (), .loadAndDelete 2, .load 2]

example : ∀ op ∈ menu2, (toSetOp op).isSome = true := by decide

/-- the translation of a history with two overlapping Adds, a Has and a Remove -/
example : setHist ([.inv 0 (.loadOrStore 1 ()), .inv 1 (.loadOrStore 1 ()), .res 1 (.pair () false), .res 0 (.pair () true),
      .inv 1 (.load 1), .res 1 (.val (some ())), .inv 0 (.loadAndDelete 1), .res 0 (.val (some ())),
      .inv 0 (.loadAndDelete 1), .res 0 (.val none)] : List (Event (Op Int Unit) (Res Int Unit))) =
    [.inv 0 (.add 1), .inv 1 (.add 1), .res 1 true, .res 0 false, .inv 1 (.has 1), .res 1 true,
      .inv 0 (.remove 1), .res 0 true, .inv 0 (.remove 1), .res 0 false] := by decide +kernel

/-- the system runs: two goroutines invoke `Add 1` concurrently -/
example : ∃ ls s, Exec (sys Int Unit menu2 2 true) (SyncMapConc.init 2 true) ls s ∧
    setHist (ls.filterMap (·.bind evOf)) = [.inv 0 (.add 1), .inv 1 (.add 1)] := by
  refine ⟨[some (.inv 0 (.loadOrStore 1 ())), some (.inv 1 (.loadOrStore 1 ()))], _,
    Exec.cons (s' := SyncMapConc.setPc (SyncMapConc.init 2 true) 0 { zst := true } (.start (.loadOrStore 1 ()))) ?h1
      (Exec.cons (s' := SyncMapConc.setPc (SyncMapConc.setPc (SyncMapConc.init 2 true) 0 { zst := true }
        (.start (.loadOrStore 1 ()))) 1 { zst := true } (.start (.loadOrStore 1 ()))) ?h2 (Exec.nil _)), ?_⟩
  case h1 => decide +kernel
  case h2 => decide +kernel
  decide +kernel

/-- the completed calls of a Set-level history (newest first) -/
example : calls ([.inv 0 (.add 1), .inv 1 (.add 1), .res 1 true, .res 0 false, .inv 1 (.has 1)] :
    List (Event (SOp Int) Bool)) = [(0, .add 1, false), (1, .add 1, true)] := by decide +kernel

/-- a menu without `Remove 1` -/
example : ∀ op ∈ ([.loadOrStore 1 (), .load 1, .loadAndDelete 2] : List (Op Int Unit)),
    (toSetOp op).isSome = true ∧ op ≠ .loadAndDelete 1 := by decide

/-- the set specification distinguishes results: a lone `Add 1` reporting `false` is not a sequential history -/
example : ¬ ∃ σ, SeqRun (setSpec Int) [(.add 1, false)] σ := by
  rintro ⟨σ, h⟩
  have := seq_is_srun _ σ h
  have h2 : ([(SOp.add 1, true)] : List (SOp Int × Bool)) = [(SOp.add 1, false)] := congrArg Prod.snd this
  exact absurd h2 (by decide)

/-- the homomorphism on a concrete step -/
example : sstep (φ (fun _ : Int => none)) (.add 1) = (φ (TypVerif.Lemmas.Smc.put (fun _ => none) 1 ()), true) :=
  set_hom (op := .loadOrStore 1 ()) (List.mem_singleton.mpr rfl) rfl

end C05

section AxiomCheck
#print axioms C05.set_hom
#print axioms C05.set_transfer
#print axioms C05.conc_linearizable
#print axioms C05.conc_alternate
#print axioms C05.conc_add_add
#print axioms C05.conc_add_once
#print axioms C05.calls_have_points
#print axioms C05.seq_is_srun
end AxiomCheck
