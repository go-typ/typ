import TypVerif.Gen.OnceShapes
/-
C17, tie 4B — GOLDEN FUNCTION SHAPES (written by tools/mkshapes.py; do not edit by hand).  For every function of the source files this property's model mirrors,
the extractor regenerates on every run: its calls, its stores through selectors / indices / pointers, its conditions and loop headers, its select cases and
its return expressions, in source order.  The theorems below state that these equal the shapes of the tree the model was written against.  They are the STATIC,
all-paths complement of the differential runs: a guard dropped, a fast path or a threshold added, an early return, a changed comparison or a different callee
on ANY path - also one that no generated input happens to take - changes the regenerated list and breaks the evaluation (`rfl`; for a list filtered by function name the mask of `Lemmas/FilterMask.lean`, then `rfl`).  A broken shape theorem is reported like a
broken proof (with a failing input when the search finds one, else `no-failing-input-found`); after a deliberate change of the source the changed functions are
re-read against the model and this file is regenerated.
-/
namespace C17

/-- sync2/once.go: 3 function(s) -/
theorem gen_shapes_once :
    Gen.OnceShapes.funcs =
      [("Once1.Do", ["call o.once.Do", "store o.R1", "call f", "return o.R1"]),
       ("Once2.Do", ["call o.once.Do", "store o.R1", "store o.R2", "call f", "return o.R1, o.R2"]),
       ("Once3.Do", ["call o.once.Do", "store o.R1", "store o.R2", "store o.R3", "call f", "return o.R1, o.R2, o.R3"])] := rfl

end C17
