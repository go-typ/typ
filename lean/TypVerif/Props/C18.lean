import TypVerif.Lemmas.AtomicObj
import TypVerif.Lemmas.AtomicValue
import TypVerif.Lemmas.Pool
import TypVerif.Lemmas.PoolSource
import TypVerif.Lemmas.PoolLin
/-
C18: "AtomicValue[T] behaves under any interleaving as one atomic register: Load returns the zero value
before the first Store and otherwise the most recently stored value, Swap returns the value it replaced, and
once a value has been stored CompareAndSwap succeeds exactly when the current value equals old - each call
taking effect atomically between its invocation and return. Pool[T].Get returns either a value previously
Put and not handed out since, or a fresh result of New (the zero value when New is nil), so no value is ever
held by two Get callers at once. Concurrent Get and Put calls are free of data races."

Systems: `AtomicObj.sys AtomicValue.spec menu n` and `Pool.sys hasNew menu n`: `n` goroutines (any n) calling
operations from `menu` (any finite menu) in any order and interleaving.
-/
namespace C18
open TypVerif TypVerif.Conc TypVerif.Model

/-! ## generic: the atomic-object system is linearizable (all schedules) -/

theorem AtomicObj.linearizable (S : AtomicObj.Spec) [DecidableEq S.Op] [DecidableEq S.Res]
    (menu : List S.Op) (n : Nat) {ls : List (Option (AtomicObj.Event S.Op S.Res))}
    {s : (AtomicObj.sys S menu n).State}
    (he : Exec (AtomicObj.sys S menu n) (AtomicObj.sys S menu n).init ls s) :
    AtomicObj.Linearizable S (visible ls) :=
  Lemmas.AtomicObj.linearizable S menu n he

/-- the linearization point lies inside the operation's interval (so real-time order is respected) -/
theorem AtomicObj.lin_in_interval {Op Res : Type} [DecidableEq Op] [DecidableEq Res]
    (t : Nat) (op : Op) (r : Res) (pre post : List (AtomicObj.Entry Op Res))
    (h : (AtomicObj.runThread t (post ++ AtomicObj.Entry.lin t op r :: pre)).isSome = true) :
    AtomicObj.runThread t pre = some (.pending op) ∧
    ∀ post1 e post2, post = post2 ++ e :: post1 → e.tid = t → (∀ x ∈ post1, x.tid ≠ t) →
      e = AtomicObj.Entry.res t r :=
  Lemmas.AtomicObj.lin_in_interval t op r pre post h

/-! ## AtomicValue -/
section Register
open TypVerif.Model.AtomicValue TypVerif.Spec.Register TypVerif.Lemmas.AtomicValue

/-- each wrapper method is one atomic step (`AtomicValue.spec` is an `AtomicObj` instance whose `apply` has
exactly one outcome) and that outcome is one the register specification allows — equal to it once a value
has been stored; so every execution is linearizable to the register, the step being the instant. -/
theorem register :
    (∀ σ op, (AtomicValue.apply σ op).length = 1) ∧
    (∀ σ op p, p ∈ AtomicValue.apply σ op → p ∈ Spec.Register.apply σ op) ∧
    (∀ c op, AtomicValue.apply (some c) op = Spec.Register.apply (some c) op) ∧
    (∀ (menu : List Op) (n : Nat) (ls : List (Option (AtomicObj.Event Op Res)))
       (s : (AtomicObj.sys AtomicValue.spec menu n).State),
       Exec (AtomicObj.sys AtomicValue.spec menu n) (AtomicObj.sys AtomicValue.spec menu n).init ls s →
       AtomicObj.Linearizable Spec.Register.spec (visible ls)) :=
  ⟨Lemmas.AtomicValue.apply_length, Lemmas.AtomicValue.apply_refines, Lemmas.AtomicValue.apply_eq_after_store,
   fun menu n _ _ he => Lemmas.AtomicValue.linearizable_register menu n he⟩

/-- Load returns the zero value before the first store (no Store/Swap/successful CAS has taken effect) -/
theorem load_zero_before_store {menu : List Op} {n : Nat} {s s' : AtomicObj.State (Option Int) Op Res}
    {t : Nat} {r : Res}
    (hr : Reachable (AtomicObj.sys AtomicValue.spec menu n) s)
    (hnone : lastStored (AtomicObj.linsOf s.log) = none) (h : LinStep menu s s' t .load r) :
    r = .val 0 ∧ s'.obj = s.obj := by
  have hl := load_lastStored hr h
  rwa [hnone] at hl

/-- otherwise Load returns the most recently stored value (in linearization order) -/
theorem load_latest {menu : List Op} {n : Nat} {s s' : AtomicObj.State (Option Int) Op Res}
    {t : Nat} {r : Res} {v : Int}
    (hr : Reachable (AtomicObj.sys AtomicValue.spec menu n) s)
    (hlast : lastStored (AtomicObj.linsOf s.log) = some v) (h : LinStep menu s s' t .load r) :
    r = .val v ∧ s'.obj = s.obj := by
  have hl := load_lastStored hr h
  rwa [hlast] at hl

/-- Swap returns the value it replaced (zero if none) and stores the new one -/
theorem swap_returns_previous {menu : List Op} {n : Nat} {s s' : AtomicObj.State (Option Int) Op Res}
    {t : Nat} {r : Res} {v : Int}
    (hr : Reachable (AtomicObj.sys AtomicValue.spec menu n) s) (h : LinStep menu s s' t (.swap v) r) :
    r = .val (cur (lastStored (AtomicObj.linsOf s.log))) ∧ s'.obj = some v := by
  obtain ⟨_, this⟩ := linStep_lastStored hr h
  obtain ⟨h1, h2⟩ := Prod.mk.inj (List.mem_singleton.mp this)
  exact ⟨h2.trans (by cases lastStored (AtomicObj.linsOf s.log) <;> rfl), h1⟩

/-- once a value has been stored, CompareAndSwap succeeds exactly when the current value equals `old`,
and then (only then) replaces it -/
theorem cas_iff_equal {menu : List Op} {n : Nat} {s s' : AtomicObj.State (Option Int) Op Res}
    {t : Nat} {r : Res} {c old new : Int}
    (hr : Reachable (AtomicObj.sys AtomicValue.spec menu n) s)
    (hlast : lastStored (AtomicObj.linsOf s.log) = some c) (h : LinStep menu s s' t (.cas old new) r) :
    r = .bool (decide (c = old)) ∧ s'.obj = some (if c = old then new else c) := by
  obtain ⟨_, this⟩ := linStep_lastStored hr h
  rw [hlast] at this
  obtain ⟨h1, h2⟩ := Prod.mk.inj (List.mem_singleton.mp this)
  rw [atomCAS_some] at h1 h2
  exact ⟨h2, h1⟩

/-! non-vacuity: store 7 ‖ load; cas on the empty value fails although Load shows 0 -/
example : Conc.accepts (AtomicObj.sys AtomicValue.spec [.load, .store 7, .cas 0 5] 2) 16
    [.inv 0 (.store 7), .inv 1 .load, .res 1 (.val 7), .res 0 .done, .inv 1 .load, .res 1 (.val 7)] = true := by
  decide +kernel
example : Conc.accepts (AtomicObj.sys AtomicValue.spec [.load, .store 7, .cas 0 5] 2) 16
    [.inv 0 (.store 7), .res 0 .done, .inv 1 .load, .res 1 (.val 0)] = false := by decide +kernel
example : Conc.accepts (AtomicObj.sys AtomicValue.spec [.load, .store 7, .cas 0 5] 2) 16
    [.inv 0 .load, .res 0 (.val 0), .inv 0 (.cas 0 5), .res 0 (.bool false)] = true := by decide +kernel

end Register

/-! ## Pool -/
section PoolSec
open TypVerif.Model.Pool TypVerif.Lemmas.Pool

/-- in every reachable state no item is owned by two goroutines, owned twice by one, or owned and in the pool
(callers put only what they hold: built into `Pool.sys`); the pool holds no item twice -/
theorem pool_no_double {hasNew : Bool} {menu : List Op} {n : Nat} {s : State}
    (h : Reachable (sys hasNew menu n) s) :
    (∀ t1 t2 id, id ∈ (s.thr t1).items → id ∈ (s.thr t2).items → t1 = t2) ∧
    (∀ t, (s.thr t).items.Nodup) ∧
    (∀ t id, id ∈ (s.thr t).items → id ∉ s.bag) ∧
    s.bag.Nodup :=
  let hg := good_reachable hasNew menu n s h
  ⟨hg.owner, hg.nodupT, hg.notBag, hg.nodupB⟩

/-- a `Get` result is an item removed from the pool by this very call, or a fresh `New` id, or zero;
and it is zero iff `New` is nil -/
theorem pool_get_source {hasNew : Bool} {menu : List Op} {n : Nat} {s s' : State} {l : Option Event}
    {t : Nat} {x : Option Nat}
    (h : Reachable (sys hasNew menu n) s) (hstep : (l, s') ∈ (sys hasNew menu n).succ s)
    (hpc' : (s'.thr t).pc = .gRet x) :
    ((s.thr t).pc = .gRet x ∨
     (hasNew = false ∧ x = none ∧ s'.bag = s.bag ∧ s'.fresh = s.fresh) ∨
     (∃ i, x = some i ∧ i ∈ s.bag ∧ s'.bag = s.bag.erase i ∧ s'.fresh = s.fresh) ∨
     (x = some s.fresh ∧ s'.fresh = s.fresh + 1 ∧ s'.bag = s.bag)) ∧
    (x.getD 0 = 0 ↔ hasNew = false) := by
  constructor
  · rcases get_source hstep hpc' with h1 | ⟨_, h2⟩ | ⟨_, h3⟩ | ⟨_, h4⟩
    · exact Or.inl h1
    · exact Or.inr (Or.inl h2)
    · exact Or.inr (Or.inr (Or.inl h3))
    · exact Or.inr (Or.inr (Or.inr h4))
  · have hr' : Reachable (sys hasNew menu n) s' := Reachable.step h hstep
    have hn := newOk_reachable hasNew menu n s' hr' t
    have hg := good_reachable hasNew menu n s' hr'
    rw [hpc'] at hn
    cases x with
    | none => exact iff_of_true rfl hn
    | some i =>
      have hi : i ≠ 0 := (hg.known i (Or.inr ⟨t, by simp [Owns, items_eq, hpc', localItems]⟩)).1
      exact iff_of_false hi (hn ▸ Bool.noConfusion)

/-- … and the `res` event reports exactly that value -/
theorem pool_get_result {hasNew : Bool} {menu : List Op} {n : Nat} {s s' : State} {t id : Nat}
    (hstep : (some (AtomicObj.Event.res t (Res.item id)), s') ∈ (sys hasNew menu n).succ s) :
    ∃ x, (s.thr t).pc = .gRet x ∧ id = x.getD 0 := by
  obtain ⟨_, _, hshape⟩ := step_shape hstep
  cases hshape
  exact ⟨_, by assumption, rfl⟩

/-- every execution of the wrapper-level system is linearizable to the bag: `Get` returns an item put before and
not handed out since, or a fresh `New()`, or zero when `New` is nil — each call taking effect at one instant -/
theorem pool_linearizable (hasNew : Bool) (menu : List Op) (n : Nat) {ls : List (Option Event)}
    {s : (sys hasNew menu n).State} (he : Exec (sys hasNew menu n) (sys hasNew menu n).init ls s) :
    AtomicObj.Linearizable (bagSpec hasNew) (visible ls) :=
  Lemmas.Pool.pool_linearizable hasNew menu n he

/-- no reachable state has two goroutines about to perform conflicting plain accesses.  Reachability plays no
part: the plain accesses of `Get`/`Put` are reads, so no state whatever is racy (`not_racy`) -/
theorem pool_race_free {hasNew : Bool} {menu : List Op} {n : Nat} {s : State}
    (_h : Reachable (sys hasNew menu n) s) : ¬ racy false s :=
  not_racy s

/-! non-vacuity -/
-- two goroutines, an item put and got back by the other one
example : Conc.accepts (sys true [.get, .put 5] 2) 16
    [.inv 0 (.put 5), .res 0 .done, .inv 1 .get, .res 1 (.item 5), .inv 0 .get, .res 0 (.item 1000)] = true := by
  decide +kernel
-- the same item cannot be handed out twice
example : Conc.accepts (sys true [.get, .put 5] 2) 16
    [.inv 0 (.put 5), .res 0 .done, .inv 1 .get, .res 1 (.item 5), .inv 0 .get, .res 0 (.item 5)] = false := by
  decide +kernel
-- the race theorem discriminates: with the pinned `Get` (which writes `p.pool.New`) two goroutines that have
-- both passed the nil check are racy
def racyState : State := { thrs := [⟨.g1, []⟩, ⟨.g1, []⟩], bag := [], fresh := 1000, minted := [] }
example : racyState ∈ Conc.after (sys true [.get] 2) 16 [.inv 0 .get, .inv 1 .get] := by decide +kernel
example : racy true racyState := ⟨0, 1, by decide, ⟨.poolNew, true⟩, by decide, ⟨.poolNew, true⟩, by decide, by decide⟩

end PoolSec
end C18

#print axioms C18.AtomicObj.linearizable
#print axioms C18.AtomicObj.lin_in_interval
#print axioms C18.register
#print axioms C18.load_zero_before_store
#print axioms C18.load_latest
#print axioms C18.swap_returns_previous
#print axioms C18.cas_iff_equal
#print axioms C18.pool_no_double
#print axioms C18.pool_get_source
#print axioms C18.pool_get_result
#print axioms C18.pool_linearizable
#print axioms C18.pool_race_free
