import TypVerif.Lemmas.SyncMapRange
/-
C04, sequential half: every single-goroutine call sequence on `sync2.Map` (model `Model/SyncMap.lean`)
keeps the structural invariant `SeqInv` (S1–S6 of DESIGN §8, and S7: a dirty map only when `amended`) of the read-map / dirty-map / expunged state machine and
returns exactly what the ordinary map `K → Option V` (`Spec/PMap.lean`) returns.
-/
namespace C04
open TypVerif
open TypVerif.Model.SyncMap
open TypVerif.Lemmas.SyncMap
open TypVerif.Spec.PMap (Op Out)

set_option linter.unusedSectionVars false

variable {K V : Type} [DecidableEq K] [Inhabited V]

/-- every call sequence (Load, Store, LoadOrStore, LoadAndDelete, Delete, Range in any order with any
stop count) leaves the map in a state satisfying `SeqInv`; in particular the nil-map write never happens -/
theorem seq_inv (ops : List (Op K V)) : SeqInv (run ops).1 :=
  (runFrom_ok ops State.init SeqInv.init_ok).1

/-- one-step simulation: from any state satisfying `SeqInv`, a call acts on the abstraction as the
ordinary map does, and returns the same result -/
theorem seq_step (s : State K V) (h : SeqInv s) (op : Op K V) :
    SeqInv (step s op).1 ∧ abs (step s op).1 = (Spec.PMap.apply (abs s) op).1 ∧
    (step s op).2 = (Spec.PMap.apply (abs s) op).2 :=
  step_ok h op

example : SeqInv (State.init : State Int Int) := SeqInv.init_ok

/-- the outputs of every call sequence equal those of the ordinary map -/
theorem seq_refines (ops : List (Op K V)) : (run ops).2 = (Spec.PMap.run ops).2 := by
  have := (runFrom_ok ops State.init SeqInv.init_ok).2.2
  rw [abs_init] at this
  exact this

/-- and the final abstraction is the final ordinary map -/
theorem seq_abs (ops : List (Op K V)) : abs (run ops).1 = (Spec.PMap.run ops).1 := by
  have := (runFrom_ok ops State.init SeqInv.init_ok).2.1
  rw [abs_init] at this
  exact this

/-- Range, for any visiting order of `read.m` and any stop count `n` (the callback answers false on its
n-th call; n ≤ 0: never): the state keeps `SeqInv`, the abstraction is unchanged, the callback keys are
distinct, every callback pair is a current mapping, with n ≤ 0 every present key is called back, and
the number of callbacks is `min(n, size)` (`size` when n ≤ 0) for every duplicate-free enumeration `keys`
of the present keys. -/
theorem range_seq (s : State K V) (h : SeqInv s) (order : List K) (n : Int)
    (hperm : order.Perm (akeys (rangePromote s).read)) :
    SeqInv (rangeOrd s order n).1 ∧ (∀ k, abs (rangeOrd s order n).1 k = abs s k) ∧
    ((rangeOrd s order n).2.map Prod.fst).Nodup ∧
    (∀ k v, (k, v) ∈ (rangeOrd s order n).2 → abs s k = some v) ∧
    (n ≤ 0 → ∀ k v, abs s k = some v → (k, v) ∈ (rangeOrd s order n).2) ∧
    (∀ keys : List K, keys.Nodup → (∀ k, k ∈ keys ↔ abs s k ≠ none) →
      (rangeOrd s order n).2.length = if n ≤ 0 then keys.length else min n.toNat keys.length) :=
  Lemmas.SyncMap.range_seq h order n hperm

/-- the callback sequence is the prefix, cut after the n-th, of the present keys of `order` -/
theorem range_prefix (s : State K V) (h : SeqInv s) (order : List K) (n : Int) :
    (rangeOrd s order n).2 = Spec.PMap.cut n (Spec.PMap.visit (abs s) order) :=
  (rangeOrd_ok h order n).2.2

/-! Non-vacuity: a history that goes through promotion, re-creation of the dirty map with an expunged
entry, and un-expunging; a Range in a non-list order with a stop count. -/

def demoOps : List (Op Int Int) :=
  [.store 1 10, .store 2 20, .load 1, .load 1, .loadAndDelete 1, .store 3 30, .load 1, .store 1 11,
   .loadOrStore 1 5, .loadOrStore 4 5, .delete 2, .load 2]

example : (run demoOps).2 =
    [.unit, .unit, .val (some 10), .val (some 10), .val (some 10), .unit, .val none, .unit,
     .pair 11 true, .pair 5 false, .unit, .val none] := by decide +kernel

example : layout (run (demoOps.take 6)).1 = [2, 1, 2, 0, 1, 0] := by decide +kernel   -- one expunged entry
example : layout (run (demoOps.take 8)).1 = [2, 1, 3, 0, 0, 0] := by decide +kernel   -- un-expunged

example :
    let s := (run ([.store 1 10, .store 2 20, .store 3 30, .range [] 0, .delete 2] : List (Op Int Int))).1
    SeqInv s ∧ [3, 2, 1].Perm (akeys (rangePromote s).read) ∧
    (rangeOrd s [3, 2, 1] 0).2 = [(3, 30), (1, 10)] ∧ (rangeOrd s [3, 2, 1] 1).2 = [(3, 30)] :=
  ⟨seq_inv _, by decide +kernel, by decide +kernel, by decide +kernel⟩

end C04
