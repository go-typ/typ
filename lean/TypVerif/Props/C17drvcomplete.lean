import TypVerif.Lemmas.C17DrvCompleteMain
import TypVerif.Props.C17accept
import TypVerif.Props.C17complete
/-
C17 — THE FOLD THE DRIVER PERFORMS LOSES NO BEHAVIOUR.  `Props/C17complete.lean` proves completeness of the acceptor for the
reduced system `red n arity res` with fixed `n` and `res`.  The judge `Drv/C17.lean` does something else: it starts with zero goroutines,
on every event enlarges `n` to cover the goroutine of the event (padding every state of its set with idle goroutines, `padTo`), and takes
the result function from the event (`fun _ => r` on `fend _ r`, `fun _ => []` otherwise).  `Lemmas.ConcAcceptC17.jstep/jfold` is that
fold on the model part of the judge state, `runLines` the fold of `Drv.C17.step` itself (soundness: `Props/C17accept.lean`).

Here: every visible trace of `Model.Once.sys N arity res` (any `N`, any `res`) leaves the state set of `jfold` non-empty when the
internal-closure fuel is ≥ 3 (the judge uses 64), and the judge `Drv.C17.step`, folded over lines that stand for such a trace, never
rejects, provided the events pass its arity check — which they do when every `res t` has `arity` components.  With soundness:
the judge decides membership in the trace set of the model exactly.

Proof (`Lemmas/C17DrvComplete*.lean`): the model state `s` (N goroutines) is the padding `padTo N p` of its projection `p` to the
`j.n` goroutines the judge knows (the others are idle: their first step is the visible `call`).  Padding commutes with the normal form
`nf`, with urgency (`pick = none`), with `succ` (up to the `call` of a new goroutine) and hence with the internal steps of `red`
(`red_succ_pad_inv`); internal reachability in `red` does not depend on `n`, `arity`, `res` (`covers_indep`); a `fend t r` of the model has
`r = res t`, which is what `resOf` gives the judge.  So the covering invariant `Conc.Covers` (`Lemmas/ConcComplete.lean`) that `Lemmas/OnceRedAccept.lean` uses carries over (`DInv`,
`dinv_tau`, `dinv_vis`): neither the growing `n` nor the per-event `res` loses a behaviour.
-/
namespace C17
open TypVerif TypVerif.Conc TypVerif.Model.Once TypVerif.Drv.C17
open TypVerif.Lemmas.ConcAcceptC17 TypVerif.Proto

/-- what the judge's set contains after a visible trace of the model: the normal form of the projection of the model state to
the goroutines seen so far (all others are still idle) -/
theorem driver_fold_covers (N arity fuel : Nat) (hf : 3 ≤ fuel) (res : Nat → List Int) (ls : List (Option Event))
    (s : State)
    (h : Exec (Model.Once.sys N arity res) (Model.Once.sys N arity res).init ls s) :
    ∃ p, s = padTo N p ∧ p.pcs.length = (jfold arity fuel (visible ls)).n ∧
      Lemmas.OnceRed.nf p ∈ (jfold arity fuel (visible ls)).ss :=
  Lemmas.C17Drv.jfold_complete N arity fuel hf res ls s h

/-- the fold the driver performs never empties its state set on a visible trace of the model (any number of goroutines, any
result function), with internal-closure fuel ≥ 3 -/
theorem driver_accept_complete (N arity fuel : Nat) (hf : 3 ≤ fuel) (res : Nat → List Int) (ls : List (Option Event))
    (s : State)
    (h : Exec (Model.Once.sys N arity res) (Model.Once.sys N arity res).init ls s) :
    (jfold arity fuel (visible ls)).ss ≠ [] :=
  Lemmas.C17Drv.driver_accept_complete N arity fuel hf res ls s h

/-- `driver_accept_complete` at the fuel the judge uses -/
theorem driver_accept_complete_closureFuel (N arity : Nat) (res : Nat → List Int) (ls : List (Option Event)) (s : State)
    (h : Exec (Model.Once.sys N arity res) (Model.Once.sys N arity res).init ls s) :
    (jfold arity closureFuel (visible ls)).ss ≠ [] :=
  Lemmas.C17Drv.driver_accept_complete N arity closureFuel (by decide) res ls s h

/-- the driver's fold accepts exactly the visible traces of the model -/
theorem driver_accept_iff (arity fuel : Nat) (hf : 3 ≤ fuel) (tr : List Event) :
    (jfold arity fuel tr).ss ≠ [] ↔
      ∃ (N : Nat) (res : Nat → List Int) (ls : List (Option Event)) (s : State),
        Exec (Model.Once.sys N arity res) (Model.Once.sys N arity res).init ls s ∧ visible ls = tr := by
  constructor
  · intro h
    exact Lemmas.ConcAcceptC17.driver_accept_sound arity fuel tr h
  · rintro ⟨N, res, ls, s, hex, rfl⟩
    exact driver_accept_complete N arity fuel hf res ls s hex

/-- every event of an execution of the model passes the arity check of the judge when all functions return tuples of the arity -/
theorem model_events_arityOk (N arity : Nat) (res : Nat → List Int) (hres : ∀ t, (res t).length = arity)
    (ls : List (Option Event)) (s : State)
    (h : Exec (Model.Once.sys N arity res) (Model.Once.sys N arity res).init ls s) :
    ∀ e ∈ visible ls, arityOk arity e = true :=
  Lemmas.C17Drv.exec_arityOk N arity res hres h (Lemmas.C17Drv.aok_init N arity)

/-- the judge itself (`Drv.C17.step` folded over the lines after the header `once a`): lines that stand for the visible trace of an
execution of the model with functions of the right arity are never rejected (every model output is `ok`) -/
theorem judge_lines_accept_complete (st0 : St) (a : Int) (impl0 : String) (lines : List (List Val × String))
    (tr : List Event) (hparse : lines.map (fun l => lineEvent a.toNat l.1) = tr.map some)
    (N : Nat) (res : Nat → List Int) (hres : ∀ t, (res t).length = a.toNat) (ls : List (Option Event)) (s : State)
    (hex : Exec (Model.Once.sys N a.toNat res) (Model.Once.sys N a.toNat res).init ls s) (hv : visible ls = tr) :
    (runLines (step st0 [.w "once", .i a] impl0).1 lines).rejected = false :=
  Lemmas.C17Drv.judge_accept_complete st0 a impl0 lines tr hparse N res hres ls s hex hv

/-- the judge decides exactly: it has not rejected iff the events are the visible trace of an execution of the model and all pass
the arity check -/
theorem judge_lines_accept_iff (st0 : St) (a : Int) (impl0 : String) (lines : List (List Val × String))
    (tr : List Event) (hparse : lines.map (fun l => lineEvent a.toNat l.1) = tr.map some) :
    (runLines (step st0 [.w "once", .i a] impl0).1 lines).rejected = false ↔
      (∃ (N : Nat) (res : Nat → List Int) (ls : List (Option Event)) (s : State),
        Exec (Model.Once.sys N a.toNat res) (Model.Once.sys N a.toNat res).init ls s ∧ visible ls = tr) ∧
      ∀ e ∈ tr, arityOk a.toNat e = true :=
  Lemmas.C17Drv.judge_accept_iff st0 a impl0 lines tr hparse

/-- the demo trace of `Props/C17.lean` through the driver's fold (starting from zero goroutines) -/
example : (jfold 2 64 demoTrace).ss ≠ [] := by decide

end C17

#print axioms C17.driver_fold_covers
#print axioms C17.driver_accept_complete
#print axioms C17.driver_accept_complete_closureFuel
#print axioms C17.driver_accept_iff
#print axioms C17.model_events_arityOk
#print axioms C17.judge_lines_accept_complete
#print axioms C17.judge_lines_accept_iff
