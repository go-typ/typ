import TypVerif.Lemmas.C19Complete
import TypVerif.Props.C19accept
/-
C19 — THE OUTCOME ENUMERATION IS COMPLETE for the timed-helper lines of the judge `Drv/C19.lean`
(`sendtimeout / sendcontext / recvtimeout / recvcontext`, functions `sendLine` / `recvLine`).

`Props/C19accept.lean` proves soundness: every enumerated outcome is the outcome of an execution of the scenario system.  Here the
converse: the fuel-bounded enumeration loses nothing.

Every step of `sendSys p` / `recvSys p` is internal and strictly decreases a measure (`Lemmas/C19Complete.lean`: rank of the
helper's program counter (start 4, blk/sel 3, wait 2, stop 1, done 0) + 1 while the timer / context has not fired + the peers'
receive budget + the number of values the peers still send, + 1 while the channel is open on the receive side).  So EVERY
execution from the initial state — for every parameter set `p`, not only the scenarios — has at most

    boundS p = 5 + p.peerRecvs + p.peerSends.length     (send)         ≤ 6 for `sendScenario`
    boundR p = 6 + p.peerRecvs + p.peerSends.length     (receive)      ≤ 7 for `recvScenario`

steps (`exec_length_send`, `exec_length_recv`), and `sendOutcomes fuel p` / `recvOutcomes fuel p` contain the outcome (by the
driver's projection `sendFinal` / `recvFinal`) of every execution as soon as `fuel` is at least that bound
(`sendOutcomes_complete`, `recvOutcomes_complete`; with soundness: `sendOutcomes_iff`, `recvOutcomes_iff`).  The driver's fuel is
64 (`Drv.C19.fuel`).  No termination hypothesis is needed (a terminated execution is an execution whose last state has
`sendFinal s = some o`: `sendFinal` already demands that the helper returned and the peer has nothing left to take).

Consequently the judge never rejects a model outcome: for a well-formed line (`fill ≤ cap`, `peer ≤ 2` resp. `≤ 1` — otherwise the
judge answers `bad-op`) and every outcome `o` of an execution of the scenario system, the line with `impl := renderSend o`
(resp. `renderRecv o`) has `model = impl` (`sendLine_accepts_model_outcome`, `recvLine_accepts_model_outcome`), i.e. is in one of
the two accepted rows of `verdict` (ok, or — never, by `C19.send_iff` — int), and never `rejected:not-in-{…}`.
With soundness: `sendLine_accept_iff`, `recvLine_accept_iff` (the latter two are stated for result strings that are not one of the
judge's own diagnostics, as in `Props/C19accept.lean`).
-/
namespace C19
open TypVerif TypVerif.Conc TypVerif.Model.Chan TypVerif.Model.ChanHelpers TypVerif.Drv.C19
open TypVerif.Lemmas.C19Accept (Diagnostic)
open TypVerif.Lemmas.C19Complete (boundS boundR mS mR succS_dec succR_dec mS_init mR_init)

theorem boundS_eq (p : Params) : boundS p = 5 + p.peerRecvs + p.peerSends.length := rfl
theorem boundR_eq (p : Params) : boundR p = 6 + p.peerRecvs + p.peerSends.length := rfl

/-- every step of the send system is internal and every execution from the initial state has at most `boundS p` steps -/
theorem exec_length_send (p : Params) {s : SState} {ls : List (Option Unit)} (h : Exec (sendSys p) (initS p) ls s) :
    visible ls = [] ∧ ls.length ≤ boundS p :=
  (exec_bound (sys := sendSys p) mS (succS_dec p) h).imp_right fun hl => Nat.le_trans (Nat.le_of_add_right_le hl) (mS_init p)

theorem exec_length_recv (p : Params) {s : RState} {ls : List (Option Unit)} (h : Exec (recvSys p) (initR p) ls s) :
    visible ls = [] ∧ ls.length ≤ boundR p :=
  (exec_bound (sys := recvSys p) mR (succR_dec p) h).imp_right fun hl => Nat.le_trans (Nat.le_of_add_right_le hl) (mR_init p)

/-- the judge's scenarios: at most 6 resp. 7 steps; the driver explores with fuel 64 -/
theorem boundS_scenario (mode : Mode) (cap fill peer : Nat) : boundS (sendScenario mode cap fill peer) ≤ fuel :=
  Nat.le_trans (Lemmas.C19Complete.boundS_scenario mode cap fill peer) (by decide)

theorem boundR_scenario (mode : Mode) (cap fill : Nat) (closed : Bool) (peer : Nat) :
    boundR (recvScenario mode cap fill closed peer) ≤ fuel :=
  Nat.le_trans (Lemmas.C19Complete.boundR_scenario mode cap fill closed peer) (by decide)

/-- **completeness of the send enumeration**: the outcome of every execution from the initial state is enumerated -/
theorem sendOutcomes_complete (fuel : Nat) (p : Params) (hb : boundS p ≤ fuel) {s : SState} {ls : List (Option Unit)}
    {o : Bool × List Int × List Int} (h : Exec (sendSys p) (initS p) ls s) (hf : sendFinal s = some o) :
    o ∈ sendOutcomes fuel p :=
  outcomes_complete (sys := sendSys p) mS (succS_dec p) sendFinal fuel (Nat.le_trans (mS_init p) hb) h hf

/-- **completeness of the receive enumeration** -/
theorem recvOutcomes_complete (fuel : Nat) (p : Params) (hb : boundR p ≤ fuel) {s : RState} {ls : List (Option Unit)}
    {o : Int × Bool × List Int} (h : Exec (recvSys p) (initR p) ls s) (hf : recvFinal s = some o) :
    o ∈ recvOutcomes fuel p :=
  outcomes_complete (sys := recvSys p) mR (succR_dec p) recvFinal fuel (Nat.le_trans (mR_init p) hb) h hf

/-- the enumeration is exactly the set of outcomes of the scenario system -/
theorem sendOutcomes_iff (fuel : Nat) (p : Params) (hb : boundS p ≤ fuel) (o : Bool × List Int × List Int) :
    o ∈ sendOutcomes fuel p ↔
      ∃ (ls : List (Option Unit)) (s : SState), Exec (sendSys p) (initS p) ls s ∧ sendFinal s = some o := by
  constructor
  · intro h
    obtain ⟨ls, s, hex, _, hf⟩ := sendOutcomes_sound fuel p o h
    exact ⟨ls, s, hex, hf⟩
  · rintro ⟨ls, s, hex, hf⟩
    exact sendOutcomes_complete fuel p hb hex hf

theorem recvOutcomes_iff (fuel : Nat) (p : Params) (hb : boundR p ≤ fuel) (o : Int × Bool × List Int) :
    o ∈ recvOutcomes fuel p ↔
      ∃ (ls : List (Option Unit)) (s : RState), Exec (recvSys p) (initR p) ls s ∧ recvFinal s = some o := by
  constructor
  · intro h
    obtain ⟨ls, s, hex, _, hf⟩ := recvOutcomes_sound fuel p o h
    exact ⟨ls, s, hex, hf⟩
  · rintro ⟨ls, s, hex, hf⟩
    exact recvOutcomes_complete fuel p hb hex hf

/-- more fuel than the bound changes nothing: the enumerated sets agree (as sets) for all sufficient fuels -/
theorem sendOutcomes_fuel_irrelevant (f1 f2 : Nat) (p : Params) (h1 : boundS p ≤ f1) (h2 : boundS p ≤ f2)
    (o : Bool × List Int × List Int) : o ∈ sendOutcomes f1 p ↔ o ∈ sendOutcomes f2 p := by
  rw [sendOutcomes_iff f1 p h1, sendOutcomes_iff f2 p h2]

theorem recvOutcomes_fuel_irrelevant (f1 f2 : Nat) (p : Params) (h1 : boundR p ≤ f1) (h2 : boundR p ≤ f2)
    (o : Int × Bool × List Int) : o ∈ recvOutcomes f1 p ↔ o ∈ recvOutcomes f2 p := by
  rw [recvOutcomes_iff f1 p h1, recvOutcomes_iff f2 p h2]

/-- **send lines never reject a model outcome**: on a well-formed line, the rendering of the outcome of any execution of the
scenario system is accepted (`model = impl`) -/
theorem sendLine_accepts_model_outcome (op : String) (mode : Mode) (blocking : Bool) (cap fill peer : Nat)
    (hfc : fill ≤ cap) (hpeer : peer ≤ 2) {ls : List (Option Unit)} {s : SState} {o : Bool × List Int × List Int}
    (hex : Exec (sendSys (sendScenario mode cap fill peer)) (initS (sendScenario mode cap fill peer)) ls s)
    (hf : sendFinal s = some o) :
    (sendLine op mode blocking cap fill peer (renderSend o)).model = renderSend o :=
  (Lemmas.C19Accept.sendLine_line op mode blocking cap fill peer _).accepts (by omega)
    (List.mem_map.2 ⟨o, sendOutcomes_complete fuel _ (boundS_scenario mode cap fill peer) hex hf, rfl⟩)

/-- **receive lines never reject a model outcome** -/
theorem recvLine_accepts_model_outcome (op : String) (mode : Mode) (blocking : Bool) (cap fill : Nat) (closed : Bool)
    (peer : Nat) (hfc : fill ≤ cap) (hpeer : peer ≤ 1) {ls : List (Option Unit)} {s : RState} {o : Int × Bool × List Int}
    (hex : Exec (recvSys (recvScenario mode cap fill closed peer)) (initR (recvScenario mode cap fill closed peer)) ls s)
    (hf : recvFinal s = some o) :
    (recvLine op mode blocking cap fill closed peer (renderRecv o)).model = renderRecv o :=
  (Lemmas.C19Accept.recvLine_line op mode blocking cap fill closed peer _).accepts (by omega)
    (List.mem_map.2 ⟨o, recvOutcomes_complete fuel _ (boundR_scenario mode cap fill closed peer) hex hf, rfl⟩)

/-- acceptance of a send line decides exactly "the result string is the rendering of a model outcome" -/
theorem sendLine_accept_iff (op : String) (mode : Mode) (blocking : Bool) (cap fill peer : Nat) (impl : String)
    (hfc : fill ≤ cap) (hpeer : peer ≤ 2) (hnd : ¬ Diagnostic impl) :
    (sendLine op mode blocking cap fill peer impl).model = impl ↔
      ∃ (ls : List (Option Unit)) (s : SState) (o : Bool × List Int × List Int),
        Exec (sendSys (sendScenario mode cap fill peer)) (initS (sendScenario mode cap fill peer)) ls s ∧
        sendFinal s = some o ∧ renderSend o = impl := by
  constructor
  · intro h
    exact sendLine_accept_sound op mode blocking cap fill peer impl h hnd
  · rintro ⟨ls, s, o, hex, hf, hr⟩
    rw [← hr]
    exact sendLine_accepts_model_outcome op mode blocking cap fill peer hfc hpeer hex hf

theorem recvLine_accept_iff (op : String) (mode : Mode) (blocking : Bool) (cap fill : Nat) (closed : Bool) (peer : Nat)
    (impl : String) (hfc : fill ≤ cap) (hpeer : peer ≤ 1) (hnd : ¬ Diagnostic impl) :
    (recvLine op mode blocking cap fill closed peer impl).model = impl ↔
      ∃ (ls : List (Option Unit)) (s : RState) (o : Int × Bool × List Int),
        Exec (recvSys (recvScenario mode cap fill closed peer)) (initR (recvScenario mode cap fill closed peer)) ls s ∧
        recvFinal s = some o ∧ renderRecv o = impl := by
  constructor
  · intro h
    exact recvLine_accept_sound op mode blocking cap fill closed peer impl h hnd
  · rintro ⟨ls, s, o, hex, hf, hr⟩
    rw [← hr]
    exact recvLine_accepts_model_outcome op mode blocking cap fill closed peer hfc hpeer hex hf

/-- the fuel matters below the bound: with a peer receiver, a positive timeout and a full channel there is an execution of 6 = the
bound steps (start, park, timer fires, peer receives, the send case, `timer.Stop()`); fuel 2 finds no outcome at all, fuel 6 finds
what fuel 64 finds -/
example : sendOutcomes 2 (sendScenario (.timeout 2) 1 1 1) = [] ∧
    sendOutcomes 6 (sendScenario (.timeout 2) 1 1 1) = sendOutcomes fuel (sendScenario (.timeout 2) 1 1 1) := by decide +kernel

end C19

#print axioms C19.exec_length_send
#print axioms C19.exec_length_recv
#print axioms C19.boundS_scenario
#print axioms C19.boundR_scenario
#print axioms C19.sendOutcomes_complete
#print axioms C19.recvOutcomes_complete
#print axioms C19.sendOutcomes_iff
#print axioms C19.recvOutcomes_iff
#print axioms C19.sendOutcomes_fuel_irrelevant
#print axioms C19.recvOutcomes_fuel_irrelevant
#print axioms C19.sendLine_accepts_model_outcome
#print axioms C19.recvLine_accepts_model_outcome
#print axioms C19.sendLine_accept_iff
#print axioms C19.recvLine_accept_iff
