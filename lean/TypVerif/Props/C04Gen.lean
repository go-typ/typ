import TypVerif.Gen.MapHooks
import TypVerif.Gen.LockDiscipline
import TypVerif.Model.SyncMapConc
/-
C04 / C05, tie 4B: the atomic sites of `sync2/map.go` and their hooks are REGENERATED from the source on every run
(`/verif/extract`, `Gen/MapHooks.lean`).  The program points of the step-level model (`Model.SyncMapConc.Pc`, the
system the `C04.conc_*` theorems are about and real step traces are replayed in) are exactly these sites:

* `gen_all_atomic_sites_hooked`: every `atomic.*Pointer`, `read.Load/Store` and `mu.Lock()` in map.go is immediately
  preceded by its hook, one site per statement, and every `range` over a map announces its key — so the controlled
  scheduler sees every atomic action (an atomic access added without a hook, or an unmodelled primitive such as
  `TryLock`, breaks this theorem);
* `gen_sites_are_the_models`: the (function, label) list of the source is the list the model was written against
  (a new, removed or moved site breaks it);
* `model_labels_are_sites`: every program point of the model at which a goroutine is parked before an atomic action
  carries the label of one of these sites.
-/
namespace C04
open TypVerif.Model.SyncMapConc

theorem gen_all_atomic_sites_hooked : Gen.MapHooks.unhooked = [] := rfl

/-- the atomic sites the model was written against, (function, hook label) in source order -/
def modelSites : List (String × String) :=
  [("Load", "Load.readLoad1"),
   ("Load", "lock"),
   ("Load", "Load.readLoad2"),
   ("load", "load.loadPtr1"),
   ("Store", "Store.readLoad1"),
   ("Store", "lock"),
   ("Store", "Store.readLoad2"),
   ("Store", "Store.readStore1"),
   ("tryStore", "tryStore.loadPtr1"),
   ("tryStore", "tryStore.casPtr1"),
   ("unexpungeLocked", "unexpungeLocked.casPtr1"),
   ("storeLocked", "storeLocked.storePtr1"),
   ("LoadOrStore", "LoadOrStore.readLoad1"),
   ("LoadOrStore", "lock"),
   ("LoadOrStore", "LoadOrStore.readLoad2"),
   ("LoadOrStore", "LoadOrStore.readStore1"),
   ("tryLoadOrStore", "tryLoadOrStore.loadPtr1"),
   ("tryLoadOrStore", "tryLoadOrStore.casPtr1"),
   ("tryLoadOrStore", "tryLoadOrStore.loadPtr2"),
   ("LoadAndDelete", "LoadAndDelete.readLoad1"),
   ("LoadAndDelete", "lock"),
   ("LoadAndDelete", "LoadAndDelete.readLoad2"),
   ("delete", "delete.loadPtr1"),
   ("delete", "delete.casPtr1"),
   ("Range", "Range.readLoad1"),
   ("Range", "lock"),
   ("Range", "Range.readLoad2"),
   ("Range", "Range.readStore1"),
   ("missLocked", "missLocked.readStore1"),
   ("dirtyLocked", "dirtyLocked.readLoad1"),
   ("tryExpungeLocked", "tryExpungeLocked.loadPtr1"),
   ("tryExpungeLocked", "tryExpungeLocked.casPtr1"),
   ("tryExpungeLocked", "tryExpungeLocked.loadPtr2")]

theorem gen_sites_are_the_models : Gen.MapHooks.sites = modelSites := rfl

/-- one representative of every program counter of the model that is parked before an atomic action -/
def hookPcs : List (Pc Unit Unit) :=
  [.loadRead1 (), .loadLock (), .loadRead2 (), .loadMiss () none, .loadPtr () 0,
   .storeRead1 () (), .tryStoreLoad () () 0, .tryStoreCas () () 0 .nil, .storeLock () (), .storeRead2 () (), .storeUnexp () () 0,
   .storeLocked () () 0, .dirtyRead .store () () [], .expLoad .store () () [] [] () 0, .expCas .store () () [] [] () 0,
   .expLoad2 .store () () [] [] () 0, .readStore .store () () [], .readStore .los () () [],
   .losRead1 () (), .losLoad .fast () () 0, .losCas .fast () () 0, .losLoad2 .fast () () 0, .losLock () (), .losRead2 () (),
   .losUnexp () () 0, .losMiss () .done, .ladRead1 false (), .ladLock false (), .ladRead2 false (), .ladMiss false () none,
   .delLoad false () 0, .delCas false () 0 .nil, .rangeRead1, .rangeLock, .rangeRead2, .rangeStore [], .rangeLoad [] [] () 0]

theorem model_labels_are_sites : ∀ pc ∈ hookPcs, pc.label ∈ modelSites.map Prod.snd := by decide

/-- **static lock / atomic discipline of map.go** (regenerated from the source on every run; the static half of "concurrent use is
free of data races" — the dynamic half is the race detector): every access to `m.dirty` / `m.misses` lies in a region where `m.mu`
is held (or in a `…Locked` function, which is only called from such regions), `entry.p` is only ever used as `&e.p` in a
`sync/atomic` call, `m.read` only through the methods of `atomic.Value`, and no statement of map.go stores through a dereferenced pointer (`*p = …`: a value published in an
entry is never written again, so the lock-free readers' `*(*T)(p)` cannot race with a writer) — and the check is not vacuous (21 guarded and 28 atomic
accesses in `Gen/LockDiscipline.lean`).  With the mutual exclusion of `mu` (`C04.conc_lock_exclusive`) no two goroutines can access a
plain field concurrently. -/
theorem gen_race_discipline :
    Gen.LockDiscipline.mapViolations = [] ∧ 0 < Gen.LockDiscipline.mapGuardedAccesses ∧ 0 < Gen.LockDiscipline.mapAtomicAccesses :=
  ⟨rfl, by decide, by decide⟩

end C04
