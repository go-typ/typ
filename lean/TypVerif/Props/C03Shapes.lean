import TypVerif.Gen.MapSetShapes
import TypVerif.Gen.SetsShapes
import TypVerif.Gen.SyncSetShapes
/-
C03, tie 4B — GOLDEN FUNCTION SHAPES (written by tools/mkshapes.py; do not edit by hand).  For every function of the source files this property's model mirrors,
the extractor regenerates on every run: its calls, its stores through selectors / indices / pointers, its conditions and loop headers, its select cases and
its return expressions, in source order.  The theorems below state that these equal the shapes of the tree the model was written against.  They are the STATIC,
all-paths complement of the differential runs: a guard dropped, a fast path or a threshold added, an early return, a changed comparison or a different callee
on ANY path - also one that no generated input happens to take - changes the regenerated list and breaks the evaluation (`rfl`; for a list filtered by function name the mask of `Lemmas/FilterMask.lean`, then `rfl`).  A broken shape theorem is reported like a
broken proof (with a failing input when the search finds one, else `no-failing-input-found`); after a deliberate change of the source the changed functions are
re-read against the model and this file is regenerated.
-/
namespace C03

/-- maps/set.go: 17 function(s) -/
theorem gen_shapes_map_set :
    Gen.MapSetShapes.funcs =
      [("NewSetFromSlice", ["call make", "range slice", "call set.Add", "return set"]),
       ("NewSetFromKeys", ["call make", "range m", "call set.Add", "return set"]),
       ("NewSetFromValues", ["call make", "range m", "call set.Add", "return set"]),
       ("Set.String", ["call sb.WriteByte", "range s", "if addDelim", "call sb.WriteByte", "call fmt.Fprint", "call sb.WriteByte", "return sb.String()", "call sb.String"]),
       ("Set.Len", ["return len(s)", "call len"]),
       ("Set.Has", ["return has"]),
       ("Set.Add", ["if s.Has(value)", "call s.Has", "return false", "store s[value]", "return true"]),
       ("Set.AddSet", ["call set.Range", "if s.Add(value)", "call s.Add", "return true", "return added"]),
       ("Set.Remove", ["if !s.Has(value)", "call s.Has", "return false", "call delete", "return true"]),
       ("Set.RemoveSet", ["call set.Range", "if s.Remove(value)", "call s.Remove", "return true", "return removed"]),
       ("Set.Clone", ["call make", "range s", "call clone.Add", "return clone"]),
       ("Set.Slice", ["call make", "call len", "range s", "call append", "return result"]),
       ("Set.Intersect", ["call make", "range s", "if other.Has(v)", "call other.Has", "call result.Add", "return result"]),
       ("Set.Union", ["call s.Clone", "call result.AddSet", "return result"]),
       ("Set.SetDiff", ["call make", "range s", "if !other.Has(v)", "call other.Has", "call result.Add", "return result"]),
       ("Set.SymDiff", ["call s.SetDiff", "call other.Range", "if !s.Has(value)", "call s.Has", "call result.Add", "return true", "return result"]),
       ("Set.Range", ["range s", "if !f(v)", "call f", "break"])] := rfl

/-- sets/sets.go: 1 function(s) -/
theorem gen_shapes_sets :
    Gen.SetsShapes.funcs =
      [("CartesianProduct", ["call a.Range", "call b.Range", "call append", "return true", "return true", "return result"])] := rfl

/-- sync2/set.go: 17 function(s) -/
theorem gen_shapes_sync_set :
    Gen.SyncSetShapes.funcs =
      [("NewSetFromSlice", ["range slice", "call set.Add", "return &set"]),
       ("NewSetFromKeys", ["range m", "call set.Add", "return &set"]),
       ("NewSetFromValues", ["range m", "call set.Add", "return &set"]),
       ("Set.String", ["call sb.WriteByte", "call s.Range", "if addDelim", "call sb.WriteByte", "call fmt.Fprint", "return true", "call sb.WriteByte", "return sb.String()", "call sb.String"]),
       ("Set.Len", ["call s.Range", "return true", "return count"]),
       ("Set.Has", ["call s.m.Load", "return has"]),
       ("Set.Add", ["call s.m.LoadOrStore", "return !loaded"]),
       ("Set.AddSet", ["call set.Range", "if s.Add(value)", "call s.Add", "return true", "return added"]),
       ("Set.Remove", ["call s.m.LoadAndDelete", "return loaded"]),
       ("Set.RemoveSet", ["call set.Range", "if s.Remove(value)", "call s.Remove", "return true", "return removed"]),
       ("Set.Clone", ["call clone.AddSet", "return &clone"]),
       ("Set.Slice", ["call s.m.Range", "call append", "return true", "return result"]),
       ("Set.Intersect", ["call s.Range", "if other.Has(value)", "call other.Has", "call result.Add", "return true", "return &result"]),
       ("Set.Union", ["call s.Clone", "call result.AddSet", "return result"]),
       ("Set.SetDiff", ["call s.Range", "if !other.Has(v)", "call other.Has", "call result.Add", "return true", "return &result"]),
       ("Set.SymDiff", ["call s.SetDiff", "call other.Range", "if !s.Has(v)", "call s.Has", "call result.Add", "return true", "return result"]),
       ("Set.Range", ["call s.m.Range", "return f(v)", "call f"])] := rfl

end C03
