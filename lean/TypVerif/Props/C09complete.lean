import TypVerif.Lemmas.C09CompleteJudge
import TypVerif.Props.C09accept
/-
C09 — ACCEPTANCE IS COMPLETE for the judge "C09" of `Drv/C09.lean` (the fast judge, `step false`): the judge never rejects a
behaviour the model has.  With `Props/C09accept.lean` (soundness): the judge decides exactly the visible traces of
`Model.KeyedMutex.sys`.

Which traces are meant.  The judge reads a header `km rwi` and then lines `inv t kind k` / `res t r`; a line stands for an event
(`lineEvent`).  `Drv.C09.step` has two outcomes on such a line:
  * the ClearKey proviso, decided on real-time overlap of the events alone, is broken (`outside := true`, never reset): the line and
    everything after it is answered `ok` without consulting the model — nothing is rejected from then on, whatever follows;
  * otherwise the state set becomes `advance false rw ss e` — pad, `Drv.C09.stepEvent` — and the judge rejects iff that set is empty.
So completeness is: for EVERY execution of `sys rw N ops` from its initial state (any number of goroutines `N`, any alphabet `ops`),
the lines of its visible trace leave `rejected = none` (`judge_accept_complete`); while the judge is inside the property its state
set moreover covers the model state reached (`judge_follows`).  No assumption on `outside` is needed (a judge that went outside
accepts); for the `iff` with soundness the judge has to be inside at the end (soundness says nothing about lines read outside).

The budget.  `Drv.C09.close rw = closeF rw closeBudget`: the closure under internal steps is cut off after `closeBudget = 10^7`
work-list iterations.  A cut-off closure may miss internally reachable states, and a later event of the model could then be
rejected: completeness holds as long as the closure did not run out of fuel.  `closeF` processes every state it holds exactly once,
so it has not run out of fuel when the result has at most `closeBudget` states (`stepEvent_complete`).  The hypothesis
`WithinBudget st lines` is this condition on the judge's own states (a `Prop`; to check it, run the judge): after every prefix of the lines the state set has at
most `closeBudget` states.  (It cannot be dropped: the number of normal forms grows with the number of goroutines in flight,
there is no bound independent of the trace.)

Layers (`Lemmas/C09AcceptSim.lean`, `Lemmas/C09AcceptJudge.lean`, `Lemmas/C09Complete*.lean`):
  * `R_succ_fwd`: `R` is a FORWARD simulation as well (the judge state can follow every step of the model state it stands for);
  * `stepEvent_complete`: `Drv.C09.stepEvent` contains the normal form of every `e`-successor and is closed under normalised internal
    steps (`Sat`) when within budget;
  * `cover_internal`, `cover_visible`: the model state stays covered (`Cover`: up to goroutines the judge has not padded yet, which
    are idle) through internal and visible steps;
  * `step_parsed_complete`, `follows_runLines`: the fold.
-/
namespace C09
open TypVerif TypVerif.Conc TypVerif.Model.KeyedMutex TypVerif.Drv.C09 TypVerif.Proto
open TypVerif.Lemmas.C09Accept (padBy R Rel WF lineEvent runLines advance evT evOps)
open TypVerif.Lemmas.C09Complete (Sat Cover intNexts WithinBudget Follows)

/-- **forward simulation**: a step of the model state is matched, with the same label, by a step of every judge state standing
for it (the converse of `C09.R_succ`) -/
theorem R_succ_fwd {rw g : Bool} {ops : List Op} {a x a' : State} {l : Option Event}
    (hr : R a x) (h : (l, a') ∈ succ rw g ops a) : ∃ z, (l, z) ∈ succ rw g ops x ∧ R a' z :=
  Lemmas.C09Complete.R_succ_fwd hr h

/-- **one event, the judge's `stepEvent`** (with the closure `close rw = closeF rw closeBudget` it really runs): the new set contains
the normal form of every `e`-successor of a state of the old set, and it is closed under normalised internal steps provided it has
at most `closeBudget` states (then the work list was emptied before the fuel ran out) -/
theorem stepEvent_complete (rw : Bool) (ops : List Op) (ss : List State) (e : Event) :
    (∀ x ∈ ss, ∀ z, (some e, z) ∈ succ rw true ops x → norm z ∈ Drv.C09.stepEvent rw ops ss e) ∧
    ((Drv.C09.stepEvent rw ops ss e).length ≤ closeBudget → Sat rw (Drv.C09.stepEvent rw ops ss e)) :=
  Lemmas.C09Complete.stepEvent_complete rw ops ss e

/-- an internal step of the model keeps the model state covered by a set closed under normalised internal steps -/
theorem cover_internal {rw : Bool} {ops : List Op} {ss : List State} {a a' : State}
    (hsat : Sat rw ss) (hc : Cover ss a) (h : (none, a') ∈ succ rw true ops a) : Cover ss a' :=
  Lemmas.C09Complete.cover_internal hsat hc h

/-- a visible step `e` of the model leads to a state covered by the set the judge computes for `e` — in particular that set is
not empty -/
theorem cover_visible {rw : Bool} {ops : List Op} {ss : List State} {a a' : State} {e : Event}
    (hc : Cover ss a) (h : (some e, a') ∈ succ rw true ops a) : Cover (advance false rw ss e) a' :=
  Lemmas.C09Complete.cover_visible hc h

/-- what `Drv.C09.step` does on an event line when it has not rejected: outside the property (and still not rejected), or `advance`,
rejecting only if that set is empty (the converse of `C09.judge_step_parsed`) -/
theorem judge_step_parsed_complete (ref : Bool) (st : St) (toks : List Val) (impl : String) (e : Event)
    (hp : lineEvent toks = some e) (hst : st.started = true) (hrej : st.rejected = none) :
    ((step ref st toks impl).1.outside = true ∧ (step ref st toks impl).1.rejected = none) ∨
    ((step ref st toks impl).1.outside = false ∧ st.outside = false ∧
      (step ref st toks impl).1.ss = advance ref st.rw st.ss e ∧
      (advance ref st.rw st.ss e ≠ [] → (step ref st toks impl).1.rejected = none)) :=
  Lemmas.C09Accept.step_parsed_complete ref st toks impl e hp hst hrej

/-- **the judge follows the model**: after the header `km rwi` and the lines of the visible trace of an execution of the model
(any `N`, any `ops`), within budget, the judge has not rejected, and if it is still inside the property its state set is closed
under normalised internal steps and covers the model state reached -/
theorem judge_follows (st0 : St) (rwi : Int) (impl0 : String) (N : Nat) (ops : List Op)
    (ls : List (Option Event)) (s : State)
    (hex : Exec (sys (rwi != 0) N ops) (sys (rwi != 0) N ops).init ls s)
    (lines : List (List Val × String))
    (hp : lines.map (fun l => lineEvent l.1) = (visible ls).map some)
    (hb : WithinBudget (step false st0 [.w "km", .i rwi] impl0).1 lines) :
    (runLines false (step false st0 [.w "km", .i rwi] impl0).1 lines).rejected = none ∧
    ((runLines false (step false st0 [.w "km", .i rwi] impl0).1 lines).outside = false →
      Sat (rwi != 0) (runLines false (step false st0 [.w "km", .i rwi] impl0).1 lines).ss ∧
      Cover (runLines false (step false st0 [.w "km", .i rwi] impl0).1 lines).ss s) := by
  obtain ⟨_, _, h3, h4⟩ := Lemmas.C09Complete.fold_complete st0 rwi impl0 N ops ls s
    (Lemmas.C09Accept.ex_of_exec hex) lines hp hb
  exact ⟨h3, h4⟩

/-- **THE JUDGE IS COMPLETE**: the visible trace of an execution of `Model.KeyedMutex.sys` is not rejected by the fold of
`Drv.C09.step false`, as long as the judge's state sets stay within the budget of its closure -/
theorem judge_accept_complete (st0 : St) (rwi : Int) (impl0 : String) (N : Nat) (ops : List Op)
    (ls : List (Option Event)) (s : State)
    (hex : Exec (sys (rwi != 0) N ops) (sys (rwi != 0) N ops).init ls s)
    (lines : List (List Val × String))
    (hp : lines.map (fun l => lineEvent l.1) = (visible ls).map some)
    (hb : WithinBudget (step false st0 [.w "km", .i rwi] impl0).1 lines) :
    (runLines false (step false st0 [.w "km", .i rwi] impl0).1 lines).rejected = none :=
  (judge_follows st0 rwi impl0 N ops ls s hex lines hp hb).1

/-- **the closure reaches every internally reachable state**: a state set closed under normalised internal steps (what `closeF`
returns within budget, `stepEvent_complete`) that covers a model state covers every model state reachable from it by internal steps -/
theorem closure_reaches {rw : Bool} {n : Nat} {ops : List Op} {ss : List State} {a a' : State} {ls : List (Option Event)}
    (hsat : Sat rw ss) (hex : Exec (sys rw n ops) a ls a') (hv : visible ls = []) (hc : Cover ss a) : Cover ss a' :=
  Lemmas.C09Complete.cover_tau hsat (Lemmas.C09Accept.ex_of_exec hex) hv hc

/-- the model verdict of every line of the visible trace of a model execution is the string `ok` (the judge's output, not only its
final state, as in `judge_accept_complete`) -/
theorem judge_outputs_ok (st0 : St) (rwi : Int) (impl0 : String) (N : Nat) (ops : List Op)
    (ls : List (Option Event)) (s : State)
    (hex : Exec (sys (rwi != 0) N ops) (sys (rwi != 0) N ops).init ls s)
    (lines : List (List Val × String))
    (hp : lines.map (fun l => lineEvent l.1) = (visible ls).map some)
    (hb : WithinBudget (step false st0 [.w "km", .i rwi] impl0).1 lines)
    (l1 : List (List Val × String)) (l : List Val × String) (l2 : List (List Val × String))
    (he : lines = l1 ++ l :: l2) :
    (step false (runLines false (step false st0 [.w "km", .i rwi] impl0).1 l1) l.1 l.2).2.model = "ok" :=
  Lemmas.C09Complete.outputs_ok false _ (by rw [Lemmas.C09Accept.step_header]) lines (visible ls) hp
    (judge_accept_complete st0 rwi impl0 N ops ls s hex lines hp hb) l1 l l2 he

/-- **the judge decides the traces of the model**: for lines standing for the events `tr`, read inside the property and within
budget, the judge has not rejected iff `tr` is the visible trace of an execution of the model from its initial state -/
theorem judge_accept_iff (st0 : St) (rwi : Int) (impl0 : String) (lines : List (List Val × String)) (tr : List Event)
    (hp : lines.map (fun l => lineEvent l.1) = tr.map some)
    (hout : (runLines false (step false st0 [.w "km", .i rwi] impl0).1 lines).outside = false)
    (hb : WithinBudget (step false st0 [.w "km", .i rwi] impl0).1 lines) :
    (runLines false (step false st0 [.w "km", .i rwi] impl0).1 lines).rejected = none ↔
    ∃ (N : Nat) (ops : List Op) (ls : List (Option Event)) (s : State),
      Exec (sys (rwi != 0) N ops) (sys (rwi != 0) N ops).init ls s ∧ visible ls = tr := by
  constructor
  · intro hok
    exact judge_accept_sound_unconditional st0 rwi impl0 lines [] tr [] hp rfl hout (by rw [List.append_nil]; exact hok)
  · rintro ⟨N, ops, ls, s, hex, hv⟩
    exact judge_accept_complete st0 rwi impl0 N ops ls s hex lines (by rw [hv]; exact hp) hb

/-! the budget condition for the empty list of lines (the judge's hash sets do not reduce in the kernel, so concrete runs of the fast
judge are checked by execution, not by `decide`; the hypotheses of `judge_accept_complete` are satisfiable: every execution of the
model, e.g. the ones of `Props/C09.lean`, with the lines of its trace) -/
example : WithinBudget (step false {} [.w "km", .i 0] "").1 [] := by
  intro l1 l2 h
  have : l1 = [] := by
    cases l1 with
    | nil => rfl
    | cons _ _ => cases h
  subst this
  decide

end C09

#print axioms C09.R_succ_fwd
#print axioms C09.stepEvent_complete
#print axioms C09.cover_internal
#print axioms C09.cover_visible
#print axioms C09.judge_step_parsed_complete
#print axioms C09.judge_follows
#print axioms C09.judge_accept_complete
#print axioms C09.judge_accept_iff
#print axioms C09.closure_reaches
#print axioms C09.judge_outputs_ok
