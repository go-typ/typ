import TypVerif.Lemmas.KeyedMapConc
import TypVerif.Props.C04conc
/-
C09, the map half on the REAL concurrent map: one mutex per key, for every schedule — a corollary of `C04.conc_linearizable`.

`sync2/keyedmutex.go`: `LockKey(k)` is `m, _ := km.m.LoadOrStore(k, &sync.Mutex{}); m.Lock()` (the same for `TryLockKey`,
`RLockKey`, …), `ClearKey(k)` is `km.m.Delete(k)`.  The C09 theorems (`Props/C09.lean`) are about `Model/KeyedMutex.lean`,
whose modelling decision `MapAtomic` replaces the embedded `sync2.Map` by its ATOMIC specification.  What the keyed mutexes
need from the map is that all goroutines agree on ONE mutex per key — also at the first, simultaneous use of a never-seen
key.  Here that fact is proved for the step-level model of `sync2.Map` (`Model/SyncMapConc.lean`: one step = one atomic
action of `map.go`, any number of goroutines, every interleaving), not for the atomic map:

  in every execution in which the goroutines call any `NoClear k` operations — `LoadOrStore` on any keys with any values
  (the fresh mutexes), `Load`, `Range`, and `Store`/`Delete`/`LoadAndDelete` on keys OTHER than `k` (`ClearKey(k')`, `k' ≠ k`) —
  all completed `LoadOrStore(k, _)` calls return the same `actual`, that value was offered by a `LoadOrStore(k, _)` call, and at
  most one completed call reports `loaded = false` (the one whose value was stored; it offered the agreed value).

"Completed call" = `Lemmas.SetConc.calls hist`: every response of the visible history paired with the operation of the most
recent invocation of the same goroutine (the history is well-formed, so this is the invocation the response answers).

SCOPE.  These theorems speak about histories of the map alone; `Model/KeyedMutex.lean` contains the atomic map.  The
composition of the step-level map model with the mutex automata is a separate transition system, `Model/KeyedMutexConc.lean`;
the C09 properties are proved for it, for every schedule, in `Props/C09conc.lean` (`C09.conc_agree`, `conc_mutex`,
`conc_unlock_same`, `conc_try`, `conc_independent`; `conc_map_result` is the statement of this file inside the composed system).
-/
namespace C09
open TypVerif TypVerif.Conc TypVerif.Model TypVerif.Model.AtomicObj
open TypVerif.Model.SyncMapConc (Op Res sys)
open TypVerif.Lemmas.Smc (mapSpec applyOp put del evOf)
open TypVerif.Lemmas.SetConc (calls hist_inv_menu)
open TypVerif.Lemmas.KeyedMapConc

set_option linter.unusedSectionVars false

variable {K V : Type} [DecidableEq K] [DecidableEq V] [Inhabited V]

/-- **The sequential core** (supports C09 through `map_one_mutex`): in a sequential run of the ordinary map made of
operations that neither overwrite nor remove `k` (`NoClear k`: no `Store(k,_)`, `Delete(k)`, `LoadAndDelete(k)`), once
`m k = some w` every `LoadOrStore(k, v)` has returned `(w, true)` — except exactly one, which offered `v = w` and returned
`(w, false)`; while `m k = none` no `LoadOrStore(k, _)` has taken effect. -/
theorem map_seq_one_mutex (k : K) (h : List (Op K V × Res K V)) (σ : K → Option V)
    (hs : SeqRun (mapSpec K V) h σ) (hsafe : ∀ x ∈ h, NoClear k x.1) : KInv k h σ :=
  kinv_seqRun k h σ hs hsafe

/-- **One mutex per key, for any linearizable history of the map.**  If a history of map calls is linearizable with respect to
the ordinary map and all its invocations are `NoClear k`, there is one optional value `ow` (the content of `k` in the
linearization) such that every completed `LoadOrStore(k, v)` call returned `(w, loaded)` with `ow = some w` (and `v = w` if
`loaded = false`), at most one completed call reported `loaded = false`, and if `ow = some w` some goroutine invoked
`LoadOrStore(k, w)`.  Supports C09 through `map_one_mutex` (this is its proof, with `C04.conc_linearizable` supplying the
hypothesis). -/
theorem lin_one_mutex (k : K) (hist : List (Event (Op K V) (Res K V))) (hl : Linearizable (mapSpec K V) hist)
    (hinv : ∀ t op, Event.inv t op ∈ hist → NoClear k op) :
    ∃ ow : Option V,
      (∀ t v r, (t, Op.loadOrStore k v, r) ∈ calls hist →
          ∃ w, ow = some w ∧ (r = .pair w true ∨ (r = .pair w false ∧ v = w))) ∧
      (calls hist).countP (fun c => storedK k c.2) ≤ 1 ∧
      (∀ w, ow = some w → ∃ t, Event.inv t (Op.loadOrStore k w) ∈ hist) := by
  obtain ⟨log, rfl, ⟨σ, hseq⟩, hthr⟩ := hl
  exact ⟨σ k, hist_agree k log σ hseq hthr hinv⟩

/-- **One mutex per key on the real map, every schedule** (master statement).  For any number `n` of goroutines calling, in
any order and any number of times, operations from any finite menu of `NoClear k` operations (`LoadOrStore` on any keys — the
`LockKey`/`TryLockKey`/`RLockKey`… calls with their fresh mutexes —, `Load`, and `ClearKey` on keys other than `k`), in EVERY
execution of the step-level model of `sync2.Map` there is one optional value `ow` (the content of `k` in the linearization) such
that
* every completed `LoadOrStore(k, v)` call returned `(w, loaded)` with `ow = some w`, and `loaded = false` only if `v = w`;
* at most one completed `LoadOrStore(k, _)` call reported `loaded = false`;
* if `ow = some w` then some goroutine invoked `LoadOrStore(k, w)` (the storing call; it may still be pending).
This is the fact `Model/KeyedMutex.lean` (`MapAtomic`) takes from the map for `C09.agree`/`C09.mutex`: all goroutines that
completed the `LoadOrStore` of a keyed call on `k` hold the SAME mutex, which is the fresh mutex of one of them.  Inside the
keyed-mutex transition system composed with the step-level map (`Model/KeyedMutexConc.lean`) the same fact is
`C09.conc_map_result` (`Props/C09conc.lean`). -/
theorem map_one_mutex (k : K) (menu : List (Op K V)) (hmenu : ∀ op ∈ menu, NoClear k op) (n : Nat) (zst : Bool)
    {s : SyncMapConc.State K V} {ls : List (Option (SyncMapConc.Event K V))}
    (he : Exec (sys K V menu n zst) (SyncMapConc.init n zst) ls s) :
    ∃ ow : Option V,
      (∀ t v r, (t, Op.loadOrStore k v, r) ∈ calls (ls.filterMap (·.bind evOf)) →
          ∃ w, ow = some w ∧ (r = .pair w true ∨ (r = .pair w false ∧ v = w))) ∧
      (calls (ls.filterMap (·.bind evOf))).countP (fun c => storedK k c.2) ≤ 1 ∧
      (∀ w, ow = some w → ∃ t, Event.inv t (Op.loadOrStore k w) ∈ ls.filterMap (·.bind evOf)) :=
  lin_one_mutex k _ (C04.conc_linearizable menu n zst he) (fun t op hm => hmenu op (hist_inv_menu he t op hm))

/-- **Agreement** (all goroutines get the same mutex for `k`).  Under every schedule of the step-level map model, with no
`Store(k,_)`/`Delete(k)`/`LoadAndDelete(k)` in the menu (no `ClearKey(k)`): any two completed `LoadOrStore(k, _)` calls — of
any goroutines, with any offered values, overlapping or not, including the first simultaneous use of a never-seen key —
return the same `actual`.  Supports `C09.agree`: it is the map-level agreement that `Model/KeyedMutex.lean` gets from
`MapAtomic`, here for the real concurrent map (for the keyed-mutex system composed with this map, `Model/KeyedMutexConc.lean`,
agreement is `C09.conc_agree` in `Props/C09conc.lean`). -/
theorem map_agree (k : K) (menu : List (Op K V)) (hmenu : ∀ op ∈ menu, NoClear k op) (n : Nat) (zst : Bool)
    {s : SyncMapConc.State K V} {ls : List (Option (SyncMapConc.Event K V))}
    (he : Exec (sys K V menu n zst) (SyncMapConc.init n zst) ls s)
    {t1 t2 : Nat} {v1 v2 a1 a2 : V} {l1 l2 : Bool}
    (h1 : (t1, Op.loadOrStore k v1, Res.pair a1 l1) ∈ calls (ls.filterMap (·.bind evOf)))
    (h2 : (t2, Op.loadOrStore k v2, Res.pair a2 l2) ∈ calls (ls.filterMap (·.bind evOf))) : a1 = a2 := by
  obtain ⟨ow, hall, _, _⟩ := map_one_mutex k menu hmenu n zst he
  obtain ⟨w1, hw1, hr1⟩ := hall _ _ _ h1
  obtain ⟨w2, hw2, hr2⟩ := hall _ _ _ h2
  have e1 : a1 = w1 := hr1.elim (fun h => (Res.pair.inj h).1) fun h => (Res.pair.inj h.1).1
  have e2 : a2 = w2 := hr2.elim (fun h => (Res.pair.inj h).1) fun h => (Res.pair.inj h.1).1
  exact e1.trans ((Option.some.inj (hw1.symm.trans hw2)).trans e2.symm)

/-- **The first call stores, once.**  Under the same hypotheses: (1) at most one completed `LoadOrStore(k, _)` call reports
`loaded = false`; (2) every completed `LoadOrStore(k, v)` call returns a `(actual, loaded)` pair, a call reporting
`loaded = false` returns its own value (`actual = v`), and the agreed `actual` was offered by an invocation `LoadOrStore(k,
actual)` in the history (completed or still pending) — the agreed mutex is the fresh mutex of one of the callers.  Supports
`C09.agree`/`C09.mutex` in the same way as `map_agree` (the `MapAtomic` decision of `Model/KeyedMutex.lean`; in the composed
system: `C09.conc_agree`, `C09.conc_mutex`, `Props/C09conc.lean`). -/
theorem map_first_stores (k : K) (menu : List (Op K V)) (hmenu : ∀ op ∈ menu, NoClear k op) (n : Nat) (zst : Bool)
    {s : SyncMapConc.State K V} {ls : List (Option (SyncMapConc.Event K V))}
    (he : Exec (sys K V menu n zst) (SyncMapConc.init n zst) ls s) :
    (calls (ls.filterMap (·.bind evOf))).countP (fun c => storedK k c.2) ≤ 1 ∧
    ∀ t v r, (t, Op.loadOrStore k v, r) ∈ calls (ls.filterMap (·.bind evOf)) →
      ∃ a l, r = .pair a l ∧ (l = false → a = v) ∧
        ∃ t', Event.inv t' (Op.loadOrStore k a) ∈ ls.filterMap (·.bind evOf) := by
  obtain ⟨ow, hall, hcnt, hinv⟩ := map_one_mutex k menu hmenu n zst he
  refine ⟨hcnt, ?_⟩
  intro t v r hc
  obtain ⟨w, hw, hr⟩ := hall t v r hc
  rcases hr with h | ⟨h, hv⟩
  · exact ⟨w, true, h, (fun hf => by cases hf), hinv w hw⟩
  · exact ⟨w, false, h, fun _ => hv.symm, hinv w hw⟩

/-- `storedK k` picks exactly the `LoadOrStore(k, _)` calls that reported `loaded = false` -/
theorem map_storedK_iff (k : K) (op : Op K V) (r : Res K V) :
    storedK k (op, r) = true ↔ ∃ v a, op = .loadOrStore k v ∧ r = .pair a false :=
  storedK_iff k op r

/-- a KeyedMutex-shaped menu on keys 5 and 7: `LockKey(5)` with two different fresh mutexes (10, 20), `LockKey(7)`,
`ClearKey(7)`, a `Load(5)` — everything is `NoClear 5` -/
def kmenu : List (Op Int Int) := [.loadOrStore 5 10, .loadOrStore 5 20, .loadOrStore 7 30, .delete 7, .load 5]

example : ∀ op ∈ kmenu, NoClear 5 op := by decide

/-- the schedule of the example below (indices into `succ`) -/
def ksched : List Nat := [0, 2, 0, 1, 0, 1, 0, 0, 0, 0, 1, 1, 1, 1, 1, 0]

/-- the hypotheses are satisfiable with completed, overlapping calls: two goroutines use the never-seen key 5 simultaneously
(both invoke, both miss in `read`, both queue for `mu`); goroutine 0 wins the lock and stores its value 10, goroutine 1 then
finds it in the dirty map; goroutine 1 returns first.  The 16-step execution of the step-level model has the visible history
below; both calls completed, both got 10, exactly one reported `loaded = false`. -/
example : ∃ ls s, Exec (sys Int Int kmenu 2 false) (SyncMapConc.init 2 false) ls s ∧
    ls.filterMap (·.bind evOf) =
      [.inv 0 (.loadOrStore 5 10), .inv 1 (.loadOrStore 5 20), .res 1 (.pair 10 true), .res 0 (.pair 10 false)] ∧
    calls (ls.filterMap (·.bind evOf)) = [(0, .loadOrStore 5 10, .pair 10 false), (1, .loadOrStore 5 20, .pair 10 true)] ∧
    (calls (ls.filterMap (·.bind evOf))).countP (fun c => storedK 5 c.2) = 1 :=
  ⟨_, _, schedRun_exec (sys Int Int kmenu 2 false) ksched (SyncMapConc.init 2 false), by decide +kernel⟩

/-- `map_agree` applied to that execution -/
example : (10 : Int) = 10 :=
  map_agree (K := Int) (V := Int) 5 kmenu (by decide) 2 false
    (schedRun_exec (sys Int Int kmenu 2 false) ksched (SyncMapConc.init 2 false))
    (t1 := 0) (t2 := 1) (v1 := 10) (v2 := 20) (l1 := false) (l2 := true) (by decide +kernel) (by decide +kernel)

/-- the hypothesis `NoClear k` is needed: with a `Delete(5)` (`ClearKey(5)`) between them, two `LoadOrStore(5, _)` calls
legally return different values and both report `loaded = false`, already in a sequential run of the specification -/
example : ∃ σ, SeqRun (mapSpec Int Int)
    [(.loadOrStore 5 20, .pair 20 false), (.delete 5, .done), (.loadOrStore 5 10, .pair 10 false)] σ :=
  ⟨_, SeqRun.cons (SeqRun.cons (SeqRun.cons SeqRun.nil (List.mem_singleton.mpr rfl)) (List.mem_singleton.mpr rfl))
    (List.mem_singleton.mpr rfl)⟩

/-- the sequential core on a concrete run: the second call on key 5 must report the first one's value -/
example : ¬ ∃ σ, SeqRun (mapSpec Int Int) [(.loadOrStore 5 20, .pair 20 true), (.loadOrStore 5 10, .pair 10 false)] σ := by
  rintro ⟨σ, h⟩
  have hs : ∀ x ∈ ([(.loadOrStore 5 20, .pair 20 true), (.loadOrStore 5 10, .pair 10 false)] :
      List (Op Int Int × Res Int Int)), NoClear 5 x.1 := by decide
  have hi := map_seq_one_mutex (5 : Int) _ σ h hs
  cases hm : σ 5 with
  | none => exact (hi.absent hm).1 20 _ List.mem_cons_self
  | some w =>
    obtain ⟨h1, _, _⟩ := hi.present w hm
    have ha := h1 20 _ List.mem_cons_self
    have hb := h1 10 _ (List.mem_cons_of_mem _ List.mem_cons_self)
    have e1 : (20 : Int) = w := ha.elim (fun h => (Res.pair.inj h).1) fun h => (Res.pair.inj h.1).1
    have e2 : (10 : Int) = w := hb.elim (fun h => (Res.pair.inj h).1) fun h => (Res.pair.inj h.1).1
    exact absurd (e1.trans e2.symm) (by decide)

end C09

section AxiomCheck
#print axioms C09.map_seq_one_mutex
#print axioms C09.lin_one_mutex
#print axioms C09.map_one_mutex
#print axioms C09.map_agree
#print axioms C09.map_first_stores
#print axioms C09.map_storedK_iff
end AxiomCheck
