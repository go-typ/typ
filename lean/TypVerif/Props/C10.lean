import TypVerif.Lemmas.PubSubExec
import TypVerif.Lemmas.PubSubSafeStep
import TypVerif.Lemmas.PubSubLocal
/-
C10 — PubSub.  Model: `TypVerif/Model/PubSub.lean` (`sys cfg`, all schedules = `Conc.Reachable`).
`cfg.env` is the finite menu of invocation events the environment may issue; every theorem quantifies over `cfg`,
hence over all menus: any number of publishers, subscribers, buffer sizes, event values, any timeout setting.
-/
namespace C10
open TypVerif TypVerif.Model.PubSub TypVerif.Lemmas.PubSubExec TypVerif.Lemmas.PubSubSafe TypVerif.Lemmas.PubSubLocal

/-
FULL STATEMENT (false, of model and code alike):
  theorem no_panic (cfg : Cfg) : ∀ s, Conc.Reachable (sys cfg) s → s.panicked = none
A `WithOnly` clone is a second PubSub value with its OWN mutex that shares the channel: the root's write lock does
not exclude a publisher that goes through the clone, and the clone's `subs` still lists the channel after the root
closed it.  `clone_after_unsub_panics` exhibits the history
  sub c; w := root.WithOnly(c); root.Unsub(c) = nil; w.PubSync([7])  ⟶  panic: send on closed channel
by explicit execution of the model (all calls sequential, each returned before the next is invoked).
-/
def cloneCfg : Cfg :=
  { env := [.sub 0 1, .withonly 1 0 0, .unsubinv 0 0 0, .pubinv 0 1 .pubSync [7]] }

def clonePath : List Nat := [0, 2, 2, 2, 0, 1, 0, 2, 2, 2, 1, 1, 1]

theorem clone_after_unsub_panics :
    ∃ (ls : List (Option Event)) (s : State),
      Conc.Exec (sys cloneCfg) (sys cloneCfg).init ls s ∧
      Conc.visible ls = [.sub 0 1, .subret 0, .withonly 1 0 0, .unsubinv 0 0 0, .unsubret 0 .nil,
                         .pubinv 0 1 .pubSync [7]] ∧
      Conc.Reachable (sys cloneCfg) s ∧
      s.panicked = some "send-on-closed" := by
  have h : ∃ s, runPath cloneCfg {} clonePath = some s ∧ s.panicked = some "send-on-closed" ∧
      Conc.visible (labelsPath cloneCfg {} clonePath) =
        [.sub 0 1, .subret 0, .withonly 1 0 0, .unsubinv 0 0 0, .unsubret 0 .nil, .pubinv 0 1 .pubSync [7]] := by
    decide
  obtain ⟨s, hrun, hp, hv⟩ := h
  exact ⟨_, s, runPath_exec cloneCfg clonePath {} s hrun, hv,
    runPath_reachable cloneCfg clonePath {} s Conc.Reachable.init hrun, hp⟩


/-- `CloneDiscipline` in its simplest form: the environment never calls `WithOnly` (`cfg.allowClone = false` disables
the `withonly` invocation; everything else — any number of publishers of all six variants, subscribers, buffer sizes,
Unsub/UnsubAll at any time, any timeout setting — is unrestricted). -/
def CloneDiscipline (cfg : Cfg) : Prop := cfg.allowClone = false

/-- No interleaving of publish, subscribe and unsubscribe calls on ONE PubSub value makes the process panic, and the
invariant behind it: a subscribed channel is open (a closed channel is in no `subs`), `subs` has no duplicates, every
live sender targets a subscribed channel, the reader count is the number of goroutines inside a read-locked region,
every WaitGroup counter is the number of its live senders and a positive counter has its `Pub*Wait` still waiting
(hence still holding the read lock); `close` happens only inside the writer's critical section, which runs only when
the reader count is zero, i.e. when no sender is alive. -/
theorem no_panic_partial (cfg : Cfg) (hd : CloneDiscipline cfg) :
    ∀ s, Conc.Reachable (sys cfg) s →
      s.panicked = none ∧
      (∀ c ∈ (s.obj 0).subs, isClosed s.chans c = false) ∧
      (∀ t ∈ s.tasks, ∀ c ∈ targets t, c ∈ (s.obj 0).subs ∧ isClosed s.chans c = false) := by
  intro s hr
  have hs := no_panic_noClone cfg hd s hr
  exact ⟨hs.nopanic, hs.opn, fun t ht c hc => ⟨hs.targ t ht c hc, hs.opn c (hs.targ t ht c hc)⟩⟩

/-- non-vacuity: under the discipline a subscriber is reached by a delivery, and an Unsub closes its channel -/
def nvCfg : Cfg :=
  { allowClone := false, env := [.sub 0 1, .pubinv 0 0 .pubSync [7], .allow 0 1, .unsubinv 0 0 0] }

def nvPath : List Nat := [0, 2, 2, 3, 0, 2, 2, 2, 0, 2, 2, 1, 2, 2, 2, 0, 2]

example : ∃ s, Conc.Reachable (sys nvCfg) s ∧ CloneDiscipline nvCfg ∧ s.delivered = [(0, 0, 0)] ∧
    isClosed s.chans 0 = true ∧ s.panicked = none := by
  have h : ∃ s, runPath nvCfg {} nvPath = some s ∧ s.delivered = [(0, 0, 0)] ∧ isClosed s.chans 0 = true ∧
      s.panicked = none ∧
      Conc.visible (labelsPath nvCfg {} nvPath) =
        [.sub 0 1, .subret 0, .pubinv 0 0 .pubSync [7], .pubret 0, .allow 0 1, .recv 0 7, .unsubinv 0 0 0,
         .unsubret 0 .nil, .allow 0 1, .closed 0] := by decide
  obtain ⟨s, hrun, hd, hc, hp, _⟩ := h
  exact ⟨s, runPath_reachable nvCfg nvPath {} s Conc.Reachable.init hrun, rfl, hd, hc, hp⟩


set_option linter.unusedVariables false in -- `hs` is not needed
/-- Unsub(c) on the PubSub value `o` (its critical section, any state, with or without clones): it closes exactly the
channel it removes — no other channel changes its `closed` flag, no buffer / receiver changes, no other PubSub value
changes; a subscribed channel gives `nil`, is erased from `subs` and is closed; an unknown one gives
`ErrAlreadyUnsubscribed` and changes nothing.  (That nothing is delivered to a removed channel afterwards is the third
conjunct of `no_panic_partial`: every live sender targets a channel that is still in `subs`.) -/
theorem unsub_exact (cfg : Cfg) (s s' : State) (i u o : Nat) (c : Chan) (l : Option Event)
    (h : (l, s') ∈ stepTask cfg s i (.unsubWait u o c)) (hp : s'.panicked = none) (hs : s.panicked = none) :
    (∀ o', o' ≠ o → s'.obj o' = s.obj o') ∧
    (∀ c', c' ≠ c → isClosed s'.chans c' = isClosed s.chans c') ∧
    s'.chans.map untouched = s.chans.map untouched ∧
    ((c ∈ (s.obj o).subs ∧ s'.tasks = s.tasks.set i (.unsubRet u .nil) ∧
        (s'.obj o).subs = (s.obj o).subs.erase c ∧ (hasChan s.chans c = true → isClosed s'.chans c = true)) ∨
     (c ∉ (s.obj o).subs ∧ s'.tasks = s.tasks.set i (.unsubRet u .already) ∧
        (s'.obj o).subs = (s.obj o).subs ∧ s'.chans = s.chans)) :=
  unsub_step (Lemmas.PubSubStep.taskStep_of_mem h) hp

/-- a nil channel gives `ErrSubscriptionNotInitalized` without touching anything (not even the lock) -/
theorem unsub_exact_nil (cfg : Cfg) (s : State) (i u o : Nat) :
    stepTask cfg s i (.unsubStart u o none) = [(none, s.setTask i (.unsubRet u .notinit))] := rfl

/-- UnsubAll on `o`: removes everything from `o.subs`; only channels of `o.subs` change their `closed` flag; buffers,
receivers and the other PubSub values are untouched. -/
theorem unsub_exact_all (cfg : Cfg) (s s' : State) (i u o : Nat) (l : Option Event)
    (h : (l, s') ∈ stepTask cfg s i (.uaWait u o)) (hp : s'.panicked = none) :
    s'.tasks = s.tasks.set i (.uaRet u) ∧ (s'.obj o).subs = [] ∧ (∀ o', o' ≠ o → s'.obj o' = s.obj o') ∧
    s'.chans.map untouched = s.chans.map untouched ∧
    (∀ c', c' ∉ (s.obj o).subs → isClosed s'.chans c' = isClosed s.chans c') :=
  unsubAll_step (Lemmas.PubSubStep.taskStep_of_mem h) hp

def nvState : State := { objs := [{ subs := [0] }], chans := [{ id := 0, cap := 1 }], tasks := [.unsubWait 0 0 0] }

example : nvState.panicked = none ∧ 0 ∈ (nvState.obj 0).subs ∧
    ∃ p ∈ stepTask nvCfg nvState 0 (.unsubWait 0 0 0), p.2.panicked = none ∧ isClosed p.2.chans 0 = true := by
  decide

/-- WithOnly(c): the clone's `subs` contains only `c`, only if `c` is subscribed on the parent, and (parent without
duplicates — an invariant, see `Safe.nodup`) at most once; so a publish through the clone computes its (event,
subscriber) pairs from the one given subscription only. Nothing else changes. -/
theorem withOnly (cfg : Cfg) (s s' : State) (i w o : Nat) (c : Chan) (l : Option Event)
    (h : (l, s') ∈ stepTask cfg s i (.woStart w o c)) :
    (∀ x ∈ (s'.obj w).subs, x = c ∧ x ∈ (s.obj o).subs) ∧
    ((s.obj o).subs.Nodup → (s'.obj w).subs.length ≤ 1) ∧
    (∀ o', o' ≠ w → s'.obj o' = s.obj o') ∧ s'.chans = s.chans ∧
    (∀ p evs, ∀ it ∈ mkItems p evs (s'.obj w).subs, it.c = c) := by
  obtain ⟨h1, h2, h3, h4⟩ := withOnly_step (Lemmas.PubSubStep.taskStep_of_mem h)
  exact ⟨h1, h2, h3, h4, fun p evs it hit => (h1 _ (mkItems_c_mem hit)).1⟩


/-
The step-level part of `wait_complete` (the log-level statement — when PubWait / PubSliceWait returns, each pair of
`mkItems p evs subs` occurs exactly once in `delivered ++ timedOut` — is `C10.wait_complete`, `Props/C10log.lean`):
the return step of a Pub*Wait call is enabled only when its WaitGroup counter is 0, and (under `CloneDiscipline`,
where the counting invariant `Safe.wgc` is available) a zero counter means that NO sender goroutine of that call is
alive any more: every hand-off of the call has ended (each sender ends only through `stepSend`: a completed send, a
panic, or its timeout callback).
-/
theorem wait_complete_partial (cfg : Cfg) (hd : CloneDiscipline cfg) (s s' : State) (hr : Conc.Reachable (sys cfg) s)
    (i p o w : Nat) (l : Option Event) (h : (l, s') ∈ stepTask cfg s i (.waitWg p o w)) :
    s.wgs.getD w 0 = 0 ∧ (∀ t ∈ s.tasks, isWgSend w t = false) ∧ s' = (s.runlock o).setTask i (.pubRet p) := by
  obtain ⟨hz, he⟩ := waitRet_step (Lemmas.PubSubStep.taskStep_of_mem h)
  have hc := ((no_panic_noClone cfg hd s hr).wgc w).symm.trans hz
  exact ⟨hz, fun t ht => by simpa using List.countP_eq_zero.mp hc t ht, he⟩

/-
The step-level part of `sync_exactly_once_in_order` (the log-level statement — when PubSync / PubSliceSync returns,
each pair of `mkItems p evs subs` occurs exactly once in `delivered ++ timedOut`, per channel in publication order, in
`timedOut` only if the timeout is positive — is `C10.sync_exactly_once_in_order`, `Props/C10log.lean`).  Any state,
with or without clones: the loop works through `mkItems p evs subs` (event-major = publication order) strictly head
first; one iteration logs exactly its head item, exactly once, as delivered or — only with a positive timeout — as
timed out followed by exactly one `tmo` callback; the call returns (`pubRet`) exactly when no item is left.
-/
theorem sync_exactly_once_in_order_partial (cfg : Cfg) (s s' : State) (i p o : Nat) (it : Item) (rest : List Item)
    (cb : Bool) (l : Option Event) (h : (l, s') ∈ stepTask cfg s i (.syncLoop p o (it :: rest) cb)) :
    (cb = true ∧ l = some (.tmo it.ev) ∧ s' = syncAdvance i p o rest s) ∨
    (cb = false ∧ l = none ∧ ∃ s1, sendTo s it = .sent s1 ∧
        s1.delivered = s.delivered ++ [(it.pid, it.idx, it.c)] ∧ s1.timedOut = s.timedOut ∧
        s' = syncAdvance i p o rest s1) ∨
    (cb = false ∧ l = none ∧ cfg.timeout > 0 ∧
        s' = (s.logTimeout it).setTask i (.syncLoop p o (it :: rest) true)) ∨
    (cb = false ∧ sendTo s it = .panic ∧ s' = s.panic "send-on-closed") :=
  sync_step h

/-- After an iteration the loop continues with exactly the remaining items, and returns exactly when none is left. -/
theorem sync_exactly_once_in_order_partial_next (i p o : Nat) (rest : List Item) (s : State) (hi : i < s.tasks.length) :
    (syncAdvance i p o rest s).tasks[i]? =
      some (match rest with | [] => Task.pubRet p | _ :: _ => Task.syncLoop p o rest false) :=
  syncAdvance_task i p o rest s hi

/-
Pub / PubSlice: one `asyncStart` task per pair, which ends after at most one `stepSend`; under `CloneDiscipline` it
sends only while the channel is in `subs` (third conjunct of `no_panic_partial`).  The log-level statement (each pair
at most once, never after the channel's removal) is `C10.async_at_most_once`, `Props/C10log.lean`.  The "eventually"
of Pub / PubSlice is a liveness property; what holds of it without a fairness assumption (every maximal internal run is
finite and ends with every sender finished) is `C10.async_eventually_partial` and `C10.async_item_fate_partial`,
`Props/C10term.lean`.
-/

end C10

#print axioms C10.clone_after_unsub_panics
#print axioms C10.no_panic_partial
#print axioms C10.unsub_exact
#print axioms C10.unsub_exact_nil
#print axioms C10.unsub_exact_all
#print axioms C10.withOnly
#print axioms C10.wait_complete_partial
#print axioms C10.sync_exactly_once_in_order_partial
#print axioms C10.sync_exactly_once_in_order_partial_next
