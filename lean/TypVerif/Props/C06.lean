import TypVerif.Lemmas.ListRefine
import TypVerif.Lemmas.RingRefine
/-
C06: "lists.List/Element and lists.Ring are observationally identical to the standard library's
container/list and container/ring from which they are forked: for every sequence of operations both
produce the same return values, lengths, forward and backward traversals and element neighbours.  This
includes zero-value lists, operations handed elements that were already removed or belong to another list
(which must leave the list unmodified), PushBackList/PushFrontList of a list onto itself, and Ring
Next/Prev/Move/Link/Unlink/Len/Do with any counts and any pair of rings."

Lists.  Model: `Model/LinkedList.lean` (pointer-level heap model of lists/list.go); specification:
`Spec/Seq.lean` (the documented behaviour of container/list on abstract sequences).  Observations are
operations of the script (`len`, `front`, `back`, `next`, `prev`, `value`, `fwd`, `bwd`), so "for every
sequence of operations the outputs agree" covers every observation at every point.
`Sim h w` (Lemmas/ListSim.lean) is the well-formedness + abstraction invariant:
  following `next` from `root l` spells `lists l` and returns to the root and `prev` is the inverse
  (`Shape`/`Linked`), `len` is the length, `e.list = some l ↔ e ∈ lists l` (`owner`+`mem`), removed elements
  have nil links (`detached`), lists are duplicate-free and pairwise disjoint (`nodup`, `mem`), a never
  initialised zero list has nil root links and is empty.
Excluded by hypothesis `NoInitOnNonEmpty`: `Init` on a non-empty list (the standard library itself leaves
the `list` pointers of the old elements stale there; the judge follows the model in that corner).

Rings.  Model `Model/Ring.lean`, specification `Spec/RingSeq.lean` (partition into cyclic sequences),
invariant `RingWF` (Lemmas/RingHeap.lean).  No hypothesis: same-ring `Link` is included.
-/
open TypVerif
open TypVerif.Spec.ListOp
open TypVerif.Lemmas.LinkedList

namespace C06

/-- one operation preserves the invariant and produces the specified result -/
theorem list_step (h : Model.LinkedList.Heap) (w : Spec.Seq.World) (hs : Sim h w) (op : Op)
    (hinit : ∀ l, op = .init l → w.lists.get l = []) :
    Sim (Model.LinkedList.step h op).1 (Spec.Seq.step w op).1
      ∧ (Model.LinkedList.step h op).2 = (Spec.Seq.step w op).2 :=
  step_sim hs op hinit

/-- the well-formedness invariant holds after every script (from the empty heap: all lists zero values) -/
theorem list_wf (ops : List Op) (hn : Spec.Seq.NoInitOnNonEmpty Spec.Seq.World.empty ops) :
    Sim (Model.LinkedList.finalHeap Model.LinkedList.Heap.empty ops)
        (Spec.Seq.finalWorld Spec.Seq.World.empty ops) :=
  final_sim ops Sim.init hn

/-- every script produces the same outputs on the heap model of lists/list.go and on the abstract
container/list world -/
theorem list_refines (ops : List Op) (hn : Spec.Seq.NoInitOnNonEmpty Spec.Seq.World.empty ops) :
    Model.LinkedList.run Model.LinkedList.Heap.empty ops = Spec.Seq.run Spec.Seq.World.empty ops :=
  run_sim ops Sim.init hn

/-- non-vacuity: a script with a zero-value list, `Init` on empty lists, a self PushBackList, a foreign
mark, a removed element reused, satisfies the hypothesis … -/
example : Spec.Seq.NoInitOnNonEmpty Spec.Seq.World.empty
    [.init 1, .pushBack 0 7, .pushFront 0 8, .pushBackList 0 0, .insertBefore 1 9 (some 0), .remove 0 (some 1),
     .remove 0 (some 1), .init 2, .moveToBack 0 (some 0), .fwd 0 64, .bwd 0 64, .next (some 1)] :=
  ⟨by decide, trivial, trivial, trivial, trivial, trivial, trivial, by decide, trivial, trivial, trivial, trivial, trivial⟩

/-- … and the model really computes on such a script (the same without the `Init`s, `bwd` cut at 2, `Len` added) -/
example : Model.LinkedList.run Model.LinkedList.Heap.empty
    [.pushBack 0 7, .pushFront 0 8, .pushBackList 0 0, .insertBefore 1 9 (some 0), .remove 0 (some 1),
     .remove 0 (some 1), .moveToBack 0 (some 0), .fwd 0 64, .bwd 0 2, .next (some 1), .len 0]
    = [.ptr (.elem 0), .ptr (.elem 1), .int 2, .ptr .null, .int 8, .int 8, .unit,
       .ptrs [.elem 2, .elem 3, .elem 0], .ptrs [.elem 0, .elem 3], .ptr .null, .int 3] := by decide +kernel

/-- ring well-formedness after every script -/
theorem ring_wf (ops : List Spec.RingOp.Op) :
    Lemmas.Ring.RingWF (Lemmas.Ring.finalHeap Model.Ring.RHeap.empty ops)
      (Lemmas.Ring.finalWorld Spec.RingSeq.RWorld.empty ops) :=
  Lemmas.Ring.ring_wf ops

/-- every script of ring operations (NewRing, zero rings, Next/Prev/Move/Link/Unlink/Len/Do, traversals; any
counts, any pair of rings, same ring or not) produces the same outputs on the pointer model of
lists/ring.go and on the abstract container/ring world -/
theorem ring_refines (ops : List Spec.RingOp.Op) :
    Lemmas.Ring.runModel Model.Ring.RHeap.empty ops = Lemmas.Ring.runSpec Spec.RingSeq.RWorld.empty ops :=
  Lemmas.Ring.ring_refines ops

/-- the model panics only with the two messages of the specification (`"nilfunc"`, `"badref"`): the fuel of its
`Len`/`Do` loops always suffices and it never dereferences nil inside -/
theorem ring_no_fuel_panic (ops : List Spec.RingOp.Op) (msg : String)
    (h : Spec.RingOp.Res.panic msg ∈ Lemmas.Ring.runModel Model.Ring.RHeap.empty ops) :
    msg = "nilfunc" ∨ msg = "badref" :=
  Lemmas.Ring.runSpec_panic ops _ msg (Lemmas.Ring.ring_refines ops ▸ h)

end C06

#print axioms C06.list_step
#print axioms C06.list_wf
#print axioms C06.list_refines
#print axioms C06.ring_wf
#print axioms C06.ring_refines
#print axioms C06.ring_no_fuel_panic
