import TypVerif.Lemmas.ObjComplete
import TypVerif.Lemmas.ObjCompleteC18
import TypVerif.Props.C18accept
/-
C18 — THE ATOMIC-OBJECT JUDGES DECIDE LINEARIZABILITY EXACTLY (completeness of the acceptance of `Drv/C18.lean`; the soundness
half is `Props/C18accept.lean`).

1. `C18.AtomicObj.exec_of_linearizable`: every linearizable history — in the sense of the project's own definition
   `Model.AtomicObj.Linearizable` — is the visible trace of an execution of `AtomicObj.sys S menu N` from its initial state:
   the converse of `C18.AtomicObj.linearizable`.  No well-formedness side condition is needed, `Linearizable` contains it (the
   clause `∀ t, (runThread t log).isSome`: every goroutine alternates `inv · lin · res` with matching operation and result).
   `N` = 1 + the largest goroutine id, `menu` = the invoked operations.  Hence `C18.AtomicObj.linearizable_iff_exec`.
2. `C18.fold_stepObj_complete`: the state-set fold of the judges (`stepObj`: pad to `n`, `Conc.stepEvent` with closure fuel,
   erase the ghost log, dedup; `n` from `nf`) over the visible trace of any execution of any `AtomicObj.sys S menu N` whose
   goroutine ids are `< fuel` is non-empty — the only internal steps are linearization steps, each consumes a pending
   goroutine, so at most `n ≤ fuel` of them fit between two visible events and the fuel-bounded closure loses nothing.
   `C18.fold_stepObj_iff`, `C18.fold_stepObj_iff_linearizable`.
3. The real judge `Drv.C18.step`, folded over lines (`runLines`) after the header, on histories with goroutine ids `< 16`
   (`closureFuel`):
     `C18.judge_accept_complete`           linearizable ⇒ not flagged / not rejected               (mode `av`)
     `C18.judge_decides_linearizability`   `violated = none ↔ Linearizable Spec.Register.spec tr`,
                                           `rejected = false ↔ Linearizable AtomicValue.spec tr`    (mode `av`)
     `C18.judge_accept_complete_pool`      linearizable w.r.t. the bag ⇒ never `violated = some "not-linearizable"`
     `C18.judge_pool_verdict`              `violated = none` ⇒ linearizable; `not-linearizable` ⇒ not linearizable  (mode `pool`)
   (in mode `pool` the flag `violated` is shared with the holding-discipline predicates, so `violated = none` is not
   equivalent to linearizability there).

NOT covered: the wrapper-level pool model component `poolM` (`Pool.sys`, flag `rejected` in mode `pool`); histories with a
goroutine id `≥ 16` (the judge is then only sound).
-/
namespace C18
open TypVerif TypVerif.Conc TypVerif.Model TypVerif.Proto TypVerif.Drv.C18
open TypVerif.Lemmas.ObjAccept (foldObj stepObjF)
open TypVerif.Lemmas.ObjAcceptC18 (runLines nextN)

/-! ## 1. the converse of `C18.AtomicObj.linearizable` -/

/-- every linearizable history is the visible trace of an execution of the atomic-object system -/
theorem AtomicObj.exec_of_linearizable (S : AtomicObj.Spec) [DecidableEq S.Op] [DecidableEq S.Res]
    {tr : List (AtomicObj.Event S.Op S.Res)} (h : AtomicObj.Linearizable S tr) :
    ∃ (N : Nat) (menu : List S.Op) (ls : List (Option (AtomicObj.Event S.Op S.Res)))
        (s : AtomicObj.State S.σ S.Op S.Res),
      Exec (AtomicObj.sys S menu N) (AtomicObj.sys S menu N).init ls s ∧ visible ls = tr :=
  Lemmas.ObjComplete.exec_of_linearizable S h

/-- linearizable = being a history of the atomic-object system (some number of goroutines, some finite menu) -/
theorem AtomicObj.linearizable_iff_exec (S : AtomicObj.Spec) [DecidableEq S.Op] [DecidableEq S.Res]
    (tr : List (AtomicObj.Event S.Op S.Res)) :
    AtomicObj.Linearizable S tr ↔
      ∃ (N : Nat) (menu : List S.Op) (ls : List (Option (AtomicObj.Event S.Op S.Res)))
          (s : AtomicObj.State S.σ S.Op S.Res),
        Exec (AtomicObj.sys S menu N) (AtomicObj.sys S menu N).init ls s ∧ visible ls = tr :=
  Lemmas.ObjComplete.linearizable_iff_exec S tr

/-! ## 2. the state-set fold is complete for bounded concurrency -/

/-- between two visible events at most as many internal steps are possible as there are pending goroutines -/
theorem AtomicObj.tau_bound (S : AtomicObj.Spec) (menu : List S.Op) (n k : Nat) (x x' : AtomicObj.State S.σ S.Op S.Res)
    (h : Lemmas.OnceRed.TauN (AtomicObj.sys S menu n) k x x') :
    Lemmas.OnceRed.TauN (AtomicObj.sys S menu n) (Lemmas.ObjComplete.pend x.pcs) x x' ∧
      Lemmas.ObjComplete.pend x.pcs ≤ x.pcs.length :=
  ⟨Lemmas.ObjComplete.tauN_bound S menu n h, Lemmas.ObjComplete.pend_le_length _⟩

/-- the fold of `stepObjF S fuel` (`Drv.C18.stepObj` = fuel 16, `Drv.ObjLin.stepObj` = fuel 24) over the visible trace of
an execution of `AtomicObj.sys S menu N` (any `N`, any `menu`) whose goroutine ids are `< fuel` is non-empty; `nf` is the
judge's rule for the number of goroutines (never decreasing, `> t` at an invocation of goroutine `t`, `≤ fuel` on ids
`< fuel`) -/
theorem fold_stepObj_complete (S : AtomicObj.Spec) [DecidableEq S.σ] [DecidableEq S.Op] [DecidableEq S.Res]
    (fuel : Nat) (nf : Nat → AtomicObj.Event S.Op S.Res → Nat)
    (hmono : ∀ n e, n ≤ nf n e) (hinv : ∀ n t op, t < nf n (.inv t op))
    (hbound : ∀ n e, n ≤ fuel → evTid e < fuel → nf n e ≤ fuel)
    (n0 : Nat) (hn0 : n0 ≤ fuel) (N : Nat) (menu : List S.Op) (ls : List (Option (AtomicObj.Event S.Op S.Res)))
    (s : AtomicObj.State S.σ S.Op S.Res)
    (hex : Exec (AtomicObj.sys S menu N) (AtomicObj.sys S menu N).init ls s)
    (htid : ∀ e ∈ visible ls, evTid e < fuel) :
    (foldObj S fuel nf (n0, [AtomicObj.init S n0]) (visible ls)).2 ≠ [] :=
  Lemmas.ObjComplete.fold_stepObj_complete S fuel nf hmono hinv hbound n0 hn0 N menu ls s hex htid

/-- acceptance by the fold = being a history of the atomic-object system -/
theorem fold_stepObj_iff (S : AtomicObj.Spec) [DecidableEq S.σ] [DecidableEq S.Op] [DecidableEq S.Res]
    (fuel : Nat) (nf : Nat → AtomicObj.Event S.Op S.Res → Nat)
    (hmono : ∀ n e, n ≤ nf n e) (hinv : ∀ n t op, t < nf n (.inv t op))
    (hbound : ∀ n e, n ≤ fuel → evTid e < fuel → nf n e ≤ fuel)
    (n0 : Nat) (hn0 : n0 ≤ fuel) (tr : List (AtomicObj.Event S.Op S.Res)) (htid : ∀ e ∈ tr, evTid e < fuel) :
    (foldObj S fuel nf (n0, [AtomicObj.init S n0]) tr).2 ≠ [] ↔
      ∃ (N : Nat) (menu : List S.Op) (ls : List (Option (AtomicObj.Event S.Op S.Res)))
          (s : AtomicObj.State S.σ S.Op S.Res),
        Exec (AtomicObj.sys S menu N) (AtomicObj.sys S menu N).init ls s ∧ visible ls = tr :=
  Lemmas.ObjComplete.fold_stepObj_iff S fuel nf hmono hinv hbound n0 hn0 tr htid

/-- acceptance by the fold = linearizability -/
theorem fold_stepObj_iff_linearizable (S : AtomicObj.Spec) [DecidableEq S.σ] [DecidableEq S.Op] [DecidableEq S.Res]
    (fuel : Nat) (nf : Nat → AtomicObj.Event S.Op S.Res → Nat)
    (hmono : ∀ n e, n ≤ nf n e) (hinv : ∀ n t op, t < nf n (.inv t op))
    (hbound : ∀ n e, n ≤ fuel → evTid e < fuel → nf n e ≤ fuel)
    (n0 : Nat) (hn0 : n0 ≤ fuel) (tr : List (AtomicObj.Event S.Op S.Res)) (htid : ∀ e ∈ tr, evTid e < fuel) :
    (foldObj S fuel nf (n0, [AtomicObj.init S n0]) tr).2 ≠ [] ↔ AtomicObj.Linearizable S tr :=
  (fold_stepObj_iff S fuel nf hmono hinv hbound n0 hn0 tr htid).trans (AtomicObj.linearizable_iff_exec S tr).symm

/-- `fold_stepObj_iff_linearizable` for the fold the C18 judge performs (fuel 16, `nextN`, from `[init S 0]`) -/
theorem stepObj_fold_iff_linearizable (S : AtomicObj.Spec) [DecidableEq S.σ] [DecidableEq S.Op] [DecidableEq S.Res]
    (tr : List (AtomicObj.Event S.Op S.Res)) (htid : ∀ e ∈ tr, evTid e < 16) :
    (tr.foldl (fun j e => (nextN j.1 (evTid e), stepObj S (nextN j.1 (evTid e)) j.2 e))
        (0, [AtomicObj.init S 0])).2 ≠ [] ↔ AtomicObj.Linearizable S tr :=
  fold_stepObj_iff_linearizable S closureFuel Lemmas.ObjAcceptC18.nfJ Lemmas.ObjCompleteC18.nfJ_mono
    Lemmas.ObjCompleteC18.nfJ_inv (Lemmas.ObjCompleteC18.nfJ_bound closureFuel) 0 (Nat.zero_le _) tr htid

/-! ## 3. the judge -/

/-- **the AtomicValue judge decides linearizability**: after the header `av` and lines standing for the events `tr`, all of
goroutines `< 16`, the judge reports no violation iff `tr` is linearizable w.r.t. the register specification, and has not
rejected iff `tr` is linearizable w.r.t. the model `AtomicValue.spec` -/
theorem judge_decides_linearizability (st0 : St) (impl0 : String) (lines : List (List Val × String))
    (tr : List AvEvent) (hparse : lines.map (fun l => parseAv l.1) = tr.map some)
    (htid : ∀ e ∈ tr, evTid e < 16) :
    ((runLines (step st0 [.w "av"] impl0).1 lines).violated = none ↔ AtomicObj.Linearizable Spec.Register.spec tr) ∧
    ((runLines (step st0 [.w "av"] impl0).1 lines).rejected = false ↔ AtomicObj.Linearizable AtomicValue.spec tr) := by
  obtain ⟨_, hS, hM, hd⟩ := Lemmas.ObjCompleteC18.av_track st0 impl0 lines tr hparse
  refine ⟨⟨hS.sound, fun hl => hd.resolve_right fun hv => hS.complete hv (hS.le htid) hl⟩, hM.sound, fun hl => ?_⟩
  cases hr : (runLines (step st0 [.w "av"] impl0).1 lines).rejected with
  | false => rfl
  | true => exact absurd hl (hM.complete hr (hM.le htid))

/-- **acceptance is complete**: a linearizable history with goroutine ids `< 16` is not flagged `not-linearizable`
(`violated` stays `none`: in mode `av` that verdict is the only one), and a history linearizable w.r.t. the model is not
rejected -/
theorem judge_accept_complete (st0 : St) (impl0 : String) (lines : List (List Val × String))
    (tr : List AvEvent) (hparse : lines.map (fun l => parseAv l.1) = tr.map some)
    (htid : ∀ e ∈ tr, evTid e < 16) :
    (AtomicObj.Linearizable Spec.Register.spec tr → (runLines (step st0 [.w "av"] impl0).1 lines).violated = none) ∧
    (AtomicObj.Linearizable AtomicValue.spec tr → (runLines (step st0 [.w "av"] impl0).1 lines).rejected = false) := by
  obtain ⟨hS, hM⟩ := judge_decides_linearizability st0 impl0 lines tr hparse htid
  exact ⟨hS.2, hM.2⟩

/-- every real history of the model system (any number of goroutines, any menu), if its goroutine ids are `< 16`, passes
both components of the judge (with `C18.register`: a history of the model is linearizable w.r.t. the register) -/
theorem judge_accepts_model_histories (st0 : St) (impl0 : String) (lines : List (List Val × String))
    (N : Nat) (menu : List AtomicValue.Op) (ls : List (Option AvEvent)) (s : AvState)
    (hex : Exec (AtomicObj.sys AtomicValue.spec menu N) (AtomicObj.sys AtomicValue.spec menu N).init ls s)
    (hparse : lines.map (fun l => parseAv l.1) = (visible ls).map some)
    (htid : ∀ e ∈ visible ls, evTid e < 16) :
    (runLines (step st0 [.w "av"] impl0).1 lines).violated = none ∧
    (runLines (step st0 [.w "av"] impl0).1 lines).rejected = false := by
  obtain ⟨hS, hM⟩ := judge_accept_complete st0 impl0 lines (visible ls) hparse htid
  exact ⟨hS (C18.register.2.2.2 menu N ls s hex), hM (C18.AtomicObj.linearizable AtomicValue.spec menu N hex)⟩

/-- **Pool judge, bag component**: a history with goroutine ids `< 16` that is linearizable w.r.t. the atomic bag is never
flagged `not-linearizable` -/
theorem judge_accept_complete_pool (st0 : St) (hn : Int) (impl0 : String) (lines : List (List Val × String))
    (tr : List Pool.Event) (hparse : lines.map (fun l => parsePool l.1) = tr.map some)
    (htid : ∀ e ∈ tr, evTid e < 16) (hlin : AtomicObj.Linearizable (Pool.bagSpec (hn != 0)) tr) :
    (runLines (step st0 [.w "pool", .i hn] impl0).1 lines).violated ≠ some "not-linearizable" :=
  have h := (Lemmas.ObjCompleteC18.pool_track st0 hn impl0 lines tr hparse).2.2
  fun hv => h.complete hv (h.le htid) hlin

/-- the two verdicts of the Pool judge about linearizability are both correct (ids `< 16`): no violation ⇒ linearizable
w.r.t. the bag; `not-linearizable` ⇒ not linearizable w.r.t. the bag -/
theorem judge_pool_verdict (st0 : St) (hn : Int) (impl0 : String) (lines : List (List Val × String))
    (tr : List Pool.Event) (hparse : lines.map (fun l => parsePool l.1) = tr.map some)
    (htid : ∀ e ∈ tr, evTid e < 16) :
    ((runLines (step st0 [.w "pool", .i hn] impl0).1 lines).violated = none →
      AtomicObj.Linearizable (Pool.bagSpec (hn != 0)) tr) ∧
    ((runLines (step st0 [.w "pool", .i hn] impl0).1 lines).violated = some "not-linearizable" →
      ¬ AtomicObj.Linearizable (Pool.bagSpec (hn != 0)) tr) :=
  ⟨fun hv => accepted_pool_history_linearizable st0 hn impl0 lines tr hparse hv,
   fun hv hlin => judge_accept_complete_pool st0 hn impl0 lines tr hparse htid hlin hv⟩

end C18

#print axioms C18.AtomicObj.exec_of_linearizable
#print axioms C18.AtomicObj.linearizable_iff_exec
#print axioms C18.AtomicObj.tau_bound
#print axioms C18.fold_stepObj_complete
#print axioms C18.fold_stepObj_iff
#print axioms C18.fold_stepObj_iff_linearizable
#print axioms C18.stepObj_fold_iff_linearizable
#print axioms C18.judge_decides_linearizability
#print axioms C18.judge_accept_complete
#print axioms C18.judge_accepts_model_histories
#print axioms C18.judge_accept_complete_pool
#print axioms C18.judge_pool_verdict
