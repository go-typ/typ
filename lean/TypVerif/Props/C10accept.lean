import TypVerif.Lemmas.ConcAcceptC10
/-
C10 — ACCEPTANCE IS SOUND: a real event trace for which the judge `Drv/C10.lean` keeps a non-empty set of model states is the visible trace of an execution
of `Model.PubSub.sys` (with the invocation events of the trace as the environment's menu), although the judge erases the ghost logs (`norm`), merges a
`sendAsync` goroutine's RLock with its next own step (`succJ`) and computes the internal closure with a hash set under a step budget.  Hence the theorems
of `Props/C10*.lean`, which quantify over ALL executions, apply to that real run.  Scenarios whose model side is skipped (`model.skipped:*` tags: more than
24 channels or more than `stateCap` states) are excluded by hypothesis.  This file is the soundness half; that the reductions lose no trace of the model (budget and cap apart) is `C10.judge_full_iff` / `C10.judge_complete_real` in
`Props/C10complete.lean`.
-/
namespace C10
open TypVerif TypVerif.Conc TypVerif.Model.PubSub TypVerif.Drv.C10 TypVerif.Lemmas.ConcAcceptC10

/-- `norm` (erasing the ghost logs) is a bisimulation quotient: states with equal `norm` have the same labelled
successors up to `norm` -/
theorem norm_bisim {cfg : Cfg} {a a' b : State} {l : Option Event} (h : norm a = norm a')
    (hs : (l, b) ∈ succ cfg a) : ∃ b', (l, b') ∈ succ cfg a' ∧ norm b' = norm b :=
  succ_norm_eq h hs

theorem succ_norm (cfg : Cfg) (s t : State) (l : Option Event) (h : (l, t) ∈ succ cfg (norm s)) :
    ∃ t', (l, t') ∈ succ cfg s ∧ norm t' = norm t :=
  succ_norm_eq (norm_norm s) h

theorem succ_norm_conv (cfg : Cfg) (s t : State) (l : Option Event) (h : (l, t) ∈ succ cfg s) :
    ∃ t', (l, t') ∈ succ cfg (norm s) ∧ norm t' = norm t :=
  succ_norm_eq (norm_norm s).symm h

/-- the exact form behind it: prefixing the ghost logs commutes with the successor function -/
theorem succ_prefix_logs (cfg : Cfg) (d o : List (Nat × Nat × Chan)) (s : State) :
    succ cfg (pre d o s) = (succ cfg s).map (preP d o) :=
  succ_pre cfg d o s

/-- every step of the judge's successor function is one or two steps of the model, same label -/
theorem succJ_sound (cfg : Cfg) (s t : State) (l : Option Event) (h : (l, t) ∈ succJ cfg s) :
    (l, t) ∈ succ cfg s ∨ (l = none ∧ ∃ m, (none, m) ∈ succ cfg s ∧ (none, t) ∈ succ cfg m) :=
  Lemmas.ConcAcceptC10.succJ_sound cfg s t l h

/-- the hash-set closure (whatever its step budget and state cap) only adds `norm`s of states reachable by internal
steps of the model from the frontier it was started with -/
theorem closure_sound (cfg : Cfg) (n : Nat) (seen : Std.HashSet State) (frontier : List State) :
    ∀ t, t ∈ closure cfg n seen frontier →
      t ∈ seen ∨ ∃ s ∈ frontier, ∃ (ls : List (Option Event)) (t' : State),
        Exec (sys cfg) s ls t' ∧ visible ls = [] ∧ norm t' = t :=
  Lemmas.ConcAcceptC10.closure_sound cfg n seen frontier

/-- one event: `advance` yields only `norm`s of states the model reaches from a state of `ss` with visible trace `[e]` -/
theorem advance_sound (cfg : Cfg) (ss : List State) (e : Event) :
    ∀ t ∈ advance cfg ss e, ∃ s ∈ ss, ∃ (ls : List (Option Event)) (t' : State),
      Exec (sys { cfg with env := [e] }) s ls t' ∧ visible ls = [e] ∧ norm t' = t :=
  Lemmas.ConcAcceptC10.advance_sound cfg ss e

/-- monotonicity in the environment menu (events that are not invocations need not be on the larger menu: the
environment cannot issue them anyway) -/
theorem env_mono (cfg : Cfg) (E1 E2 : List Event) (h : ∀ e ∈ E1, e ∈ E2 ∨ isInv e = false)
    {a b : State} {ls : List (Option Event)} (hex : Exec (sys { cfg with env := E1 }) a ls b) :
    Exec (sys { cfg with env := E2 }) a ls b :=
  exec_env_mono cfg E1 E2 h hex

/-- every state of the judge's set after the events `tr` is the `norm` of a state reached by an execution whose
visible trace is `tr`, of the system whose environment menu is `E` ⊇ the invocation events of `tr` -/
theorem judge_states_sound (cfg : Cfg) (E : List Event) (tr : List Event) (hE : ∀ e ∈ tr, e ∈ E ∨ isInv e = false) :
    ∀ t ∈ tr.foldl (advance cfg) [{}], ∃ (ls : List (Option Event)) (t' : State),
      Exec (sys { cfg with env := E }) (sys { cfg with env := E }).init ls t' ∧ visible ls = tr ∧ norm t' = t :=
  fun t ht => Lemmas.PubSubRed.afterR_sound cfg E tr hE t (Lemmas.PubSubRed.judge_sub_afterR cfg tr t ht)

/-- acceptance is sound for every menu `E` that holds the invocation events of the trace -/
theorem judge_accept_sound_of (cfg : Cfg) (E tr : List Event) (hE : ∀ e ∈ tr, e ∈ E ∨ isInv e = false)
    (h : tr.foldl (advance cfg) [{}] ≠ []) :
    ∃ (ls : List (Option Event)) (s : State),
      Exec (sys { cfg with env := E }) (sys { cfg with env := E }).init ls s ∧ visible ls = tr := by
  cases hA : tr.foldl (advance cfg) [{}] with
  | nil => exact absurd hA h
  | cons t rest =>
    obtain ⟨ls, t', hex, hv, _⟩ := judge_states_sound cfg E tr hE t (by rw [hA]; exact List.mem_cons_self)
    exact ⟨ls, t', hex, hv⟩

/-- acceptance is sound: if the judge's state set after the events `tr` is non-empty, `tr` is the visible trace of an
execution (from the initial state) of the model whose environment menu is the list of invocation events of `tr` -/
theorem judge_accept_sound (cfg : Cfg) (tr : List Event) (h : tr.foldl (advance cfg) [{}] ≠ []) :
    ∃ (ls : List (Option Event)) (s : State),
      Exec (sys { cfg with env := tr.filter isInv }) (sys { cfg with env := tr.filter isInv }).init ls s ∧
      visible ls = tr :=
  judge_accept_sound_of cfg (tr.filter isInv) tr (mem_filter_isInv_or tr) h

/- non-vacuity: `#eval ([Event.sub 1 0, .subret 1, .pubinv 1 0 .pubSync [5], .allow 1 1, .recv 1 5, .pubret 1].foldl (advance {}) [{}]).length`
   = 1 (and 0 without the `allow`/`recv`); not stated as an `example` because `decide` cannot evaluate `Std.HashSet`
   operations in the kernel and `native_decide` is not allowed. -/

/-- the same with the whole trace as the menu -/
theorem judge_accept_sound_menu (cfg : Cfg) (tr : List Event) (h : tr.foldl (advance cfg) [{}] ≠ []) :
    ∃ (ls : List (Option Event)) (s : State),
      Exec (sys { cfg with env := tr }) (sys { cfg with env := tr }).init ls s ∧ visible ls = tr :=
  judge_accept_sound_of cfg tr tr (fun _ he => Or.inl he) h

/-- what `Drv.C10.step` folds: the header line `ps t d` resets the judge to the state set `[{}]` -/
theorem judge_header (j : J) (t d : Int) (impl : String) :
    (step j [.w "ps", .i t, .i d] impl).1 = { cfg := { timeout := t, defBuf := d.toNat }, ss := [{}], rej := none, book := {} } :=
  rfl

/-- What `Drv.C10.step` does on a line that parses as the event `e` (every event, `exit r` included: no special convention), while the judge
has neither rejected nor stopped modelling the scenario (`skipped`: more than 24 channels or more than `stateCap` states;
then the model output is `ok` WITHOUT any claim) and does not stop on this line: the new set is `advance cfg ss e`, the
configuration is unchanged, and the model output is `ok` iff that set is non-empty -/
theorem judge_step_folds_advance (j : J) (toks : List Proto.Val) (impl : String) (e : Event)
    (hp : parseEvent toks = some e) (hrej : j.rej = none) (hsk : j.skipped = false)
    (hsk' : (step j toks impl).1.skipped = false) :
    (step j toks impl).1.ss = advance j.cfg j.ss e ∧ (step j toks impl).1.cfg = j.cfg ∧
    ((step j toks impl).1.rej = none ↔ advance j.cfg j.ss e ≠ []) ∧
    ((step j toks impl).2.model = "ok" ↔ advance j.cfg j.ss e ≠ []) :=
  step_event j toks impl e hp hrej hsk hsk'

end C10

#print axioms C10.norm_bisim
#print axioms C10.succ_norm
#print axioms C10.succ_norm_conv
#print axioms C10.succ_prefix_logs
#print axioms C10.succJ_sound
#print axioms C10.closure_sound
#print axioms C10.advance_sound
#print axioms C10.env_mono
#print axioms C10.judge_states_sound
#print axioms C10.judge_accept_sound
#print axioms C10.judge_accept_sound_menu
#print axioms C10.judge_header
#print axioms C10.judge_step_folds_advance
