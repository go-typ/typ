import TypVerif.Props.C10
import TypVerif.Lemmas.PubSubLiveNames
/-
C10 — PubSub, the safety half of "eventually": the object cannot wedge while its subscribers keep receiving.
Model `sys cfg` of `TypVerif/Model/PubSub.lean`, all schedules (`Conc.Reachable`), any menu `cfg.env`, any timeout
setting, any buffer sizes; `_partial` = under `CloneDiscipline` (no `WithOnly`), like `C10.no_panic_partial`.

WHAT IS CLAIMED: in every reachable state in which some goroutine of the PubSub has not finished, some step of a
PubSub goroutine or of a receiver is ENABLED (deadlock freedom), and for every single goroutine that cannot step the
precise thing it waits for (`blocked_reason_partial`).
WHAT IS NOT CLAIMED: that the enabled step is ever taken or that a particular call returns — those need fair
scheduling.  What holds without a fairness assumption (internal runs are finite, and maximal ones end with every
sender finished) is in `Props/C10term.lean` (`C10.async_eventually_partial`, `C10.async_item_fate_partial`).

CHANNEL NAMES.  They are chosen by the harness.  The Go code cannot have two channels of one name (`Sub` makes a fresh
channel) and the harness never reuses a name.  The model mirrors this in `envStep`: it refuses `sub c` / `mkchan c`
while a channel `c` exists AND while a `Sub` carrying the name `c` is pending (`nameTaken`).  If only existing channels
were checked, two `sub c` invocations could both be pending; the first would create `c`, and `stepSubWait` of the second
would be disabled for ever (`hasChan s.chans c`) while it stayed counted in `rw.waiting`, keeping every later reader
out: `lvStuckState` below is that state; it satisfies every hypothesis of `no_deadlock_partial` but reachability.
With the refusal, names are pairwise distinct in EVERY reachable state (`fresh_names_invariant`, any configuration),
`no_deadlock_partial` needs no naming hypothesis, `lvStuckState` is unreachable (`former_stuck_state_unreachable`) and
the path towards it is not a path of the model (the `example` after it).  The versions with a naming hypothesis on
the run (`FreshRun`, `no_deadlock_fresh_run_partial`) are special cases of `no_deadlock_partial`.
-/
namespace C10
open TypVerif TypVerif.Model.PubSub TypVerif.Lemmas.PubSubExec TypVerif.Lemmas.PubSubSafe TypVerif.Lemmas.PubSubLive

/-- every receiver that has not seen its channel closed is still willing to take a value ("is being received from") -/
def Receiving (s : State) : Prop := ∀ ch ∈ s.chans, ch.rdone = false → 0 < ch.allow

/-- the weaker form that the proofs use: only the receivers of the channels subscribed on the root matter -/
def ReceivingSubscribed (s : State) : Prop :=
  ∀ ch ∈ s.chans, ch.id ∈ (s.obj 0).subs → ch.rdone = false → 0 < ch.allow

instance (s : State) : Decidable (Receiving s) := by unfold Receiving; infer_instance

theorem Receiving.subscribed {s : State} (h : Receiving s) : ReceivingSubscribed s :=
  fun ch hm _ hr => h ch hm hr

/-- a `Sub` inside `Lock()` whose (harness-chosen) channel name is already taken -/
def stuckSub (s : State) : Task → Bool
  | .subWait _ c _ => hasChan s.chans c
  | _ => false

/-- naming discipline: no pending `Sub` carries the name of an existing channel -/
def FreshSubNames (s : State) : Prop := ∀ t ∈ s.tasks, stuckSub s t = false

instance (s : State) : Decidable (FreshSubNames s) := by unfold FreshSubNames; infer_instance

/-- The model refuses an invocation `sub c` / `mkchan c` whose name is in use — as an existing channel or as the name
carried by a pending `Sub` — in any state whatsoever. -/
theorem sub_refused_while_name_taken (cfg : Cfg) (s : State) (c : Chan) (cap : Int)
    (h : hasChan s.chans c = true ∨ ∃ t ∈ s.tasks, subName c t = true) :
    envStep cfg s (.sub c cap) = none ∧ envStep cfg s (.mkchan c) = none := by
  have ht : nameTaken s c = true := by
    simp only [nameTaken, Bool.or_eq_true, List.any_eq_true]
    exact h
  simp [envStep, ht]

theorem freshSubNames_of_namesOk {s : State} (h : NamesOk s) : FreshSubNames s := fun t ht => by
  cases t with
  | subWait o c cap => exact fresh_of_namesOk h o c cap ht
  | _ => rfl

/-- Name freshness is an invariant of the model: in every reachable state — any configuration, with or without clones,
all schedules — channel names are pairwise distinct (`NamesOk`: for every name, the pending `Sub`s carrying it plus the
existing channels with that id are at most one), hence no pending `Sub` carries the name of an existing channel. -/
theorem fresh_names_invariant (cfg : Cfg) (s : State) (hr : Conc.Reachable (sys cfg) s) :
    NamesOk s ∧ FreshSubNames s :=
  have h := namesOk_reachable cfg s hr
  ⟨h, freshSubNames_of_namesOk h⟩

/-- the same under `CloneDiscipline` (the form in which the deadlock theorems use it) -/
theorem fresh_names_invariant_partial (cfg : Cfg) (_hd : CloneDiscipline cfg) (s : State)
    (hr : Conc.Reachable (sys cfg) s) : NamesOk s ∧ FreshSubNames s :=
  fresh_names_invariant cfg s hr

/-- The additional invariant of every reachable state (under `CloneDiscipline`) that the deadlock proof needs:
`rdone → closed` (through the channel id: the id of a receiver that observed the close is closed), the RWMutex is never
observed write-locked, `rw.waiting` is exactly the number of goroutines inside `Lock()`, and a PubSync loop task always
has a head item.  Nothing is claimed for systems with clones. -/
theorem live_invariant_partial (cfg : Cfg) (hd : CloneDiscipline cfg) (s : State) (hr : Conc.Reachable (sys cfg) s) :
    (∀ ch ∈ s.chans, ch.rdone = true → isClosed s.chans ch.id = true) ∧
    (s.obj 0).rw.writer = false ∧
    (s.obj 0).rw.waiting = s.tasks.countP isWaiter ∧
    (∀ t ∈ s.tasks, emptySync t = false) := by
  have hl := live_reachable cfg hd s hr
  exact ⟨hl.rd, hl.writer, hl.waiting, hl.sync⟩

/-- What a task that cannot step is waiting for.  In a reachable state (under `CloneDiscipline`) whose subscribed
channels are being received from, a goroutine `t ≠ done` without an enabled step is in exactly one of these situations:
(a) it is a sender (`sending t = some it`: PubSync loop head, sendAsync, sendWaitGroup; timer not fired) with the
    timeout OFF, blocked on an existing, open channel whose receiver has not stopped and is willing (`allow > 0`), the
    buffer is full — and the RECEIVER of that channel has an enabled step;
(b) it is a `Pub*Wait` in `wg.Wait()` whose counter is positive, and a `wgSend` goroutine of that group is alive;
(c) it is about to `RLock` (`pubStart` / `asyncStart`) and is kept out by a goroutine waiting in `Lock()` (writer
    preference; the mutex itself is not write-locked);
(d) it waits in `Lock()` (`subWait` / `unsubWait` / `uaWait`) and is kept out by a goroutine inside a read-locked
    region (`syncLoop` / `waitWg` / `asyncSend`).
(A fifth alternative, a `Sub` in `Lock()` whose harness-chosen channel name already exists, is excluded by
`fresh_names_invariant`.)
Not claimed: that the blocking goroutine itself can step (that is `waitRank`, behind `no_deadlock_partial`). -/
theorem blocked_reason_partial (cfg : Cfg) (hd : CloneDiscipline cfg) (s : State) (hr : Conc.Reachable (sys cfg) s)
    (_hx : s.exited = false) (hrecv : ReceivingSubscribed s) (i : Nat) (t : Task)
    (ht : s.tasks[i]? = some t) (hne : t ≠ .done) (hblk : taskSteps cfg s i = []) :
    (∃ it, sending t = some it ∧ cfg.timeout ≤ 0 ∧ sendTo s it = .blocked ∧
        ∃ ch ∈ s.chans, ch.id = it.c ∧ ch.closed = false ∧ ch.rdone = false ∧ 0 < ch.allow ∧
          ch.cap ≤ ch.buf.length ∧ recvSteps s ch ≠ []) ∨
    (∃ w, isWaitWg w t = true ∧ 0 < s.wgs.getD w 0 ∧
        ∃ (j : Nat) (t' : Task), s.tasks[j]? = some t' ∧ isWgSend w t' = true) ∨
    (isReaderStart t = true ∧ (s.obj 0).rw.writer = false ∧
        ∃ (j : Nat) (t' : Task), s.tasks[j]? = some t' ∧ isWaiter t' = true) ∨
    (isWaiter t = true ∧ ∃ (j : Nat) (t' : Task), s.tasks[j]? = some t' ∧ holdsRead t' = true) := by
  rcases blocked_reason (no_panic_noClone cfg hd s hr) (live_reachable cfg hd s hr) hrecv ht hne hblk
    with h | h | h | h | h
  · exact Or.inl h
  · exact Or.inr (Or.inl h)
  · exact Or.inr (Or.inr (Or.inl h))
  · exact Or.inr (Or.inr (Or.inr h))
  · obtain ⟨o, c, cap, rfl, hc⟩ := h
    have := fresh_of_namesOk (namesOk_reachable cfg s hr) o c cap (List.mem_of_getElem? ht)
    rw [this] at hc; cases hc

/-- Deadlock freedom while the subscribers keep receiving.  In every reachable state (under `CloneDiscipline`, any
interleaving of Pub*/Sub/Unsub/UnsubAll calls, any variants, any buffers, with or without timeout) in which every
receiver that has not seen its channel closed is willing to take a value: as long as some goroutine of the PubSub has
not finished, SOME step of a PubSub goroutine or of a receiver is enabled.  No hypothesis on channel names: the model
keeps them distinct (`fresh_names_invariant`).  Proof: `PubSubLive.blocked_reason` and the rank of the
waits-for order (`waitRank`).
Not claimed: that the step is taken (fairness). -/
theorem no_deadlock_partial (cfg : Cfg) (hd : CloneDiscipline cfg) (s : State) (hr : Conc.Reachable (sys cfg) s)
    (_hx : s.exited = false) (hrecv : Receiving s) (hwork : ∃ t ∈ s.tasks, t ≠ .done) :
    (∃ i, taskSteps cfg s i ≠ []) ∨ (∃ ch ∈ s.chans, recvSteps s ch ≠ []) :=
  enabled_of_work (no_panic_noClone cfg hd s hr) (live_reachable cfg hd s hr) hrecv.subscribed
    (fresh_of_namesOk (namesOk_reachable cfg s hr)) hwork

/-- the same with the weaker hypothesis on the receivers (subscribed channels only), and as a statement about the
transition system: a successor of `s` that is a PubSub-goroutine step or a receiver step EXISTS, i.e. the harness
verdict `exit "deadlock"` is never the only way on. -/
theorem no_deadlock_succ_partial (cfg : Cfg) (hd : CloneDiscipline cfg) (s : State) (hr : Conc.Reachable (sys cfg) s)
    (hx : s.exited = false) (hrecv : ReceivingSubscribed s)
    (hwork : ∃ t ∈ s.tasks, t ≠ .done) :
    ∃ p ∈ (sys cfg).succ s, (∃ i, p ∈ taskSteps cfg s i) ∨ (∃ ch ∈ s.chans, p ∈ recvSteps s ch) := by
  have hs := no_panic_noClone cfg hd s hr
  have key := enabled_of_work (cfg := cfg) hs (live_reachable cfg hd s hr) hrecv
    (fresh_of_namesOk (namesOk_reachable cfg s hr)) hwork
  rcases key with ⟨i, hi⟩ | ⟨ch, hm, hc⟩
  · obtain ⟨p, hp⟩ := List.exists_mem_of_ne_nil _ hi
    exact ⟨p, mem_succ_of_task_or_recv hx hs.nopanic (Or.inl ⟨i, hp⟩), Or.inl ⟨i, hp⟩⟩
  · obtain ⟨p, hp⟩ := List.exists_mem_of_ne_nil _ hc
    exact ⟨p, mem_succ_of_task_or_recv hx hs.nopanic (Or.inr ⟨ch, hm, hp⟩), Or.inr ⟨ch, hm, hp⟩⟩

/-- the state reached by the path (k-th successor at each step) -/
def liveAt (cfg : Cfg) (path : List Nat) : State := (runPath cfg {} path).getD {}

theorem liveAt_reachable (cfg : Cfg) (path : List Nat) (h : (runPath cfg {} path).isSome = true) :
    Conc.Reachable (sys cfg) (liveAt cfg path) :=
  runPath_reachable cfg path {} _ Conc.Reachable.init (eq_some_getD h _)

/-- one subscriber with buffer 1 whose receiver is allowed 5 values, timeout off; a PubSync of two events, an Unsub,
a Pub -/
def lvCfg : Cfg :=
  { allowClone := false,
    env := [.sub 0 1, .allow 0 5, .pubinv 0 0 .pubSync [7, 8], .unsubinv 0 0 0, .pubinv 1 0 .pub [9]] }

/-- sub 0 (buffer 1) returned; allow 0 5; PubSync [7, 8] handed off 7 into the buffer -/
def lvPath1 : List Nat := [0, 3, 3, 4, 0, 1, 3, 3]
/-- after `lvPath1`: Unsub(0) called and waiting in Lock(), then Pub [9] invoked -/
def lvPath2 : List Nat := lvPath1 ++ [1, 3, 2]

/-- (1) a reachable state with a sender blocked on a full buffered channel: the PubSync loop cannot step, the receiver
can; all hypotheses of `no_deadlock_partial` hold -/
example : Conc.Reachable (sys lvCfg) (liveAt lvCfg lvPath1) ∧ CloneDiscipline lvCfg ∧
    (liveAt lvCfg lvPath1).exited = false ∧ Receiving (liveAt lvCfg lvPath1) ∧ FreshSubNames (liveAt lvCfg lvPath1) ∧
    (liveAt lvCfg lvPath1).tasks = [.done, .syncLoop 0 0 [{ pid := 0, idx := 1, ev := 8, c := 0 }] false] ∧
    (liveAt lvCfg lvPath1).chans = [{ id := 0, cap := 1, buf := [7], allow := 5 }] ∧
    taskSteps lvCfg (liveAt lvCfg lvPath1) 1 = [] ∧
    (∃ ch ∈ (liveAt lvCfg lvPath1).chans, recvSteps (liveAt lvCfg lvPath1) ch ≠ []) :=
  ⟨liveAt_reachable _ _ (by decide), rfl, by decide, by decide, by decide, by decide, by decide, by decide, by decide⟩

/-- `blocked_reason_partial` applied to the state of (1) yields alternative (a) -/
example : ∃ it, sending (.syncLoop 0 0 [{ pid := 0, idx := 1, ev := 8, c := 0 }] false) = some it ∧
    sendTo (liveAt lvCfg lvPath1) it = .blocked ∧
    ∃ ch ∈ (liveAt lvCfg lvPath1).chans, ch.id = it.c ∧ recvSteps (liveAt lvCfg lvPath1) ch ≠ [] := by
  rcases blocked_reason_partial lvCfg rfl (liveAt lvCfg lvPath1) (liveAt_reachable _ _ (by decide)) (by decide)
    (Receiving.subscribed (by decide)) 1 (.syncLoop 0 0 [{ pid := 0, idx := 1, ev := 8, c := 0 }] false) (by decide) (by decide) (by decide) with h | h | h | h
  · obtain ⟨it, h1, _, h2, ch, hm, hid, _, _, _, _, hstep⟩ := h
    exact ⟨it, h1, h2, ch, hm, hid, hstep⟩
  · obtain ⟨w, hw, _⟩ := h; simp [isWaitWg] at hw
  · simp [isReaderStart] at h
  · simp [isWaiter] at h

/-- (2) a reachable state with a waiting writer (Unsub in Lock(), kept out by the PubSync loop that holds the read
lock) and a blocked new reader (Pub kept out by the waiting writer: writer preference): none of the three goroutines
can step, the receiver can — the chain pubStart ← unsubWait ← syncLoop ← receiver -/
example : Conc.Reachable (sys lvCfg) (liveAt lvCfg lvPath2) ∧
    (liveAt lvCfg lvPath2).exited = false ∧ Receiving (liveAt lvCfg lvPath2) ∧ FreshSubNames (liveAt lvCfg lvPath2) ∧
    (liveAt lvCfg lvPath2).tasks = [.done, .syncLoop 0 0 [{ pid := 0, idx := 1, ev := 8, c := 0 }] false,
                                    .unsubWait 0 0 0, .pubStart 1 0 .pub [9]] ∧
    ((liveAt lvCfg lvPath2).obj 0).rw = { readers := 1, writer := false, waiting := 1 } ∧
    (List.range (liveAt lvCfg lvPath2).tasks.length).flatMap (taskSteps lvCfg (liveAt lvCfg lvPath2)) = [] ∧
    (∃ ch ∈ (liveAt lvCfg lvPath2).chans, recvSteps (liveAt lvCfg lvPath2) ch ≠ []) :=
  ⟨liveAt_reachable _ _ (by decide), by decide, by decide, by decide, by decide, by decide, by decide, by decide⟩

/-- `no_deadlock_partial` applies to the state of (2) -/
example : (∃ i, taskSteps lvCfg (liveAt lvCfg lvPath2) i ≠ []) ∨
    (∃ ch ∈ (liveAt lvCfg lvPath2).chans, recvSteps (liveAt lvCfg lvPath2) ch ≠ []) :=
  no_deadlock_partial lvCfg rfl _ (liveAt_reachable _ _ (by decide)) (by decide) (by decide) (by decide)

/-- `Receiving` is needed: an unbuffered subscriber whose receiver is never allowed to take a value, a PubSync of one
event -/
def lvDeadCfg : Cfg := { allowClone := false, env := [.sub 0 0, .pubinv 0 0 .pubSync [7]] }
def lvDeadPath : List Nat := [0, 1, 1, 1, 0, 0]

/-- (3) a reachable state (all other hypotheses hold) with `allow = 0` on the channel and a blocked PubSync in which NO
task step and NO receiver step is enabled: only `exit` is left to the system -/
example : Conc.Reachable (sys lvDeadCfg) (liveAt lvDeadCfg lvDeadPath) ∧ CloneDiscipline lvDeadCfg ∧
    (liveAt lvDeadCfg lvDeadPath).exited = false ∧ FreshSubNames (liveAt lvDeadCfg lvDeadPath) ∧
    (liveAt lvDeadCfg lvDeadPath).tasks = [.done, .syncLoop 0 0 [{ pid := 0, idx := 0, ev := 7, c := 0 }] false] ∧
    (liveAt lvDeadCfg lvDeadPath).chans = [{ id := 0, cap := 0 }] ∧
    ¬ Receiving (liveAt lvDeadCfg lvDeadPath) ∧
    (List.range (liveAt lvDeadCfg lvDeadPath).tasks.length).flatMap
      (taskSteps lvDeadCfg (liveAt lvDeadCfg lvDeadPath)) = [] ∧
    (liveAt lvDeadCfg lvDeadPath).chans.flatMap (recvSteps (liveAt lvDeadCfg lvDeadPath)) = [] ∧
    (succ lvDeadCfg (liveAt lvDeadCfg lvDeadPath)).map (·.1) =
      [some (.exit "ok"), some (.exit "deadlock"), some (.exit "timeout")] :=
  ⟨liveAt_reachable _ _ (by decide), rfl, by decide, by decide, by decide, by decide, by decide, by decide, by decide,
   by decide⟩

/-! ### why pending names must be refused -/

/-- The state a model that accepted a second `sub 0` while the first is pending would reach: two `sub 0 1` invocations
pending at the same time; the first created channel 0 and returned, the second waits in `Lock()` for ever (its step is disabled because the name exists) and is counted in `rw.waiting`; the receiver
of channel 0 is willing but has nothing to take. -/
def lvStuckState : State :=
  { objs := [{ subs := [0], rw := { waiting := 1 } }], chans := [{ id := 0, cap := 1, allow := 1 }],
    tasks := [.done, .subWait 0 0 1] }

/-- it is a deadlock: every hypothesis of `no_deadlock_partial` other than reachability holds, and nothing can step -/
example : lvStuckState.exited = false ∧ lvStuckState.panicked = none ∧ Receiving lvStuckState ∧
    (∃ t ∈ lvStuckState.tasks, t ≠ .done) ∧ ¬ FreshSubNames lvStuckState ∧
    (∀ cfg : Cfg, (List.range lvStuckState.tasks.length).flatMap (taskSteps cfg lvStuckState) = []) ∧
    lvStuckState.chans.flatMap (recvSteps lvStuckState) = [] :=
  ⟨by decide, by decide, by decide, by decide, by decide, fun _ => rfl, by decide⟩

/-- `lvStuckState` is unreachable, whatever the configuration and the schedule (the name 0 is in use twice). -/
theorem former_stuck_state_unreachable (cfg : Cfg) : ¬ Conc.Reachable (sys cfg) lvStuckState := by
  intro hr
  have h := (fresh_names_invariant cfg lvStuckState hr).2
  revert h
  decide

def lvStuckCfg : Cfg := { allowClone := false, env := [.sub 0 1, .allow 0 1] }
/-- the path that would lead to `lvStuckState` if the second `sub 0 1` were accepted: `sub 0 1`, `sub 0 1` again, first Sub announces, creates channel 0,
`allow 0 1`, `subret 0`, second Sub announces -/
def lvStuckPath : List Nat := [0, 0, 1, 1, 0, 1, 1]

/-- `lvStuckPath` is not a path of the model: after the first `sub 0 1` (state `liveAt lvStuckCfg [0]`, the Sub pending)
the second `sub 0 1` is REFUSED — `envStep` gives `none`, the environment has no move at all (so the index 0 denotes
the Sub's own step), no successor carries the label `sub 0 1`; it stays refused while the Sub waits in `Lock()` and
after the channel exists, i.e. for ever; the index path, if followed, reads "`sub 0 1`, the Sub announces itself, the
harness exits" and stops there (no successor after `exit`). -/
example : (liveAt lvStuckCfg [0]).tasks = [.subStart 0 0 1] ∧
    envStep lvStuckCfg (liveAt lvStuckCfg [0]) (.sub 0 1) = none ∧
    envSteps lvStuckCfg (liveAt lvStuckCfg [0]) = [] ∧
    (∀ p ∈ succ lvStuckCfg (liveAt lvStuckCfg [0]), p.1 ≠ some (.sub 0 1)) ∧
    (liveAt lvStuckCfg [0, 0]).tasks = [.subWait 0 0 1] ∧
    envStep lvStuckCfg (liveAt lvStuckCfg [0, 0]) (.sub 0 1) = none ∧
    (liveAt lvStuckCfg [0, 0, 0]).tasks = [.subRet 0] ∧
    envStep lvStuckCfg (liveAt lvStuckCfg [0, 0, 0]) (.sub 0 1) = none ∧
    labelsPath lvStuckCfg {} lvStuckPath = [some (.sub 0 1), none, some (.exit "ok")] ∧
    runPath lvStuckCfg {} lvStuckPath = none := by decide

/-! ### the naming discipline as a property of the run -/

/-- Channel names stay pairwise distinct (`NamesOk`: for every name, pending `Sub`s carrying it plus existing channels
with that id ≤ 1) under EVERY step of the system — any configuration, with or without clones, from any state, reachable
or not; and distinct names give `FreshSubNames`.  (An invocation `sub c` / `mkchan c` whose name is carried by a
pending `Sub` would break it; `envStep` refuses those.) -/
theorem names_distinct_step (cfg : Cfg) (s s' : State) (l : Option Event) (hok : NamesOk s)
    (h : (l, s') ∈ (sys cfg).succ s) :
    NamesOk s' ∧ FreshSubNames s' :=
  have h' := namesOk_succ hok h
  ⟨h', freshSubNames_of_namesOk h'⟩

/-- the invocation does not reuse the name of a pending `Sub` (everything that is not `sub` / `mkchan` is fine) -/
def freshLabel (s : State) : Option Event → Bool
  | some (.sub c _) => s.tasks.countP (subName c) == 0
  | some (.mkchan c) => s.tasks.countP (subName c) == 0
  | _ => true

/-- the states reached by runs in which the harness never invokes `sub c` / `mkchan c` while a `Sub` with the name `c`
is pending (all schedules otherwise).  The model refuses such invocations, so the restriction excludes no run:
everything below is a special case of `no_deadlock_partial`. -/
inductive FreshRun (cfg : Cfg) : State → Prop where
  | init : FreshRun cfg {}
  | step {s s' : State} {l : Option Event} : FreshRun cfg s → (l, s') ∈ (sys cfg).succ s → freshLabel s l = true →
      FreshRun cfg s'

theorem FreshRun.reachable {cfg : Cfg} {s : State} (h : FreshRun cfg s) : Conc.Reachable (sys cfg) s := by
  induction h with
  | init => exact Conc.Reachable.init
  | step _ hm _ ih => exact Conc.Reachable.step ih hm

theorem FreshRun.namesOk {cfg : Cfg} {s : State} (h : FreshRun cfg s) : NamesOk s := by
  induction h with
  | init => exact namesOk_init
  | step _ hm _ ih => exact namesOk_succ ih hm

/-- Deadlock freedom while the subscribers keep receiving, with the naming discipline as a hypothesis on the RUN instead
of on the state: in every state of every run (under `CloneDiscipline`) in which the harness does not reuse the name of
a pending `Sub`, if every receiver that has not seen its channel closed is willing to take a value and some goroutine
of the PubSub has not finished, a step of a PubSub goroutine or of a receiver is enabled.  Same non-claims as
`no_deadlock_partial`, of which it is a special case (`FreshRun.reachable`). -/
theorem no_deadlock_fresh_run_partial (cfg : Cfg) (hd : CloneDiscipline cfg) (s : State) (hr : FreshRun cfg s)
    (hx : s.exited = false) (hrecv : Receiving s) (hwork : ∃ t ∈ s.tasks, t ≠ .done) :
    (∃ i, taskSteps cfg s i ≠ []) ∨ (∃ ch ∈ s.chans, recvSteps s ch ≠ []) :=
  no_deadlock_partial cfg hd s hr.reachable hx hrecv hwork

/-- path checker for `FreshRun` -/
def freshPath (cfg : Cfg) : State → List Nat → Bool
  | _, [] => true
  | s, k :: ks =>
    match (succ cfg s)[k]? with
    | none => false
    | some p => freshLabel s p.1 && freshPath cfg p.2 ks

theorem freshRun_of_path (cfg : Cfg) : ∀ (ks : List Nat) (s s' : State),
    FreshRun cfg s → freshPath cfg s ks = true → runPath cfg s ks = some s' → FreshRun cfg s'
  | [], s, s', hr, _, h => by
    simp [runPath] at h; subst h; exact hr
  | k :: ks, s, s', hr, hf, h => by
    simp only [runPath] at h
    simp only [freshPath] at hf
    cases hk : (succ cfg s)[k]? with
    | none => simp [hk] at h
    | some p =>
      simp only [hk, Bool.and_eq_true] at h hf
      have hm : (p.1, p.2) ∈ (sys cfg).succ s := List.mem_of_getElem? hk
      exact freshRun_of_path cfg ks p.2 s' (FreshRun.step hr hm hf.1) hf.2 h

theorem liveAt_freshRun (cfg : Cfg) (path : List Nat) (h : (runPath cfg {} path).isSome = true)
    (hf : freshPath cfg {} path = true) : FreshRun cfg (liveAt cfg path) :=
  freshRun_of_path cfg path {} _ FreshRun.init hf (eq_some_getD h _)

/-- non-vacuity: the states of examples (1) and (2) are reached by fresh runs -/
example : FreshRun lvCfg (liveAt lvCfg lvPath1) ∧ FreshRun lvCfg (liveAt lvCfg lvPath2) :=
  ⟨liveAt_freshRun _ _ (by decide) (by decide), liveAt_freshRun _ _ (by decide) (by decide)⟩

example : (∃ i, taskSteps lvCfg (liveAt lvCfg lvPath2) i ≠ []) ∨
    (∃ ch ∈ (liveAt lvCfg lvPath2).chans, recvSteps (liveAt lvCfg lvPath2) ch ≠ []) :=
  no_deadlock_fresh_run_partial lvCfg rfl _ (liveAt_freshRun _ _ (by decide) (by decide)) (by decide) (by decide)
    (by decide)

end C10

#print axioms C10.live_invariant_partial
#print axioms C10.blocked_reason_partial
#print axioms C10.no_deadlock_partial
#print axioms C10.no_deadlock_succ_partial
#print axioms C10.sub_refused_while_name_taken
#print axioms C10.fresh_names_invariant
#print axioms C10.fresh_names_invariant_partial
#print axioms C10.former_stuck_state_unreachable
#print axioms C10.names_distinct_step
#print axioms C10.no_deadlock_fresh_run_partial
#print axioms C10.Receiving.subscribed
#print axioms C10.liveAt_reachable
#print axioms C10.FreshRun.reachable
#print axioms C10.FreshRun.namesOk
#print axioms C10.freshRun_of_path
#print axioms C10.liveAt_freshRun
