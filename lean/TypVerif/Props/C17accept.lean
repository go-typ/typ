import TypVerif.Lemmas.ConcAccept
import TypVerif.Lemmas.ConcAcceptC17
import TypVerif.Lemmas.ConcAcceptC17Drv
import TypVerif.Props.C17
/-
C17 — ACCEPTANCE IS SOUND: a real event trace that the judge `Drv/C17.lean` accepts is the visible trace of an execution of `Model.Once.sys`
(the judge steps the reduced system `red` and grows the number of goroutines as it reads the trace); hence every theorem of `Props/C17*.lean`,
which quantify over ALL executions, applies to that real run — in particular `Spec.Once.holds` (`judge_lines_accepted_spec`).
The generic acceptor (`Conc.tauClosure / stepEvent / after / accepts`, used by several judges) is proved sound in `Lemmas/ConcAccept.lean`
(`Conc.accepts_sound`).  This file is soundness only; that no trace of the model is lost is `Props/C17complete.lean` (the reduction and the
acceptor for fixed `n` and `res`) and `Props/C17drvcomplete.lean` (the fold the driver performs).
-/
namespace C17
open TypVerif TypVerif.Conc TypVerif.Model.Once TypVerif.Drv.C17

/-- every step of the reduced system the judge runs is a finite sequence of steps of the model, same visible label -/
theorem red_step_sound (n arity : Nat) (res : Nat → List Int) (s s' : State) (l : Option Event)
    (h : (l, s') ∈ (red n arity res).succ s) :
    ∃ ls, Exec (Model.Once.sys n arity res) s ls s' ∧
      visible ls = (match (generalizing := false) l with | some e => [e] | none => []) :=
  Lemmas.ConcAcceptC17.red_step_sound n arity res s s' l h

/-- `pick` evaluates urgent steps with the result function `fun _ => []`: an urgent step does not look at it -/
theorem urgent_step_ignores_res (res res' : Nat → List Int) (s : State) (t : Nat) (h : urgent s t = true) :
    stepT res s t = stepT res' s t :=
  Lemmas.ConcAcceptC17.stepT_urgent_res res res' s t h

/-- the generic acceptor on `red` for fixed `n`, `res`; the judge's own fold over lines is `judge_lines_accept_sound` -/
theorem judge_accept_sound (n arity : Nat) (res : Nat → List Int) (fuel : Nat) (tr : List Event)
    (h : Conc.accepts (red n arity res) fuel tr = true) :
    ∃ ls s, Exec (Model.Once.sys n arity res) (Model.Once.sys n arity res).init ls s ∧ visible ls = tr := by
  obtain ⟨ls', s, hex, hv⟩ := Conc.accepts_sound (red n arity res) fuel tr h
  obtain ⟨ls, hex', hv'⟩ := Lemmas.ConcAcceptC17.red_exec_sound n arity res hex
  exact ⟨ls, s, hex', hv'.trans hv⟩

/-- the point: a trace accepted by the judge's acceptor satisfies the history specification (via `C17.spec_holds`) -/
theorem accepted_trace_spec (n arity : Nat) (res : Nat → List Int) (fuel : Nat) (tr : List Event)
    (h : Conc.accepts (red n arity res) fuel tr = true) : Spec.Once.holds tr = true := by
  obtain ⟨ls, s, hex, hv⟩ := judge_accept_sound n arity res fuel tr h
  rw [← hv]
  exact C17.spec_holds hex

example : Conc.accepts (red 2 2 demoRes) 64 demoTrace = true := by decide

/-! The driver itself (`Drv.C17.step`) does not run `Conc.accepts (red n arity res)` for fixed `n`, `res`: per event it
enlarges `n` (padding its states with idle goroutines) and picks `res` from the event (`fun _ => r` on `fend _ r`).
`Lemmas.ConcAcceptC17.jstep`/`jfold` is that fold on the model-state set; `runLines` is the fold of `step` itself. -/
open TypVerif.Lemmas.ConcAcceptC17 in
/-- the fold the driver performs is sound: `N` = the final number of goroutines, `res t` = the result of the first
`fend t _` of the trace (an accepted trace has at most one per goroutine); `Lemmas.ConcAcceptC17.driver_accept_sound` is the form
with `N`, `res` under `∃` -/
theorem driver_accept_sound (arity fuel : Nat) (tr : List Event) (h : (jfold arity fuel tr).ss ≠ []) :
    ∃ (ls : List (Option Event)) (s : State),
      Exec (Model.Once.sys (jfold arity fuel tr).n arity (resFirst tr))
        (Model.Once.sys (jfold arity fuel tr).n arity (resFirst tr)).init ls s ∧ visible ls = tr :=
  driver_accept_sound_explicit arity fuel tr h

open TypVerif.Lemmas.ConcAcceptC17 TypVerif.Proto in
/-- one event line of the real judge computes exactly `jstep` on the model part -/
theorem judge_step_is_jstep (st : St) (toks : List Val) (impl : String) (e : Event)
    (hp : parseEvent toks = some e) (hst : st.started = true) (hrej : st.rejected = false)
    (harity : arityOk st.arity e = true) :
    (step st toks impl).1.ss = (jstep st.arity closureFuel { n := st.n, ss := st.ss } e).ss ∧
    (step st toks impl).1.n = (jstep st.arity closureFuel { n := st.n, ss := st.ss } e).n :=
  step_model st toks impl e hp hst hrej harity

open TypVerif.Lemmas.ConcAcceptC17 TypVerif.Proto in
/-- the judge itself: after the header `once a` and lines standing for the events `tr` (`lineEvent`: event lines, and
`fpanic t` for `fend t [0,…,0]`), if the judge has not rejected (all model outputs `ok`), `tr` is the visible trace of
an execution of the model from its initial state -/
theorem judge_lines_accept_sound (st0 : St) (a : Int) (impl0 : String) (lines : List (List Val × String))
    (tr : List Event) (hparse : lines.map (fun l => lineEvent a.toNat l.1) = tr.map some)
    (hok : (runLines (step st0 [.w "once", .i a] impl0).1 lines).rejected = false) :
    ∃ (N : Nat) (res : Nat → List Int) (ls : List (Option Event)) (s : State),
      Exec (Model.Once.sys N a.toNat res) (Model.Once.sys N a.toNat res).init ls s ∧ visible ls = tr :=
  Lemmas.ConcAcceptC17.judge_accept_sound st0 a impl0 lines tr hparse hok

open TypVerif.Lemmas.ConcAcceptC17 TypVerif.Proto in
/-- a trace the judge accepts line by line satisfies the history specification -/
theorem judge_lines_accepted_spec (st0 : St) (a : Int) (impl0 : String) (lines : List (List Val × String))
    (tr : List Event) (hparse : lines.map (fun l => lineEvent a.toNat l.1) = tr.map some)
    (hok : (runLines (step st0 [.w "once", .i a] impl0).1 lines).rejected = false) :
    Spec.Once.holds tr = true := by
  obtain ⟨N, res, ls, s, hex, hv⟩ := judge_lines_accept_sound st0 a impl0 lines tr hparse hok
  rw [← hv]
  exact C17.spec_holds hex

end C17

#print axioms TypVerif.Conc.tauClosure_sound
#print axioms TypVerif.Conc.stepEvent_sound
#print axioms TypVerif.Conc.after_sound
#print axioms TypVerif.Conc.accepts_sound
#print axioms C17.red_step_sound
#print axioms C17.urgent_step_ignores_res
#print axioms C17.judge_accept_sound
#print axioms C17.accepted_trace_spec
#print axioms C17.driver_accept_sound
#print axioms C17.judge_step_is_jstep
#print axioms C17.judge_lines_accept_sound
#print axioms C17.judge_lines_accepted_spec
