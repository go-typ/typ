import TypVerif.Lemmas.ObjAccept
import TypVerif.Lemmas.ObjCompleteC18
import TypVerif.Props.C18
/-
C18 — ACCEPTANCE IS SOUND for the atomic-object judges of `Drv/C18.lean`: a real history of `sync2.AtomicValue` /
`sync2.Pool` calls that the judge accepts is linearizable w.r.t. `S`: every state of the judge's set is the log-erasure of a
state reached by an execution with that history (`ObjAccept.Acc`), and `C18.AtomicObj.linearizable` quantifies over ALL
executions.  The execution of `AtomicObj.sys S menu N` from its initial state that the theorems exhibit (some number of
goroutines `N`, some finite menu) is the replay of the linearization (`ObjComplete.exec_of_linearizable`).

What the judge does (`Drv.C18.stepObj S n ss e`): pad every state of the set `ss` with idle goroutines up to `n`
(`padObj n`), run the generic `Conc.stepEvent` of `AtomicObj.sys S menu n`, `menu` = the operation of `e` if `e` is an
invocation (else empty), erase the ghost log of the resulting states (`eraseLog`), remove duplicates; `n` grows while the
trace is read (`nextN`).  Why this is sound (`Lemmas/ObjAccept.lean`): `AtomicObj.succ` never reads the ghost log
(`eraseLog_bisim`), ignores idle goroutines other than the stepping one (`exec_pad`), is monotone in the menu
(`exec_menu_mono`), and `n` occurs only in the initial state (`exec_n_irrelevant`).

The fold the theorems are about: `runLines (step st0 header impl0).1 lines` — the real `Drv.C18.step`, started with the
header line (`av`, resp. `pool <hasnew>`) in any judge state `st0`, folded over lines each of which parses as an event
(`parseAv` resp. `parsePool`; the second component of a line, the implementation's result string, is ignored by this judge).
"Accepted" = the judge's flag is still clear at the end, i.e. every output so far was `ok`:
`rejected = false` for the model component (`avM`, system `AtomicObj.sys AtomicValue.spec`),
`violated = none` for the specification component (`avS`: `Spec.Register.spec`; `poolS`: `Pool.bagSpec hasNew`).

Soundness only here; that the fuel-bounded closure loses no trace is `judge_accept_complete` / `judge_accept_complete_pool`
(`Props/C18complete.lean`).  NOT covered: the wrapper-level pool model component `poolM`
(`Pool.sys`, `stepPool`/`padPool`: flag `rejected` in mode `pool`), and the `pool <hasnew> trace` mode (no state sets).
-/
namespace C18
open TypVerif TypVerif.Conc TypVerif.Model TypVerif.Proto TypVerif.Drv.C18
open TypVerif.Lemmas.ObjAccept (Acc stepObjF foldObj evMenu padBy)
open TypVerif.Lemmas.ObjAcceptC18 (runLines nextN)

/-! ## generic -/

-- `eraseLog`, `padObj` below are `Drv.C18`'s; `Lemmas.ObjAccept` (and `Drv.ObjLin`) have copies of their own, equal to
-- them by unfolding, which is why `ObjAccept`'s are not opened here

/-- the ghost log is never read: states equal up to the log have the same executions, up to the log -/
theorem eraseLog_bisim (S : AtomicObj.Spec) (menu : List S.Op) (n : Nat) {a a' b : AtomicObj.State S.σ S.Op S.Res}
    {ls : List (Option (AtomicObj.Event S.Op S.Res))} (he : Exec (AtomicObj.sys S menu n) a ls b)
    (h : eraseLog a' = eraseLog a) :
    ∃ b' : AtomicObj.State S.σ S.Op S.Res, Exec (AtomicObj.sys S menu n) a' ls b' ∧ eraseLog b' = eraseLog b :=
  Lemmas.ObjAccept.eraseLog_bisim S menu n he h

/-- padding with idle goroutines is a simulation; `n` matters only for the initial state -/
theorem exec_pad (S : AtomicObj.Spec) (menu : List S.Op) (n n' k : Nat) {a b : AtomicObj.State S.σ S.Op S.Res}
    {ls : List (Option (AtomicObj.Event S.Op S.Res))} (he : Exec (AtomicObj.sys S menu n) a ls b) :
    Exec (AtomicObj.sys S menu n') (padBy k a) ls (padBy k b) :=
  Lemmas.ObjAccept.exec_pad S menu n n' k he

theorem padObj_eq_padBy {σ Op Res : Type} (n : Nat) (s : AtomicObj.State σ Op Res) :
    padObj n s = padBy (n - s.pcs.length) s := rfl

theorem exec_menu_mono (S : AtomicObj.Spec) {menu menu' : List S.Op} (hm : ∀ op ∈ menu, op ∈ menu') (n : Nat)
    {a b : AtomicObj.State S.σ S.Op S.Res} {ls : List (Option (AtomicObj.Event S.Op S.Res))}
    (he : Exec (AtomicObj.sys S menu n) a ls b) : Exec (AtomicObj.sys S menu' n) a ls b :=
  Lemmas.ObjAccept.exec_menu_mono S hm n he

/-- every state in `stepObj S n ss e` is `eraseLog` of a state reached from the padding of some state of `ss` by an
execution with visible trace `[e]` -/
theorem stepObj_sound (S : AtomicObj.Spec) [DecidableEq S.σ] [DecidableEq S.Op] [DecidableEq S.Res] (n : Nat)
    (ss : List (AtomicObj.State S.σ S.Op S.Res)) (e : AtomicObj.Event S.Op S.Res) :
    ∀ s' ∈ stepObj S n ss e, ∃ s ∈ ss, ∃ (ls : List (Option (AtomicObj.Event S.Op S.Res)))
        (s1 : AtomicObj.State S.σ S.Op S.Res),
      Exec (AtomicObj.sys S (evMenu e) n) (padObj n s) ls s1 ∧ visible ls = [e] ∧ s' = eraseLog s1 :=
  Lemmas.ObjAccept.stepObj_sound S closureFuel n ss e

/-- folding `stepObj` over `tr`, with ANY way `nf` of choosing the number of goroutines per event (the judge: `nextN`),
from the initial state set: if the set is non-empty at the end, `tr` is the visible trace of an execution from the initial
state of some `AtomicObj.sys S menu N` -/
theorem fold_stepObj_sound (S : AtomicObj.Spec) [DecidableEq S.σ] [DecidableEq S.Op] [DecidableEq S.Res]
    (nf : Nat → AtomicObj.Event S.Op S.Res → Nat) (n0 : Nat) (tr : List (AtomicObj.Event S.Op S.Res))
    (hne : (tr.foldl (fun j e => (nf j.1 e, stepObj S (nf j.1 e) j.2 e)) (n0, [AtomicObj.init S n0])).2 ≠ []) :
    ∃ (N : Nat) (menu : List S.Op) (ls : List (Option (AtomicObj.Event S.Op S.Res)))
        (s : AtomicObj.State S.σ S.Op S.Res),
      Exec (AtomicObj.sys S menu N) (AtomicObj.sys S menu N).init ls s ∧ visible ls = tr :=
  Lemmas.ObjAccept.fold_stepObj_sound S closureFuel nf n0 tr hne

/-! ## the judge -/

/-- one event line of the real judge in mode `av`: the number of goroutines becomes `nextN n t`, both state sets are
stepped by `stepObj` (`stepAvM`, `stepAvS`) with that number, the flags record emptiness -/
theorem judge_step_av (st : St) (toks : List Val) (impl : String) (e : AvEvent) (hmode : st.mode = .av)
    (hp : parseAv toks = some e) :
    (step st toks impl).1.mode = .av ∧
    (step st toks impl).1.n = nextN st.n (evTid e) ∧
    (step st toks impl).1.avM = (if st.rejected then [] else stepAvM (nextN st.n (evTid e)) st.avM e) ∧
    (step st toks impl).1.avS = (if st.violated.isSome then [] else stepAvS (nextN st.n (evTid e)) st.avS e) ∧
    (step st toks impl).1.rejected = (st.rejected || (step st toks impl).1.avM.isEmpty) ∧
    (step st toks impl).1.violated = (match st.violated with
        | some w => some w
        | none => if (step st toks impl).1.avS.isEmpty then some "not-linearizable" else none) :=
  Lemmas.ObjAcceptC18.step_av st toks impl e hmode hp

/-- one event line of the real judge in mode `pool hasNew` (not trace-only), bag component -/
theorem judge_step_pool (st : St) (toks : List Val) (impl : String) (hasNew : Bool) (e : Pool.Event)
    (hmode : st.mode = .pool hasNew) (htr : st.traceOnly = false) (hp : parsePool toks = some e) :
    (step st toks impl).1.mode = .pool hasNew ∧ (step st toks impl).1.traceOnly = false ∧
    (step st toks impl).1.n = nextN st.n (evTid e) ∧
    (step st toks impl).1.poolS =
      (if st.violated.isSome then [] else stepBag hasNew (nextN st.n (evTid e)) st.poolS e) ∧
    ((step st toks impl).1.violated = none → st.violated = none ∧ (step st toks impl).1.poolS ≠ []) := by
  obtain ⟨h1, h2, h3, h4, w, hv, hw⟩ := Lemmas.ObjAcceptC18.step_pool st toks impl hasNew e hmode htr hp
  exact ⟨h1, h2, h3, h4, fun h0 => ((hw.or hv).1 h0).imp_right (· e rfl)⟩

/-- **AtomicValue judge**: after the header `av` and lines standing for the events `tr`, a judge that has not rejected
has read the visible trace of an execution of the model system `AtomicObj.sys AtomicValue.spec`; a judge that has reported
no violation has read the visible trace of an execution of the specification system `AtomicObj.sys Spec.Register.spec` -/
theorem judge_accept_sound (st0 : St) (impl0 : String) (lines : List (List Val × String)) (tr : List AvEvent)
    (hparse : lines.map (fun l => parseAv l.1) = tr.map some) :
    ((runLines (step st0 [.w "av"] impl0).1 lines).rejected = false →
      ∃ (N : Nat) (menu : List AtomicValue.Op) (ls : List (Option AvEvent)) (s : AvState),
        Exec (AtomicObj.sys AtomicValue.spec menu N) (AtomicObj.sys AtomicValue.spec menu N).init ls s ∧
          visible ls = tr) ∧
    ((runLines (step st0 [.w "av"] impl0).1 lines).violated = none →
      ∃ (N : Nat) (menu : List AtomicValue.Op) (ls : List (Option AvEvent)) (s : AvState),
        Exec (AtomicObj.sys Spec.Register.spec menu N) (AtomicObj.sys Spec.Register.spec menu N).init ls s ∧
          visible ls = tr) :=
  have h := Lemmas.ObjCompleteC18.av_track st0 impl0 lines tr hparse
  ⟨fun hr => Lemmas.ObjComplete.exec_of_linearizable AtomicValue.spec (h.2.2.1.sound hr),
   fun hv => Lemmas.ObjComplete.exec_of_linearizable Spec.Register.spec (h.2.1.sound hv)⟩

/-- **Pool judge, bag component**: after the header `pool hn` and lines standing for the events `tr`, a judge that has
reported no violation has read the visible trace of an execution of `AtomicObj.sys (Pool.bagSpec (hn != 0))` -/
theorem judge_accept_sound_pool (st0 : St) (hn : Int) (impl0 : String) (lines : List (List Val × String))
    (tr : List Pool.Event) (hparse : lines.map (fun l => parsePool l.1) = tr.map some)
    (hok : (runLines (step st0 [.w "pool", .i hn] impl0).1 lines).violated = none) :
    ∃ (N : Nat) (menu : List Pool.Op) (ls : List (Option Pool.Event)) (s : BagState),
      Exec (AtomicObj.sys (Pool.bagSpec (hn != 0)) menu N) (AtomicObj.sys (Pool.bagSpec (hn != 0)) menu N).init ls s ∧
        visible ls = tr :=
  Lemmas.ObjComplete.exec_of_linearizable (Pool.bagSpec (hn != 0))
    ((Lemmas.ObjCompleteC18.pool_track st0 hn impl0 lines tr hparse).2.2.sound hok)

/-- an accepted AtomicValue history is linearizable: w.r.t. the model `AtomicValue.spec` and (by `C18.register`)
w.r.t. the register specification when the model component accepts; w.r.t. the register specification when the
specification component accepts -/
theorem accepted_history_linearizable (st0 : St) (impl0 : String) (lines : List (List Val × String))
    (tr : List AvEvent) (hparse : lines.map (fun l => parseAv l.1) = tr.map some) :
    ((runLines (step st0 [.w "av"] impl0).1 lines).rejected = false →
      AtomicObj.Linearizable AtomicValue.spec tr ∧ AtomicObj.Linearizable Spec.Register.spec tr) ∧
    ((runLines (step st0 [.w "av"] impl0).1 lines).violated = none →
      AtomicObj.Linearizable Spec.Register.spec tr) := by
  obtain ⟨hM, hS⟩ := judge_accept_sound st0 impl0 lines tr hparse
  constructor
  · intro hr
    obtain ⟨N, menu, ls, s, hex, hv⟩ := hM hr
    rw [← hv]
    exact ⟨C18.AtomicObj.linearizable AtomicValue.spec menu N hex, C18.register.2.2.2 menu N ls s hex⟩
  · intro hv
    obtain ⟨N, menu, ls, s, hex, hv⟩ := hS hv
    rw [← hv]
    exact C18.AtomicObj.linearizable Spec.Register.spec menu N hex

/-- an accepted Pool history is linearizable w.r.t. the atomic bag -/
theorem accepted_pool_history_linearizable (st0 : St) (hn : Int) (impl0 : String)
    (lines : List (List Val × String)) (tr : List Pool.Event)
    (hparse : lines.map (fun l => parsePool l.1) = tr.map some)
    (hok : (runLines (step st0 [.w "pool", .i hn] impl0).1 lines).violated = none) :
    AtomicObj.Linearizable (Pool.bagSpec (hn != 0)) tr :=
  (Lemmas.ObjCompleteC18.pool_track st0 hn impl0 lines tr hparse).2.2.sound hok

/-! non-vacuity: the judge accepts `store 7 ‖ load → 7` and rejects a stale load -/
example : (runLines (step {} [.w "av"] "").1
    [([.w "inv", .i 0, .w "store", .i 7], ""), ([.w "inv", .i 1, .w "load"], ""), ([.w "res", .i 1, .i 7], ""),
     ([.w "res", .i 0, .w "done"], "")]).rejected = false := by decide +kernel
example : (runLines (step {} [.w "av"] "").1
    [([.w "inv", .i 0, .w "store", .i 7], ""), ([.w "res", .i 0, .w "done"], ""), ([.w "inv", .i 1, .w "load"], ""),
     ([.w "res", .i 1, .i 0], "")]).violated = some "not-linearizable" := by decide +kernel

end C18

#print axioms C18.eraseLog_bisim
#print axioms C18.exec_pad
#print axioms C18.exec_menu_mono
#print axioms C18.stepObj_sound
#print axioms C18.fold_stepObj_sound
#print axioms C18.judge_step_av
#print axioms C18.judge_step_pool
#print axioms C18.judge_accept_sound
#print axioms C18.judge_accept_sound_pool
#print axioms C18.accepted_history_linearizable
#print axioms C18.accepted_pool_history_linearizable
