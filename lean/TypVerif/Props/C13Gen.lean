import TypVerif.Gen.Chunk
import TypVerif.Model.Chunk
import TypVerif.Spec.Chunk
/-
C13, tie 4B: theorems about the kernels REGENERATED from slices.Chunk / ChunkFunc on every run.
A change of the arithmetic in the Go source changes `Gen.Chunk.*` and these must re-check.
-/
namespace C13
open TypVerif

private theorem tdiv_nonneg_eq (n size : Int) (hn : 0 ≤ n) : Int.tdiv n size = n / size :=
  Int.tdiv_eq_ediv_of_nonneg hn

private theorem qr (n size : Int) (hs : 0 < size) :
    ∃ q r, n / size = q ∧ n % size = r ∧ q * size + r = n ∧ 0 ≤ r ∧ r < size :=
  ⟨_, _, rfl, rfl, Int.ediv_mul_add_emod n size, Int.emod_nonneg n (Int.ne_of_gt hs), Int.emod_lt_of_pos n hs⟩

private theorem ceil_qr (q r size : Int) (hs : 0 < size) (h2 : 0 ≤ r) (h3 : r < size) :
    (q * size + r + size - 1) / size = if r = 0 then q else q + 1 := by
  have hne : size ≠ 0 := Int.ne_of_gt hs
  by_cases hr : r = 0
  · have e : q * size + r + size - 1 = (size - 1) + q * size := by omega
    rw [e, Int.add_mul_ediv_right _ _ hne, Int.ediv_eq_zero_of_lt (by omega) (by omega)]
    simp [hr]
  · have e : q * size + r + size - 1 = (r - 1) + (q + 1) * size := by
      rw [Int.add_mul, Int.one_mul]; omega
    rw [e, Int.add_mul_ediv_right _ _ hne, Int.ediv_eq_zero_of_lt (by omega) (by omega)]
    simp [hr]

/-- the regenerated `lim` is ⌈n/size⌉ for every non-empty slice and every size ≥ 1 -/
theorem gen_lim_is_ceil (n size : Int) (hn : 0 < n) (hs : 0 < size) :
    Gen.Chunk.lim n size = (n + size - 1) / size := by
  unfold Gen.Chunk.lim
  simp only [tdiv_nonneg_eq n size (Int.le_of_lt hn)]
  obtain ⟨q, r, hq, _, h1, h2, h3⟩ := qr n size hs
  rw [hq]
  have hc := ceil_qr q r size hs h2 h3
  rw [h1] at hc
  rw [hc]
  by_cases hr : r = 0
  · have : q * size = n := by omega
    simp [this, hr]
  · have : q * size ≠ n := by omega
    simp [this, hr]

/-- the regenerated kernel agrees with the hand-written model's kernel (which the Props/C13 theorems are about) -/
theorem gen_kernel_eq_model (n size : Nat) :
    (Gen.Chunk.div n size, Gen.Chunk.rounded n size, Gen.Chunk.lim n size)
      = (((Model.Chunk.kernel n size).1 : Int), ((Model.Chunk.kernel n size).2.1 : Int), ((Model.Chunk.kernel n size).2.2 : Int)) := by
  unfold Gen.Chunk.div Gen.Chunk.rounded Gen.Chunk.lim Model.Chunk.kernel
  have h0 : Int.tdiv (n : Int) (size : Int) = ((n / size : Nat) : Int) := by
    rw [Int.tdiv_eq_ediv_of_nonneg (Int.natCast_nonneg n)]; exact (Int.natCast_ediv n size).symm
  simp only [h0]
  have hmul : ((n / size : Nat) : Int) * (size : Int) = ((n / size * size : Nat) : Int) := (Int.natCast_mul _ _).symm
  rw [hmul]
  by_cases h : n / size * size = n
  · simp only [h]; simp
  · have h' : ((n / size * size : Nat) : Int) ≠ (n : Int) := fun e => h (Int.ofNat.inj e)
    have hb : (((n / size * size : Nat) : Int) != (n : Int)) = true := by simpa using h'
    have hb2 : ((n / size * size) != n) = true := by simpa using h
    simp only [hb, hb2]; simp

/-- the tail piece exists exactly when size does not divide n -/
theorem gen_tail_iff (n size : Int) (hn : 0 ≤ n) (hs : 0 < size) :
    Gen.Chunk.tail n size = true ↔ n % size ≠ 0 := by
  unfold Gen.Chunk.tail
  simp only [tdiv_nonneg_eq n size hn]
  obtain ⟨q, r, hq, hr', h1, h2, h3⟩ := qr n size hs
  rw [hq, hr']
  by_cases hr : r = 0
  · have : q * size = n := by omega
    simp [this, hr]
  · have : q * size ≠ n := by omega
    simp [this, hr]; omega

theorem gen_funcTail_iff (n size : Int) (hn : 0 ≤ n) (hs : 0 < size) :
    Gen.Chunk.funcTail n size = true ↔ n % size ≠ 0 := by
  unfold Gen.Chunk.funcTail
  simp only [tdiv_nonneg_eq n size hn]
  obtain ⟨q, r, hq, hr', h1, h2, h3⟩ := qr n size hs
  rw [hq, hr']
  by_cases hr : r = 0
  · have : q * size = n := by omega
    simp [this, hr]
  · have : q * size ≠ n := by omega
    simp [this, hr]

/-- the full pieces are `slice[j : j+size]` -/
theorem gen_piece (j size : Int) : Gen.Chunk.pieceLo j size = j ∧ Gen.Chunk.pieceHi j size = j + size := by
  unfold Gen.Chunk.pieceLo Gen.Chunk.pieceHi; omega

example : Gen.Chunk.lim 5 3 = 2 := by decide
example : Gen.Chunk.lim 2 5 = 1 := by decide

end C13
