import TypVerif.Props.C04conc
import TypVerif.Lemmas.SmcRange
/-
C04, `Range` under every schedule.  `Range` is not an operation of the atomic map (it is not atomic: it is erased from
the linearizable history of `C04.conc_linearizable`); what the property demands of it is stated here, about the same
step-level transition system (`Model/SyncMapConc.lean`), for any number of goroutines, any menu, every interleaving:

 (a) the callback is called at most once per key                                — `conc_range_once`, `conc_range_once_loop`;
 (b) only with a value the key held at some moment during the call              — `conc_range_value` (and `conc_range_skip`);
 (c) the snapshot the loop iterates over contains every key present at the moment it is taken
                                                                                — `conc_range_snapshot`, `conc_range_todo_held`;
     and, as a property of traces: a key that has the value v in EVERY state from the snapshot to the return of the call is
     passed to f with v                                                         — `conc_range_untouched` (`Props/C04rangeTrace.lean`).

The model of `Range`: `rangeRead1` → (`rangeLock` → `rangeRead2` → `rangeStore dm`) → loop `rangePick todo acc`
--pick `(k', e')`--> `rangeLoad (aerase k' todo) acc k' e'` → `rangeNext todo' acc'` … → `ret (.pairs acc)`, where `acc` is
the sequence of callback invocations `f(k, v)` so far and `todo` the part of the `read.m` snapshot still to visit.

Proof: the per-goroutine invariant `T` of the simulation relation `R` (`Lemmas/SmcDefs.lean`) carries, at the program
counters of the loop, `RangeHold sh todo acc` = "keys of `todo` and of `acc` are pairwise distinct, and every pair of
`todo` is still `read.m[k]` or its entry is dead (expunged and dropped from both maps)"; `R` holds in every reachable
state (`Lemmas.Smc.reachable_R`).
-/
namespace C04
open TypVerif TypVerif.Conc TypVerif.Model TypVerif.Model.SyncMapConc TypVerif.Model.RelObj TypVerif.Lemmas.Smc
open TypVerif.Model.SyncMap (alookup ainsert aerase akeys)

set_option linter.unusedSectionVars false

variable {K V : Type} [DecidableEq K] [DecidableEq V] [Inhabited V]

/-- **At most once per key.**  In every reachable state, a goroutine about to return from `Range` with the callback
sequence `l` (`Res.pairs l`: the pairs `f` was called with, in order) has called `f` with pairwise distinct keys.
Claimed: distinctness of the keys of one `Range` call, for every schedule.  Not claimed: anything about the order. -/
theorem conc_range_once (menu : List (Op K V)) (n : Nat) (zst : Bool) {s : State K V}
    (h : Reachable (sys K V menu n zst) s) (t : Tid) {l : List (K × V)} (hpc : s.pc t = .ret (.pairs l)) :
    (l.map Prod.fst).Nodup := by
  obtain ⟨a, _, hR⟩ := reachable_R h
  exact hR.range_ret hpc

/-- **At most once per key, inside the loop.**  At the head of an iteration (`rangePick`) the keys still to visit and
the keys `f` has been called with are pairwise distinct; after the choice of `(k', e')` (`rangeLoad`) the chosen key is
moreover distinct from all of them — so appending `(k', w)` to the callback sequence never repeats a key. -/
theorem conc_range_once_loop (menu : List (Op K V)) (n : Nat) (zst : Bool) {s : State K V}
    (h : Reachable (sys K V menu n zst) s) (t : Tid) :
    (∀ todo acc, s.pc t = .rangePick todo acc → (akeys todo ++ acc.map Prod.fst).Nodup) ∧
    (∀ todo acc k' e', s.pc t = .rangeLoad todo acc k' e' → (k' :: (akeys todo ++ acc.map Prod.fst)).Nodup) := by
  obtain ⟨a, _, hR⟩ := reachable_R h
  exact ⟨fun _ _ hpc => (hR.range_pick hpc).1, fun _ _ _ _ hpc => (hR.range_load hpc).1⟩

/-- **Only values the key held during the call.**  A goroutine parked at `load.loadPtr1` inside `Range` for the pair
`(k', e')`, in a reachable state where `e'.p` points to a value `w`: the step it takes from this state calls `f(k', w)`
(appends `(k', w)` to the callback sequence and leaves the shared state alone), `e'` is still `read.m[k']`, and `w` IS
the abstract map's value for `k'` in this very state (`absOf`, the abstraction under which the model is linearizable,
`C04.conc_inv`) — a state that lies inside the `Range` call.
Not claimed: that `w` is still the key's value when `Range` returns (it need not be). -/
theorem conc_range_value (menu : List (Op K V)) (n : Nat) (zst : Bool) {s : State K V}
    (h : Reachable (sys K V menu n zst) s) (t : Tid) {todo : List (K × EId)} {acc : List (K × V)} {k' : K} {e' : EId}
    (hpc : s.pc t = .rangeLoad todo acc k' e') {i : Nat} {w : V} (hv : getP s.sh e' = .val i w) :
    absOf s.sh k' = some w ∧ alookup k' s.sh.readM = some e' ∧
    exec s.sh t (s.pc t) = some (s.sh, rangeNext todo (acc ++ [(k', w)])) := by
  obtain ⟨a, _, hR⟩ := reachable_R h
  obtain ⟨h1, h2⟩ := (hR.range_load hpc).head.absOf_of_val hv
  exact ⟨h2, h1, by rw [hpc]; exact exec_rangeLoad_val t todo acc k' hv⟩

/-- **Skipped keys.**  In the same situation with `e'.p` nil or expunged, the step skips the key (no callback), and in
this very state either the key is absent from the abstract map, or the entry fetched from the snapshot is dead
(expunged and dropped from both maps).
Not claimed here (it is a property of the trace, not of one state): that in the second case the key was absent at
some moment of the call. -/
theorem conc_range_skip (menu : List (Op K V)) (n : Nat) (zst : Bool) {s : State K V}
    (h : Reachable (sys K V menu n zst) s) (t : Tid) {todo : List (K × EId)} {acc : List (K × V)} {k' : K} {e' : EId}
    (hpc : s.pc t = .rangeLoad todo acc k' e') (hv : (getP s.sh e').value? = none) :
    (absOf s.sh k' = none ∨ Dead s.sh e') ∧ exec s.sh t (s.pc t) = some (s.sh, rangeNext todo acc) := by
  obtain ⟨a, _, hR⟩ := reachable_R h
  exact ⟨(hR.range_load hpc).head.absOf_of_not_val hv, by rw [hpc]; exact exec_rangeLoad_skip t todo acc k' hv⟩

/-- **Snapshot completeness** (one step, under the simulation relation).  The three steps that enter the loop —
`Range.readLoad1` when `read` is not amended, `Range.readLoad2` when it is not amended, `Range.readStore1` (the inline
promotion) — park the goroutine at `rangeNext rm []` (no callback yet) where the snapshot `rm` is the `read.m` of the
shared state `sh'` after the step; `sh'` is not amended and stands for the same abstract map as the state before the
step; hence EVERY KEY PRESENT AT THAT MOMENT IS A KEY OF THE SNAPSHOT, i.e. will be chosen by the loop.
Not claimed: "a key present and untouched for the whole call is passed to `f` with that value".  That reading follows
from this lemma (the key is in the snapshot), `conc_range_todo_held` (its pair stays `read.m[k]` unless the entry
dies, and an entry holding a value is not dead) and `conc_range_value` (the value passed is the key's current value),
but it quantifies over the states of one call, i.e. is a property of traces: it is `C04.conc_range_untouched`
(`Props/C04rangeTrace.lean`). -/
theorem conc_range_snapshot {s : State K V} {a : AState K V} (hR : R s a) (t : Tid)
    (hent : (s.pc t = .rangeRead1 ∧ s.sh.amended = false) ∨ (s.pc t = .rangeRead2 ∧ s.sh.amended = false) ∨
      ∃ dm, s.pc t = .rangeStore dm)
    {sh' : Shared K V} {pc' : Pc K V} (hex : exec s.sh t (s.pc t) = some (sh', pc')) :
    ∃ rm, pc' = rangeNext rm [] ∧ rm = sh'.readM ∧ sh'.amended = false ∧ (∀ k, absOf sh' k = absOf s.sh k) ∧
      ∀ k, absOf sh' k ≠ none → k ∈ akeys rm :=
  range_snapshot hR hent hex

/-- the same for every reachable state -/
theorem conc_range_snapshot_reachable (menu : List (Op K V)) (n : Nat) (zst : Bool) {s : State K V}
    (h : Reachable (sys K V menu n zst) s) (t : Tid)
    (hent : (s.pc t = .rangeRead1 ∧ s.sh.amended = false) ∨ (s.pc t = .rangeRead2 ∧ s.sh.amended = false) ∨
      ∃ dm, s.pc t = .rangeStore dm)
    {sh' : Shared K V} {pc' : Pc K V} (hex : exec s.sh t (s.pc t) = some (sh', pc')) :
    ∃ rm, pc' = rangeNext rm [] ∧ rm = sh'.readM ∧ sh'.amended = false ∧ (∀ k, absOf sh' k = absOf s.sh k) ∧
      ∀ k, absOf sh' k ≠ none → k ∈ akeys rm := by
  obtain ⟨a, _, hR⟩ := reachable_R h
  exact range_snapshot hR hent hex

/-- **The snapshot stays meaningful.**  In every reachable state, every pair `(k, e)` the loop has still to visit
(`todo`, and the chosen pair at `rangeLoad`) is an allocated entry that is still `read.m[k]`, or is dead (expunged and
dropped from both maps — it will be skipped, `conc_range_skip`). -/
theorem conc_range_todo_held (menu : List (Op K V)) (n : Nat) (zst : Bool) {s : State K V}
    (h : Reachable (sys K V menu n zst) s) (t : Tid) :
    (∀ todo acc, s.pc t = .rangePick todo acc → ∀ p ∈ todo, HoldRead s.sh p.1 p.2) ∧
    (∀ todo acc k' e', s.pc t = .rangeLoad todo acc k' e' → ∀ p ∈ (k', e') :: todo, HoldRead s.sh p.1 p.2) := by
  obtain ⟨a, _, hR⟩ := reachable_R h
  exact ⟨fun _ _ hpc => (hR.range_pick hpc).2, fun _ _ _ _ hpc => (hR.range_load hpc).2⟩

/-! Non-vacuity: the hypotheses beyond reachability are satisfiable.  `runSched` replays a schedule (index of the
successor taken at each step) from the initial state; one goroutine, menu `Store(1,5)`, `Range`, `Delete(1)`. -/

private abbrev sysEx : Sys := sys Int Int [.store 1 5, .range, .delete 1] 1 false
/-- `Store(1,5)`, all 8 steps; the examples go on with `Range` up to `Range.readStore1` / `load.loadPtr1` / the return -/
private abbrev schedStore : List Nat := [0, 0, 0, 0, 0, 0, 0, 0]

/-- `conc_range_value`: a reachable state parked at `rangeLoad` on an entry holding a value -/
example : ∃ s, Reachable sysEx s ∧ s.pc 0 = .rangeLoad [] [] 1 0 ∧ getP s.sh 0 = .val 0 5 :=
  ⟨runSched sysEx (schedStore ++ [1, 0, 0, 0, 0, 0, 0]) sysEx.init, reachable_runSched _ Reachable.init, by decide +kernel,
    by decide +kernel⟩

/-- `conc_range_once`: a reachable state about to return from `Range` -/
example : ∃ s, Reachable sysEx s ∧ s.pc 0 = .ret (.pairs [(1, 5)]) :=
  ⟨runSched sysEx (schedStore ++ [1, 0, 0, 0, 0, 0, 0, 0]) sysEx.init, reachable_runSched _ Reachable.init, by decide +kernel⟩

/-- `conc_range_skip`: `Store(1,5)`, `Range` (promotes), `Delete(1)` (nil in `read.m`), `Range` up to `load.loadPtr1` -/
example : ∃ s, Reachable sysEx s ∧ s.pc 0 = .rangeLoad [] [] 1 0 ∧ (getP s.sh 0).value? = none :=
  ⟨runSched sysEx (schedStore ++ [1, 0, 0, 0, 0, 0, 0, 0, 0] ++ [2, 0, 0, 0, 0, 0] ++ [1, 0, 0, 0]) sysEx.init,
    reachable_runSched _ Reachable.init, by decide +kernel, by decide +kernel⟩

/-- `conc_range_snapshot`: the inline promotion (`rangeStore`), enabled, in a reachable state -/
example : ∃ s, Reachable sysEx s ∧ (∃ dm, s.pc 0 = .rangeStore dm) ∧ (exec s.sh 0 (s.pc 0)).isSome = true :=
  ⟨runSched sysEx (schedStore ++ [1, 0, 0, 0, 0]) sysEx.init, reachable_runSched _ Reachable.init,
    ⟨[(1, 0)], by decide +kernel⟩, by decide +kernel⟩

/-- `conc_range_snapshot`: the fast entry (`rangeRead1`, not amended), enabled, in a reachable state -/
example : ∃ s, Reachable sysEx s ∧ s.pc 0 = .rangeRead1 ∧ s.sh.amended = false ∧
    (exec s.sh 0 (s.pc 0)).isSome = true :=
  ⟨runSched sysEx [1, 0] sysEx.init, reachable_runSched _ Reachable.init, by decide +kernel, by decide +kernel, by decide +kernel⟩

end C04
