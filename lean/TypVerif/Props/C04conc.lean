import TypVerif.Lemmas.SmcStep
import TypVerif.Spec.PMap
/-
C04, concurrent half: the step-level transition system of `sync2.Map` (`Model/SyncMapConc.lean`: one step = one atomic
action of `map.go` — `read.Load/Store`, `Load/Store/CompareAndSwapPointer` on `entry.p`, `mu.Lock` — followed by the
straight-line code up to the next one; any number of goroutines, any operations, every interleaving) is linearizable
to the ordinary map.  The same transition system is the one real executions are replayed in, label for label, on
every run of the check (judge `C04conc`).

Proof: forward simulation (`Lemmas/Smc*.lean`) into the *relaxed atomic map* (`Model/RelObj.lean`: an operation either
takes effect at one step, or — when it has no effect — may return any result it could have returned at some instant
since its invocation), whose histories are linearizable (`Lemmas.RelObj.linearizable`).  Linearization steps
(`Lemmas.Smc.isLin`): the successful CAS of `tryStore`, `storeLocked`, the insertion of a new entry into the dirty map,
the successful CAS of `tryLoadOrStore` / its load of a live value, the successful CAS of `delete` on a `read.m` entry,
and `delete(m.dirty, key)` on the slow path of `LoadAndDelete`.  `Load`, and `LoadAndDelete`/`Delete` reporting
"absent", have no fixed linearization point (an entry fetched from an old `read` snapshot may be expunged and dropped,
or unlinked from the dirty map, while the key is re-created elsewhere): they return a result seen during their interval.
-/
namespace C04
open TypVerif TypVerif.Conc TypVerif.Model TypVerif.Model.SyncMapConc TypVerif.Model.RelObj TypVerif.Lemmas.Smc

set_option linter.unusedSectionVars false

variable {K V : Type} [DecidableEq K] [DecidableEq V] [Inhabited V]

/-- **Linearizability for every schedule.**  For any number `n` of goroutines, any finite menu of operations they may
call (in any order, any number of times), with or without a zero-size value type (`zst`): the invocation/response
history of Load, Store, LoadOrStore, LoadAndDelete and Delete of EVERY execution of the step-level model is
linearizable with respect to the ordinary map `K → Option V` (`AtomicObj.Linearizable`: linearization points can be
inserted, one inside the interval of every completed call, so that the calls in the order of their points form a legal
sequential history of the map with the same results). -/
theorem conc_linearizable (menu : List (Op K V)) (n : Nat) (zst : Bool) {s : State K V}
    {ls : List (Option (SyncMapConc.Event K V))}
    (he : Exec (sys K V menu n zst) (SyncMapConc.init n zst) ls s) :
    AtomicObj.Linearizable (mapSpec K V) (ls.filterMap (·.bind evOf)) :=
  Lemmas.Smc.linearizable he

/-- **One-step refinement**: from any concrete state related (by the simulation relation `R`) to a state of the
relaxed atomic map, every step of every goroutine is matched by steps of the relaxed atomic map that add exactly the
step's visible event to the history, and the relation is re-established. -/
theorem conc_sim_step (menu : List (Op K V)) {s s' : State K V} {a : AState K V} {t : Tid}
    {l : Option (SyncMapConc.Event K V)} (hR : R s a) (ht : t < s.pcs.length) (h : (l, s') ∈ stepT menu s t) :
    ∃ a', RStar (mapSpec K V) a a' ∧ a'.hist = a.hist ++ (l.bind evOf).toList ∧ R s' a' :=
  let r := sim_step hR ht l s' h
  ⟨_, r.1.1, r.1.2, r.2⟩

/-- **The invariant, all schedules**: every reachable state is related to a reachable state of the relaxed atomic map
whose abstract map is the abstraction `absOf` of the concrete read/dirty/expunged state. -/
theorem conc_inv (menu : List (Op K V)) (n : Nat) (zst : Bool) {s : State K V}
    (h : Reachable (sys K V menu n zst) s) :
    ∃ a : AState K V, RReach (mapSpec K V) a ∧ R s a ∧ ∀ k, a.obj k = absOf s.sh k := by
  obtain ⟨a, ha, hR⟩ := reachable_R h
  exact ⟨a, ha, hR, hR.abs⟩

/-- the write into a nil `dirty` map (a Go panic) never happens, under any schedule -/
theorem conc_no_nil_map_write (menu : List (Op K V)) (n : Nat) (zst : Bool) {s : State K V}
    (h : Reachable (sys K V menu n zst) s) : s.sh.fault = false := by
  obtain ⟨a, _, hR⟩ := reachable_R h
  exact hR.g.nofault

/-- the mutex protocol, under any schedule: a goroutine is at a program point inside a `mu`-protected region iff it is
the recorded owner of `mu`; hence at most one goroutine is inside -/
theorem conc_lock_exclusive (menu : List (Op K V)) (n : Nat) (zst : Bool) {s : State K V}
    (h : Reachable (sys K V menu n zst) s) (t u : Tid)
    (ht : lockedPc (s.pc t) = true) (hu : lockedPc (s.pc u) = true) : t = u ∧ s.sh.mu = some t := by
  obtain ⟨a, _, hR⟩ := reachable_R h
  have h1 : Own s.sh t := (hR.thr t).own_of_locked ht
  have h2 : Own s.sh u := (hR.thr u).own_of_locked hu
  exact ⟨Own.unique h1 h2, h1⟩

/-- the structural invariant of the read-map / dirty-map / expunged machinery holds in every reachable state
(duplicate-free maps, one key per entry, `dirty = nil → ¬amended`, expunged `read` entries are absent from a non-nil
dirty map and live ones present under the same key, not amended → dirty ⊆ read, dirty-only entries hold a value) -/
theorem conc_structure (menu : List (Op K V)) (n : Nat) (zst : Bool) {s : State K V}
    (h : Reachable (sys K V menu n zst) s) : ∃ apcs, G s apcs := by
  obtain ⟨a, _, hR⟩ := reachable_R h
  exact ⟨a.pcs, hR.g⟩

/-! The specification used here is the one of the sequential half (`Spec.PMap`, theorem `C04.seq_refines`). -/

def toOut : Res K V → Spec.PMap.Out K V
  | .done => .unit
  | .val o => .val o
  | .pair a l => .pair a l
  | .pairs l => .pairs l

theorem conc_spec_is_seq_spec (m : K → Option V) :
    applyOp m (.load k) = [((Spec.PMap.apply m (.load k)).1, .val (m k))] ∧
    (∀ v, applyOp m (.store k v) = [((Spec.PMap.apply m (.store k v)).1, .done)]) ∧
    (∀ v, (applyOp m (.loadOrStore k v)).map (fun p => (p.1, toOut p.2)) = [Spec.PMap.apply m (.loadOrStore k v)]) ∧
    (applyOp m (.loadAndDelete k)).map (fun p => (p.1, toOut p.2)) = [Spec.PMap.apply m (.loadAndDelete k)] ∧
    (applyOp m (.delete k)).map (fun p => (p.1, toOut p.2)) = [Spec.PMap.apply m (.delete k)] := by
  refine ⟨rfl, fun _ => rfl, fun v => ?_, rfl, rfl⟩
  simp only [applyOp, Spec.PMap.apply]
  cases m k <;> rfl

/-! Non-vacuity: the initial state is related to the initial abstract state, and the system does run. -/

example : R (SyncMapConc.init 3 false : State Int Int) (RState.init (mapSpec Int Int)) := R_init 3 false

example : ∃ s, Reachable (sys Int Int [.store 1 5, .load 1] 2 false) s ∧ s.pc 0 = .storeRead1 1 5 ∧ s.pc 1 = .start (.load 1) := by
  refine ⟨_, Reachable.step (Reachable.step (Reachable.step Reachable.init (l := some (.inv 0 (.store 1 5))) (s' := ?a) ?h1)
    (l := some (.inv 1 (.load 1))) (s' := ?b) ?h2) (l := none) (s' := ?c) ?h3, ?_, ?_⟩
  case a => exact setPc (SyncMapConc.init 2 false) 0 {} (.start (.store 1 5))
  case b => exact setPc (setPc (SyncMapConc.init 2 false) 0 {} (.start (.store 1 5))) 1 {} (.start (.load 1))
  case c => exact setPc (setPc (setPc (SyncMapConc.init 2 false) 0 {} (.start (.store 1 5))) 1 {} (.start (.load 1))) 0 {} (.storeRead1 1 5)
  case h1 => decide +kernel
  case h2 => decide +kernel
  case h3 => decide +kernel
  all_goals rfl

end C04
