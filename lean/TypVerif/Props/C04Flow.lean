import TypVerif.Lemmas.SmcFlow
import TypVerif.Gen.MapFlow
/-
C04, tie 4C: the LABEL-LEVEL CONTROL-FLOW GRAPH of the step-level model of `sync2.Map` (`Model/SyncMapConc.lean`, the system
the `C04.conc_*` theorems are about) against the one extracted STATICALLY from `/repo/sync2/map.go` on every run
(`/verif/extract` → `Gen/MapFlow.lean`: interprocedural, condition-sensitive, over all paths of every operation).

An edge is `(operation, hook label a, hook label b)`: "in a call of that operation a goroutine parked at a hook labelled a can be
parked next at a hook labelled b" (`op:<name>` = the park before the call, `ret` = the return, `pick` = the head of a
`for k, e := range read.m` iteration).  `Pc.kind` gives the operation of a program counter of the model, `Pc.label` its hook.

* `flow_sound`, `flow_sound_picks`  every step (`exec`) and every choice at a loop head (`picks`) of the model, from ANY shared
  state, for ANY key/value types, is an edge of the explicit list `modelFlow` (115 edges), and stays inside its operation
  until it returns.
* `flow_complete`  every edge of `modelFlow` is taken by the model (`K = V = Nat`), from SOME shared state.
* the tie with `Gen.MapFlow.edges`: `gen_flow_eq_merge` — the generated graph IS the model's graph plus the one artefact in `staticOnly`
  (one `decide`); `gen_flow_covers_model`, `gen_flow_only_model_or_artefact` are its two halves.  A change of map.go that adds, removes
  or redirects a label succession anywhere (also on a path no test or trace exercises) changes `Gen.MapFlow.edges` and breaks it.

Claimed: label-level control flow, per operation, over all paths, statically.  Not claimed: anything about data, or about the
CONDITIONS under which an edge is taken (a model that took the right edges for the wrong reasons would pass) — that is the
dynamic tie (`C04conc`: real step traces replayed in the model label for label, with the shared state compared); nor that an
edge is taken from a REACHABLE state (e.g. `X.readLoad2 → X.readStore1`, i.e. `dirtyLocked` returning at once because
`m.dirty != nil` while `!read.amended`, is an edge of the model and of the static graph, but no reachable state with the mutex
free has `dirty != nil ∧ !amended`).
-/
namespace C04
open TypVerif.Model.SyncMapConc TypVerif.Lemmas.Smc

section
variable {K V : Type} [DecidableEq K] [Inhabited V]

/-- **Soundness of the graph (steps).**  Whatever the shared state, a step of the model from `pc` to `pc'` is an edge
`(operation of pc, label of pc, label of pc')` of `modelFlow`, and `pc'` is a return or belongs to the same operation.
Claimed: the model has no label succession outside `modelFlow`.  Not claimed: that the step is taken under the same condition
as in map.go. -/
theorem flow_sound (sh : Shared K V) (t : Tid) (pc : Pc K V) (sh' : Shared K V) (pc' : Pc K V)
    (h : exec sh t pc = some (sh', pc')) :
    (pc.kind, pc.label, pc'.label) ∈ modelFlow ∧ (pc'.label = "ret" ∨ pc'.kind = pc.kind) :=
  TypVerif.Lemmas.Smc.flow_sound sh t pc sh' pc' h

example : exec (K := Nat) (V := Nat) {} 0 (.start (.load 1)) = some ({}, .loadRead1 1) := rfl

/-- **Soundness of the graph (loop heads).**  The same for the choices at the head of a `for k, e := range read.m` iteration
(label `pick`; `dirtyLocked` and `Range`). -/
theorem flow_sound_picks (pc : Pc K V) (c : K × Pc K V) (h : c ∈ picks pc) :
    (pc.kind, pc.label, c.2.label) ∈ modelFlow ∧ c.2.kind = pc.kind :=
  TypVerif.Lemmas.Smc.flow_sound_picks pc c h

example : ((1 : Nat), Pc.rangeLoad (K := Nat) (V := Nat) [] [] 1 0) ∈ picks (.rangePick [(1, 0)] []) := by decide

end

/-- **Completeness of the graph.**  Every edge of `modelFlow` is a step or a loop-head choice of the model over `Nat` keys and
values from some shared state (`Realises`; witnesses: `Lemmas.Smc.flowWitnesses`, checked by computation).
Not claimed: that the shared state is reachable. -/
theorem flow_complete : ∀ e ∈ modelFlow, Realises e := TypVerif.Lemmas.Smc.flow_complete

/-- `modelFlow` is strictly sorted in the order of the generated list (so: duplicate-free, and comparable by `=`). -/
theorem model_flow_sorted : flowSorted modelFlow = true := flowSorted_of_merge expectedGen_sorted

/-- the artefacts of the static analysis are not edges of the model -/
theorem static_only_not_model : ∀ e ∈ staticOnly, e ∉ modelFlow := by decide

/-- **The static tie.**  The graph regenerated from map.go on every run is EQUAL to the sorted merge of the model's graph and the one
artefact of the static analysis (`staticOnly`): every label succession the source code allows (all paths, all six operations) is a
label succession of the model, and conversely. -/
theorem gen_flow_eq_merge : Gen.MapFlow.edges = flowMerge modelFlow staticOnly := by decide +kernel

/-- the generated graph speaks about the six operations of the model and nothing else, in the model's order, without
duplicates -/
theorem gen_flow_wellformed : (∀ e ∈ Gen.MapFlow.edges, e.1 ∈ flowOps) ∧ flowSorted Gen.MapFlow.edges = true := by
  refine ⟨by decide, ?_⟩
  rw [gen_flow_eq_merge]
  exact expectedGen_sorted

/-- every edge of the model is an edge of map.go's static graph -/
theorem gen_flow_covers_model : ∀ e ∈ modelFlow, e ∈ Gen.MapFlow.edges := (tie_of_eq gen_flow_eq_merge).1

/-- every edge of map.go's static graph is an edge of the model or the listed artefact -/
theorem gen_flow_only_model_or_artefact : ∀ e ∈ Gen.MapFlow.edges, e ∈ modelFlow ∨ e ∈ staticOnly :=
  (tie_of_eq gen_flow_eq_merge).2

end C04

#print axioms C04.flow_sound
#print axioms C04.flow_sound_picks
#print axioms C04.flow_complete
#print axioms C04.model_flow_sorted
#print axioms C04.static_only_not_model
#print axioms C04.gen_flow_wellformed
#print axioms C04.gen_flow_eq_merge
#print axioms C04.gen_flow_covers_model
#print axioms C04.gen_flow_only_model_or_artefact
