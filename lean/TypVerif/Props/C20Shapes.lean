import TypVerif.Gen.MathShapes
import TypVerif.Gen.UtilShapes
/-
C20, tie 4B — GOLDEN FUNCTION SHAPES (written by tools/mkshapes.py; do not edit by hand).  For every function of the source files this property's model mirrors,
the extractor regenerates on every run: its calls, its stores through selectors / indices / pointers, its conditions and loop headers, its select cases and
its return expressions, in source order.  The theorems below state that these equal the shapes of the tree the model was written against.  They are the STATIC,
all-paths complement of the differential runs: a guard dropped, a fast path or a threshold added, an early return, a changed comparison or a different callee
on ANY path - also one that no generated input happens to take - changes the regenerated list and breaks the evaluation (`rfl`; for a list filtered by function name the mask of `Lemmas/FilterMask.lean`, then `rfl`).  A broken shape theorem is reported like a
broken proof (with a failing input when the search finds one, else `no-failing-input-found`); after a deliberate change of the source the changed functions are
re-read against the model and this file is regenerated.
-/
namespace C20

/-- math.go: 9 function(s) -/
theorem gen_shapes_math :
    Gen.MathShapes.funcs =
      [("Min", ["call len", "call panic", "return v[0]", "range v[1:]", "if v < min", "return min"]),
       ("Max", ["call len", "call panic", "return v[0]", "range v[1:]", "if v > max", "return max"]),
       ("Clamp", ["if v < min", "return min", "if v > max", "return max", "return v"]),
       ("Clamp01", ["if v < 0", "return 0", "if v > 1", "return 1", "return v"]),
       ("Sum", ["range v", "return sum"]),
       ("Product", ["range v", "return product"]),
       ("Abs", ["if v < 0", "return -v", "return v"]),
       ("DigitsSign10", ["if v < 0", "return Digits10(-v) + 1", "call Digits10", "return Digits10(v)", "call Digits10"]),
       ("Digits10", ["call uint64", "if v < 0", "return 1", "return 2", "return 3", "return 4", "return 5", "return 6", "return 7", "return 8", "return 9", "return 10", "return 11", "return 12", "return 13", "return 14", "return 15", "return 16", "return 17", "return 18", "return 19", "return 20"])] := rfl

/-- util.go: 11 function(s) -/
theorem gen_shapes_util :
    Gen.UtilShapes.funcs =
      [("Compare", ["if a > b", "return 1", "if a < b", "return -1", "return 0"]),
       ("Less", ["return a < b"]),
       ("Zero", ["return zero"]),
       ("IsZero", ["if value == zero", "return true", "if isZeroer, ok := asAny.(interface{IsZero() bool}); ok", "return isZeroer.IsZero()", "call isZeroer.IsZero", "return false"]),
       ("ZeroOf", ["return zero"]),
       ("Coal", ["range values", "if v != zero", "return v", "return zero"]),
       ("Tern", ["if cond", "return ifTrue", "return ifFalse"]),
       ("TernCast", ["if cond", "return value.(T)", "return ifFalse"]),
       ("IsNil", ["return asAny == nil"]),
       ("Ref", ["return &value"]),
       ("DerefZero", ["if ptr == nil", "return Zero[V]()", "call Zero[V]", "return *ptr"])] := rfl

end C20
