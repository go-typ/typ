import TypVerif.Lemmas.QueueStack
/-
C16: "A Queue returns values from Dequeue in exactly the order they were Enqueued, a Stack returns values
from Pop in exactly the reverse order they were Pushed, under every interleaving of insertions and
removals, starting from the zero value.  Peek returns what the next Dequeue/Pop would return without
removing it, Len is the number of values inside, and Dequeue/Pop/Peek on an empty container return the
zero value and false and leave it empty and usable."

Models: `Model/QueueStack.lean` (Queue over the pointer-level heap model of list.go; Stack over the slice
contents).  Specification: `Spec/QueueStack.lean` (`qstep`: FIFO list, `sstep`: LIFO list).
`Op.enq` doubles as Push and `Op.deq` as Pop for the stack.
-/
open TypVerif
open TypVerif.Model
open TypVerif.Model.Queue (Op Res)
open TypVerif.Spec.QueueStack
open TypVerif.Lemmas.QueueStack

namespace C16

/-- every script, from the zero value: the Queue model produces exactly the outputs of the FIFO specification
(Enqueue `ok`, Dequeue/Peek `(value, bool)`, Len) -/
theorem queue_refines (ops : List Op) :
    Queue.run LinkedList.Heap.empty ops = runWith qstep [] ops :=
  queue_run_sim ops QSim.init

/-- every script, from the zero value: the Stack model produces exactly the outputs of the LIFO specification -/
theorem stack_refines (ops : List Op) :
    Stack.run [] ops = runWith sstep [] ops :=
  stack_run_sim ops []

/-- in every reachable state Peek answers what the next Dequeue/Pop answers, and changes nothing -/
theorem peek_is_next (ops : List Op) :
    ((Queue.step (Queue.final LinkedList.Heap.empty ops) .peek).2
        = (Queue.step (Queue.final LinkedList.Heap.empty ops) .deq).2
      ∧ (Queue.step (Queue.final LinkedList.Heap.empty ops) .peek).1 = Queue.final LinkedList.Heap.empty ops)
    ∧ ((Stack.step (Stack.final [] ops) .peek).2 = (Stack.step (Stack.final [] ops) .deq).2
      ∧ (Stack.step (Stack.final [] ops) .peek).1 = Stack.final [] ops) := by
  constructor
  · have hq := queue_final_sim ops QSim.init
    refine ⟨?_, queue_peek_pure hq⟩
    rw [(qstep_sim hq .peek).1, (qstep_sim hq .deq).1]
    cases finalWith qstep [] ops <;> rfl
  · generalize Stack.final [] ops = s
    constructor
    · rw [(sstep_sim s .peek).1, (sstep_sim s .deq).1]
      cases s.reverse <;> rfl
    · unfold Stack.step Stack.peek
      simp only []
      split
      · rfl
      · split <;> rfl

/-- whenever the container is empty (`Len` answers 0) after any script: Dequeue/Pop and Peek answer
`(0, false)`, and afterwards the container is still empty and behaves, for every continuation `ops'`,
exactly like a fresh one -/
theorem empty_returns_zero_false_and_stays_usable (ops ops' : List Op) (op : Op)
    (hop : op = .deq ∨ op = .peek) :
    ((Queue.step (Queue.final LinkedList.Heap.empty ops) .len).2 = .int 0 →
      (Queue.step (Queue.final LinkedList.Heap.empty ops) op).2 = .pair 0 false
      ∧ (Queue.step (Queue.step (Queue.final LinkedList.Heap.empty ops) op).1 .len).2 = .int 0
      ∧ Queue.run (Queue.step (Queue.final LinkedList.Heap.empty ops) op).1 ops' = runWith qstep [] ops')
    ∧ ((Stack.step (Stack.final [] ops) .len).2 = .int 0 →
      (Stack.step (Stack.final [] ops) op).2 = .pair 0 false
      ∧ (Stack.step (Stack.step (Stack.final [] ops) op).1 .len).2 = .int 0
      ∧ Stack.run (Stack.step (Stack.final [] ops) op).1 ops' = runWith sstep [] ops') := by
  constructor
  · intro hlen
    have hq := queue_final_sim ops QSim.init
    generalize Queue.final LinkedList.Heap.empty ops = h at hq hlen ⊢
    generalize finalWith qstep [] ops = q at hq
    rw [(qstep_sim hq .len).1] at hlen
    have hq0 : q = [] := by
      simp only [qstep, Res.int.injEq] at hlen
      cases q with
      | nil => rfl
      | cons x r => simp at hlen; omega
    subst hq0
    have h2 := qstep_sim hq op
    have hst : (qstep [] op).1 = [] ∧ (qstep [] op).2 = .pair 0 false := by
      rcases hop with rfl | rfl <;> exact ⟨rfl, rfl⟩
    rw [hst.1] at h2
    refine ⟨by rw [h2.1, hst.2], ?_, queue_run_sim ops' h2.2⟩
    rw [(qstep_sim h2.2 .len).1]; rfl
  · intro hlen
    generalize Stack.final [] ops = s at hlen ⊢
    have hs0 : s = [] := by
      simp only [Stack.step, Res.int.injEq] at hlen
      cases s with
      | nil => rfl
      | cons x r => simp at hlen; omega
    subst hs0
    have hst : Stack.step [] op = ([], .pair 0 false) := by
      rcases hop with rfl | rfl <;> rfl
    rw [hst]
    exact ⟨rfl, rfl, stack_run_sim ops' []⟩

end C16

#print axioms C16.queue_refines
#print axioms C16.stack_refines
#print axioms C16.peek_is_next
#print axioms C16.empty_returns_zero_false_and_stays_usable

/-- non-vacuity of the hypothesis of `empty_returns_zero_false_and_stays_usable`: a script that fills and
drains -/
example : (Queue.step (Queue.final LinkedList.Heap.empty [.enq 5, .deq]) .len).2 = .int 0 := by decide +kernel
example : (Stack.step (Stack.final [] [.enq 5, .deq]) .len).2 = .int 0 := by decide
example : Queue.run LinkedList.Heap.empty [.enq 1, .enq 2, .peek, .deq, .deq, .deq, .len]
    = [.ok, .ok, .pair 1 true, .pair 1 true, .pair 2 true, .pair 0 false, .int 0] := by decide +kernel
