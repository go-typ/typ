import TypVerif.Gen.ChanShapes
/-
C19, tie 4B — GOLDEN FUNCTION SHAPES (written by tools/mkshapes.py; do not edit by hand).  For every function of the source files this property's model mirrors,
the extractor regenerates on every run: its calls, its stores through selectors / indices / pointers, its conditions and loop headers, its select cases and
its return expressions, in source order.  The theorems below state that these equal the shapes of the tree the model was written against.  They are the STATIC,
all-paths complement of the differential runs: a guard dropped, a fast path or a threshold added, an early return, a changed comparison or a different callee
on ANY path - also one that no generated input happens to take - changes the regenerated list and breaks the evaluation (`rfl`; for a list filtered by function name the mask of `Lemmas/FilterMask.lean`, then `rfl`).  A broken shape theorem is reported like a
broken proof (with a failing input when the search finds one, else `no-failing-input-found`); after a deliberate change of the source the changed functions are
re-read against the model and this file is regenerated.
-/
namespace C19

/-- chans/chans.go: 6 function(s) -/
theorem gen_shapes_chans :
    Gen.ChanShapes.funcs =
      [("SendTimeout", ["if timeout <= 0", "send ch <- value", "return true", "call time.NewTimer", "case ch <- value:", "send ch <- value", "call timer.Stop", "return true", "case <-timer.C:", "return false"]),
       ("SendContext", ["case ch <- value:", "send ch <- value", "return true", "case <-ctx.Done():", "call ctx.Done", "return false"]),
       ("RecvTimeout", ["if timeout <= 0", "return value, ok", "call time.NewTimer", "case value, ok := <-ch:", "call timer.Stop", "return value, ok", "case <-timer.C:", "return typ.Zero[V](), false", "call typ.Zero[V]"]),
       ("RecvContext", ["case value, ok := <-ch:", "return value, ok", "case <-ctx.Done():", "call ctx.Done", "return typ.Zero[V](), false", "call typ.Zero[V]"]),
       ("RecvQueued", ["for len(buffer) < maxValues", "call len", "case v, ok := <-ch:", "if !ok", "return buffer", "call append", "default:", "return buffer", "return buffer"]),
       ("RecvQueuedFull", ["for index < len(buf)", "call len", "case v, ok := <-ch:", "if !ok", "return index", "store buf[index]", "default:", "return index", "return index"])] := rfl

end C19
