import TypVerif.Model.Chan
import TypVerif.Model.ChanHelpers
import TypVerif.Lemmas.ChanQueued
import TypVerif.Lemmas.ChanSend
import TypVerif.Lemmas.ChanRecv
import TypVerif.Lemmas.ConcAccept
/-
C19 — channel helpers never lose, duplicate or invent a value (`/repo/chans/chans.go`).
Channels, `select`, timers and contexts are modelled by contract (`Model/Chan.lean`, `Model/ChanHelpers.lean`).
-/
namespace C19
open TypVerif TypVerif.Conc TypVerif.Model.Chan TypVerif.Model.ChanHelpers

/-- RecvQueued, run on the channel value alone (no concurrent sender), for every capacity, content,
closed flag and limit: returns the first `limit` queued values in FIFO order, leaves the rest, adds
nothing (result ++ remaining = content), needs at most `limit+1` non-blocking `select` steps (each
iteration is one `select` with `default`; the model contains no blocking operation), and the fuel of
the model loop is never exhausted. -/
theorem recvQueued (cap : Nat) (buf : List Int) (closed : Bool) (limit : Int) :
    (Model.ChanHelpers.recvQueued ⟨buf, cap, closed⟩ limit).buffer = buf.take limit.toNat ∧
    (Model.ChanHelpers.recvQueued ⟨buf, cap, closed⟩ limit).ch = ⟨buf.drop limit.toNat, cap, closed⟩ ∧
    (Model.ChanHelpers.recvQueued ⟨buf, cap, closed⟩ limit).buffer ++ (Model.ChanHelpers.recvQueued ⟨buf, cap, closed⟩ limit).ch.drain = buf ∧
    (Model.ChanHelpers.recvQueued ⟨buf, cap, closed⟩ limit).steps ≤ limit.toNat + 1 ∧
    (Model.ChanHelpers.recvQueued ⟨buf, cap, closed⟩ limit).stop ≠ .fuel := by
  rw [Lemmas.ChanQueued.recvQueued_eq]
  refine ⟨rfl, rfl, List.take_append_drop _ _, Nat.add_le_add (List.length_take_le _ _) ?_,
    Lemmas.ChanQueued.stopOf_ne_fuel _ _ _⟩
  split <;> omega

example : (Model.ChanHelpers.recvQueued ⟨[1, 2, 3], 3, false⟩ 2).buffer = [1, 2] ∧
    (Model.ChanHelpers.recvQueued ⟨[1, 2, 3], 3, false⟩ 2).ch.drain = [3] ∧
    (Model.ChanHelpers.recvQueued ⟨[1, 2], 3, true⟩ 5).buffer = [1, 2] ∧
    (Model.ChanHelpers.recvQueued ⟨[1, 2], 3, true⟩ 5).stop = .closed ∧
    (Model.ChanHelpers.recvQueued ⟨[1, 2], 3, false⟩ 5).stop = .default ∧
    (Model.ChanHelpers.recvQueued ⟨[1, 2], 3, false⟩ (-1)).buffer = [] := by decide

/-- RecvQueuedFull: the same into the caller's buffer: returns `n = min (queued) (len buf)`, the first `n`
slots of the caller's buffer are the first `n` queued values, the other slots are untouched, the
channel keeps the rest; at most `len buf + 1` non-blocking `select` steps. -/
theorem recvQueuedFull (cap : Nat) (buf : List Int) (closed : Bool) (callerBuf : List Int) :
    (Model.ChanHelpers.recvQueuedFull ⟨buf, cap, closed⟩ callerBuf).n = min buf.length callerBuf.length ∧
    (Model.ChanHelpers.recvQueuedFull ⟨buf, cap, closed⟩ callerBuf).buf =
      buf.take (min buf.length callerBuf.length) ++ callerBuf.drop (min buf.length callerBuf.length) ∧
    (Model.ChanHelpers.recvQueuedFull ⟨buf, cap, closed⟩ callerBuf).ch = ⟨buf.drop (min buf.length callerBuf.length), cap, closed⟩ ∧
    (Model.ChanHelpers.recvQueuedFull ⟨buf, cap, closed⟩ callerBuf).steps ≤ callerBuf.length + 1 ∧
    (Model.ChanHelpers.recvQueuedFull ⟨buf, cap, closed⟩ callerBuf).stop ≠ .fuel := by
  rw [Lemmas.ChanQueued.recvQueuedFull_eq]
  refine ⟨rfl, rfl, rfl, Nat.add_le_add (Nat.min_le_right _ _) ?_, Lemmas.ChanQueued.stopOf_ne_fuel _ _ _⟩
  split <;> omega

example : (Model.ChanHelpers.recvQueuedFull ⟨[1, 2], 3, true⟩ [-7, -7, -7, -7]).n = 2 ∧
    (Model.ChanHelpers.recvQueuedFull ⟨[1, 2], 3, true⟩ [-7, -7, -7, -7]).buf = [1, 2, -7, -7] ∧
    (Model.ChanHelpers.recvQueuedFull ⟨[1, 2, 3], 3, false⟩ [-7, -7]).buf = [1, 2] ∧
    (Model.ChanHelpers.recvQueuedFull ⟨[1, 2, 3], 3, false⟩ [-7, -7]).ch.drain = [3] := by decide

/-- SendTimeout / SendContext, in every reachable state of the system with an arbitrary environment
(peers receiving, peers sending other values, the timer firing / the context being cancelled at any
time), when the helper has returned `r`: `r = true` iff its send statement / send case fired, and
then the value is in the channel or with a peer exactly once; `r = false` iff it did not, and then
the value is nowhere (and the timer / context case was ready). -/
theorem send_iff (p : Params) (h1 : p.val ∉ p.fill) (h2 : p.val ∉ p.peerSends)
    (s : SState) (hr : Reachable (sendSys p) s) (r : Bool) (hpc : s.pc = .done r) :
    (r = true ↔ s.sendFired = true) ∧
    (s.ch.buf ++ s.taken).count p.val = (if r then 1 else 0) ∧
    (r = false → p.val ∉ s.ch.buf ∧ p.val ∉ s.taken ∧ p.val ∉ s.supply ∧ s.fired = true) :=
  Lemmas.ChanSend.send_iff p h1 h2 s hr r hpc

/-- the hypotheses hold for the harness scenarios (the helper sends 99, the channel holds 1..fill) and
both results are reachable: full channel, one peer receiver, 2 ms timer -/
example : (sendScenario (.timeout 2) 1 1 1).val ∉ (sendScenario (.timeout 2) 1 1 1).fill ∧
    (sendScenario (.timeout 2) 1 1 1).val ∉ (sendScenario (.timeout 2) 1 1 1).peerSends := by decide

example : (∃ s, Reachable (sendSys (sendScenario (.timeout 2) 1 1 1)) s ∧ s.pc = .done true ∧ s.ch.buf = [99] ∧ s.taken = [1]) ∧
    (∃ s, Reachable (sendSys (sendScenario (.timeout 2) 1 1 1)) s ∧ s.pc = .done false ∧ s.ch.buf = [1]) :=
  ⟨⟨_, Lemmas.ChanExec.reachable_of_pick _ [0, 1, 0, 0] _ rfl, rfl, rfl, rfl⟩,
   ⟨_, Lemmas.ChanExec.reachable_of_pick _ [0, 0, 0, 0] _ rfl, rfl, rfl⟩⟩

/-- RecvTimeout / RecvContext, in every reachable state, when the helper has returned `(v, ok)`:
`ok = true` iff the helper consumed exactly `[v]`, and then its receive statement / case fired and `v`
was the head of the channel at that step; `ok = false` gives the zero value and nothing consumed, and
if the receive case fired nevertheless the channel was closed and drained.  Conservation (every
reachable state): everything that ever entered the channel = deliveries in order ++ buffer; the
deliveries are a permutation of peers' and helper's receipts; with the helper as only consumer
`sent = consumed ++ buffer` as lists. -/
theorem recv_iff (p : Params) (s : RState) (hr : Reachable (recvSys p) s) :
    (∀ v ok, s.pc = .done v ok →
      (ok = true ↔ s.consumed = [v]) ∧
      (ok = true → s.recvFired = true ∧ s.headAt = some v) ∧
      (ok = false → v = 0 ∧ s.consumed = []) ∧
      (ok = false → s.recvFired = true → s.headAt = none ∧ s.ch.closed = true ∧ s.ch.buf = []) ∧
      (ok = false → s.recvFired = false → s.fired = true)) ∧
    s.sent = s.log ++ s.ch.buf ∧
    s.log.Perm (s.taken ++ s.consumed) ∧
    (p.peerRecvs = 0 → s.taken = [] ∧ s.sent = s.consumed ++ s.ch.buf) :=
  ⟨fun v ok hpc => Lemmas.ChanRecv.recv_iff p s hr v ok hpc, Lemmas.ChanRecv.recv_conservation p s hr⟩

/-- a closed and drained channel: the helper's receive statement / case yields `(0, false)`, changes nothing -/
theorem recv_closed_drained (p : Params) (s : RState) (hc : s.ch.closed = true) (hb : s.ch.buf = [])
    (x : Option Unit × RState) (hx : x ∈ recvAlts p s) :
    x.2.pc = recvNext p s.pc 0 false ∧ x.2.ch = s.ch ∧ x.2.consumed = s.consumed ∧ x.2.recvFired = true := by
  unfold recvAlts at hx
  rcases List.mem_append.mp hx with h | h
  · simp [Chan.canRecv, hc, Lemmas.ChanRecv.recv_nil hb] at h
    subst h
    simp
  · split at h
    · simp [hb, hc] at h
    · simp at h

/-- reachable: (1,true) from the buffer; (0,false) by timeout on an empty open channel; (0,false) on a closed drained one -/
example : (∃ s, Reachable (recvSys (recvScenario (.timeout 2) 2 1 false 0)) s ∧ s.pc = .done 1 true ∧ s.consumed = [1]) ∧
    (∃ s, Reachable (recvSys (recvScenario (.timeout 2) 2 0 false 0)) s ∧ s.pc = .done 0 false ∧ s.recvFired = false) ∧
    (∃ s, Reachable (recvSys (recvScenario (.timeout 2) 2 0 true 0)) s ∧ s.pc = .done 0 false ∧ s.recvFired = true) :=
  ⟨⟨_, Lemmas.ChanExec.reachable_of_pick _ [0, 0, 0] _ rfl, rfl, rfl⟩,
   ⟨_, Lemmas.ChanExec.reachable_of_pick _ [0, 0, 0, 0] _ rfl, rfl, rfl⟩,
   ⟨_, Lemmas.ChanExec.reachable_of_pick _ [0, 0, 0] _ rfl, rfl, rfl⟩⟩

example : ({ initR (recvScenario (.timeout 2) 2 0 true 0) with pc := .sel } : RState).ch.closed = true ∧
    ({ initR (recvScenario (.timeout 2) 2 0 true 0) with pc := .sel } : RState).ch.buf = [] ∧
    ∃ x, x ∈ recvAlts (recvScenario (.timeout 2) 2 0 true 0)
      { initR (recvScenario (.timeout 2) 2 0 true 0) with pc := .sel } ∧ x.2.pc = .stop 0 false :=
  ⟨rfl, rfl, _, List.mem_cons_self, rfl⟩

/-- A non-positive timeout means wait without limit: no timer is ever armed, the helper never reaches
its `select`; SendTimeout never returns false; RecvTimeout returns false only with `(0, false)` from
its receive statement on a closed and drained channel, having consumed nothing. -/
theorem nonpositive_timeout_blocks (p : Params) (tmo : Int) (hm : p.mode = .timeout tmo) (ht : tmo ≤ 0) :
    (p.val ∉ p.fill → p.val ∉ p.peerSends → ∀ s, Reachable (sendSys p) s →
      s.armed = false ∧ s.fired = false ∧ s.pc ≠ .sel ∧ s.pc ≠ .wait ∧ s.pc ≠ .stop ∧ s.pc ≠ .done false) ∧
    (∀ s, Reachable (recvSys p) s →
      s.armed = false ∧ s.fired = false ∧ s.pc ≠ .sel ∧ s.pc ≠ .wait ∧
      (∀ v, s.pc = .done v false →
        v = 0 ∧ s.recvFired = true ∧ s.ch.closed = true ∧ s.ch.buf = [] ∧ s.consumed = [])) :=
  ⟨fun _ _ s hr => Lemmas.ChanSend.nonpositive_send p tmo hm ht s hr,
   fun s hr => Lemmas.ChanRecv.nonpositive_recv p tmo hm ht s hr⟩

/-- timeout 0: the blocking send completes once a peer makes room; the blocking receive returns (0,false) on a closed channel -/
example : (∃ s, Reachable (sendSys (sendScenario (.timeout 0) 1 1 1)) s ∧ s.pc = .done true ∧ s.taken = [1]) ∧
    (∃ s, Reachable (recvSys (recvScenario (.timeout 0) 1 0 true 0)) s ∧ s.pc = .done 0 false) :=
  ⟨⟨_, Lemmas.ChanExec.reachable_of_pick _ [0, 0, 0] _ rfl, rfl, rfl⟩,
   ⟨_, Lemmas.ChanExec.reachable_of_pick _ [0, 0] _ rfl, rfl⟩⟩

end C19

#print axioms C19.recvQueued
#print axioms C19.recvQueuedFull
#print axioms C19.send_iff
#print axioms C19.recv_iff
#print axioms C19.recv_closed_drained
#print axioms C19.nonpositive_timeout_blocks
