import TypVerif.Lemmas.ObjAccept
import TypVerif.Lemmas.ObjCompleteLin
import TypVerif.Props.C18
/-
C04 — ACCEPTANCE IS SOUND for the API-level judge `Drv/ObjLin.lean`, map mode (`cmap`): a real history of single
`sync2.Map` operations (Load / Store / LoadOrStore / LoadAndDelete / Delete) that the judge accepts is linearizable w.r.t.
the map specification `MapObj.mapSpec` (the judge's states are accounted for by executions, `ObjAccept.Acc`, and every
execution is linearizable), hence (`ObjComplete.exec_of_linearizable`) the visible trace of an execution of
`AtomicObj.sys MapObj.mapSpec menu N` from its initial state.  The generic part (the state-set step `stepObj`: padding, log
erasure, one-operation menu, growing number of goroutines) is `Lemmas/ObjAccept.lean`, see `Props/C18accept.lean`.

The fold the theorems are about: `runLines (step j0 [cmap] impl0).1 lines` — the real `Drv.ObjLin.step`, started with the
header line `cmap` in any judge state, folded over lines that are all covered by `MapLine`:
  event lines      `inv t load k | store k v | loadorstore k v | loadanddelete k | delete k` (`parseMapInv`),
                   `res t done`, `res t v <bool-word>`;
  skipped lines    `inv t range`, `res t [[k,v],…]` (Range; judged by separate predicates, NOT part of this statement),
                   `step _ _`, `iter _ _` (lines of step-level traces, ignored by this judge).
`Lines MapLine lines tr`: `tr` is the history (event lines in order).  "Accepted": `violated = none` at the end, i.e. every
output so far was `ok` (the flag is also set by the Range predicates and by `deadlock` / `steplimit` / `panic` lines, so such
lines are excluded by the hypothesis where they are not excluded by `MapLine`).  Soundness only.
-/
namespace C04
open TypVerif TypVerif.Conc TypVerif.Model TypVerif.Proto TypVerif.Drv.ObjLin
open TypVerif.Lemmas.ObjAcceptLin (MEvent MapLine Lines runLines)
open TypVerif.Lemmas.ObjAccept (evMenu)

/-- the state-set step of this judge (same as C18's, closure fuel 24): every state in `stepObj S n ss e` is `eraseLog` of a
state reached from the padding of some state of `ss` by an execution with visible trace `[e]` -/
theorem objlin_stepObj_sound (S : AtomicObj.Spec) [DecidableEq S.σ] [DecidableEq S.Op] [DecidableEq S.Res] (n : Nat)
    (ss : List (AtomicObj.State S.σ S.Op S.Res)) (e : AtomicObj.Event S.Op S.Res) :
    ∀ s' ∈ stepObj S n ss e, ∃ s ∈ ss, ∃ (ls : List (Option (AtomicObj.Event S.Op S.Res)))
        (s1 : AtomicObj.State S.σ S.Op S.Res),
      Exec (AtomicObj.sys S (evMenu e) n) (padObj n s) ls s1 ∧ visible ls = [e] ∧ s' = eraseLog s1 :=
  Lemmas.ObjAccept.stepObj_sound S closureFuel n ss e

/-- what a covered line does to the map-mode state: the mode is kept, and if no violation is reported afterwards, none was
reported before and — event line — the state set was stepped by `stepObj` (with some number of goroutines) and is
non-empty, — skipped line — the state set is unchanged -/
theorem objlin_step_map (j : JSt) (toks : List Val) (impl : String) (oe : Option MEvent) (hmode : j.st.mode = 1)
    (h : MapLine toks oe) :
    (step j toks impl).1.st.mode = 1 ∧
    ((step j toks impl).1.st.violated = none → j.st.violated = none ∧
      (match (generalizing := false) oe with
       | some e => (∃ n, (step j toks impl).1.st.ms = stepObj MapObj.mapSpec n j.st.ms e) ∧
                     (step j toks impl).1.st.ms ≠ []
       | none => (step j toks impl).1.st.ms = j.st.ms)) := by
  rw [Lemmas.ObjAcceptLin.step_map j toks impl oe hmode h]
  obtain ⟨h1, h2⟩ := Lemmas.ObjAcceptLin.stepMap_spec j.st toks oe h
  exact ⟨h1.trans hmode, fun h0 => ⟨(h2.ok h0).1, by cases oe <;> exact (h2.ok h0).2⟩⟩

/-- **ObjLin judge, map mode**: an accepted history of single map operations is the visible trace of an execution of the
atomic map object -/
theorem objlin_accept_sound (j0 : JSt) (impl0 : String) (lines : List (List Val × String)) (tr : List MEvent)
    (hl : Lines MapLine lines tr) (hok : (runLines (step j0 [.w "cmap"] impl0).1 lines).st.violated = none) :
    ∃ (N : Nat) (menu : List MapObj.Op) (ls : List (Option MEvent)) (s : MSt),
      Exec (AtomicObj.sys MapObj.mapSpec menu N) (AtomicObj.sys MapObj.mapSpec menu N).init ls s ∧ visible ls = tr :=
  Lemmas.ObjComplete.exec_of_linearizable MapObj.mapSpec
    ((Lemmas.ObjCompleteLin.map_track j0 impl0 lines tr hl).2.sound hok)

/-- … hence it is linearizable w.r.t. the map specification -/
theorem objlin_accepted_history_linearizable (j0 : JSt) (impl0 : String) (lines : List (List Val × String))
    (tr : List MEvent) (hl : Lines MapLine lines tr)
    (hok : (runLines (step j0 [.w "cmap"] impl0).1 lines).st.violated = none) :
    AtomicObj.Linearizable MapObj.mapSpec tr :=
  (Lemmas.ObjCompleteLin.map_track j0 impl0 lines tr hl).2.sound hok

/-! non-vacuity: `store 1 7 ‖ load 1 → 7 true` (with a `step` line in between) is accepted; a stale load is not -/
example : (runLines (step {} [.w "cmap"] "").1
    [([.w "inv", .i 0, .w "store", .i 1, .i 7], ""), ([.w "step", .i 0, .i 3], ""),
     ([.w "inv", .i 1, .w "load", .i 1], ""), ([.w "res", .i 1, .i 7, .w "true"], ""),
     ([.w "res", .i 0, .w "done"], "")]).st.violated = none := by decide +kernel
example : Lines MapLine
    [([.w "inv", .i 0, .w "store", .i 1, .i 7], ""), ([.w "step", .i 0, .i 3], ""),
     ([.w "inv", .i 1, .w "load", .i 1], ""), ([.w "res", .i 1, .i 7, .w "true"], ""),
     ([.w "res", .i 0, .w "done"], "")]
    [.inv 0 (.store 1 7), .inv 1 (.load 1), .res 1 (.val 7 true), .res 0 .done] :=
  .ev (.inv _ 0 (.store 1 7) (by decide +kernel)) (.skip (.stepLine _ _) (.ev (.inv _ 1 (.load 1) (by decide +kernel))
    (.ev (.resVal 1 7 "true") (.ev (.resDone 0) .nil))))
example : (runLines (step {} [.w "cmap"] "").1
    [([.w "inv", .i 0, .w "store", .i 1, .i 7], ""), ([.w "res", .i 0, .w "done"], ""),
     ([.w "inv", .i 1, .w "load", .i 1], ""), ([.w "res", .i 1, .i 0, .w "false"], "")]).st.violated
      = some "not-linearizable" := by decide +kernel

end C04

#print axioms C04.objlin_stepObj_sound
#print axioms C04.objlin_step_map
#print axioms C04.objlin_accept_sound
#print axioms C04.objlin_accepted_history_linearizable
