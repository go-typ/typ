import TypVerif.Props.C10
import TypVerif.Lemmas.PubSubLogSubs
/-
C10 — PubSub, the log-level delivery theorems: exactly once / in order (PubSync, PubSliceSync), complete
(PubWait, PubSliceWait), at most once (Pub, PubSlice), delivery xor timeout.  Model `sys cfg` of
`TypVerif/Model/PubSub.lean`, all schedules (`Conc.Reachable`, `Conc.Exec`), any menu `cfg.env`.

Vocabulary (definitions in `TypVerif/Lemmas/PubSubLog*.lean`, all functions of the model state, none a field of it):
* `Key = pid × idx × chan`, `key it = (it.pid, it.idx, it.c)`: the ghost-log entry of item `it`;
* `callKeys p evs subs = (mkItems p evs subs).map key`: the pairs of a call, in publication (event-major) order;
* `pend t`: the items task `t` still has to hand off (remaining items of a `syncLoop`, the item of a live sender whose
  timer has not fired); `pendKeys s`: their keys over all tasks of `s`;
* `CallRun cfg s0 s1 s2 i p o v evs`: `s0` reachable, task `i` of `s0` is `pubStart p o v evs`, `s0 → s1` is the step
  of that task (RLock + snapshot of `(s0.obj o).subs`), `s2` is reached from `s1` by an arbitrary execution.
  The snapshot of `subs` is NOT recorded in the model state; it is named here by naming the snapshot state `s0`.

PUBLISHER IDS.  No hypothesis about id reuse is needed: the MODEL enforces it — `envStep` refuses `pubinv p …` when
`p ∈ s.pids` and records `p` in `s.pids` — and `log_bookkeeping_ids` proves the consequence as an invariant of every
configuration (the used ids are tracked in the invariant).
-/
namespace C10
open TypVerif TypVerif.Model.PubSub TypVerif.Lemmas.PubSubExec TypVerif.Lemmas.PubSubSafe TypVerif.Lemmas.PubSubLog

/-- Bookkeeping (ids), every configuration, every reachable state: at most one call of publisher `p` is waiting for
its snapshot; none if `p` has not been used; and as long as `p` is unused or its call has not taken the snapshot,
nothing with publisher id `p` is pending in any task or logged in `delivered ++ timedOut`. -/
theorem log_bookkeeping_ids (cfg : Cfg) (s : State) (hr : Conc.Reachable (sys cfg) s) (p : Nat) :
    s.tasks.countP (isPubStart p) ≤ 1 ∧
    (p ∉ s.pids → s.tasks.countP (isPubStart p) = 0) ∧
    ((p ∉ s.pids ∨ s.tasks.countP (isPubStart p) = 1) →
      ∀ k : Key, k.1 = p → k ∉ pendKeys s ∧ k ∉ s.delivered ++ s.timedOut) := by
  have hf := fresh_reachable cfg s hr
  refine ⟨hf.le1 p, hf.unused p, fun h k hk => ?_⟩
  obtain ⟨h1, h2⟩ := Nat.eq_zero_of_add_eq_zero (hf.zero p h k hk)
  exact ⟨List.count_eq_zero.mp h1, List.count_eq_zero.mp h2⟩

/-- Bookkeeping (one step), every configuration, every state: a step either leaves both logs alone, or it is the
hand-off of ONE pending item `it` of ONE task (a channel that task targets): exactly the entry `key it` is appended
to exactly one of `delivered` / `timedOut` (to `timedOut` only with a positive timeout), and the number of pending
items with that key drops by one.  So every log entry was appended by the hand-off of an item with that key. -/
theorem log_bookkeeping_step (cfg : Cfg) (s s' : State) (l : Option Event) (h : (l, s') ∈ (sys cfg).succ s) :
    (s'.delivered = s.delivered ∧ s'.timedOut = s.timedOut) ∨
    ∃ (i : Nat) (t : Task) (it : Item), s.tasks[i]? = some t ∧ it ∈ pend t ∧ it.c ∈ targets t ∧
      (pendKeys s').count (key it) + 1 = (pendKeys s).count (key it) ∧
      ((s'.delivered = s.delivered ++ [key it] ∧ s'.timedOut = s.timedOut) ∨
       (s'.delivered = s.delivered ∧ s'.timedOut = s.timedOut ++ [key it] ∧ cfg.timeout > 0)) :=
  log_step h

/-- Bookkeeping (one call), every configuration, every schedule: from the snapshot on, for every key `k` of publisher
`p`, (pending items with key `k`) + (log entries `k`) never exceeds the multiplicity of `k` among the pairs of the
call — and EQUALS it for the PubSync / PubWait variants (for Pub / PubSlice an item whose channel was unsubscribed
before its goroutine got the read lock is dropped, which is the only way the sum decreases).  Hence each item of
the call is in exactly one place: still to be handed off, or logged once.  Every log entry with publisher id `p`
is a pair of the call.  Without clones the pairs of a call are pairwise distinct. -/
theorem log_bookkeeping_call (cfg : Cfg) (s0 s1 s2 : State) (i p o : Nat) (v : Variant) (evs : List Int)
    (h : CallRun cfg s0 s1 s2 i p o v evs) :
    (∀ k : Key, k.1 = p →
      (pendKeys s2).count k + (s2.delivered ++ s2.timedOut).count k ≤ (callKeys p evs (s0.obj o).subs).count k) ∧
    ((v.isSync = true ∨ v.isWait = true) → ∀ k : Key, k.1 = p →
      (pendKeys s2).count k + (s2.delivered ++ s2.timedOut).count k = (callKeys p evs (s0.obj o).subs).count k) ∧
    (∀ k ∈ s2.delivered ++ s2.timedOut, k.1 = p → k ∈ callKeys p evs (s0.obj o).subs) ∧
    (CloneDiscipline cfg → (callKeys p evs (s0.obj o).subs).Nodup) := by
  have hle := h.callLe
  refine ⟨hle.le, fun hv => (h.callEq hv).eq, fun k hk hp => ?_, fun hd => ?_⟩
  · exact List.count_pos_iff.mp (Nat.lt_of_lt_of_le (List.count_pos_iff.mpr hk)
      (Nat.le_trans (Nat.le_add_left _ _) (hle.le k hp)))
  · have hs := no_panic_noClone cfg hd s0 h.reach
    have ho : o = 0 := hs.obj0 _ (List.mem_of_getElem? h.at0)
    subst ho
    exact callKeys_nodup p evs _ hs.nodup

/-- the configuration of the examples below: one subscriber (buffer 1, its receiver never allowed to take a value),
timeout on; a PubSliceSync, a PubWait and a PubSlice call, and an Unsub -/
def lgCfg : Cfg :=
  { allowClone := false, timeout := 1,
    env := [.sub 0 1, .pubinv 0 0 .pubSliceSync [7, 8], .pubinv 1 0 .pubWait [9], .pubinv 2 0 .pubSlice [5, 6],
            .unsubinv 0 0 0] }

def stateAt (cfg : Cfg) (path : List Nat) : State := (runPath cfg {} path).getD {}

/-- non-vacuity of `CallRun` (PubSlice with two events; the first is delivered, then the channel is unsubscribed and
the second goroutine drops its item: it is neither pending nor logged — 0 ≤ 1) -/
example : ∃ s0 s1 s2, CallRun lgCfg s0 s1 s2 1 2 0 .pubSlice [5, 6] ∧
    callKeys 2 [5, 6] (s0.obj 0).subs = [(2, 0, 0), (2, 1, 0)] ∧ s2.delivered = [(2, 0, 0)] ∧ s2.timedOut = [] ∧
    pendKeys s2 = [] :=
  ⟨_, _, _, callRun_of_path lgCfg [0, 4, 4, 4, 2] [4, 4, 2, 5, 4, 4] 3 1 2 0 .pubSlice [5, 6]
     (by decide) (by decide) (by decide) (by decide) (by decide),
   by decide, by decide, by decide, by decide⟩

/-- non-vacuity of the second alternative of `log_bookkeeping_step`: a step that appends a delivery -/
example : (∃ e ∈ (sys lgCfg).succ (stateAt lgCfg [0, 4, 4, 4, 2, 3, 4]),
    e.2.delivered = (stateAt lgCfg [0, 4, 4, 4, 2, 3, 4]).delivered ++ [(2, 0, 0)]) := by decide

/-- When a PubSync / PubSliceSync call of publisher `p` has returned (its task is `pubRet p`, or finished after the
`pubret` stamp), in every configuration and under every schedule:
(1) every pair `k` of the call occurs in `delivered ++ timedOut` exactly as often as among the pairs of the call —
    exactly ONCE without clones (`subs` has no duplicates) — and nothing else with publisher id `p` is logged;
(2) the entries of `p` in `delivered` are, in log order, a sublist of the pairs in publication order (event-major
    order of `mkItems`), likewise those in `timedOut`; in particular per channel `c` the deliveries appear in
    publication order;
(3) an entry is in `timedOut` only if the timeout is positive; with the timeout off, the entries of `p` in `delivered`
    ARE the pairs of the call, in publication order. -/
theorem sync_exactly_once_in_order (cfg : Cfg) (s0 s1 s2 : State) (i p o : Nat) (v : Variant) (evs : List Int)
    (h : CallRun cfg s0 s1 s2 i p o v evs) (hv : v.isSync = true)
    (hret : s2.tasks[i]? = some (.pubRet p) ∨ s2.tasks[i]? = some .done) :
    (∀ k : Key, k.1 = p →
      (s2.delivered ++ s2.timedOut).count k = (callKeys p evs (s0.obj o).subs).count k) ∧
    (CloneDiscipline cfg → ∀ k ∈ callKeys p evs (s0.obj o).subs, (s2.delivered ++ s2.timedOut).count k = 1) ∧
    (s2.delivered.filter (fun k => k.1 == p)).Sublist (callKeys p evs (s0.obj o).subs) ∧
    (s2.timedOut.filter (fun k => k.1 == p)).Sublist (callKeys p evs (s0.obj o).subs) ∧
    (∀ c : Chan, ((s2.delivered.filter (fun k => k.1 == p)).filter (fun k => k.2.2 == c)).Sublist
      ((callKeys p evs (s0.obj o).subs).filter (fun k => k.2.2 == c))) ∧
    (s2.timedOut ≠ [] → cfg.timeout > 0) ∧
    (cfg.timeout ≤ 0 → s2.delivered.filter (fun k => k.1 == p) = callKeys p evs (s0.obj o).subs) := by
  obtain ⟨hd, hto, hcl⟩ := (h.syncInv hv).returned hret
  refine ⟨hcl, fun hcd k hk => ?_, hd, hto, fun c => hd.filter _, timeout_pos_of_timedOut h.reach2, fun h0 => ?_⟩
  · have hnd := (log_bookkeeping_call cfg s0 s1 s2 i p o v evs h).2.2.2 hcd
    exact (hcl k (callKeys_pid hk)).trans (hnd.count.trans (if_pos hk))
  · -- with the timeout off everything of `p` is in `delivered`: a sublist with the same counts is the whole list
    apply sublist_eq_of_count hd
    intro k
    by_cases hk : k.1 = p
    · have e : (dP p s2).count k = s2.delivered.count k := List.count_filter (beq_iff_eq.mpr hk)
      rw [← hcl k hk, e, cL, logs, timedOut_nil cfg h0 s2 h.reach2, List.append_nil]
      exact Nat.le_refl _
    · rw [count_callKeys_ne hk]
      exact Nat.zero_le _

/-- non-vacuity: a PubSliceSync of two events to one subscriber with a one-slot buffer and timeout on; the first event
is delivered, the second times out; after the return both pairs are logged exactly once -/
example : ∃ s0 s1 s2, CallRun lgCfg s0 s1 s2 1 0 0 .pubSliceSync [7, 8] ∧ Variant.pubSliceSync.isSync = true ∧
    CloneDiscipline lgCfg ∧ s2.tasks[1]? = some (.pubRet 0) ∧
    callKeys 0 [7, 8] (s0.obj 0).subs = [(0, 0, 0), (0, 1, 0)] ∧ s2.delivered = [(0, 0, 0)] ∧
    s2.timedOut = [(0, 1, 0)] :=
  ⟨_, _, _, callRun_of_path lgCfg [0, 4, 4, 4, 0] [3, 3, 3] 3 1 0 0 .pubSliceSync [7, 8]
     (by decide) (by decide) (by decide) (by decide) (by decide),
   rfl, rfl, by decide, by decide, by decide, by decide⟩

/-- "`subs` is constant during the call" (system without clones): while the task of a PubSync / PubSliceSync call is
in its loop — it holds the read lock from the snapshot to the return — the subscriber list of the PubSub value is
still the one the snapshot read, under every schedule (writers need a reader count of 0). -/
theorem sync_subs_constant (cfg : Cfg) (hd : CloneDiscipline cfg) (s0 s1 s2 : State) (i p o : Nat) (v : Variant)
    (evs : List Int) (h : CallRun cfg s0 s1 s2 i p o v evs) (hv : v.isSync = true) (work : List Item) (cb : Bool)
    (hloop : s2.tasks[i]? = some (.syncLoop p o work cb)) : (s2.obj o).subs = (s0.obj o).subs := by
  obtain ⟨rfl, hI⟩ := h.subsInv hd hv
  exact hI.const work cb hloop

/-- non-vacuity: the state of the PubSliceSync call above in which the first event is delivered and the second is
the head of the loop -/
example : ∃ s0 s1 s2 work cb, CallRun lgCfg s0 s1 s2 1 0 0 .pubSliceSync [7, 8] ∧ CloneDiscipline lgCfg ∧
    s2.tasks[1]? = some (.syncLoop 0 0 work cb) ∧ s2.delivered = [(0, 0, 0)] ∧ (s0.obj 0).subs = [0] :=
  ⟨_, _, _, [{ pid := 0, idx := 1, ev := 8, c := 0 }], false,
   callRun_of_path lgCfg [0, 4, 4, 4, 0] [3] 3 1 0 0 .pubSliceSync [7, 8]
     (by decide) (by decide) (by decide) (by decide) (by decide),
   rfl, by decide, by decide, by decide⟩

/-- When a PubWait / PubSliceWait call of publisher `p` has returned (system without clones, every schedule): every
pair of the call occurs in `delivered ++ timedOut` exactly once (the pairs are pairwise distinct), and nothing else
with publisher id `p` is logged.  No order is claimed: the sender goroutines run concurrently.
`CloneDiscipline` is needed for the WaitGroup counting invariant (`Safe.wgc`: counter = number of live senders). -/
theorem wait_complete (cfg : Cfg) (hd : CloneDiscipline cfg) (s0 s1 s2 : State) (i p o : Nat) (v : Variant)
    (evs : List Int) (h : CallRun cfg s0 s1 s2 i p o v evs) (hv : v.isSync = false) (hw : v.isWait = true)
    (hret : s2.tasks[i]? = some (.pubRet p) ∨ s2.tasks[i]? = some .done) :
    (∀ k : Key, k.1 = p →
      (s2.delivered ++ s2.timedOut).count k = (callKeys p evs (s0.obj o).subs).count k) ∧
    (callKeys p evs (s0.obj o).subs).Nodup ∧
    (∀ k ∈ callKeys p evs (s0.obj o).subs, (s2.delivered ++ s2.timedOut).count k = 1) ∧
    (∀ k : Key, k.1 = p → k ∉ pendKeys s2) ∧
    (s2.timedOut ≠ [] → cfg.timeout > 0) := by
  have hz := (h.waitInv hd hv hw).returned hret
  have heq := (h.callEq (Or.inr hw)).eq
  have hnd := (log_bookkeeping_call cfg s0 s1 s2 i p o v evs h).2.2.2 hd
  have hcount : ∀ k : Key, k.1 = p →
      (s2.delivered ++ s2.timedOut).count k = (callKeys p evs (s0.obj o).subs).count k := fun k hk => by
    have := heq k hk
    rw [hz k hk, Nat.zero_add] at this
    exact this
  exact ⟨hcount, hnd, fun k hk => (hcount k (callKeys_pid hk)).trans (hnd.count.trans (if_pos hk)),
    fun k hk => List.count_eq_zero.mp (hz k hk), timeout_pos_of_timedOut h.reach2⟩

/-- non-vacuity: a PubWait of one event to one subscriber; after the return its pair is logged once -/
example : ∃ s0 s1 s2, CallRun lgCfg s0 s1 s2 1 1 0 .pubWait [9] ∧ CloneDiscipline lgCfg ∧
    Variant.pubWait.isSync = false ∧ Variant.pubWait.isWait = true ∧ s2.tasks[1]? = some (.pubRet 1) ∧
    callKeys 1 [9] (s0.obj 0).subs = [(1, 0, 0)] ∧ s2.delivered = [(1, 0, 0)] :=
  ⟨_, _, _, callRun_of_path lgCfg [0, 4, 4, 4, 1] [3, 3] 3 1 1 0 .pubWait [9]
     (by decide) (by decide) (by decide) (by decide) (by decide),
   rfl, rfl, rfl, by decide, by decide, by decide⟩

/-- For a Pub / PubSlice call (in fact for a call of any variant) of publisher `p`, in every state reached after its
snapshot, under every schedule: every pair of the call occurs in `delivered ++ timedOut` at most as often as among the
pairs of the call — at most ONCE without clones — and nothing else with publisher id `p` is logged.  Moreover (without
clones) any step that logs an entry logs it for a channel that is subscribed and open at that moment: nothing is
delivered to (and no timeout is reported for) a channel after its removal.
("Eventually delivered" is a liveness property and is not claimed.) -/
theorem async_at_most_once (cfg : Cfg) (s0 s1 s2 : State) (i p o : Nat) (v : Variant) (evs : List Int)
    (h : CallRun cfg s0 s1 s2 i p o v evs) :
    (∀ k : Key, k.1 = p →
      (s2.delivered ++ s2.timedOut).count k ≤ (callKeys p evs (s0.obj o).subs).count k) ∧
    (∀ k ∈ s2.delivered ++ s2.timedOut, k.1 = p → k ∈ callKeys p evs (s0.obj o).subs) ∧
    (CloneDiscipline cfg → ∀ k : Key, (s2.delivered ++ s2.timedOut).count k ≤ 1) ∧
    (CloneDiscipline cfg → ∀ (l : Option Event) (s3 : State), (l, s3) ∈ (sys cfg).succ s2 →
      (s3.delivered = s2.delivered ∧ s3.timedOut = s2.timedOut) ∨
      ∃ k : Key, k.2.2 ∈ (s2.obj 0).subs ∧ isClosed s2.chans k.2.2 = false ∧
        ((s3.delivered = s2.delivered ++ [k] ∧ s3.timedOut = s2.timedOut) ∨
         (s3.delivered = s2.delivered ∧ s3.timedOut = s2.timedOut ++ [k] ∧ cfg.timeout > 0))) := by
  have hb := log_bookkeeping_call cfg s0 s1 s2 i p o v evs h
  exact ⟨fun k hk => Nat.le_trans (Nat.le_add_left _ _) (hb.1 k hk), hb.2.2.1,
    fun hd k => Nat.le_trans (Nat.le_add_left _ _) (atMostOnce_reachable cfg hd s2 h.reach2 k),
    fun hd l s3 hs => log_step_subscribed hd h.reach2 hs⟩

/-- non-vacuity: see the `CallRun` example after `log_bookkeeping_call` (PubSlice [5, 6]: one pair delivered, one
dropped after the Unsub); here the state in which the first pair has just been delivered and the second is pending -/
example : ∃ s0 s1 s2, CallRun lgCfg s0 s1 s2 1 2 0 .pubSlice [5, 6] ∧ CloneDiscipline lgCfg ∧
    s2.delivered = [(2, 0, 0)] ∧ pendKeys s2 = [(2, 1, 0)] :=
  ⟨_, _, _, callRun_of_path lgCfg [0, 4, 4, 4, 2] [4, 4] 3 1 2 0 .pubSlice [5, 6]
     (by decide) (by decide) (by decide) (by decide) (by decide),
   rfl, by decide, by decide⟩

/-- In every reachable state of the system without clones no pair is both in `delivered` and in `timedOut`; more
precisely every key is (pending or logged) at most once in total, so each hand-off ends in exactly one of a delivery
or one timeout entry.  (That a timeout entry is followed by exactly one `tmo` callback and no delivery is the step
structure: `sync_exactly_once_in_order_partial` and the `cb` flag of the senders.) -/
theorem timeout_exclusive (cfg : Cfg) (hd : CloneDiscipline cfg) (s : State) (hr : Conc.Reachable (sys cfg) s) :
    (∀ k : Key, k ∈ s.delivered → k ∉ s.timedOut) ∧
    (∀ k : Key, (pendKeys s).count k + (s.delivered.count k + s.timedOut.count k) ≤ 1) := by
  refine ⟨fun k h1 h2 => not_both_logs hd hr k h1 h2, fun k => ?_⟩
  rw [← List.count_append]
  exact atMostOnce_reachable cfg hd s hr k

/-- non-vacuity: a reachable state under the discipline with one delivery and one timeout (of different pairs) -/
example : ∃ s, Conc.Reachable (sys lgCfg) s ∧ CloneDiscipline lgCfg ∧ s.delivered = [(0, 0, 0)] ∧
    s.timedOut = [(0, 1, 0)] :=
  ⟨stateAt lgCfg [0, 4, 4, 4, 0, 3, 3, 3, 3],
   runPath_reachable lgCfg [0, 4, 4, 4, 0, 3, 3, 3, 3] {} _ Conc.Reachable.init (eq_some_getD (by decide) _), rfl,
   by decide, by decide⟩

end C10

#print axioms C10.log_bookkeeping_ids
#print axioms C10.log_bookkeeping_step
#print axioms C10.log_bookkeeping_call
#print axioms C10.sync_exactly_once_in_order
#print axioms C10.sync_subs_constant
#print axioms C10.wait_complete
#print axioms C10.async_at_most_once
#print axioms C10.timeout_exclusive
