import TypVerif.Props.C09conc
import TypVerif.Lemmas.KmTraceComplete
/-
C09, COMPLETENESS of the STEP-trace judge "C09conc" (`Drv/C09conc.lean`) — the judge that replays step traces of
`sync2.KeyedMutex` / `KeyedRWMutex` recorded under the controlled scheduler in the composed model
`Model/KeyedMutexConc.lean` (`sys Int menu n`, the system of the `C09.conc_*` theorems).

Soundness, line by line, is `Lemmas/KeyedMutexConcJudge.lean` (`doInv_sound`, `doStep_sound`, `doIter_sound`, `doRes_sound`: an
accepted line is a step of `KeyedMutexConc.stepT`).  Here is the converse:

  every step of the model (in a reachable state) is accepted by the judge's line function for the corresponding line, with
  the model's successor as the judge's new state                                                   (`conc_line_accept_complete`)
  every execution of the model from its initial state is recorded by a line list that the judge — started by the header
  `km <rw>` in the EMPTY state, creating goroutines when an `inv` line first names them — accepts, line for line with the
  answer `ok`, ending (up to goroutines never invoked) in the model's final state                  (`conc_judge_accept_complete`)

So the judge "C09conc" never rejects a faithful recording of a run the composed model allows: a rejection means the recorded
run left the model.  (NOT to be confused with `Props/C09complete.lean`, which is about the other judge, "C09" of `Drv/C09.lean`,
and the EVENT-level model `Model.KeyedMutex.sys`.)

The lines (`Lemmas.KmTrace.KLine`, tokens `KLine.toks`): `inv t <kind> k`; `step t op:<kind>` for the start of the method's
map call (the judge translates it to the map's `op:loadorstore` / `op:delete`); `step t <hook label of map.go>` for every other
atomic action of the map call; `step t lock|rlock|Keyed(RW)Mutex.Try(R)LockKey` for the mutex action at the method's own hook
(`Lemmas.KmTrace.stepLabel`); `iter t k` for a key choice of the map's `range` loop; `res t done|true|false`.

Facts about reachable states that are used (`Lemmas.KmTrace.Good`, from the proved invariant `reachable_inv`, for a key the
finite menu never clears — one exists since keys are `Int`): map component and phase list have the same length; the remaining
pairs of a `range` loop have distinct keys (an `iter` line names the key only); a goroutine inside a method's map call that is
parked at the start of a map operation is at the start of THE map operation of that method.

What this covers: the pure line functions `doInv/doStep/doIter/doRes` and `Drv.C09conc.step` on the token lists of such lines
(`inv`/`step`/`iter`/`res` lines and the header).  What it does NOT cover: the text → token parsing (`Proto`), the `deadlock` /
`steplimit` / `panic:` lines (not steps of the model), tags and rejection messages; and, as for soundness, that the recorded
lines are a faithful record of what the real code did (hooks: `C09.gen_*`).
-/
namespace C09
open TypVerif TypVerif.Conc TypVerif.Model TypVerif.Proto
open TypVerif.Model.KeyedMutexConc (Kind sys)
open TypVerif.Drv.C09conc (St KS doStep doInv doIter doRes resStr pad)
open TypVerif.Lemmas.KmTrace (KLine Good Accepted stepLabel applyK replayK runLines)

/-- **the facts used hold in every reachable state** of the composed model (any menu, any number of goroutines, every
schedule) -/
theorem conc_good (menu : List (KeyedMutexConc.Op Int)) (n : Nat) {s : KS}
    (hr : Reachable (sys Int menu n) s) : Good s :=
  Lemmas.KmTrace.good_of_reachable hr

/-- **Every step of the composed model is accepted by the judge's line function for the corresponding line.**  The judge's
model state `st.s` is a reachable state of `sys Int menu n`; `(l, s')` is any step of the model from it.  Then
* an invocation step `inv t ⟨kind, k⟩` is accepted by `doInv st t kind k`,
* a response step `res t r` by `doRes st t (resStr r)`,
* an internal step by `doStep st t (stepLabel st.rw st.s t)` (the atomic action goroutine `t` is parked at: in the map call or
  at the method's own hook) or by `doIter st t k` (a key choice of the map's `range` loop),
each with result exactly `s'`.
Covers: the pure line functions.  Does not cover: parsing, `deadlock`/`steplimit`/`panic:` lines (driver glue). -/
theorem conc_line_accept_complete (menu : List (KeyedMutexConc.Op Int)) (n : Nat) (st : St)
    (hr : Reachable (sys Int menu n) st.s) {s' : KS} {l : Option (KeyedMutexConc.Event Int)}
    (h : (l, s') ∈ KeyedMutexConc.succ menu st.s) :
    (∃ t kind k, l = some (.inv t ⟨kind, k⟩) ∧ (⟨kind, k⟩ : KeyedMutexConc.Op Int) ∈ menu ∧
        doInv st t kind k = some s') ∨
    (∃ t r, l = some (.res t r) ∧ doRes st t (resStr r) = some s') ∨
    (l = none ∧ Accepted st s') := by
  rcases Lemmas.KmTrace.line_complete menu (conc_good menu n hr) h with ⟨t, kind, k, h1, h2, h3, _⟩ | h1 | h1
  · exact .inl ⟨t, kind, k, h1, h2, h3⟩
  · exact .inr (.inl h1)
  · exact .inr (.inr h1)

/-- **Every execution of the composed model from a reachable state is accepted by the fold of the judge's line functions**
(`replayK`, all goroutines already created), line for line with exactly the execution's labels, ending in the model's final
state. -/
theorem conc_replay_complete (menu : List (KeyedMutexConc.Op Int)) (n : Nat) (st : St) {s' : KS}
    {evs : List (Option (KeyedMutexConc.Event Int))}
    (hr : Reachable (sys Int menu n) st.s) (h : Exec (sys Int menu n) st.s evs s') :
    ∃ ls : List KLine, replayK st ls = some { st with s := s' } ∧ ls.map KLine.event = evs := by
  obtain ⟨ls, _, h1, h2, rfl⟩ :=
    Lemmas.KmTrace.replayK_follows menu n st id (fun _ _ _ => Option.map_id'.symm) h hr st.s rfl
  exact ⟨ls, h1, h2⟩

/-- **THE STEP-TRACE JUDGE IS COMPLETE.**  For every execution of the composed model `sys Int menu n` (any menu, any number `n`
of goroutines) from its initial state to `s` with labels `evs`, and for the header `km rwi` (any judge state `st0` before it):
there is a line list `ls`, one line per step, with line-by-line visible events exactly `evs`, such that the fold of
`Drv.C09conc.step` over the header and the token lists of `ls`
* answers `ok` to every line (no rejection),
* ends not dead, and
* ends in a model state `j` that is the model's final state `s` except that goroutines that were never invoked have not been
  created: `pad j n = s`.
Covers: `Drv.C09conc.step` on header / `inv` / `step` / `iter` / `res` token lines.  Does not cover: text → token parsing,
`deadlock` / `steplimit` / `panic:` lines, tags (driver glue); faithfulness of the recording (hooks). -/
theorem conc_judge_accept_complete (menu : List (KeyedMutexConc.Op Int)) (n : Nat) (st0 : St) (rwi : Int)
    (impl0 impl : String) {s : KS} {evs : List (Option (KeyedMutexConc.Event Int))}
    (h : Exec (sys Int menu n) (KeyedMutexConc.init n) evs s) :
    ∃ ls : List KLine, ls.map KLine.event = evs ∧
      (runLines (Drv.C09conc.step st0 [.w "km", .i rwi] impl0).1 (ls.map (fun l => (l.toks, impl)))).dead = false ∧
      pad (runLines (Drv.C09conc.step st0 [.w "km", .i rwi] impl0).1 (ls.map (fun l => (l.toks, impl)))).s n = s ∧
      ∀ (l1 : List KLine) (l : KLine) (l2 : List KLine), ls = l1 ++ l :: l2 →
        (Drv.C09conc.step (runLines (Drv.C09conc.step st0 [.w "km", .i rwi] impl0).1 (l1.map (fun l => (l.toks, impl))))
          l.toks impl).2.model = "ok" := by
  rw [Lemmas.KmTrace.step_header]
  obtain ⟨ls, j', h1, h2, h4⟩ :=
    Lemmas.KmTrace.replayK_follows menu n { rw := rwi != 0, started := true } (pad · n)
      (Lemmas.KmTrace.run_pad _ · n) h Reachable.init {} (Lemmas.KmTrace.pad_empty n)
  obtain ⟨h5, h6⟩ := Lemmas.KmTrace.runLines_replayK impl (st := { rw := rwi != 0, started := true }) rfl rfl h1
  refine ⟨ls, h2, ?_, ?_, h6⟩
  · rw [h5]
  · rw [h5]; exact h4

/-! Non-vacuity.  (1) A recorded trace — `t0: LockKey(5)` on the empty keyed mutex, then `t1: TryLockKey(5)` failing — is
accepted by the judge's line functions, label for label (the `op:<kind>` start labels of the scheduler included), from the
EMPTY judge state; with a wrong hook label it is rejected.  (`decide +kernel`: the label translation uses `String.startsWith`,
which the kernel evaluates but `decide`'s default reduction does not; no axiom beyond the usual three is involved.)
(2) The hypothesis of `conc_judge_accept_complete` is satisfiable by a non-trivial execution, and its conclusion then holds. -/

private def demo : List KLine :=
  [.inv 0 .lock 5, .step 0 "op:lock", .step 0 "LoadOrStore.readLoad1", .step 0 "lock", .step 0 "LoadOrStore.readLoad2",
   .step 0 "dirtyLocked.readLoad1", .step 0 "LoadOrStore.readStore1", .step 0 "lock", .res 0 .done,
   .inv 1 .trylock 5, .step 1 "op:trylock", .step 1 "LoadOrStore.readLoad1", .step 1 "lock",
   .step 1 "LoadOrStore.readLoad2", .step 1 "tryLoadOrStore.loadPtr1", .step 1 "missLocked.readStore1",
   .step 1 "KeyedMutex.TryLockKey", .res 1 .ff]

example : (replayK { started := true } demo).isSome = true := by decide +kernel
example : ((replayK { started := true } demo).map (fun st => (st.s.holdsW 0 5, st.s.holdsW 1 5, st.s.phases.length)))
    = some (true, false, 2) := by decide +kernel
/-- a wrong label at the keyed mutex's own hook (`rlock` instead of `lock`) is rejected, the right one accepted -/
example : (replayK { started := true } ((demo.take 7) ++ [.step 0 "rlock"])).isNone = true := by decide +kernel
example : (replayK { started := true } ((demo.take 7) ++ [.step 0 "lock"])).isSome = true := by decide +kernel
/-- the same through `Drv.C09conc.step` on tokens, header first: not dead at the end -/
example : (runLines (Drv.C09conc.step {} [.w "km", .i 0] "").1 (demo.map (fun l => (l.toks, "")))).dead = false := by
  decide +kernel

private def sched (t n : Nat) : List (SyncMapConc.Tid × Nat) := List.replicate n (t, 0)

example : ∃ (evs : List (Option (KeyedMutexConc.Event Int))) (s : KS),
    Exec (sys Int [⟨.lock, 5⟩] 3) (KeyedMutexConc.init 3) evs s ∧ s.holdsW 0 5 = true ∧
    ∃ ls : List KLine, ls.map KLine.event = evs ∧
      (runLines (Drv.C09conc.step {} [.w "km", .i 0] "").1 (ls.map (fun l => (l.toks, "")))).dead = false ∧
      pad (runLines (Drv.C09conc.step {} [.w "km", .i 0] "").1 (ls.map (fun l => (l.toks, "")))).s 3 = s := by
  have hr := Lemmas.KeyedMutexConc.reachable_run [(⟨.lock, 5⟩ : KeyedMutexConc.Op Int)] 3 (sched 0 9)
    (KeyedMutexConc.init 3) .init
  obtain ⟨evs, hex⟩ := exec_of_reachable hr
  obtain ⟨ls, h1, h2, h3, _⟩ := conc_judge_accept_complete [⟨.lock, 5⟩] 3 {} 0 "" "" hex
  exact ⟨evs, _, hex, by decide, ls, h1, h2, h3⟩

end C09

#print axioms C09.conc_good
#print axioms C09.conc_line_accept_complete
#print axioms C09.conc_replay_complete
#print axioms C09.conc_judge_accept_complete
