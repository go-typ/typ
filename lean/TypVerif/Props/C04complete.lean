import TypVerif.Lemmas.ObjCompleteLin
import TypVerif.Props.C04accept
/-
C04 — THE API-LEVEL MAP JUDGE DECIDES LINEARIZABILITY EXACTLY on histories of single operations (completeness of the
acceptance of `Drv/ObjLin.lean`, map mode `cmap`; the soundness half is `Props/C04accept.lean`).

The fold: `runLines (step j0 [cmap] impl0).1 lines` — the real `Drv.ObjLin.step` after the header line, over lines all covered
by `MapLine` (event lines `inv t load|store|loadorstore|loadanddelete|delete …`, `res t done`, `res t v <bool>`; skipped lines
`inv t range`, `res t [[k,v],…]`, `step _ _`, `iter _ _`); `tr` = the history (event lines in order).
Bounded concurrency: `InvBelow 24 lines` — every invocation line (including `inv t range`, which raises the judge's number of
goroutines as well) is by a goroutine `< 24` = the closure fuel: between two visible events the atomic-object system makes at
most one internal (linearization) step per pending goroutine, so `Conc.tauClosure` with fuel 24 loses nothing
(`ObjComplete.full_step`, `Lemmas/ObjCompleteFull.lean`: the trace-indexed form, since `inv t range` raises the number of
goroutines without an event).

  `objlin_map_decides`           the state set `ms` is non-empty  ↔  `tr` is linearizable w.r.t. `MapObj.mapSpec`
  `objlin_accept_complete`       linearizable ⇒ the verdict is never `not-linearizable`
  `objlin_verdict`               `violated = none` ⇒ linearizable;  `violated = some "not-linearizable"` ⇒ not linearizable
(the flag `violated` is shared with the Range predicates `range-*`, so `violated = none` is not equivalent to linearizability
of the single-operation history).
-/
namespace C04
open TypVerif TypVerif.Conc TypVerif.Model TypVerif.Proto TypVerif.Drv.ObjLin
open TypVerif.Lemmas.ObjAcceptLin (MEvent MapLine Lines runLines)
open TypVerif.Lemmas.ObjCompleteLin (InvBelow)

/-- the map-mode state set is exactly right: every state in it is accounted for by an execution with visible trace `tr`
(soundness), and — if the judge's number of goroutines is `≤ 24` — the judge's state of every execution with visible trace
`tr`, of any `AtomicObj.sys mapSpec menu N`, is in it (completeness) -/
theorem objlin_map_tracks (j0 : JSt) (impl0 : String) (lines : List (List Val × String)) (tr : List MEvent)
    (hl : Lines MapLine lines tr) :
    Lemmas.ObjTrack.Track MapObj.mapSpec 24 tr (runLines (step j0 [.w "cmap"] impl0).1 lines).st.n
      (runLines (step j0 [.w "cmap"] impl0).1 lines).st.ms :=
  (Lemmas.ObjCompleteLin.map_track j0 impl0 lines tr hl).2.track trivial

/-- **the map judge decides linearizability** of histories of single operations with goroutine ids `< 24` -/
theorem objlin_map_decides (j0 : JSt) (impl0 : String) (lines : List (List Val × String)) (tr : List MEvent)
    (hl : Lines MapLine lines tr) (hib : InvBelow 24 lines) :
    (runLines (step j0 [.w "cmap"] impl0).1 lines).st.ms ≠ [] ↔ AtomicObj.Linearizable MapObj.mapSpec tr :=
  ⟨(Lemmas.ObjTrack.track_tracks MapObj.mapSpec 24).sound (objlin_map_tracks j0 impl0 lines tr hl),
   (Lemmas.ObjTrack.track_tracks MapObj.mapSpec 24).complete (objlin_map_tracks j0 impl0 lines tr hl)
     ((Lemmas.ObjCompleteLin.map_track j0 impl0 lines tr hl).2.le hib)⟩

/-- **acceptance is complete**: a linearizable history is never flagged `not-linearizable` -/
theorem objlin_accept_complete (j0 : JSt) (impl0 : String) (lines : List (List Val × String)) (tr : List MEvent)
    (hl : Lines MapLine lines tr) (hib : InvBelow 24 lines) (hlin : AtomicObj.Linearizable MapObj.mapSpec tr) :
    (runLines (step j0 [.w "cmap"] impl0).1 lines).st.violated ≠ some "not-linearizable" :=
  have h := (Lemmas.ObjCompleteLin.map_track j0 impl0 lines tr hl).2
  fun hv => h.complete hv (h.le hib) hlin

/-- both verdicts about linearizability are correct -/
theorem objlin_verdict (j0 : JSt) (impl0 : String) (lines : List (List Val × String)) (tr : List MEvent)
    (hl : Lines MapLine lines tr) (hib : InvBelow 24 lines) :
    ((runLines (step j0 [.w "cmap"] impl0).1 lines).st.violated = none → AtomicObj.Linearizable MapObj.mapSpec tr) ∧
    ((runLines (step j0 [.w "cmap"] impl0).1 lines).st.violated = some "not-linearizable" →
      ¬ AtomicObj.Linearizable MapObj.mapSpec tr) :=
  ⟨fun hv => objlin_accepted_history_linearizable j0 impl0 lines tr hl hv,
   fun hv hlin => objlin_accept_complete j0 impl0 lines tr hl hib hlin hv⟩

end C04

#print axioms C04.objlin_map_tracks
#print axioms C04.objlin_map_decides
#print axioms C04.objlin_accept_complete
#print axioms C04.objlin_verdict
