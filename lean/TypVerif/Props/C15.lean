import TypVerif.Lemmas.SortAdapters
import TypVerif.Lemmas.SortSpec
/-
C15: "Sort, SortFunc, SortDesc, SortDescFunc, SortStableFunc and SortStableDescFunc leave the slice a permutation of its
former contents, ordered ascending (or descending) under < or the given less function, and the two Stable variants keep
elements that the order cannot distinguish in their original relative order. BinarySearch and BinarySearchFunc on an
ascending slice return the smallest index whose element is not less than the target (len when there is none): the first
match if present, else the insertion point. Shuffle and ShuffleRand leave a permutation, and ShuffleRand is a deterministic
function of the supplied generator."

Model: `Model/SortAdapters.lean`.  `sort.Sort` / `sort.Stable` enter as parameters constrained by `SortContract` /
`StableContract` (`Spec/SortContract.lean`); `refSort_contract` shows the contracts are satisfiable by an implementation
that uses only `Len/Less/Swap`.  `IsSorted lt l` = no later element is `lt` an earlier one; descending = `IsSorted` for
the flipped order.  `tied less x y` = neither is less than the other.
-/
open TypVerif.Model TypVerif.Model.SortAdapters TypVerif.Spec.Order TypVerif.Spec.SortContract
open TypVerif.Lemmas.SortAdapters

namespace C15

/-- SortFunc: permutation, ascending under `less`. -/
theorem sort_asc {α : Type} {sortImpl : SortImpl} (hc : SortContract sortImpl) {less : α → α → Bool}
    (hw : StrictWeak less) (slice : List α) :
    (sortFunc sortImpl slice less).Perm slice ∧ IsSorted less (sortFunc sortImpl slice less) :=
  hc _ _ _ id less hw (sortLess_consistent less) slice

/-- Sort: the same for the built-in `<` of an ordered type (a strict weak order for every `typ.Ordered` type except
floats containing NaN). -/
theorem sort_asc_ordered {α : Type} [LT α] [DecidableLT α] {sortImpl : SortImpl} (hc : SortContract sortImpl)
    (hw : StrictWeak (fun a b : α => decide (a < b))) (slice : List α) :
    (sort sortImpl slice).Perm slice ∧ IsSorted (fun a b : α => decide (a < b)) (sort sortImpl slice) :=
  hc _ _ _ id _ hw sortOrdered_consistent slice

/-- SortDescFunc: permutation, descending under `less` (no later element is greater than an earlier one). -/
theorem sort_desc {α : Type} {sortImpl : SortImpl} (hc : SortContract sortImpl) {less : α → α → Bool}
    (hw : StrictWeak less) (slice : List α) :
    (sortDescFunc sortImpl slice less).Perm slice ∧
    IsSorted (fun a b => less b a) (sortDescFunc sortImpl slice less) :=
  hc _ _ _ id _ hw.flip (reverse_consistent (sortLess_consistent less)) slice

theorem sort_desc_ordered {α : Type} [LT α] [DecidableLT α] {sortImpl : SortImpl} (hc : SortContract sortImpl)
    (hw : StrictWeak (fun a b : α => decide (a < b))) (slice : List α) :
    (sortDesc sortImpl slice).Perm slice ∧ IsSorted (fun a b : α => decide (b < a)) (sortDesc sortImpl slice) :=
  hc _ _ _ id _ hw.flip (reverse_consistent sortOrdered_consistent) slice

/-- SortStableFunc: permutation, ascending, and for every `x` the elements tied with `x` appear in their original
relative order. -/
theorem stable_asc {α : Type} {stableImpl : SortImpl} (hc : StableContract stableImpl) {less : α → α → Bool}
    (hw : StrictWeak less) (slice : List α) :
    (sortStableFunc stableImpl slice less).Perm slice ∧
    IsSorted less (sortStableFunc stableImpl slice less) ∧
    ∀ x, (sortStableFunc stableImpl slice less).filter (tied less x) = slice.filter (tied less x) :=
  hc _ _ _ id less hw (sortLess_consistent less) slice

/-- SortStableDescFunc: permutation, descending, and ties STILL in their original relative order
(`Stable(Reverse(less))` does not reverse ties). -/
theorem stable_desc {α : Type} {stableImpl : SortImpl} (hc : StableContract stableImpl) {less : α → α → Bool}
    (hw : StrictWeak less) (slice : List α) :
    (sortStableDescFunc stableImpl slice less).Perm slice ∧
    IsSorted (fun a b => less b a) (sortStableDescFunc stableImpl slice less) ∧
    ∀ x, (sortStableDescFunc stableImpl slice less).filter (tied less x) = slice.filter (tied less x) := by
  have := hc _ _ _ id _ hw.flip (reverse_consistent (sortLess_consistent less)) slice
  refine ⟨this.1, this.2.1, ?_⟩
  intro x
  have h := this.2.2 x
  have hf : tied (fun a b => less b a) x = tied less x := funext (tied_flip less x)
  rw [hf] at h
  exact h

/-- The contracts are satisfiable: the reference implementation (merge sort of positions through `Less`, realised
through `Swap`) meets both. -/
theorem refSort_contract : StableContract refSort ∧ SortContract refSort :=
  ⟨refSort_stableContract, refSort_stableContract.toSortContract⟩

/-- the harness's comparator on `(key, tag)` pairs is a strict weak order with ties between distinguishable values -/
theorem strictWeak_key : StrictWeak (fun a b : Int × Int => decide (a.1 < b.1)) :=
  TypVerif.Lemmas.SortSpec.strictWeak_keyLess

-- non-vacuity: the hypotheses of the six sorting theorems are satisfiable together
example (l : List Int) := sort_asc refSort_contract.2 strictTotal_int_lt.toStrictWeak l
example (l : List Int) := sort_asc_ordered refSort_contract.2 strictTotal_int_lt.toStrictWeak l
example (l : List Int) := sort_desc refSort_contract.2 strictTotal_int_lt.toStrictWeak l
example (l : List Int) := sort_desc_ordered refSort_contract.2 strictTotal_int_lt.toStrictWeak l
example (l : List (Int × Int)) := stable_asc refSort_contract.1 strictWeak_key l
example (l : List (Int × Int)) := stable_desc refSort_contract.1 strictWeak_key l

/-- For the plain-integer lines the adapter model run with the reference sort is exactly the judge's specification
(`Spec.SortSpec.sortAsc/sortDesc`). -/
theorem model_sort_eq_spec (keys : List Int) :
    sort refSort keys = TypVerif.Spec.SortSpec.sortAsc keys ∧
    sortDesc refSort keys = TypVerif.Spec.SortSpec.sortDesc keys := by
  constructor
  · have := refSort_view (sortOrdered_consistent (α := Int)) keys
    simp only [id] at this
    rw [sort, this, Sorted.stableSort, TypVerif.Spec.SortSpec.sortAsc]
    congr 1; funext a b
    exact decide_not.symm.trans (decide_eq_decide.2 Int.not_lt)
  · have := refSort_view (reverse_consistent (sortOrdered_consistent (α := Int))) keys
    simp only [id] at this
    rw [sortDesc, this, Sorted.stableSort, TypVerif.Spec.SortSpec.sortDesc]
    congr 1; funext a b
    exact decide_not.symm.trans (decide_eq_decide.2 Int.not_lt)

/-- BinarySearch on an ascending slice returns the smallest index whose element is not less than the target, `len` if
there is none. (`hge`: `>=` is the negation of `<`, true for every ordered type except floats with NaN.) -/
theorem binarySearch_lower_bound {α : Type} [LT α] [DecidableLT α] [LE α] [DecidableLE α]
    (hge : ∀ a b : α, a ≥ b ↔ ¬ a < b) (hw : StrictWeak (fun a b : α => decide (a < b)))
    (slice : List α) (hs : IsSorted (fun a b : α => decide (a < b)) slice) (v : α) :
    binarySearch slice v ≤ slice.length ∧
    (∀ i (h : i < slice.length), i < binarySearch slice v → slice[i] < v) ∧
    (∀ i (h : i < slice.length), binarySearch slice v ≤ i → ¬ slice[i] < v) ∧
    binarySearch slice v = slice.countP (fun x => decide (x < v)) := by
  rw [binarySearch_eq_search hge]
  obtain ⟨h2, h3⟩ := TypVerif.Lemmas.Sorted.search_getElem ⟨slice, fun a b => decide (a < b)⟩ hw hs v
  exact ⟨TypVerif.Lemmas.Sorted.search_le _ v, fun i h hi => of_decide_eq_true (h2 i h hi),
    fun i h hi => of_decide_eq_false (h3 i h hi), TypVerif.Lemmas.Sorted.search_eq_lowerBound _ hw hs v⟩

/-- … which is the first match when the target is present (strict total order). -/
theorem binarySearch_first_match {α : Type} [DecidableEq α] [LT α] [DecidableLT α] [LE α] [DecidableLE α]
    (hge : ∀ a b : α, a ≥ b ↔ ¬ a < b) (ht : StrictTotal (fun a b : α => decide (a < b)))
    (slice : List α) (hs : IsSorted (fun a b : α => decide (a < b)) slice) (v : α) (hv : v ∈ slice) :
    slice.idxOf v = binarySearch slice v := by
  rw [binarySearch_eq_search hge]
  exact (TypVerif.Lemmas.Sorted.search_of_mem ⟨slice, fun a b => decide (a < b)⟩ ht hs v hv).2.2

/-- On a list tagged with original indices (what the harness feeds the Stable variants) the stability contract determines
the result completely: it is the judge's specification "order by key, then by original index" (descending: key
descending, original index still ascending). -/
theorem stable_eq_spec {stableImpl : SortImpl} (hc : StableContract stableImpl) (keys : List Int) :
    sortStableFunc stableImpl (TypVerif.Spec.SortSpec.tagged keys) TypVerif.Spec.SortSpec.keyLess
      = TypVerif.Spec.SortSpec.stableAsc (TypVerif.Spec.SortSpec.tagged keys) ∧
    sortStableDescFunc stableImpl (TypVerif.Spec.SortSpec.tagged keys) TypVerif.Spec.SortSpec.keyLess
      = TypVerif.Spec.SortSpec.stableDesc (TypVerif.Spec.SortSpec.tagged keys) :=
  ⟨TypVerif.Lemmas.SortSpec.stable_asc_eq_spec hc keys, TypVerif.Lemmas.SortSpec.stable_desc_eq_spec hc keys⟩

example (keys : List Int) := stable_eq_spec refSort_contract.1 keys

example := binarySearch_lower_bound (α := Int) (by intro a b; omega) strictTotal_int_lt.toStrictWeak
  [1, 3, 3, 5, 9] (by unfold IsSorted; decide) 3
example := binarySearch_first_match (α := Int) (by intro a b; omega) strictTotal_int_lt
  [1, 3, 3, 5, 9] (by unfold IsSorted; decide) 3 (by decide)

example : binarySearch [1, 3, 3, 5, (9 : Int)] 3 = 1 ∧ binarySearch [1, 3, 3, 5, (9 : Int)] 4 = 3 ∧
    binarySearch [1, 3, 3, 5, (9 : Int)] 10 = 5 := by decide

/-- BinarySearchFunc with a "less than the target" predicate that is true on a prefix of the slice and false on the
rest: the smallest index whose element is not less than the target, `len` if there is none. -/
theorem binarySearchFunc_lower_bound {α : Type} (slice : List α) (less : α → Bool)
    (hmono : ∀ i j (hi : i < slice.length) (hj : j < slice.length), i ≤ j → less slice[j] = true → less slice[i] = true) :
    binarySearchFunc slice less ≤ slice.length ∧
    (∀ i (h : i < slice.length), i < binarySearchFunc slice less → less slice[i] = true) ∧
    (∀ i (h : i < slice.length), binarySearchFunc slice less ≤ i → less slice[i] = false) :=
  TypVerif.Lemmas.Sorted.binarySearchFunc_spec slice less hmono

example := binarySearchFunc_lower_bound [1, 3, 3, 5, (9 : Int)] (fun _ => true) (by intros; rfl)
example : binarySearchFunc [1, 3, 3, 5, (9 : Int)] (fun a => decide (a < 4)) = 3 := by decide

/-- Any sequence of swaps leaves a permutation; in particular Shuffle and ShuffleRand do, whatever the generator. -/
theorem shuffle_perm {α γ : Type} (next : γ → Nat → Nat × γ) (slice : List α) (g : γ) (swaps : List (Nat × Nat)) :
    (applySwaps slice swaps).Perm slice ∧
    (shuffleRand next slice g).1.Perm slice ∧ (shuffle next slice g).1.Perm slice :=
  ⟨applySwaps_perm slice swaps, applySwaps_perm slice _, applySwaps_perm slice _⟩

/-- ShuffleRand is a function of the generator: its result is the recorded swap stream applied to the input, and that
stream depends on the generator state (and the length) only. -/
theorem shuffleRand_function {α γ : Type} (next : γ → Nat → Nat × γ) (slice : List α) (g : γ) :
    (shuffleRand next slice g).1 = applySwaps slice (shuffleTrace next (slice.length - 1) g).1 ∧
    ∀ (slice' : List α), slice'.length = slice.length →
      (shuffleRand next slice' g).1 = applySwaps slice' (shuffleTrace next (slice.length - 1) g).1 := by
  refine ⟨rfl, ?_⟩
  intro slice' h
  simp only [shuffleRand, h]

end C15

#print axioms C15.sort_asc
#print axioms C15.sort_asc_ordered
#print axioms C15.sort_desc
#print axioms C15.sort_desc_ordered
#print axioms C15.stable_asc
#print axioms C15.stable_desc
#print axioms C15.refSort_contract
#print axioms C15.model_sort_eq_spec
#print axioms C15.stable_eq_spec
#print axioms C15.binarySearch_lower_bound
#print axioms C15.binarySearch_first_match
#print axioms C15.binarySearchFunc_lower_bound
#print axioms C15.shuffle_perm
#print axioms C15.shuffleRand_function
