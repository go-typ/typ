import TypVerif.Lemmas.Splice
/-
C12: "Insert, InsertSlice, Remove and RemoveSlice turn the slice into exactly the sequence obtained by splicing the
given value(s) in or out at the given position, for every valid position (0..len for insertions, index+length <= len
for removals) and whatever spare capacity the slice had, leaving every other element in place and in order. Fill and
Repeat set every element to the value for every length, Reverse reverses in place, Concat and Clone return the expected
contents in a new slice that shares no memory with the inputs, and Grow appends exactly n zero values."

Everything is stated over the Go slice primitive of `Model/GoSlice.lean`: an arbitrary heap `h`, an arbitrary
well-formed header `s` (any offset, any `len ≤ cap`, any backing array at least `off+cap` long) and an arbitrary
runtime growth choice `spare`.  `contents h s` is the live window.
-/
namespace C12
open TypVerif TypVerif.Model TypVerif.Model.GoSlice

variable {α : Type}

open TypVerif.Lemmas.Splice.Ex (exHeap exSlice exOut exWF)

/-- Insert: for every position `0..len` and every capacity, the contents become `take i c ++ [v] ++ drop i c` -/
theorem insert (h : Heap α) (s : Slice) (i : Nat) (v : α) (spare : List α)
    (hwf : WF h s) (hi : i ≤ s.len) :
    ∃ h' s', Splice.insert h s i v spare = .ok (h', s') ∧ WF h' s' ∧
      contents h' s' = Spec.Splice.insert (contents h s) i v :=
  ⟨_, _, Lemmas.Splice.insert_spec h s i v spare hwf hi, Lemmas.Splice.spliced_contents h s i [v] spare hwf hi⟩
example : ∃ (h : Heap Nat) (s : Slice), WF h s ∧ 1 ≤ s.len ∧ s.len < s.cap :=
  ⟨exHeap, exSlice, exWF, by decide, by decide⟩
example : exOut (Splice.insert exHeap exSlice 1 9 []) = ([1, 9, 2, 3], [1, 9, 2, 3, 7]) := by decide
example : exOut (Splice.insert exHeap exSlice 3 9 []) = ([1, 2, 3, 9], [1, 2, 3, 9, 7]) := by decide

/-- Insert, frame: with spare capacity it works in place (same backing array, same offset, `len+1`) and writes only
the cells `off+i .. off+len` of that array: every cell before the insertion point and every cell behind the new
logical end (the guard suffix), and every other backing array, keeps its value.  Without spare capacity the result
lives in a fresh backing array and the whole old heap is untouched. -/
theorem insert_frame (h : Heap α) (s : Slice) (i : Nat) (v : α) (spare : List α)
    (hwf : WF h s) (hi : i ≤ s.len) :
    (s.len < s.cap →
      ∃ h', Splice.insert h s i v spare = .ok (h', { s with len := s.len + 1 }) ∧
        (∀ b, b ≠ s.bid → h'.cells b = h.cells b) ∧
        (h'.cells s.bid).length = (h.cells s.bid).length ∧
        ∀ j, (j < s.off + i ∨ s.off + s.len + 1 ≤ j) → (h'.cells s.bid)[j]? = (h.cells s.bid)[j]?) ∧
    (¬ s.len < s.cap →
      ∃ h', Splice.insert h s i v spare =
          .ok (h', { bid := h.next, off := 0, len := s.len + 1, cap := s.len + 1 + spare.length }) ∧
        ∀ b, b < h.next → h'.cells b = h.cells b) := by
  have hx : s.off + i + ([v] ++ (contents h s).drop i).length = s.off + s.len + 1 := by
    simp only [List.length_append, List.length_drop, List.length_singleton, Lemmas.GoSlice.length_contents_of_wf hwf]; omega
  rw [Lemmas.Splice.insert_spec h s i v spare hwf hi]
  exact ⟨fun hfit => ⟨_, congrArg _ (Lemmas.Splice.spliced_inplace h s i [v] spare hwf hfit hi),
      Lemmas.GoSlice.writeFrom_frame h s hx (by have := hwf.2.1; omega)⟩,
    fun hfit => ⟨_, congrArg _ (Lemmas.Splice.spliced_realloc h s i [v] spare hwf hfit hi),
      fun b hb => Lemmas.GoSlice.alloc_cells_of_ne h _ (Nat.ne_of_lt hb)⟩⟩

/-- an invalid position panics (after the append) -/
theorem insert_panics (h : Heap α) (s : Slice) (i : Nat) (v : α) (spare : List α) (hi : s.len < i) :
    Splice.insert h s i v spare = .error "panic:bounds" := by
  rw [Lemmas.Splice.insert_eq]
  unfold Lemmas.Splice.insertTail
  have hl : _ = s.len + 1 := Lemmas.GoSlice.append_len h s [v] spare
  rw [Lemmas.GoSlice.sliceFrom_panic _ (i + 1) (by omega)]; rfl

/-- InsertSlice (the inserted values live in another backing array) -/
theorem insertSlice (h : Heap α) (s : Slice) (i : Nat) (values : Slice) (spare : List α)
    (hwf : WF h s) (hwv : WF h values) (hne : values.bid ≠ s.bid) (hi : i ≤ s.len) :
    ∃ h' s', Splice.insertSlice h s i values spare = .ok (h', s') ∧ WF h' s' ∧
      contents h' s' = Spec.Splice.insertSlice (contents h s) i (contents h values) ∧
      contents h' values = contents h values :=
  have hs := Lemmas.Splice.insertSlice_spec h s i values spare hwf hwv hne hi
  have hc := Lemmas.Splice.spliced_contents h s i (contents h values) spare hwf hi
  ⟨_, _, hs.2, hc.1, hc.2, hs.1⟩

/-- InsertSlice, frame: in place it writes only the cells `off+i .. off+len+k-1`; otherwise the old heap is untouched -/
theorem insertSlice_frame (h : Heap α) (s : Slice) (i : Nat) (values : Slice) (spare : List α)
    (hwf : WF h s) (hwv : WF h values) (hne : values.bid ≠ s.bid) (hi : i ≤ s.len) :
    (s.len + values.len ≤ s.cap →
      ∃ h', Splice.insertSlice h s i values spare = .ok (h', { s with len := s.len + values.len }) ∧
        (∀ b, b ≠ s.bid → h'.cells b = h.cells b) ∧
        (h'.cells s.bid).length = (h.cells s.bid).length ∧
        ∀ j, (j < s.off + i ∨ s.off + s.len + values.len ≤ j) → (h'.cells s.bid)[j]? = (h.cells s.bid)[j]?) ∧
    (¬ s.len + values.len ≤ s.cap →
      ∃ h', Splice.insertSlice h s i values spare =
          .ok (h', { bid := h.next, off := 0, len := s.len + values.len,
                     cap := s.len + values.len + spare.length }) ∧
        ∀ b, b < h.next → h'.cells b = h.cells b) := by
  have hx : s.off + i + (contents h values ++ (contents h s).drop i).length = s.off + s.len + values.len := by
    simp only [List.length_append, List.length_drop, Lemmas.GoSlice.length_contents_of_wf hwf, Lemmas.GoSlice.length_contents_of_wf hwv]; omega
  have hvl := Lemmas.GoSlice.length_contents_of_wf hwv
  rw [(Lemmas.Splice.insertSlice_spec h s i values spare hwf hwv hne hi).2, ← hvl]
  exact ⟨fun hfit => ⟨_, congrArg _ (Lemmas.Splice.spliced_inplace h s i _ spare hwf hfit hi),
      Lemmas.GoSlice.writeFrom_frame h s (hvl ▸ hx) (by have := hwf.2.1; omega)⟩,
    fun hfit => ⟨_, congrArg _ (Lemmas.Splice.spliced_realloc h s i _ spare hwf hfit hi),
      fun b hb => Lemmas.GoSlice.alloc_cells_of_ne h _ (Nat.ne_of_lt hb)⟩⟩

/-- RemoveSlice: for `i + n ≤ len` the contents become `take i c ++ drop (i+n) c` -/
theorem removeSlice (h : Heap α) (s : Slice) (i n : Nat) (hwf : WF h s) (hi : i + n ≤ s.len) :
    ∃ h' s', Splice.removeSlice h s i n = .ok (h', s') ∧ WF h' s' ∧
      contents h' s' = Spec.Splice.removeSlice (contents h s) i n :=
  have hcl := Lemmas.GoSlice.length_contents_of_wf hwf
  ⟨_, _, Lemmas.Splice.removeSlice_spec h s i n hwf hi, Lemmas.GoSlice.window_writeFrom hwf (by omega)
    (by rw [List.length_drop, hcl]; omega) (Nat.le_trans (Nat.sub_le _ _) hwf.1)⟩
example : exOut (Splice.removeSlice exHeap exSlice 0 2) = ([3], [3, 2, 3, 7, 7]) := by decide

/-- RemoveSlice, frame: always in place (same array, same offset, same capacity, `len-n`); it writes only the cells
`off+i .. off+len-n-1`: in particular the `n` cells just behind the new end keep their OLD values (Go does not zero
them), as does everything behind the old end and every other array. -/
theorem removeSlice_frame (h : Heap α) (s : Slice) (i n : Nat) (hwf : WF h s) (hi : i + n ≤ s.len) :
    ∃ h', Splice.removeSlice h s i n = .ok (h', { s with len := s.len - n }) ∧
      (∀ b, b ≠ s.bid → h'.cells b = h.cells b) ∧
      (h'.cells s.bid).length = (h.cells s.bid).length ∧
      ∀ j, (j < s.off + i ∨ s.off + s.len - n ≤ j) → (h'.cells s.bid)[j]? = (h.cells s.bid)[j]? := by
  have hx : s.off + i + ((contents h s).drop (i + n)).length = s.off + s.len - n := by
    rw [List.length_drop, Lemmas.GoSlice.length_contents_of_wf hwf]; omega
  exact ⟨_, Lemmas.Splice.removeSlice_spec h s i n hwf hi,
    Lemmas.GoSlice.writeFrom_frame h s hx (by have := hwf.1; have := hwf.2.1; omega)⟩

theorem removeSlice_panics (h : Heap α) (s : Slice) (i n : Nat) (hwf : WF h s) (hi : s.len < i + n) :
    Splice.removeSlice h s i n = .error "panic:bounds" :=
  Lemmas.Splice.removeSlice_panics h s i n hwf hi

/-- Remove: for `i < len` the contents become `take i c ++ drop (i+1) c` -/
theorem remove (h : Heap α) (s : Slice) (i : Nat) (hwf : WF h s) (hi : i < s.len) :
    ∃ h' s', Splice.remove h s i = .ok (h', s') ∧ WF h' s' ∧
      contents h' s' = Spec.Splice.remove (contents h s) i := by
  rw [Lemmas.Splice.remove_eq_removeSlice]
  exact removeSlice h s i 1 hwf hi
example : exOut (Splice.remove exHeap exSlice 1) = ([1, 3], [1, 3, 3, 7, 7]) := by decide

theorem remove_frame (h : Heap α) (s : Slice) (i : Nat) (hwf : WF h s) (hi : i < s.len) :
    ∃ h', Splice.remove h s i = .ok (h', { s with len := s.len - 1 }) ∧
      (∀ b, b ≠ s.bid → h'.cells b = h.cells b) ∧
      (h'.cells s.bid).length = (h.cells s.bid).length ∧
      ∀ j, (j < s.off + i ∨ s.off + s.len - 1 ≤ j) → (h'.cells s.bid)[j]? = (h.cells s.bid)[j]? := by
  rw [Lemmas.Splice.remove_eq_removeSlice]
  exact removeSlice_frame h s i 1 hwf hi

theorem remove_panics (h : Heap α) (s : Slice) (i : Nat) (hwf : WF h s) (hi : s.len ≤ i) :
    Splice.remove h s i = .error "panic:bounds" := by
  rw [Lemmas.Splice.remove_eq_removeSlice]
  exact Lemmas.Splice.removeSlice_panics h s i 1 hwf (by omega)

/-- Fill: every element of the window becomes `v` (every length, including 0), nothing else is written -/
theorem fill_all (h : Heap α) (s : Slice) (v : α) (hwf : WF h s) :
    ∃ h', Splice.fill h s v = .ok h' ∧ WF h' s ∧ contents h' s = List.replicate s.len v ∧
      (∀ b, b ≠ s.bid → h'.cells b = h.cells b) ∧
      (∀ j, (j < s.off ∨ s.off + s.len ≤ j) → (h'.cells s.bid)[j]? = (h.cells s.bid)[j]?) := by
  have hx : s.off + 0 + (List.replicate s.len v).length = s.off + s.len := by rw [List.length_replicate]; rfl
  have hf := Lemmas.GoSlice.writeFrom_frame h s hx (Lemmas.GoSlice.wf_len_le hwf)
  have hw := Lemmas.GoSlice.window_writeFrom hwf (i := 0) (x := List.replicate s.len v) (Nat.zero_le _)
    (by rw [List.length_replicate, Nat.zero_add]) hwf.1
  exact ⟨_, Lemmas.Splice.fill_spec h s v hwf, hw.1, hw.2, hf.1, hf.2.2⟩
example : (match Splice.fill exHeap exSlice 5 with | .ok h' => h'.cells 0 | .error _ => []) = [5, 5, 5, 7, 7] := by
  decide

/-- Repeat: a new slice of `count` copies of the value -/
theorem «repeat» (h : Heap α) (zero value : α) (count : Nat) :
    ∃ h' r, Splice.repeat_ h zero value count = .ok (h', r) ∧ WF h' r ∧ r.bid = h.next ∧
      (∀ b, b ≠ h.next → h'.cells b = h.cells b) ∧
      contents h' r = Spec.Splice.repeat_ value count :=
  have hw := Lemmas.GoSlice.alloc_spec_full h (List.replicate count value) List.length_replicate
  ⟨_, _, Lemmas.Splice.repeat_spec h zero value count, hw.1, rfl, fun _ hb => Lemmas.GoSlice.alloc_cells_of_ne h _ hb,
    hw.2⟩

/-- Reverse: in place, nothing outside the window is written -/
theorem reverse (h : Heap α) (s : Slice) (hwf : WF h s) :
    ∃ h', Splice.reverse h s = .ok h' ∧ WF h' s ∧ contents h' s = Spec.Splice.reverse (contents h s) ∧
      (∀ b, b ≠ s.bid → h'.cells b = h.cells b) ∧
      (∀ j, (j < s.off ∨ s.off + s.len ≤ j) → (h'.cells s.bid)[j]? = (h.cells s.bid)[j]?) := by
  obtain ⟨m', he, hwf', hcont, hout⟩ := Lemmas.Splice.reverse_spec h s hwf
  exact ⟨_, he, hwf', hcont, fun b hb => Lemmas.GoSlice.write_cells_of_ne h m' hb,
    fun j hj => (congrArg (·[j]?) (Lemmas.GoSlice.write_cells_same h s.bid m')).trans (hout j hj)⟩
example : (match Splice.reverse exHeap exSlice with | .ok h' => h'.cells 0 | .error _ => []) = [3, 2, 1, 7, 7] := by
  decide

/-- Concat: the result is `a ++ b` in a backing array that did not exist before (`bid = h.next`); every
pre-existing backing array — in particular those of `a` and `b` — is unchanged. -/
theorem concat (h : Heap α) (zero : α) (a b : Slice) (hwa : WF h a) (hwb : WF h b) :
    ∃ h' r, Splice.concat h zero a b = .ok (h', r) ∧ WF h' r ∧ r.bid = h.next ∧ r.bid ≠ a.bid ∧ r.bid ≠ b.bid ∧
      (∀ x, x ≠ h.next → h'.cells x = h.cells x) ∧
      contents h' r = Spec.Splice.concat (contents h a) (contents h b) := by
  have hl : (contents h a ++ contents h b).length = a.len + b.len := by
    rw [List.length_append, Lemmas.GoSlice.length_contents_of_wf hwa, Lemmas.GoSlice.length_contents_of_wf hwb]
  have hw := Lemmas.GoSlice.alloc_spec_full h (contents h a ++ contents h b) hl
  exact ⟨_, _, Lemmas.Splice.concat_spec h zero a b hwa hwb, hw.1, rfl, Nat.ne_of_gt hwa.2.2, Nat.ne_of_gt hwb.2.2,
    fun x hx => Lemmas.GoSlice.alloc_cells_of_ne h _ hx, hw.2⟩

/-- Clone: same contents in a backing array that did not exist before; every pre-existing array is unchanged -/
theorem clone (h : Heap α) (zero : α) (s : Slice) (hwf : WF h s) :
    WF (Splice.clone h zero s).1 (Splice.clone h zero s).2 ∧
    (Splice.clone h zero s).2.bid = h.next ∧ (Splice.clone h zero s).2.bid ≠ s.bid ∧
    (∀ b, b ≠ h.next → (Splice.clone h zero s).1.cells b = h.cells b) ∧
    contents (Splice.clone h zero s).1 (Splice.clone h zero s).2 = Spec.Splice.clone (contents h s) := by
  have hw := Lemmas.GoSlice.alloc_spec_full h (contents h s) (Lemmas.GoSlice.length_contents_of_wf hwf)
  rw [Lemmas.Splice.clone_spec h zero s hwf]
  exact ⟨hw.1, rfl, Nat.ne_of_gt hwf.2.2, fun b hb => Lemmas.GoSlice.alloc_cells_of_ne h _ hb, hw.2⟩

/-- Grow: appends exactly `n` zero values, for every capacity; it stays in the backing array iff they fit -/
theorem grow (h : Heap α) (zero : α) (s : Slice) (n : Nat) (spare : List α) (hwf : WF h s) :
    WF (Splice.grow h zero s n spare).1 (Splice.grow h zero s n spare).2 ∧
    contents (Splice.grow h zero s n spare).1 (Splice.grow h zero s n spare).2 =
      Spec.Splice.grow (contents h s) zero n ∧
    ((Splice.grow h zero s n spare).2.bid = s.bid ↔ s.len + n ≤ s.cap) := by
  have hb := Lemmas.GoSlice.append_bid_eq_iff h s (List.replicate n zero) spare hwf
  rw [List.length_replicate] at hb
  exact ⟨(Lemmas.GoSlice.append_contents h s (List.replicate n zero) spare hwf).1,
    (Lemmas.GoSlice.append_contents h s (List.replicate n zero) spare hwf).2, hb⟩
example : contents (Splice.grow exHeap 0 exSlice 1 []).1 (Splice.grow exHeap 0 exSlice 1 []).2 = [1, 2, 3, 0] := by
  decide

end C12

#print axioms C12.insert
#print axioms C12.insert_frame
#print axioms C12.insert_panics
#print axioms C12.insertSlice
#print axioms C12.insertSlice_frame
#print axioms C12.removeSlice
#print axioms C12.removeSlice_frame
#print axioms C12.removeSlice_panics
#print axioms C12.remove
#print axioms C12.remove_frame
#print axioms C12.remove_panics
#print axioms C12.fill_all
#print axioms C12.«repeat»
#print axioms C12.reverse
#print axioms C12.concat
#print axioms C12.clone
#print axioms C12.grow
