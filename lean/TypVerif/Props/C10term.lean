import TypVerif.Props.C10live
import TypVerif.Props.C10log
import TypVerif.Lemmas.PubSubTermRun
/-
C10 — PubSub, TERMINATION of the internal work: the "eventually" of Pub / PubSlice.
Model `sys cfg` of `TypVerif/Model/PubSub.lean`; `_partial` = under `CloneDiscipline` (no `WithOnly`), as in
`C10.no_panic_partial` / `C10.no_deadlock_partial`.  Definitions in `TypVerif/Lemmas/PubSubTerm*.lean`.

THE VARIANT (`TypVerif.Lemmas.PubSubTerm.measure`, a plain natural number, no lexicographic order needed):

  measure cfg s = Σ_{t ∈ s.tasks} taskW (bound s) t  +  Σ_{ch ∈ s.chans} chanW ch  +  (1 if s.panicked = none else 0)
  bound s  = |(s.obj 0).subs| + #{pending Sub tasks (subStart / subWait)}
  taskW n  : pubStart _ _ _ evs ↦ 4·(|evs|·n) + 3     syncLoop _ _ work cb ↦ 3·|work| + (cb ? 1 : 2)
             waitWg ↦ 2   pubRet ↦ 1   asyncStart ↦ 4   asyncSend/wgSend _ cb ↦ (cb ? 1 : 3)
             subStart ↦ 4  subWait ↦ 3  subRet ↦ 1   unsubStart ↦ 3  unsubWait ↦ 2  unsubRet ↦ 1
             uaStart ↦ 3  uaWait ↦ 2  uaRet ↦ 1   woStart ↦ 1   done ↦ 0
  chanW ch = 2·|ch.buf| + (ch.holding ≠ none ? 1 : 0) + (ch.rdone ? 0 : 1)
  (it does not depend on `cfg`: the timer steps are always accounted for).

The channel unit for "the receiver observes the close once" is `¬rdone` (not `closed ∧ ¬rdone`), so that the closes of Unsub / UnsubAll do not change the measure at all; and one unit
for "has not panicked", so that the panicking steps of the model (which leave everything else alone) decrease it
too — they are unreachable under `CloneDiscipline`, but the one-step theorem need not know that.

WHAT IS CLAIMED: every step of a PubSub goroutine and every receiver step strictly decreases `measure`
(`work_decreases_partial`); hence every sequence of such steps from a reachable state is at most `measure` long
(`internal_run_bounded_partial`) and maximal ones exist (`internal_run_maximal_exists_partial`); a sender that
ends has delivered, timed out, or found its channel unsubscribed (`async_task_end`, `wg_task_end`,
`async_item_fate_partial`); and with receivers that last and no further invocation every maximal internal run ends
with ALL goroutines finished (`async_eventually_partial`).
"Maximal" replaces fairness by finiteness: since internal runs are bounded, ANY scheduler that keeps scheduling
enabled internal steps reaches the quiescent state; no fairness assumption is needed or made.
WHAT IS NOT CLAIMED: anything about runs in which the environment keeps invoking (each invocation may increase the
measure: `envSteps`), anything about systems with clones, any real-time bound.

WHERE THE HYPOTHESES COME FROM:
1. `async_task_end` for an arbitrary state `s` is FALSE: `async_task_end_as_first_stated_is_false`.
   A state whose task is `asyncSend o it true` (callback pending) with an empty `timedOut` log ends the task without
   any log entry.  In reachable states the entry is there (`cb = true` is set in the very step that logs the timeout);
   hence its hypothesis `Conc.Reachable (sys cfg) s` (any configuration, clones or not).
2. The hypothesis "Receiving / `allow ≥ measure`" cannot last if a `Sub` is pending: the channel it creates starts with
   allowance 0 and only an invocation (`allow`) can raise it, so a publisher that snapshots after that `Sub` blocks
   for ever on an unbuffered channel (`pending_sub_blocks_example`).  `async_eventually_partial` therefore assumes that no
   `Sub` is pending (`NoPendingSub`).  (`FreshSubNames` is an invariant of the model, `C10.fresh_names_invariant`, so it
   is not a hypothesis.)
3. Channel ids are unique in every reachable state (`chan_ids_distinct`), which the model relies on silently
   (`updChan` updates every entry with the id; `sendTo` tests only the first): proved here because the measure needs it.
-/
namespace C10
open TypVerif TypVerif.Model.PubSub TypVerif.Lemmas.PubSubExec TypVerif.Lemmas.PubSubSafe TypVerif.Lemmas.PubSubLive
  TypVerif.Lemmas.PubSubLog TypVerif.Lemmas.PubSubTerm

/-- Channel ids are pairwise distinct in every reachable state of every configuration. -/
theorem chan_ids_distinct (cfg : Cfg) (s : State) (hr : Conc.Reachable (sys cfg) s) (c : Chan) :
    s.chans.countP (fun ch => ch.id == c) ≤ 1 :=
  chanIds_reachable cfg s hr c

/-- Every step of a PubSub goroutine and every receiver step strictly decreases `measure` (reachable states of the
system without clones; any timeout setting, any buffers).  Only the environment's invocation steps (`envSteps`) may
increase it.  A literal strict decrease holds for every constructor of `TaskStep`; no lexicographic order is needed. -/
theorem work_decreases_partial (cfg : Cfg) (hd : CloneDiscipline cfg) (s s' : State) (l : Option Event)
    (hr : Conc.Reachable (sys cfg) s)
    (h : (∃ i, (l, s') ∈ taskSteps cfg s i) ∨ (∃ ch ∈ s.chans, (l, s') ∈ recvSteps s ch)) :
    measure cfg s' < measure cfg s :=
  (dec_work (no_panic_noClone cfg hd s hr) (chanIds_reachable cfg s hr) (IStep.work ⟨l, h⟩)).lt

/-- the state in which `sub 0` (buffer 1) has returned, the receiver of channel 0 may take 20 values and
`Pub [7, 8]` has been invoked -/
def tmCfg : Cfg := { allowClone := false, env := [.sub 0 1, .allow 0 20, .pubinv 0 0 .pub [7, 8]] }
def tmPath : List Nat := [0, 1, 1, 2, 0, 1]
def tmState : State := liveAt tmCfg tmPath

/-- non-vacuity: a reachable state with measure 13 = (4·(2·1)+3) + 1 + 1 whose enabled internal step (the snapshot of
`Pub`, which spawns two `sendAsync` goroutines) leads to measure 11 = (1 + 4 + 4) + 1 + 1 -/
example : Conc.Reachable (sys tmCfg) tmState ∧ CloneDiscipline tmCfg ∧
    tmState.tasks = [.done, .pubStart 0 0 .pub [7, 8]] ∧
    tmState.chans = [{ id := 0, cap := 1, allow := 20 }] ∧ measure tmCfg tmState = 13 ∧
    (isteps tmCfg tmState).map (fun p => measure tmCfg p.2) = [11] :=
  ⟨liveAt_reachable _ _ (by decide), rfl, by decide, by decide, by decide, by decide⟩

/-- Any sequence of `n` task / receiver steps from a reachable state `s` (system without clones) has
`n ≤ measure cfg s`; more precisely it uses up at least `n` units. -/
theorem internal_run_bounded_partial (cfg : Cfg) (hd : CloneDiscipline cfg) (s s' : State) (n : Nat)
    (hr : Conc.Reachable (sys cfg) s) (hrun : InternalRun cfg s n s') :
    n + measure cfg s' ≤ measure cfg s ∧ n ≤ measure cfg s := by
  have := run_measure hrun (no_panic_noClone cfg hd s hr) (chanIds_reachable cfg s hr)
  exact ⟨this, by omega⟩

/-- From every reachable state a maximal internal run exists: taking enabled internal steps, in any order, reaches a
state in which none is enabled (after at most `measure cfg s` steps by the previous theorem). -/
theorem internal_run_maximal_exists_partial (cfg : Cfg) (hd : CloneDiscipline cfg) (s : State)
    (hr : Conc.Reachable (sys cfg) s) : ∃ n s', InternalRun cfg s n s' ∧ Quiescent cfg s' :=
  run_exists cfg _ s (Nat.le_refl _) (no_panic_noClone cfg hd s hr) (chanIds_reachable cfg s hr)

/-- the run that always takes the first enabled internal step -/
def tmRun : List Nat := [0, 0, 0, 0, 0, 0, 0, 0, 0, 0]
def tmEnd : State := (runInternal tmCfg tmState tmRun).getD {}

theorem tmRun_run : InternalRun tmCfg tmState 10 tmEnd := by
  have h : runInternal tmCfg tmState tmRun = some tmEnd := by decide
  exact runInternal_run tmCfg tmRun _ _ h

/-- non-vacuity: a maximal internal run of 10 steps from the state of measure 13; it ends quiescent with measure 2
(the unit of the open channel and the unit of "not panicked" are never spent), both events delivered -/
example : InternalRun tmCfg tmState 10 tmEnd ∧ Quiescent tmCfg tmEnd ∧ measure tmCfg tmEnd = 2 ∧
    tmEnd.delivered = [(0, 0, 0), (0, 1, 0)] ∧ tmEnd.tasks = [.done, .done, .done, .done] ∧
    tmEnd.chans = [{ id := 0, cap := 1, allow := 18 }] :=
  ⟨tmRun_run, by decide, by decide, by decide, by decide, by decide⟩

/-- A `sendAsync` goroutine (Pub / PubSlice) of item `it` that ends in this step: the item was handed over
(`delivered`), or its timer had fired (`timedOut`), or its channel was no longer subscribed when it took the read lock.
(The fourth alternative, a panic, never occurs: a panicking step leaves the task in place.)  Every configuration, clones or not; `hr` is needed, see `async_task_end_as_first_stated_is_false`. -/
theorem async_task_end (cfg : Cfg) (s s' : State) (l : Option Event) (i o : Nat) (it : Item) (cb : Bool)
    (hr : Conc.Reachable (sys cfg) s) (h : (l, s') ∈ taskSteps cfg s i)
    (ht : s.tasks[i]? = some (.asyncStart o it) ∨ s.tasks[i]? = some (.asyncSend o it cb))
    (hd' : s'.tasks[i]? = some .done) :
    (it.pid, it.idx, it.c) ∈ s'.delivered ∨ (it.pid, it.idx, it.c) ∈ s'.timedOut ∨ it.c ∉ (s.obj o).subs ∨
      s'.panicked ≠ none := by
  obtain ⟨t, hi, hstep⟩ := Lemmas.PubSubStep.mem_taskSteps h
  obtain ⟨t', new, dl, tl, hT, h1, h2, h3⟩ := tsum_next hi (stepTask_tsum hi hstep)
  rw [hd'] at h1
  cases h1
  have hc := cbLogged_reachable cfg s hr t (List.mem_of_getElem? hi)
  have ht' : asyncOf o it t :=
    ht.imp (fun h => Option.some.inj (hi.symm.trans h)) (fun h => ⟨cb, Option.some.inj (hi.symm.trans h)⟩)
  rcases async_end_tstep hc hT ht' with h | h | h
  · exact Or.inl (h2 ▸ h)
  · exact Or.inr (Or.inl (h3 ▸ h))
  · exact Or.inr (Or.inr (Or.inl h))

/-- A `sendWaitGroup` goroutine (PubWait / PubSliceWait) that ends in this step: the item was handed over or its timer
had fired. -/
theorem wg_task_end (cfg : Cfg) (s s' : State) (l : Option Event) (i o w : Nat) (it : Item) (cb : Bool)
    (hr : Conc.Reachable (sys cfg) s) (h : (l, s') ∈ taskSteps cfg s i)
    (ht : s.tasks[i]? = some (.wgSend o w it cb)) (hd' : s'.tasks[i]? = some .done) :
    (it.pid, it.idx, it.c) ∈ s'.delivered ∨ (it.pid, it.idx, it.c) ∈ s'.timedOut := by
  obtain ⟨t, hi, hstep⟩ := Lemmas.PubSubStep.mem_taskSteps h
  obtain ⟨t', new, dl, tl, hT, h1, h2, h3⟩ := tsum_next hi (stepTask_tsum hi hstep)
  rw [hd'] at h1
  cases h1
  rw [hi] at ht
  cases ht
  have hc := cbLogged_reachable cfg s hr _ (List.mem_of_getElem? hi)
  rcases wg_end_tstep hc hT with h | h
  · exact Or.inl (h2 ▸ h)
  · exact Or.inr (h3 ▸ h)

/-- an unreachable state: the timeout callback of a `sendAsync` goroutine is pending, but nothing is logged -/
def badState : State :=
  { objs := [{ subs := [0] }], chans := [{ id := 0, cap := 1 }],
    tasks := [.asyncSend 0 { pid := 0, idx := 0, ev := 7, c := 0 } true] }

/-- the statement of `async_task_end` without reachability is false of the model -/
theorem async_task_end_as_first_stated_is_false :
    ¬ (∀ (cfg : Cfg) (s s' : State) (l : Option Event) (i o : Nat) (it : Item) (cb : Bool),
        (l, s') ∈ taskSteps cfg s i →
        (s.tasks[i]? = some (.asyncStart o it) ∨ s.tasks[i]? = some (.asyncSend o it cb)) →
        s'.tasks[i]? = some .done →
        (it.pid, it.idx, it.c) ∈ s'.delivered ∨ (it.pid, it.idx, it.c) ∈ s'.timedOut ∨ it.c ∉ (s.obj o).subs ∨
          s'.panicked ≠ none) := by
  intro h
  have h1 := h {} badState ((badState.runlock 0).setTask 0 .done) (some (.tmo 7)) 0 0
    { pid := 0, idx := 0, ev := 7, c := 0 } true (by decide) (by decide) (by decide)
  revert h1
  decide

/-- non-vacuity of `async_task_end`: the step of the run above in which the first `sendAsync` goroutine hands its item
over (buffered send) and ends -/
example : ∃ s s', Conc.Reachable (sys tmCfg) s ∧ (none, s') ∈ taskSteps tmCfg s 2 ∧
    s.tasks[2]? = some (.asyncSend 0 { pid := 0, idx := 0, ev := 7, c := 0 } false) ∧ s'.tasks[2]? = some .done ∧
    s'.delivered = [(0, 0, 0)] :=
  ⟨liveAt tmCfg (tmPath ++ [1, 2]), liveAt tmCfg (tmPath ++ [1, 2, 2]), liveAt_reachable _ _ (by decide),
   by decide, by decide, by decide, by decide⟩

/-- Termination with everything finished.  System without clones; `s` reachable and not exited; no `Sub` is pending
(see the header, problem 2); every receiver that has not seen its channel closed may still take at least
`measure cfg s` values (`Lasting`; allowances drop by one per received value and the measure drops by at least one per
step, so this lasts along the run: `Receiving` holds in every state of the run); NO further invocation by the
environment.  Then every maximal internal run — `InternalRun cfg s n s'` with `s'` quiescent: no task step and no
receiver step enabled — has `n ≤ measure cfg s` steps and ends with ALL goroutines `.done`: every Pub / PubSlice /
PubWait / PubSync call has returned and every sender goroutine has ended; `s'` is reachable and not panicked.
"Maximal" = fairness replaced by finiteness: internal runs are bounded, so ANY scheduler that keeps scheduling enabled
steps reaches such an `s'` (and one exists: `internal_run_maximal_exists_partial`).
Proof: boundedness (1, 2), preservation of `Lasting` / `NoPendingSub` / reachability along internal runs, and
`no_deadlock_partial` at `s'`. -/
theorem async_eventually_partial (cfg : Cfg) (hd : CloneDiscipline cfg) (s : State)
    (hr : Conc.Reachable (sys cfg) s) (hx : s.exited = false) (hnp : NoPendingSub s) (hallow : Lasting cfg s)
    (n : Nat) (s' : State) (hrun : InternalRun cfg s n s') (hq : Quiescent cfg s') :
    n ≤ measure cfg s ∧ (∀ t ∈ s'.tasks, t = .done) ∧ Conc.Reachable (sys cfg) s' ∧ s'.panicked = none ∧
      Receiving s' := by
  have hs := no_panic_noClone cfg hd s hr
  have hu := chanIds_reachable cfg s hr
  obtain ⟨hr', hx'⟩ := run_reachable hd hrun hr hx
  obtain ⟨hnp', hl'⟩ := run_lasting hrun hs hu hnp hallow
  have hrecv : Receiving s' := lasting_pos hl'
  refine ⟨(internal_run_bounded_partial cfg hd s s' n hr hrun).2, fun t ht => ?_, hr',
    (no_panic_noClone cfg hd s' hr').nopanic, hrecv⟩
  apply Classical.byContradiction
  intro hne
  rcases no_deadlock_partial cfg hd s' hr' hx' hrecv ⟨t, ht, hne⟩ with ⟨i, hi⟩ | ⟨ch, hm, hc⟩
  · exact hi (hq.1 i)
  · exact hc (hq.2 ch hm)

/-- What "finished" in `async_eventually_partial` means for a `sendAsync` goroutine of Pub / PubSlice that exists in `s` (item `it`, one
(event, subscriber) pair of a call): at the end of every maximal internal run its pair is in `delivered`, or in
`timedOut` (only with a positive timeout), or at some state of the run its channel was not subscribed.  So: a pair
whose channel stays subscribed throughout, published without timeout, IS delivered — and by `async_at_most_once`
at most once. -/
theorem async_item_fate_partial (cfg : Cfg) (hd : CloneDiscipline cfg) (s : State)
    (hr : Conc.Reachable (sys cfg) s) (hx : s.exited = false) (hnp : NoPendingSub s) (hallow : Lasting cfg s)
    (n : Nat) (s' : State) (hrun : InternalRun cfg s n s') (hq : Quiescent cfg s') (i o : Nat) (it : Item)
    (ht : s.tasks[i]? = some (.asyncStart o it) ∨ ∃ cb, s.tasks[i]? = some (.asyncSend o it cb)) :
    (it.pid, it.idx, it.c) ∈ s'.delivered ∨ ((it.pid, it.idx, it.c) ∈ s'.timedOut ∧ cfg.timeout > 0) ∨
      ∃ m sm, m < n ∧ InternalRun cfg s m sm ∧ it.c ∉ (sm.obj o).subs := by
  obtain ⟨_, hdone, hr', _, _⟩ := async_eventually_partial cfg hd s hr hx hnp hallow n s' hrun hq
  obtain ⟨t, hi, hof⟩ : ∃ t, s.tasks[i]? = some t ∧ asyncOf o it t := by
    rcases ht with ht | ⟨cb, ht⟩
    · exact ⟨_, ht, .inl rfl⟩
    · exact ⟨_, ht, .inr ⟨cb, rfl⟩⟩
  obtain ⟨t', ht'⟩ := run_task_some hrun hi
  have : t' = .done := hdone t' (List.mem_of_getElem? ht')
  subst this
  rcases async_fate_run hrun (cbLogged_reachable cfg s hr) hi hof ht' with h | h | h
  · exact Or.inl h
  · refine Or.inr (Or.inl ⟨h, ?_⟩)
    apply Classical.byContradiction
    intro hn
    rw [timedOut_nil cfg (by omega) s' hr'] at h
    cases h
  · exact Or.inr (Or.inr h)

/-- non-vacuity of `async_eventually_partial`: all hypotheses hold of the state `tmState` (measure 13, allowance 20)
and of the maximal run `tmRun_run` -/
example : Conc.Reachable (sys tmCfg) tmState ∧ CloneDiscipline tmCfg ∧ tmState.exited = false ∧
    NoPendingSub tmState ∧ Lasting tmCfg tmState ∧ InternalRun tmCfg tmState 10 tmEnd ∧ Quiescent tmCfg tmEnd :=
  ⟨liveAt_reachable _ _ (by decide), rfl, by decide, by decide, by decide, tmRun_run, by decide⟩

/-- `async_eventually_partial` applied to `tmState` and `tmRun_run` -/
example : 10 ≤ measure tmCfg tmState ∧ (∀ t ∈ tmEnd.tasks, t = .done) :=
  let h := async_eventually_partial tmCfg rfl tmState (liveAt_reachable _ _ (by decide)) (by decide) (by decide)
    (by decide) 10 tmEnd tmRun_run (by decide)
  ⟨h.1, h.2.1⟩

/-- non-vacuity of `async_item_fate_partial`: after the snapshot of `Pub [7, 8]` the two `sendAsync` goroutines exist;
the theorem applies to the rest of the run (9 steps) -/
def tmState1 : State := (runInternal tmCfg tmState [0]).getD {}

example : tmState1.tasks[2]? = some (.asyncStart 0 { pid := 0, idx := 0, ev := 7, c := 0 }) ∧
    NoPendingSub tmState1 ∧ Lasting tmCfg tmState1 ∧ measure tmCfg tmState1 = 11 ∧
    runInternal tmCfg tmState1 [0, 0, 0, 0, 0, 0, 0, 0, 0] = some tmEnd ∧ (0, 0, 0) ∈ tmEnd.delivered := by
  decide

/-- `NoPendingSub` is needed (header, problem 2): a `Sub` (unbuffered) and a `PubSync [7]` are pending, no channel
exists yet (`Lasting` holds vacuously); the maximal internal run that lets the `Sub` finish first ends quiescent with
the publisher blocked for ever on the new channel, whose receiver was never allowed anything. -/
def psCfg : Cfg := { allowClone := false, env := [.sub 0 0, .pubinv 0 0 .pubSync [7]] }
def psState : State := liveAt psCfg [0, 0]
def psEnd : State := (runInternal psCfg psState [0, 0, 0, 0]).getD {}

theorem pending_sub_blocks_example : Conc.Reachable (sys psCfg) psState ∧ CloneDiscipline psCfg ∧
    psState.exited = false ∧ Lasting psCfg psState ∧ FreshSubNames psState ∧ ¬ NoPendingSub psState ∧
    InternalRun psCfg psState 4 psEnd ∧ Quiescent psCfg psEnd ∧
    psEnd.tasks = [.done, .syncLoop 0 0 [{ pid := 0, idx := 0, ev := 7, c := 0 }] false] ∧
    psEnd.chans = [{ id := 0, cap := 0 }] := by
  have h : runInternal psCfg psState [0, 0, 0, 0] = some psEnd := by decide
  exact ⟨liveAt_reachable _ _ (by decide), rfl, by decide, by decide, by decide, by decide,
    runInternal_run psCfg _ _ _ h, by decide, by decide, by decide⟩

end C10

#print axioms C10.chan_ids_distinct
#print axioms C10.work_decreases_partial
#print axioms C10.internal_run_bounded_partial
#print axioms C10.internal_run_maximal_exists_partial
#print axioms C10.async_task_end
#print axioms C10.wg_task_end
#print axioms C10.async_task_end_as_first_stated_is_false
#print axioms C10.async_eventually_partial
#print axioms C10.async_item_fate_partial
#print axioms C10.pending_sub_blocks_example
#print axioms C10.tmRun_run
