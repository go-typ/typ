import TypVerif.Lemmas.AtomicSet
/-
C05, specification-level part: in every sequential history of the set specification (`Spec/AtomicSet.lean`)
the successful Add/Remove calls of each value alternate starting with an Add, their difference is 0 or 1 and
equals the final membership, and Has reports the membership told by those events.  `atomic_seq` ties the
`sync2.Set` model to that specification: each method is exactly one map call, and every sequential run of the
model produces the specification's history.  (That concurrent executions linearise to such histories is C04's
concurrent half and is not part of this file.)
-/
namespace C05
open TypVerif
open TypVerif.Spec.AtomicSet
open TypVerif.Lemmas.AtomicSet
open TypVerif.Model.Sets
open TypVerif.Model.SyncMap (State load loadOrStore loadAndDelete)

set_option linter.unusedSectionVars false   -- several statements below do not use the section's `[DecidableEq α]`

variable {α : Type} [DecidableEq α]

/-- for each value the successful Adds (`true`) and Removes (`false`) alternate, starting with an Add;
#okAdd = #okRemove + (1 if finally a member else 0), so the difference is 0 or 1 and equals the final membership -/
theorem alternate (ops : List (SOp α)) (v : α) :
    Alternates true (events v (srun ops).2) ∧
    countTrue (events v (srun ops).2) = countFalse (events v (srun ops).2) + (if (srun ops).1 v then 1 else 0) :=
  ⟨(run_facts v ops sempty).1, (run_facts v ops sempty).2.2⟩

/-- the same from an arbitrary starting membership (the first successful call is an Add iff `v` is absent) -/
theorem alternate_from (m : SState α) (ops : List (SOp α)) (v : α) :
    Alternates (!m v) (events v (srunFrom m ops).2) ∧
    countTrue (events v (srunFrom m ops).2) + (if m v then 1 else 0) =
      countFalse (events v (srunFrom m ops).2) + (if (srunFrom m ops).1 v then 1 else 0) :=
  ⟨(run_facts v ops m).1, (run_facts v ops m).2.2⟩

/-- a `Has(v)` issued after the calls `pre` reports the membership told by the successful events so far:
false before the first successful Add, true from a successful Add until the next successful Remove -/
theorem has_between (pre : List (SOp α)) (v : α) :
    (sstep (srun pre).1 (.has v)).2 = replay false (events v (srun pre).2) :=
  (run_facts v pre sempty).2.1.symm

/-- `Set.Add(v)` is exactly one `LoadOrStore(v, struct{}{})` returning `!loaded`, `Set.Remove(v)` one
`LoadAndDelete(v)` returning `loaded`, `Set.Has(v)` one `Load(v)` returning `ok` -/
theorem atomic_seq (m : State α Unit) (v : α) :
    add (.syncSet m) v = (.syncSet (loadOrStore m v ()).1, !(loadOrStore m v ()).2.2) ∧
    remove (.syncSet m) v = (.syncSet (loadAndDelete m v).1, (loadAndDelete m v).2.isSome) ∧
    has (.syncSet m) v = (.syncSet (load m v).1, (load m v).2.isSome) :=
  ⟨rfl, rfl, rfl⟩

/-- hence every sequential run of Add/Remove/Has on a `sync2.Set` (from the zero set, through every
promotion and re-creation of the dirty map) is a history of the specification -/
theorem seq_history (ops : List (SOp α)) :
    (mrunFrom (.syncSet State.init) ops).2 = (srun ops).2 := by
  have h := (mrunFrom_sim ops (.syncSet (State.init : State α Unit)) Lemmas.SyncMap.SeqInv.init_ok).2.2
  have hm : Lemmas.Sets.mem (.syncSet (State.init : State α Unit)) = sempty := by
    funext x
    show (Lemmas.SyncMap.abs (State.init : State α Unit) x).isSome = false
    rw [Lemmas.SyncMap.abs_init]; rfl
  rw [hm] at h
  exact h

/-! Non-vacuity -/
example : (srun ([.add 1, .add 1, .has 1, .remove 1, .remove 1, .add 1] : List (SOp Int))).2.map Prod.snd =
    [true, false, true, true, false, true] := by decide +kernel
example : events 1 (srun ([.add 1, .add 2, .add 1, .remove 1, .remove 2, .add 1] : List (SOp Int))).2 =
    [true, false, true] := by decide +kernel
example : (mrunFrom (.syncSet State.init) ([.add 1, .add 2, .has 1, .has 1, .remove 1, .add 3, .add 1] : List (SOp Int))).2.map Prod.snd =
    [true, true, true, true, true, true, true] := by decide +kernel

end C05
