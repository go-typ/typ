/-
C08 — Array2D is a grid of independent cells for every width and height.

Part 1: theorems about the kernels regenerated from the Go source (`TypVerif/Gen/Array2D.lean`): they are equal to
the kernels used by the hand-written model (`gen_*_eq`, for all arguments), the index map is injective on the
coordinates accepted by the guards and lands inside the backing slice, and the Row / RowSpan / Fill slice expressions
select exactly the cells of that row.  The `gen_*_eq` proofs only unfold the generated definitions and leave linear
arithmetic: `idx_omega` with `y*w = w*y` for the index kernels, `simp` with the definitions followed by `omega` for the
Boolean guards; so a harmless reshaping of the Go expression (`y*a.width + x`) re-proves, while a
wrong stride (`y*a.height`) does not; the other theorems rewrite with them and use the index arithmetic of the model.

Part 2: theorems about the model (`TypVerif/Model/Array2D.lean`), for every width and height ≥ 0.
-/
import TypVerif.Gen.Array2D
import TypVerif.Model.Array2D
import TypVerif.Spec.Grid
import TypVerif.Lemmas.Array2DArith
import TypVerif.Lemmas.Array2D
import TypVerif.Lemmas.Array2DRefine
open TypVerif
open TypVerif.Model.Array2D
open TypVerif.Lemmas
open TypVerif.Lemmas.Array2D (WF InB cellAt absGrid ex32)

namespace C08

/-! ## Part 1 — the regenerated kernels -/

theorem gen_newLen_eq (w h : Int) : Gen.A2D.newLen w h = newLen w h := by
  unfold Gen.A2D.newLen newLen
  have := Int.mul_comm w h
  idx_omega

theorem gen_getIdx_eq (w h x y : Int) : Gen.A2D.getIdx w h x y = idx w x y := by
  unfold Gen.A2D.getIdx idx
  have := Int.mul_comm y w
  idx_omega

theorem gen_setIdx_eq (w h x y : Int) : Gen.A2D.setIdx w h x y = idx w x y := by
  unfold Gen.A2D.setIdx idx
  have := Int.mul_comm y w
  idx_omega

/-- Get and Set address the same cell -/
theorem gen_setIdx_getIdx (w h x y : Int) : Gen.A2D.setIdx w h x y = Gen.A2D.getIdx w h x y := by
  rw [gen_setIdx_eq, gen_getIdx_eq]

theorem gen_guards_eq (w h x y : Int) :
    Gen.A2D.getGuard w h x y = getGuard w h x y ∧ Gen.A2D.setGuard w h x y = getGuard w h x y := by
  constructor <;> rw [Bool.eq_iff_iff] <;>
    simp [Gen.A2D.getGuard, Gen.A2D.setGuard, getGuard, oob] <;> omega

theorem gen_rowGuard_eq (w h y : Int) : Gen.A2D.rowGuard w h y = rowGuard h y := by
  rw [Bool.eq_iff_iff]; simp [Gen.A2D.rowGuard, rowGuard, oob] <;> omega

theorem gen_rowSpanGuard_eq (w h x1 x2 y : Int) : Gen.A2D.rowSpanGuard w h x1 x2 y = rowSpanGuard w h x1 x2 y := by
  rw [Bool.eq_iff_iff]; simp [Gen.A2D.rowSpanGuard, rowSpanGuard, oob] <;> omega

theorem gen_fillGuard_eq (w h x1 y1 x2 y2 : Int) : Gen.A2D.fillGuard w h x1 y1 x2 y2 = fillGuard w h x1 y1 x2 y2 := by
  rw [Bool.eq_iff_iff]; simp [Gen.A2D.fillGuard, fillGuard, oob] <;> omega

theorem gen_row_eq (w h y : Int) : Gen.A2D.rowLo w h y = rowLo w y ∧ Gen.A2D.rowHi w h y = rowHi w y := by
  unfold Gen.A2D.rowLo Gen.A2D.rowHi rowLo rowHi
  have := Int.mul_comm y w
  idx_omega

theorem gen_rowSpan_eq (w h x1 x2 y : Int) :
    Gen.A2D.rowSpanLo w h x1 x2 y = spanLo w x1 y ∧ Gen.A2D.rowSpanHi w h x1 x2 y = spanHi w x2 y := by
  unfold Gen.A2D.rowSpanLo Gen.A2D.rowSpanHi spanLo spanHi
  have := Int.mul_comm y w
  idx_omega

/-- the kernels of Fill: corner sorting, first row, loop bounds and the row copied to -/
theorem gen_fill_eq (w h x1 y1 x2 y2 y : Int) :
    Gen.A2D.fillSwapX x1 x2 = decide (x2 < x1) ∧ Gen.A2D.fillSwapY y1 y2 = decide (y2 < y1) ∧
    Gen.A2D.fillFirstLo w h x1 y1 x2 y2 = spanLo w x1 y1 ∧ Gen.A2D.fillFirstHi w h x1 y1 x2 y2 = spanHi w x2 y1 ∧
    Gen.A2D.fillLoopStart w h x1 y1 x2 y2 = y1 + 1 ∧ Gen.A2D.fillLoopCond w h x1 y1 x2 y2 y = decide (y ≤ y2) ∧
    Gen.A2D.fillRowLo w h x1 y1 x2 y2 y = spanLo w x1 y ∧ Gen.A2D.fillRowHi w h x1 y1 x2 y2 y = spanHi w x2 y := by
  have := Int.mul_comm y w
  have := Int.mul_comm y1 w
  refine ⟨?_, ?_, ?_, ?_, ?_, ?_, ?_, ?_⟩
  · rw [Bool.eq_iff_iff]; simp [Gen.A2D.fillSwapX]
  · rw [Bool.eq_iff_iff]; simp [Gen.A2D.fillSwapY]
  · unfold Gen.A2D.fillFirstLo spanLo; idx_omega
  · unfold Gen.A2D.fillFirstHi spanHi; idx_omega
  · unfold Gen.A2D.fillLoopStart; idx_omega
  · rw [Bool.eq_iff_iff]; simp [Gen.A2D.fillLoopCond]
  · unfold Gen.A2D.fillRowLo spanLo; idx_omega
  · unfold Gen.A2D.fillRowHi spanHi; idx_omega

theorem gen_jaggedBreak_eq (w h y : Int) : Gen.A2D.jaggedBreak w h y = decide (y ≥ h) := by
  rw [Bool.eq_iff_iff]; simp [Gen.A2D.jaggedBreak]

/-- what the generated guard accepts -/
theorem gen_getGuard_iff {w h x y : Int} :
    Gen.A2D.getGuard w h x y = true ↔ (0 ≤ x ∧ x < w ∧ 0 ≤ y ∧ y < h) := by
  rw [(gen_guards_eq w h x y).1]
  exact Array2D.getGuard_iff (a := ⟨w, h, []⟩)

example : Gen.A2D.getGuard 3 2 2 1 = true := by decide
example : Gen.A2D.getGuard 3 2 2 2 = false := by decide

/-- an accepted coordinate addresses a cell of the backing slice (`make([]T, w*h)`) -/
theorem idx_lt {w h x y : Int} (g : Gen.A2D.getGuard w h x y) :
    0 ≤ Gen.A2D.getIdx w h x y ∧ Gen.A2D.getIdx w h x y < Gen.A2D.newLen w h := by
  have ⟨a, b, c, d⟩ := gen_getGuard_iff.mp g
  rw [gen_getIdx_eq, gen_newLen_eq]
  exact Array2DArith.idx_lt a b c d

example : Gen.A2D.getIdx 3 2 2 1 = 5 ∧ Gen.A2D.newLen 3 2 = 6 := by decide

/-- two accepted coordinates with the same index are the same coordinate: cells are independent -/
theorem idx_inj {w h x y x' y' : Int} (g : Gen.A2D.getGuard w h x y) (g' : Gen.A2D.getGuard w h x' y')
    (e : Gen.A2D.getIdx w h x y = Gen.A2D.getIdx w h x' y') : x = x' ∧ y = y' := by
  have ⟨a, b, _, _⟩ := gen_getGuard_iff.mp g
  have ⟨a', b', _, _⟩ := gen_getGuard_iff.mp g'
  rw [gen_getIdx_eq, gen_getIdx_eq] at e
  exact Array2DArith.idx_inj a b a' b' e

example : Gen.A2D.getGuard 3 2 0 1 = true ∧ Gen.A2D.getGuard 3 2 2 0 = true ∧
    Gen.A2D.getIdx 3 2 0 1 ≠ Gen.A2D.getIdx 3 2 2 0 := by decide

/-- Row(y) is the slice `[lo, hi)` of exactly `w` cells, inside the backing slice, and its `x`-th cell is cell (x,y) -/
theorem row_range {w h y : Int} (hw : 0 ≤ w) (g : Gen.A2D.rowGuard w h y) :
    0 ≤ Gen.A2D.rowLo w h y ∧ Gen.A2D.rowLo w h y ≤ Gen.A2D.rowHi w h y ∧
    Gen.A2D.rowHi w h y ≤ Gen.A2D.newLen w h ∧ Gen.A2D.rowHi w h y - Gen.A2D.rowLo w h y = w ∧
    ∀ x, Gen.A2D.getIdx w h x y = Gen.A2D.rowLo w h y + x := by
  rw [gen_rowGuard_eq] at g
  have ⟨c, d⟩ := Array2D.rowGuard_iff.mp g
  -- Row is the full-width RowSpan
  have sb := Array2DArith.span_bounds (w := w) (xa := 0) (xb := w - 1) c d (Int.le_refl 0) (by omega) (by omega)
  simp only [gen_getIdx_eq, (gen_row_eq w h y).1, (gen_row_eq w h y).2, gen_newLen_eq]
  unfold rowLo rowHi newLen idx
  exact ⟨by omega, by omega, by omega, by omega, fun x => by omega⟩

example : Gen.A2D.rowGuard 3 2 1 = true := by decide

/-- RowSpan(x1,x2,y) with x1 ≤ x2 is the slice of exactly the cells (x1..x2, y) -/
theorem span_range {w h x1 x2 y : Int} (g : Gen.A2D.rowSpanGuard w h x1 x2 y) (h12 : x1 ≤ x2) :
    0 ≤ Gen.A2D.rowSpanLo w h x1 x2 y ∧ Gen.A2D.rowSpanLo w h x1 x2 y ≤ Gen.A2D.rowSpanHi w h x1 x2 y ∧
    Gen.A2D.rowSpanHi w h x1 x2 y ≤ Gen.A2D.newLen w h ∧
    Gen.A2D.rowSpanHi w h x1 x2 y - Gen.A2D.rowSpanLo w h x1 x2 y = x2 - x1 + 1 ∧
    ∀ i, Gen.A2D.getIdx w h (x1 + i) y = Gen.A2D.rowSpanLo w h x1 x2 y + i := by
  rw [gen_rowSpanGuard_eq] at g
  have ⟨a, c, e⟩ := Array2D.rowSpanGuard_iff.mp g
  have sb := Array2DArith.span_bounds c.1 c.2 a.1 (by omega) e.2
  simp only [gen_getIdx_eq, (gen_rowSpan_eq w h x1 x2 y).1, (gen_rowSpan_eq w h x1 x2 y).2, gen_newLen_eq]
  exact ⟨sb.1, sb.2.1, sb.2.2, Array2D.spanHi_sub_spanLo w x1 x2 y, fun i => Array2D.idx_add w x1 i y⟩

example : Gen.A2D.rowSpanGuard 3 2 1 2 1 = true := by decide

/-- the rows written by Fill (first row and every copied row) are the RowSpan slices of the sorted corners -/
theorem fill_range {w h x1 y1 x2 y2 y : Int} (g : Gen.A2D.fillGuard w h x1 y1 x2 y2)
    (hx : ¬ Gen.A2D.fillSwapX x1 x2) (hy1 : y1 ≤ y) (hy2 : y ≤ y2) :
    0 ≤ Gen.A2D.fillRowLo w h x1 y1 x2 y2 y ∧
    Gen.A2D.fillRowHi w h x1 y1 x2 y2 y ≤ Gen.A2D.newLen w h ∧
    Gen.A2D.fillRowHi w h x1 y1 x2 y2 y - Gen.A2D.fillRowLo w h x1 y1 x2 y2 y = x2 - x1 + 1 ∧
    Gen.A2D.fillFirstHi w h x1 y1 x2 y2 - Gen.A2D.fillFirstLo w h x1 y1 x2 y2 = x2 - x1 + 1 ∧
    Gen.A2D.fillFirstLo w h x1 y1 x2 y2 = Gen.A2D.fillRowLo w h x1 y1 x2 y2 y1 ∧
    ∀ i, Gen.A2D.getIdx w h (x1 + i) y = Gen.A2D.fillRowLo w h x1 y1 x2 y2 y + i := by
  rw [gen_fillGuard_eq] at g
  have ⟨a, c, e, d⟩ := Array2D.fillGuard_iff.mp g
  obtain ⟨sx, _, f3, f4, _, _, f7, f8⟩ := gen_fill_eq w h x1 y1 x2 y2 y
  have h12 : x1 ≤ x2 := by rw [sx, decide_eq_true_eq] at hx; omega
  have sb := Array2DArith.span_bounds (h := h) (y := y) (by omega) (by omega) a.1 (by omega) e.2
  simp only [gen_getIdx_eq, f3, f4, f7, f8, (gen_fill_eq w h x1 y1 x2 y2 y1).2.2.2.2.2.2.1, gen_newLen_eq]
  exact ⟨sb.1, sb.2.2, Array2D.spanHi_sub_spanLo w x1 x2 y, Array2D.spanHi_sub_spanLo w x1 x2 y1, trivial,
    fun i => Array2D.idx_add w x1 i y⟩

example : Gen.A2D.fillGuard 3 2 0 0 2 1 = true ∧ Gen.A2D.fillSwapX 0 2 = false := by decide

/-! ## Part 2 — the model, for every width and height ≥ 0

`WF a` : `0 ≤ a.w`, `0 ≤ a.h` and the backing slice has `a.w * a.h` cells (what New2D / New2DFilled / New2DFromJagged /
Clone build and every method preserves).  `InB a x y` : `0 ≤ x < a.w ∧ 0 ≤ y < a.h`.  `cellAt a x y` : the backing
cell addressed by (x,y).  A panic is an `Except.error`; since the model is functional, a panicking call returns no
new array: the array the caller holds is unchanged. -/

example : WF Array2D.ex32 := Array2D.ex32_wf

/-- Get after Set: the stored value at that cell, the old value everywhere else -/
theorem set_get {a a' : A2D} (wf : WF a) {x y v : Int} (h : Model.Array2D.set a x y v = .ok a') (x' y' : Int) :
    Model.Array2D.get a' x' y' = if x' = x ∧ y' = y then .ok v else Model.Array2D.get a x' y' :=
  Array2D.set_get wf h x' y'

example : Model.Array2D.set ex32 2 0 7 = .ok ⟨3, 2, [1, 2, 7, 4, 5, 6]⟩ := rfl

/-- Set changes cell (x,y) and no other — through Get and in the backing slice; the shape stays -/
theorem set_frame {a a' : A2D} (wf : WF a) {x y v : Int} (h : Model.Array2D.set a x y v = .ok a') :
    a'.w = a.w ∧ a'.h = a.h ∧ WF a' ∧
    (∀ x' y', ¬ (x' = x ∧ y' = y) → Model.Array2D.get a' x' y' = Model.Array2D.get a x' y') ∧
    (∀ j, j ≠ (idx a.w x y).toNat → a'.cells[j]? = a.cells[j]?) :=
  Array2D.set_frame wf h

example : WF ex32 ∧ Model.Array2D.set ex32 0 1 7 = .ok ⟨3, 2, [1, 2, 3, 7, 5, 6]⟩ := ⟨Array2D.ex32_wf, rfl⟩

/-- any coordinate outside the bounds panics (typ's own panic) in Get and Set, without a new array;
inside the bounds both succeed -/
theorem oob_panics_unchanged {a : A2D} (wf : WF a) (x y : Int) :
    (¬ InB a x y → Model.Array2D.get a x y = .error pCustom ∧ ∀ v, Model.Array2D.set a x y v = .error pCustom) ∧
    (InB a x y → (∃ r, Model.Array2D.get a x y = .ok r) ∧ ∀ v, ∃ a', Model.Array2D.set a x y v = .ok a') := by
  constructor
  · intro hb
    exact ⟨by rw [Array2D.get_eq, if_neg hb], fun v => by rw [Array2D.set_eq wf, if_neg hb]⟩
  · intro hb
    obtain ⟨r, hr⟩ := Array2D.cellAt_some wf hb
    exact ⟨⟨r, by rw [Array2D.get_eq, if_pos hb, hr]; rfl⟩, fun v => ⟨_, by rw [Array2D.set_eq wf, if_pos hb]⟩⟩

example : ¬ InB ex32 2 2 ∧ InB ex32 2 1 := by unfold InB ex32; decide
example : Model.Array2D.get ex32 0 2 = .error pCustom ∧ Model.Array2D.get ex32 2 1 = .ok 6 := ⟨rfl, rfl⟩

/-- Row(y) is a live window onto exactly the cells (0..w-1, y): reading it reads those cells, writing position i is
Set(i, y); a write outside the window is a Go index panic; a row outside the bounds is typ's panic -/
theorem row_live {a : A2D} (wf : WF a) (y : Int) :
    (¬ (0 ≤ y ∧ y < a.h) → rowRead a y = .error pCustom ∧ ∀ i v, rowset a y i v = .error pCustom) ∧
    ((0 ≤ y ∧ y < a.h) →
      (∃ l, rowRead a y = .ok l ∧ l.length = a.w.toNat ∧ ∀ x, 0 ≤ x → x < a.w → l[x.toNat]? = cellAt a x y) ∧
      (∀ i v, 0 ≤ i → i < a.w → rowset a y i v = Model.Array2D.set a i y v) ∧
      (∀ i v, ¬ (0 ≤ i ∧ i < a.w) → rowset a y i v = .error pBounds)) :=
  Array2D.row_live wf y

example : rowRead ex32 1 = .ok [4, 5, 6] ∧ rowset ex32 1 2 9 = .ok ⟨3, 2, [1, 2, 3, 4, 5, 9]⟩ := ⟨rfl, rfl⟩

/-- RowSpan(x1,x2,y) with x1 ≤ x2 is a live window onto exactly the cells (x1..x2, y); x1 = x2+1 is the empty
window and x1 > x2+1 a Go slice-bounds panic -/
theorem rowSpan_live {a : A2D} (wf : WF a) (x1 x2 y : Int) :
    (rowSpanGuard a.w a.h x1 x2 y = false →
      spanRead a x1 x2 y = .error pCustom ∧ ∀ i v, spanset a x1 x2 y i v = .error pCustom) ∧
    (rowSpanGuard a.w a.h x1 x2 y = true → x1 ≤ x2 →
      (∃ l, spanRead a x1 x2 y = .ok l ∧ l.length = (x2 - x1 + 1).toNat ∧
        ∀ i, 0 ≤ i → i ≤ x2 - x1 → l[i.toNat]? = cellAt a (x1 + i) y) ∧
      (∀ i v, 0 ≤ i → i ≤ x2 - x1 → spanset a x1 x2 y i v = Model.Array2D.set a (x1 + i) y v) ∧
      (∀ i v, ¬ (0 ≤ i ∧ i ≤ x2 - x1) → spanset a x1 x2 y i v = .error pBounds)) ∧
    (rowSpanGuard a.w a.h x1 x2 y = true → x1 = x2 + 1 → spanRead a x1 x2 y = .ok []) ∧
    (rowSpanGuard a.w a.h x1 x2 y = true → x1 > x2 + 1 → spanRead a x1 x2 y = .error pBounds) :=
  Array2D.rowSpan_live wf x1 x2 y

example : rowSpanGuard 3 2 1 2 1 = true ∧ spanRead ex32 1 2 1 = .ok [5, 6] ∧
    spanset ex32 1 2 1 1 9 = .ok ⟨3, 2, [1, 2, 3, 4, 5, 9]⟩ ∧ spanRead ex32 2 0 1 = .error pBounds := ⟨rfl, rfl, rfl, rfl⟩

/-- slices.Fill (its doubling `copy` loop run to the end): exactly the window is assigned -/
theorem sliceFill_spec (c : List Int) (lo len : Nat) (v : Int) (h : lo + len ≤ c.length) :
    (sliceFill c lo len v).length = c.length ∧
    ∀ j, (sliceFill c lo len v)[j]? = if lo ≤ j ∧ j < lo + len then some v else c[j]? :=
  Array2D.sliceFill_spec c lo len v h

example : sliceFill [1, 2, 3, 4, 5, 6, 7, 8] 1 6 0 = [1, 0, 0, 0, 0, 0, 0, 8] := by decide

/-- Fill assigns exactly the inclusive rectangle, whichever corners are given, and nothing else;
it panics (typ's panic) exactly when a corner is outside the bounds -/
theorem fill_exact {a : A2D} (wf : WF a) (x1 y1 x2 y2 v : Int) :
    (fillGuard a.w a.h x1 y1 x2 y2 = false → fill a x1 y1 x2 y2 v = .error pCustom) ∧
    (fillGuard a.w a.h x1 y1 x2 y2 = true →
      ∃ a', fill a x1 y1 x2 y2 v = .ok a' ∧ a'.w = a.w ∧ a'.h = a.h ∧ WF a' ∧
        ∀ x y, Model.Array2D.get a' x y =
          if min x1 x2 ≤ x ∧ x ≤ max x1 x2 ∧ min y1 y2 ≤ y ∧ y ≤ max y1 y2 then .ok v
          else Model.Array2D.get a x y) :=
  Array2D.fill_exact wf x1 y1 x2 y2 v

example : fill ex32 2 1 1 0 0 = .ok ⟨3, 2, [1, 0, 0, 4, 0, 0]⟩ ∧ fill ex32 1 0 2 1 0 = .ok ⟨3, 2, [1, 0, 0, 4, 0, 0]⟩ :=
  ⟨rfl, rfl⟩

/-- New2D: zeros -/
theorem new2D {w h : Int} (hw : 0 ≤ w) (hh : 0 ≤ h) :
    ∃ a, Model.Array2D.new2D w h = .ok a ∧ WF a ∧ a.w = w ∧ a.h = h ∧
      ∀ x y, Model.Array2D.get a x y = if 0 ≤ x ∧ x < w ∧ 0 ≤ y ∧ y < h then .ok 0 else .error pCustom := by
  obtain ⟨n1, wf0⟩ := Array2D.new2D_spec hw hh
  exact ⟨_, n1, wf0, rfl, rfl, Array2D.get_replicate⟩

example : (0 : Int) ≤ 3 ∧ (0 : Int) ≤ 2 ∧ Model.Array2D.new2D 3 0 = .ok ⟨3, 0, []⟩ := ⟨by decide, by decide, rfl⟩

/-- New2DFilled: every cell holds the value -/
theorem new2DFilled {w h : Int} (v : Int) (hw : 0 ≤ w) (hh : 0 ≤ h) :
    ∃ a, Model.Array2D.new2DFilled w h v = .ok a ∧ WF a ∧ a.w = w ∧ a.h = h ∧
      ∀ x y, Model.Array2D.get a x y = if 0 ≤ x ∧ x < w ∧ 0 ≤ y ∧ y < h then .ok v else .error pCustom := by
  obtain ⟨n1, wf0⟩ := Array2D.new2DFilled_spec v hw hh
  exact ⟨_, n1, wf0, rfl, rfl, Array2D.get_replicate⟩

example : Model.Array2D.new2DFilled 3 2 7 = .ok ⟨3, 2, [7, 7, 7, 7, 7, 7]⟩ := rfl

/-- New2DFromJagged: cell (x,y) = jagged[y][x] when both exist and are in bounds, zero otherwise;
rows beyond the height and values beyond the width are ignored -/
theorem fromJagged {w h : Int} (hw : 0 ≤ w) (hh : 0 ≤ h) (jagged : List (List Int)) :
    ∃ a', Model.Array2D.fromJagged w h jagged = .ok a' ∧ a'.w = w ∧ a'.h = h ∧ WF a' ∧
      ∀ x y, Model.Array2D.get a' x y =
        if 0 ≤ x ∧ x < w ∧ 0 ≤ y ∧ y < h then
          .ok (((jagged[y.toNat]?).bind (fun r => r[x.toNat]?)).getD 0)
        else .error pCustom :=
  Array2D.fromJagged_spec hw hh jagged

example : Model.Array2D.fromJagged 3 2 [[1, 2, 3, 4], [5], [6, 7, 8]] = .ok ⟨3, 2, [1, 2, 3, 5, 0, 0]⟩ := rfl

/-- Clone has the same cells; in the functional model the clone is a separate value, so later operations on
either array cannot reach the other (the aliasing claim itself is decided by the correspondence run) -/
theorem clone_eq (a : A2D) : clone a = a := Array2D.clone_eq a

/-- String's traversal reads every cell once, row by row (an array of height 0 renders `[]`) -/
theorem cellsRows {a : A2D} (wf : WF a) : Model.Array2D.cellsRows a = .ok (absGrid a).rows :=
  Array2D.cellsRows_spec wf

example : Model.Array2D.cellsRows ex32 = .ok [[1, 2, 3], [4, 5, 6]] := rfl

/-- every operation of the model is the corresponding pointwise operation of the specification grid
(`Spec.Grid`, rows of cells, no index arithmetic), seen through the abstraction `absGrid` -/
theorem refines_grid {a : A2D} (wf : WF a) :
    (∀ x y, Model.Array2D.get a x y = match Spec.Grid.get (absGrid a) x y with
      | some v => .ok v | none => .error pCustom) ∧
    (∀ x y v, (∀ a', Model.Array2D.set a x y v = .ok a' → Spec.Grid.set (absGrid a) x y v = some (absGrid a')) ∧
      (Model.Array2D.set a x y v = .error pCustom ↔ Spec.Grid.set (absGrid a) x y v = none)) ∧
    (∀ x1 y1 x2 y2 v,
      (∀ a', fill a x1 y1 x2 y2 v = .ok a' → Spec.Grid.fill (absGrid a) x1 y1 x2 y2 v = some (absGrid a')) ∧
      (fill a x1 y1 x2 y2 v = .error pCustom ↔ Spec.Grid.fill (absGrid a) x1 y1 x2 y2 v = none)) ∧
    (∀ y, rowRead a y = match Spec.Grid.row (absGrid a) y with
      | some l => .ok l | none => .error pCustom) ∧
    (∀ x1 x2 y, x1 ≤ x2 → spanRead a x1 x2 y = match Spec.Grid.span (absGrid a) x1 x2 y with
      | some l => .ok l | none => .error pCustom) ∧
    absGrid (clone a) = Spec.Grid.clone (absGrid a) :=
  ⟨Array2D.refines_get wf, Array2D.refines_set wf, Array2D.refines_fill wf, Array2D.refines_row wf,
    Array2D.refines_span wf, Array2D.refines_clone a⟩

example : absGrid ex32 = ⟨3, 2, [[1, 2, 3], [4, 5, 6]]⟩ := by decide

/-- the constructors refine the specification's constructors -/
theorem refines_constructors {w h : Int} (hw : 0 ≤ w) (hh : 0 ≤ h) :
    (∃ a, Model.Array2D.new2D w h = .ok a ∧ WF a ∧ absGrid a = Spec.Grid.new w h) ∧
    (∀ v, ∃ a, Model.Array2D.new2DFilled w h v = .ok a ∧ WF a ∧ absGrid a = Spec.Grid.filled w h v) ∧
    (∀ jagged, ∃ a, Model.Array2D.fromJagged w h jagged = .ok a ∧ WF a ∧ absGrid a = Spec.Grid.fromJagged w h jagged) :=
  ⟨Array2D.refines_new hw hh, fun v => Array2D.refines_filled v hw hh, fun j => Array2D.refines_fromJagged hw hh j⟩

example : Spec.Grid.fromJagged 3 2 [[1, 2, 3, 4], [5], [6, 7, 8]] = ⟨3, 2, [[1, 2, 3], [5, 0, 0]]⟩ := by decide

end C08

#print axioms C08.gen_newLen_eq
#print axioms C08.gen_getIdx_eq
#print axioms C08.gen_setIdx_eq
#print axioms C08.gen_setIdx_getIdx
#print axioms C08.gen_guards_eq
#print axioms C08.gen_rowGuard_eq
#print axioms C08.gen_rowSpanGuard_eq
#print axioms C08.gen_fillGuard_eq
#print axioms C08.gen_row_eq
#print axioms C08.gen_rowSpan_eq
#print axioms C08.gen_fill_eq
#print axioms C08.gen_jaggedBreak_eq
#print axioms C08.gen_getGuard_iff
#print axioms C08.idx_lt
#print axioms C08.idx_inj
#print axioms C08.row_range
#print axioms C08.span_range
#print axioms C08.fill_range
#print axioms C08.set_get
#print axioms C08.set_frame
#print axioms C08.oob_panics_unchanged
#print axioms C08.row_live
#print axioms C08.rowSpan_live
#print axioms C08.sliceFill_spec
#print axioms C08.fill_exact
#print axioms C08.new2D
#print axioms C08.new2DFilled
#print axioms C08.fromJagged
#print axioms C08.clone_eq
#print axioms C08.cellsRows
#print axioms C08.refines_grid
#print axioms C08.refines_constructors
