import TypVerif.Lemmas.FilterMask
import TypVerif.Gen.SlicesShapes
/-
C13, tie 4B — GOLDEN FUNCTION SHAPES (written by tools/mkshapes.py; do not edit by hand).  For every function of the source files this property's model mirrors,
the extractor regenerates on every run: its calls, its stores through selectors / indices / pointers, its conditions and loop headers, its select cases and
its return expressions, in source order.  The theorems below state that these equal the shapes of the tree the model was written against.  They are the STATIC,
all-paths complement of the differential runs: a guard dropped, a fast path or a threshold added, an early return, a changed comparison or a different callee
on ANY path - also one that no generated input happens to take - changes the regenerated list and breaks the evaluation (`rfl`; for a list filtered by function name the mask of `Lemmas/FilterMask.lean`, then `rfl`).  A broken shape theorem is reported like a
broken proof (with a failing input when the search finds one, else `no-failing-input-found`); after a deliberate change of the source the changed functions are
re-read against the model and this file is regenerated.
-/
namespace C13

/-- slices/slices.go, Chunk / Windowed / Pairs: 6 function(s) -/
theorem gen_shapes_partition :
    Gen.SlicesShapes.funcs.filter (fun f => (["Pairs", "PairsFunc", "Windowed", "WindowedFunc", "Chunk", "ChunkFunc"]).contains f.1) =
      [("Pairs", ["if len(slice) < 2", "call len", "return nil", "call len", "call make", "for i < lim", "store pairs[i]", "return pairs"]),
       ("PairsFunc", ["if len(slice) < 2", "call len", "return ", "call len", "for i < lim", "call callback"]),
       ("Windowed", ["if len(slice) < size", "call len", "return nil", "call len", "call make", "for i < lim", "store windows[i]", "return windows"]),
       ("WindowedFunc", ["if len(slice) < size", "call len", "return ", "call len", "for i < lim", "call callback"]),
       ("Chunk", ["if len(slice) == 0", "call len", "return nil", "call len", "if rounded != len(slice)", "call len", "call make", "for j < rounded", "store chunks[i]", "if div != lim", "store chunks[lim - 1]", "return chunks"]),
       ("ChunkFunc", ["if len(slice) == 0", "call len", "return ", "call len", "for j < rounded", "call callback", "if rounded != len(slice)", "call len", "call callback"])] :=
  (TypVerif.Lemmas.filter_of_mask _ _ [false, false, false, false, false, false, false, false, false, false, false, false, false, false, false, false, false, false, false, false, false, false, false, false, false, false, false, false, false, false, false, true, true, true, true, true, true, false, false, false, false, false] (by decide +kernel)).trans rfl

end C13
