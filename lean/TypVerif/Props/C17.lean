import TypVerif.Lemmas.Once
import TypVerif.Lemmas.OnceSpec
/-
C17: "For each Once1, Once2 or Once3 value, however many goroutines call Do concurrently or later and
whatever functions they pass, exactly one of those functions is invoked, exactly once. Every Do call
returns the values that invocation returned, and returns only after that invocation has completed."

System: `Model.Once.sys n arity res` — `n` goroutines (any n), goroutine `t` passes `f_t` returning `res t`
(any `res`), every interleaving of the atomic actions of sync.Once.Do / doSlow and of the wrapper.
`Reachable` = all schedules, any number of steps.
-/
namespace C17
open TypVerif TypVerif.Conc TypVerif.Model.Once TypVerif.Lemmas.Once

/-- at most one of the functions is ever invoked, at most once -/
theorem exactly_once {n a : Nat} {res : Nat → List Int} {s : State}
    (h : Reachable (sys n a res) s) : s.invocations ≤ 1 :=
  invocations_le_one (good_reachable n a res s h)

/-- per step: an `fstart t` step adds `t` to the record `invoked`, no other step changes it (so along a run `invoked`
lists the `fstart` events) -/
theorem invocations_counts_fstart {n a : Nat} {res : Nat → List Int} {s s' : State} {l : Option Event}
    (hstep : (l, s') ∈ (sys n a res).succ s) :
    (∀ t, l = some (.fstart t) → s'.invoked = t :: s.invoked) ∧
    ((∀ t, l ≠ some (.fstart t)) → s'.invoked = s.invoked) := by
  obtain ⟨_, _, h⟩ := step_of_succ hstep
  refine ⟨fun t e => ?_, fun hl => ?_⟩ <;> rw [h.invoked]
  · subst e; rfl
  · split
    · exact absurd rfl (hl _)
    · rfl

/-- every goroutine that is past its `ret` has seen exactly one invocation, and that invocation finished -/
theorem returned_implies_invoked_and_finished {n a : Nat} {res : Nat → List Int} {s : State}
    (h : Reachable (sys n a res) s) (t : Nat) (hret : s.pc t = .returned) :
    s.invocations = 1 ∧ s.finished = true := by
  have hg := good_reachable n a res s h
  have ht := hg.thread t
  unfold ThreadOk at ht
  rw [hret] at ht
  have := hg.doneT ht
  simp [State.invocations, State.finished, this.1, this.2]

/-- every `ret t r` event carries the result recorded at the `fend` (which is unique: `Lemmas.Once.exec_fend_count`,
and never changes afterwards: `result_stable`) -/
theorem same_results {n a : Nat} {res : Nat → List Int} {s s' : State} {t : Nat} {r : List Int}
    (h : Reachable (sys n a res) s) (hstep : (some (Event.ret t r), s') ∈ (sys n a res).succ s) :
    s.fres = some r := by
  have hg := good_reachable n a res s h
  obtain ⟨hpc, rfl, _⟩ := ret_step hstep
  have ht := hg.thread t
  unfold ThreadOk at ht
  rw [hpc] at ht
  exact (hg.doneT ht).2

/-- the recorded result is the one the `fend` event carried -/
theorem fend_records {n a : Nat} {res : Nat → List Int} {s s' : State} {t : Nat} {r : List Int}
    (hstep : (some (Event.fend t r), s') ∈ (sys n a res).succ s) : s'.fres = some r ∧ r = res t :=
  ⟨(fend_step hstep).2.2, (fend_step hstep).2.1⟩

/-- a recorded result is never overwritten -/
theorem result_stable {n a : Nat} {res : Nat → List Int} {s s' : State} {l : Option Event} {r : List Int}
    (h : Reachable (sys n a res) s) (hr : s.fres = some r) (hstep : (l, s') ∈ (sys n a res).succ s) :
    s'.fres = some r :=
  let ⟨_, _, hs⟩ := step_of_succ hstep
  hs.fres_stable (good_reachable n a res s h) hr

/-- no `Do` is at or past its return point (has left `once.Do`) before the invocation's completion,
in particular no `ret` event happens before the `fend` -/
theorem after_completion {n a : Nat} {res : Nat → List Int} {s : State}
    (h : Reachable (sys n a res) s) (t : Nat) (hpc : s.pc t = .read ∨ s.pc t = .returned) :
    s.finished = true ∧ s.fres = some s.fields := by
  have hg := good_reachable n a res s h
  have ht := hg.thread t
  unfold ThreadOk at ht
  have hd : s.done = true := by
    rcases hpc with e | e <;> (rw [e] at ht; exact ht)
  have := hg.doneT hd
  simp [State.finished, this.2]

theorem after_completion_ret {n a : Nat} {res : Nat → List Int} {s s' : State} {t : Nat} {r : List Int}
    (h : Reachable (sys n a res) s) (hstep : (some (Event.ret t r), s') ∈ (sys n a res).succ s) :
    s.finished = true :=
  (after_completion h t (Or.inl (ret_step hstep).1)).1

/-- trace form: the visible events of every execution of the model satisfy the history predicate that the
judge evaluates on the real code's traces (at most one `fstart`; every `ret`'s tuple is the `fend`'s;
`ret` after `fend`; `ret`/`fstart` only after their `call`) -/
theorem spec_holds {n a : Nat} {res : Nat → List Int} {ls : List (Option Event)} {s : State}
    (h : Exec (sys n a res) (sys n a res).init ls s) : Spec.Once.holds (visible ls) = true := by
  obtain ⟨m, hm, _⟩ := run_ok h Spec.Once.Mon.init Reachable.init (sim_init n a)
  unfold Spec.Once.holds
  have hm' : Spec.Once.Mon.init.run (visible ls) = Except.ok m := hm
  rw [hm']

/-! non-vacuity: two goroutines, the second arrives while the first runs f; both return f_0's result.  (`= false` is the answer of
the acceptor at fuel 64, which is proved sound only: an illustration, not a proof that the model lacks the trace.) -/
def demoRes : Nat → List Int := fun t => [10 + t, 20 + t]
def demoTrace : List Event :=
  [.call 0, .fstart 0, .call 1, .fend 0 [10, 20], .ret 1 [10, 20], .ret 0 [10, 20]]

example : Conc.accepts (sys 2 2 demoRes) 64 demoTrace = true := by decide +kernel
example : Conc.accepts (sys 2 2 demoRes) 64 [.call 0, .fstart 0, .call 1, .fstart 1] = false := by decide +kernel
example : Conc.accepts (sys 2 2 demoRes) 64 [.call 0, .fstart 0, .call 1, .ret 1 [0, 0]] = false := by decide +kernel
example : Spec.Once.holds demoTrace = true := by decide

end C17

#print axioms C17.exactly_once
#print axioms C17.invocations_counts_fstart
#print axioms C17.returned_implies_invoked_and_finished
#print axioms C17.same_results
#print axioms C17.fend_records
#print axioms C17.result_stable
#print axioms C17.after_completion
#print axioms C17.after_completion_ret
#print axioms C17.spec_holds
