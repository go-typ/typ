import TypVerif.Props.C04range
import TypVerif.Lemmas.SmcRangeTrace
/-
C04, `Range` under every schedule, the TRACE-LEVEL reading that `Props/C04range.lean` leaves unstated:

    a key that is present with the same value `v` in EVERY state of a `Range` call — from the step that takes the
    snapshot up to the return — is passed to the callback, with that value.

Same step-level transition system (`Model/SyncMapConc.lean`), any number of goroutines, any menu, every interleaving.
The states of one call are exposed by `PathAll sys P s s'` ("there is an execution from `s` to `s'` all of whose states,
both ends included, satisfy `P`", `Lemmas/SmcRangeTrace.lean`).

Proof: along the path the invariant `InLoopVisit` holds ("`f(k,v)` has been called, or the pair `(k,e)` of the snapshot
is still to be visited, `e` is `read.m[k]` and `e.p` points to `v`").  It is established by the entering step
(`conc_range_snapshot`: the key is in the snapshot).  A step of another goroutine keeps it because the pair stays
`read.m[k]` unless the entry dies (`conc_range_todo_held`), an entry holding a value cannot die in ONE step (no step of
`map.go` writes `expunged` over a value pointer — `Lemmas.Smc.exec_noExp`, by cases on all branches of `exec`; the only
writer of `expunged` is the CAS nil→expunged of `tryExpungeLocked`), and the key still has the value `v` after the step
(hypothesis), so `e.p` still points to `v`.  The goroutine's own steps either move the pair from `todo` to "being
visited" (the snapshot's keys are pairwise distinct, `conc_range_once_loop`) or call `f(k, v)` (`conc_range_value`).
-/
namespace C04
open TypVerif TypVerif.Conc TypVerif.Model TypVerif.Model.SyncMapConc TypVerif.Model.RelObj TypVerif.Lemmas.Smc
open TypVerif.Model.SyncMap (alookup ainsert aerase akeys)

set_option linter.unusedSectionVars false

variable {K V : Type} [DecidableEq K] [DecidableEq V] [Inhabited V]

/-- **No step of `map.go` expunges a value.**  If `e.p` points to a value in `s`, then after ANY single step of ANY
goroutine (any successor of `s`, reachable or not) `e.p` is not `expunged`.
Not claimed: that it still points to a value (a `Delete` may have swapped it to nil). -/
theorem conc_step_no_expunge (menu : List (Op K V)) {s s' : State K V} {l : Option (SyncMapConc.Event K V)}
    (h : (l, s') ∈ succ menu s) {e : EId} (hv : isVal (getP s.sh e) = true) : (getP s'.sh e).isExpunged = false :=
  succ_noExp h e hv

/-- **Present and untouched for the whole call ⇒ visited, in-loop form.**  `s0` is a reachable state in which goroutine
`t` is about to take one of the three steps that enter the `Range` loop (the same three as in `conc_range_snapshot`),
`s1` the state after that step.  If there is an execution from `s1` to `s2` in every state of which (both ends
included) the abstract map (`absOf`, the abstraction under which the model is linearizable) has `k ↦ v` and goroutine
`t` has not yet returned from this call (`pc t ≠ idle`; the steps of the other goroutines are arbitrary), then EVERY
state `s` of that execution is reachable and satisfies the visit invariant:
 * at `rangePick todo acc`: `f(k,v)` has been called (`(k,v) ∈ acc`), or some pair `(k,e)` is still to be visited, `e` is
   `read.m[k]` and `e.p` points to `v`;
 * at `rangeLoad todo acc k' e'`: the same, or `(k', e')`, the pair being visited, is that pair;
 * at `ret (.pairs acc)`: `f(k,v)` has been called;
 * goroutine `t` is at no other program counter. -/
theorem conc_range_untouched_loop (menu : List (Op K V)) (n : Nat) (zst : Bool) {s0 s1 s2 : State K V}
    (h0 : Reachable (sys K V menu n zst) s0) (t : Tid)
    (hent : (s0.pc t = .rangeRead1 ∧ s0.sh.amended = false) ∨ (s0.pc t = .rangeRead2 ∧ s0.sh.amended = false) ∨
      ∃ dm, s0.pc t = .rangeStore dm)
    {sh' : Shared K V} {pc' : Pc K V} (hex : exec s0.sh t (s0.pc t) = some (sh', pc')) (hs1 : s1 = setPc s0 t sh' pc')
    (k : K) (v : V)
    (hpath : PathAll (sys K V menu n zst) (fun s => absOf s.sh k = some v ∧ s.pc t ≠ .idle) s1 s2) :
    PathAll (sys K V menu n zst) (fun s => Reachable (sys K V menu n zst) s ∧
      match s.pc t with
      | .rangePick todo acc =>
        (k, v) ∈ acc ∨ ∃ e, (k, e) ∈ todo ∧ alookup k s.sh.readM = some e ∧ (getP s.sh e).value? = some v
      | .rangeLoad todo acc k' e' =>
        (k, v) ∈ acc ∨ (k' = k ∧ alookup k s.sh.readM = some e' ∧ (getP s.sh e').value? = some v) ∨
          ∃ e, (k, e) ∈ todo ∧ alookup k s.sh.readM = some e ∧ (getP s.sh e).value? = some v
      | .ret (.pairs acc) => (k, v) ∈ acc
      | _ => False) s1 s2 := by
  obtain ⟨a, _, hR⟩ := reachable_R h0
  have h1 : Reachable (sys K V menu n zst) s1 := Reachable.step h0 (hs1 ▸ succ_of_exec hex)
  have hI1 : InLoopVisit s1.sh k v (s1.pc t) := by
    have habs := hpath.first.1
    rw [hs1] at habs ⊢
    rw [pc_setPc_self (lt_length_of_exec hex)]
    exact inLoopVisit_entry hR hent hex habs
  have hstep : ∀ (s : State K V) (l : Option (SyncMapConc.Event K V)) (s' : State K V),
      Reachable (sys K V menu n zst) s → (absOf s.sh k = some v ∧ s.pc t ≠ .idle) → InLoopVisit s.sh k v (s.pc t) →
      (l, s') ∈ (sys K V menu n zst).succ s → (absOf s'.sh k = some v ∧ s'.pc t ≠ .idle) →
      InLoopVisit s'.sh k v (s'.pc t) := by
    intro s l s' hr _ hI hmem hP'
    obtain ⟨b, _, hRs⟩ := reachable_R hr
    obtain ⟨b', _, hRs'⟩ := reachable_R (Reachable.step hr hmem)
    exact inLoopVisit_step hRs hRs' hmem hI hP'.1 hP'.2
  refine (PathAll.strengthen (sys := sys K V menu n zst) hstep hpath h1 hI1).mono fun s h => ⟨h.1, ?_⟩
  obtain ⟨_, _, hI⟩ := h
  generalize s.pc t = pc at hI
  cases hI with
  | pick h => exact h
  | ret h => exact h
  | load h =>
    refine h.imp_right fun ⟨e, he, hk⟩ => ?_
    rcases List.mem_cons.mp he with h1 | h1
    · cases h1
      exact Or.inl ⟨rfl, hk⟩
    · exact Or.inr ⟨e, h1, hk⟩

/-- **Present and untouched for the whole call ⇒ passed to `f` with that value.**  With `s0`, `s1` as above: if there is
an execution from `s1` to a state `s2` in which goroutine `t` is about to return from `Range` with the callback sequence
`l`, and in every state of that execution (both ends included) the abstract map has `k ↦ v` and goroutine `t` is still
inside the call, then `f` was called with `(k, v)`: `(k, v) ∈ l`.
Claimed: for every schedule of the other goroutines (they may store, delete, promote, expunge other keys; they may even
store `v` again under `k`).  Not claimed: anything for a key whose value changes, or that is absent in some state of
the call (`conc_range_value` / `conc_range_skip` say what happens then); nothing about the order of `l`. -/
theorem conc_range_untouched (menu : List (Op K V)) (n : Nat) (zst : Bool) {s0 s1 s2 : State K V}
    (h0 : Reachable (sys K V menu n zst) s0) (t : Tid)
    (hent : (s0.pc t = .rangeRead1 ∧ s0.sh.amended = false) ∨ (s0.pc t = .rangeRead2 ∧ s0.sh.amended = false) ∨
      ∃ dm, s0.pc t = .rangeStore dm)
    {sh' : Shared K V} {pc' : Pc K V} (hex : exec s0.sh t (s0.pc t) = some (sh', pc')) (hs1 : s1 = setPc s0 t sh' pc')
    (k : K) (v : V)
    (hpath : PathAll (sys K V menu n zst) (fun s => absOf s.sh k = some v ∧ s.pc t ≠ .idle) s1 s2)
    {l : List (K × V)} (hret : s2.pc t = .ret (.pairs l)) :
    (k, v) ∈ l := by
  have h := (conc_range_untouched_loop menu n zst h0 t hent hex hs1 k v hpath).last.2
  rw [hret] at h
  exact h

/-! Non-vacuity: the hypotheses of `conc_range_untouched` (and of `conc_range_untouched_loop`) are satisfiable, with a
second goroutine writing the map during the call.  Two goroutines, menu `Store(1,5)`, `Range`, `Store(2,7)`;
`runSched` replays a schedule (index of the successor taken at each step), `checkPath` replays it checking every
visited state (`pathAll_of_checkPath`). -/

private abbrev sysTr : Sys := sys Int Int [.store 1 5, .range, .store 2 7] 2 false
/-- goroutine 0: `Store(1,5)` (8 steps), then `Range` up to `Range.readStore1` (the inline promotion) -/
private abbrev schedEnter : List Nat := [0, 0, 0, 0, 0, 0, 0, 0] ++ [1, 0, 0, 0, 0]
/-- from the state after the promotion: goroutine 1 runs `Store(2,7)` through `dirtyLocked` up to `Store.readStore1`
(8 steps), goroutine 0 picks `(1, e0)`, goroutine 1 publishes the amended `read`, adds the new entry and returns
(2 steps), goroutine 0 loads `e0.p` and calls `f(1,5)` -/
private abbrev schedCall : List Nat := [3, 1, 1, 1, 1, 1, 1, 1] ++ [0] ++ [1, 1] ++ [0]

/-- entering by `Range.readStore1`; during the call goroutine 1 stores the DIFFERENT key 2 (taking the slow path:
`dirtyLocked`, `read.Store(amended)`, new dirty entry); key 1 has the value 5 in all 13 states of the call; goroutine 0
ends at `ret (.pairs [(1,5)])` in a state where key 2 is present -/
example : ∃ (s0 s1 s2 : State Int Int) (sh' : Shared Int Int) (pc' : Pc Int Int) (l : List (Int × Int)),
    Reachable sysTr s0 ∧ (∃ dm, s0.pc 0 = .rangeStore dm) ∧ exec s0.sh 0 (s0.pc 0) = some (sh', pc') ∧
    s1 = setPc s0 0 sh' pc' ∧
    PathAll sysTr (fun s => absOf s.sh 1 = some 5 ∧ s.pc 0 ≠ .idle) s1 s2 ∧
    s2.pc 0 = .ret (.pairs l) ∧ absOf s1.sh 2 = none ∧ absOf s2.sh 2 = some 7 :=
  ⟨runSched sysTr schedEnter sysTr.init, runSched sysTr (schedEnter ++ [0]) sysTr.init,
    runSched sysTr schedCall (runSched sysTr (schedEnter ++ [0]) sysTr.init),
    (runSched sysTr (schedEnter ++ [0]) sysTr.init).sh, (runSched sysTr (schedEnter ++ [0]) sysTr.init).pc 0, [(1, 5)],
    reachable_runSched _ Reachable.init, ⟨[(1, 0)], by decide +kernel⟩, by decide +kernel, by decide +kernel,
    (pathAll_of_checkPath (sys := sysTr) (fun s => decide (absOf s.sh 1 = some 5 ∧ s.pc 0 ≠ .idle)) schedCall
      (by decide +kernel)).mono (fun _ h => of_decide_eq_true h),
    by decide +kernel, by decide +kernel, by decide +kernel⟩

/-- entering by the fast path `Range.readLoad1` (`read` not amended: a first `Range` has promoted), one goroutine -/
example : ∃ (s0 s1 s2 : State Int Int) (sh' : Shared Int Int) (pc' : Pc Int Int) (l : List (Int × Int)),
    Reachable sysTr s0 ∧ (s0.pc 0 = .rangeRead1 ∧ s0.sh.amended = false) ∧
    exec s0.sh 0 (s0.pc 0) = some (sh', pc') ∧ s1 = setPc s0 0 sh' pc' ∧
    PathAll sysTr (fun s => absOf s.sh 1 = some 5 ∧ s.pc 0 ≠ .idle) s1 s2 ∧ s2.pc 0 = .ret (.pairs l) :=
  ⟨runSched sysTr (schedEnter ++ [0, 0, 0, 0] ++ [1, 0]) sysTr.init,
    runSched sysTr (schedEnter ++ [0, 0, 0, 0] ++ [1, 0] ++ [0]) sysTr.init,
    runSched sysTr [0, 0] (runSched sysTr (schedEnter ++ [0, 0, 0, 0] ++ [1, 0] ++ [0]) sysTr.init),
    (runSched sysTr (schedEnter ++ [0, 0, 0, 0] ++ [1, 0] ++ [0]) sysTr.init).sh,
    (runSched sysTr (schedEnter ++ [0, 0, 0, 0] ++ [1, 0] ++ [0]) sysTr.init).pc 0, [(1, 5)],
    reachable_runSched _ Reachable.init, ⟨by decide +kernel, by decide +kernel⟩, by decide +kernel, by decide +kernel,
    (pathAll_of_checkPath (sys := sysTr) (fun s => decide (absOf s.sh 1 = some 5 ∧ s.pc 0 ≠ .idle)) [0, 0]
      (by decide +kernel)).mono (fun _ h => of_decide_eq_true h),
    by decide +kernel⟩

/-- `conc_step_no_expunge`: a reachable state with an entry holding a value, and a successor -/
example : ∃ (s s' : State Int Int) (l : Option (SyncMapConc.Event Int Int)),
    Reachable sysTr s ∧ (l, s') ∈ succ [.store 1 5, .range, .store 2 7] s ∧ isVal (getP s.sh 0) = true :=
  ⟨runSched sysTr schedEnter sysTr.init, runSched sysTr (schedEnter ++ [0]) sysTr.init, none,
    reachable_runSched _ Reachable.init, by decide +kernel, by decide +kernel⟩

end C04
