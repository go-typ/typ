import TypVerif.Lemmas.ObjCompleteLin
import TypVerif.Props.C05accept
/-
C05 — THE API-LEVEL SET JUDGE DECIDES LINEARIZABILITY EXACTLY on histories of single operations (completeness of the
acceptance of `Drv/ObjLin.lean`, set mode `cset`; the soundness half is `Props/C05accept.lean`).

The fold: `runLines (step j0 [cset] impl0).1 lines` over lines all covered by `SetLine` (event lines `inv t add|remove|has v`,
`res t true|false`; skipped lines `inv t len`, `res t <int>`, `step _ _`, `iter _ _`); `tr` = the history.
LEFT OUT, as in `C05accept`: the composite operations `addset` / `removeset`.
Bounded concurrency: `InvBelow 24 lines` — every invocation line (including `inv t len`) is by a goroutine `< 24`.

  `objlin_set_decides`           the state set `cs` is non-empty  ↔  `tr` is linearizable w.r.t. `MapObj.setSpec`
  `objlin_accept_complete`       linearizable ⇒ the verdict is never `not-linearizable`
  `objlin_verdict`               `violated = none` ⇒ linearizable;  `violated = some "not-linearizable"` ⇒ not linearizable
(the flag `violated` is shared with the `count` check of `len`).
-/
namespace C05
open TypVerif TypVerif.Conc TypVerif.Model TypVerif.Proto TypVerif.Drv.ObjLin
open TypVerif.Lemmas.ObjAcceptLin (SEvent SetLine Lines runLines)
open TypVerif.Lemmas.ObjCompleteLin (InvBelow)

/-- with no composite in progress the composite closure changes nothing: it adds no state (`objlin_compClosure_sub`) and
loses none -/
theorem objlin_compClosure_sup (n fuel : Nat) (cs : List CSt) : ∀ c ∈ cs, c ∈ compClosure n fuel cs :=
  fun c h => Lemmas.ObjCompleteLin.mem_compClosure n fuel cs c h

/-- the state of every execution of every `AtomicObj.sys setSpec menu N` with visible trace `tr` is in the set -/
theorem objlin_set_full (j0 : JSt) (impl0 : String) (lines : List (List Val × String)) (tr : List SEvent)
    (hl : Lines SetLine lines tr) (hib : InvBelow 24 lines) :
    ∃ n0, n0 ≤ (runLines (step j0 [.w "cset"] impl0).1 lines).st.n ∧
      Lemmas.ObjCompleteLin.FullC n0 tr (runLines (step j0 [.w "cset"] impl0).1 lines).cs :=
  have h := (Lemmas.ObjCompleteLin.set_track j0 impl0 lines tr hl).2.2
  (h.track trivial).2 (h.le hib)

/-- **the set judge decides linearizability** of histories of single operations with goroutine ids `< 24` -/
theorem objlin_set_decides (j0 : JSt) (impl0 : String) (lines : List (List Val × String)) (tr : List SEvent)
    (hl : Lines SetLine lines tr) (hib : InvBelow 24 lines) :
    (runLines (step j0 [.w "cset"] impl0).1 lines).cs ≠ [] ↔ AtomicObj.Linearizable MapObj.setSpec tr :=
  have h := (Lemmas.ObjCompleteLin.set_track j0 impl0 lines tr hl).2.2
  ⟨Lemmas.ObjCompleteLin.trackC_tracks.sound (h.track trivial),
   Lemmas.ObjCompleteLin.trackC_tracks.complete (h.track trivial) (h.le hib)⟩

/-- **acceptance is complete**: a linearizable history is never flagged `not-linearizable` -/
theorem objlin_accept_complete (j0 : JSt) (impl0 : String) (lines : List (List Val × String)) (tr : List SEvent)
    (hl : Lines SetLine lines tr) (hib : InvBelow 24 lines) (hlin : AtomicObj.Linearizable MapObj.setSpec tr) :
    (runLines (step j0 [.w "cset"] impl0).1 lines).st.violated ≠ some "not-linearizable" :=
  have h := (Lemmas.ObjCompleteLin.set_track j0 impl0 lines tr hl).2.2
  fun hv => h.complete hv (h.le hib) hlin

/-- both verdicts about linearizability are correct -/
theorem objlin_verdict (j0 : JSt) (impl0 : String) (lines : List (List Val × String)) (tr : List SEvent)
    (hl : Lines SetLine lines tr) (hib : InvBelow 24 lines) :
    ((runLines (step j0 [.w "cset"] impl0).1 lines).st.violated = none → AtomicObj.Linearizable MapObj.setSpec tr) ∧
    ((runLines (step j0 [.w "cset"] impl0).1 lines).st.violated = some "not-linearizable" →
      ¬ AtomicObj.Linearizable MapObj.setSpec tr) :=
  ⟨fun hv => objlin_accepted_history_linearizable j0 impl0 lines tr hl hv,
   fun hv hlin => objlin_accept_complete j0 impl0 lines tr hl hib hlin hv⟩

end C05

#print axioms C05.objlin_compClosure_sup
#print axioms C05.objlin_set_full
#print axioms C05.objlin_set_decides
#print axioms C05.objlin_accept_complete
#print axioms C05.objlin_verdict
