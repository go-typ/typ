import TypVerif.Lemmas.FilterMask
import TypVerif.Gen.BimapShapes
import TypVerif.Gen.MapsShapes
/-
C11, tie 4B — GOLDEN FUNCTION SHAPES (written by tools/mkshapes.py; do not edit by hand).  For every function of the source files this property's model mirrors,
the extractor regenerates on every run: its calls, its stores through selectors / indices / pointers, its conditions and loop headers, its select cases and
its return expressions, in source order.  The theorems below state that these equal the shapes of the tree the model was written against.  They are the STATIC,
all-paths complement of the differential runs: a guard dropped, a fast path or a threshold added, an early return, a changed comparison or a different callee
on ANY path - also one that no generated input happens to take - changes the regenerated list and breaks the evaluation (`rfl`; for a list filtered by function name the mask of `Lemmas/FilterMask.lean`, then `rfl`).  A broken shape theorem is reported like a
broken proof (with a failing input when the search finds one, else `no-failing-input-found`); after a deliberate change of the source the changed functions are
re-read against the model and this file is regenerated.
-/
namespace C11

/-- maps/bimap.go: 11 function(s) -/
theorem gen_shapes_bimap :
    Gen.BimapShapes.funcs =
      [("Bimap.Len", ["if b == nil", "return 0", "return len(b.forward)", "call len"]),
       ("Bimap.Add", ["if oldVal, ok := b.GetForward(key); ok", "call b.GetForward", "call delete", "if oldKey, ok := b.GetReverse(value); ok", "call b.GetReverse", "call delete", "if b.forward == nil", "store b.forward", "call make", "store b.reverse", "call make", "store b.forward[key]", "store b.reverse[value]"]),
       ("Bimap.RemoveForward", ["if value, ok := b.forward[key]; ok", "call delete", "call delete"]),
       ("Bimap.RemoveReverse", ["if key, ok := b.reverse[value]; ok", "call delete", "call delete"]),
       ("Bimap.Range", ["range b.forward", "if !f(k, v)", "call f", "return "]),
       ("Bimap.ContainsForward", ["return ok"]),
       ("Bimap.GetForward", ["return value, ok"]),
       ("Bimap.ContainsReverse", ["return ok"]),
       ("Bimap.GetReverse", ["return key, ok"]),
       ("Bimap.Clear", ["call Clear", "call Clear"]),
       ("Bimap.Clone", ["return Bimap[K, V]{…}", "call Clone", "call Clone"])] := rfl

/-- maps/maps.go, Clear and Clone - DEPENDENCIES of Bimap.Clear / Clone: 2 function(s) -/
theorem gen_shapes_dep_maps :
    Gen.MapsShapes.funcs.filter (fun f => (["Clear", "Clone"]).contains f.1) =
      [("Clone", ["call make", "call len", "range m", "store newMap[k]", "return newMap"]),
       ("Clear", ["range m", "call delete"])] :=
  (TypVerif.Lemmas.filter_of_mask _ _ [false, false, true, true, false, false, false] (by decide +kernel)).trans rfl

end C11
