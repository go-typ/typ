import TypVerif.Lemmas.FilterMask
import TypVerif.Gen.SlicesShapes
import TypVerif.Gen.SortedShapes
/-
C07, tie 4B — GOLDEN FUNCTION SHAPES (written by tools/mkshapes.py; do not edit by hand).  For every function of the source files this property's model mirrors,
the extractor regenerates on every run: its calls, its stores through selectors / indices / pointers, its conditions and loop headers, its select cases and
its return expressions, in source order.  The theorems below state that these equal the shapes of the tree the model was written against.  They are the STATIC,
all-paths complement of the differential runs: a guard dropped, a fast path or a threshold added, an early return, a changed comparison or a different callee
on ANY path - also one that no generated input happens to take - changes the regenerated list and breaks the evaluation (`rfl`; for a list filtered by function name the mask of `Lemmas/FilterMask.lean`, then `rfl`).  A broken shape theorem is reported like a
broken proof (with a failing input when the search finds one, else `no-failing-input-found`); after a deliberate change of the source the changed functions are
re-read against the model and this file is regenerated.
-/
namespace C07

/-- slices/sorted.go: 11 function(s) -/
theorem gen_shapes_sorted :
    Gen.SortedShapes.funcs =
      [("NewSorted", ["call make", "call len", "call copy", "call sort.SliceStable", "return less(slice[i], slice[j])", "call less", "return Sorted[E]{…}"]),
       ("NewSortedOrdered", ["return NewSorted(values, typ.Less[T])", "call NewSorted"]),
       ("Sorted.String", ["return fmt.Sprint(s.slice)", "call fmt.Sprint"]),
       ("Sorted.Get", ["if index < 0 || index >= s.Len()", "call s.Len", "call panic", "call fmt.Sprintf", "call s.Len", "return s.slice[index]"]),
       ("Sorted.Len", ["if s == nil", "return 0", "return len(s.slice)", "call len"]),
       ("Sorted.Add", ["if s == nil", "call panic", "call s.search", "call Insert", "return index"]),
       ("Sorted.RemoveAt", ["if index < 0 || index >= s.Len()", "call s.Len", "call panic", "call fmt.Sprintf", "call s.Len", "call Remove"]),
       ("Sorted.Remove", ["call s.Index", "if index == -1", "return -1", "call Remove", "return index"]),
       ("Sorted.Contains", ["return s.Index(value) != -1", "call s.Index"]),
       ("Sorted.Index", ["call s.search", "if index < 0 || index >= s.Len() || s.slice[index] != value", "call s.Len", "return -1", "return index"]),
       ("Sorted.search", ["if s.less == nil", "call panic", "return sort.Search(len(s.slice), (func(i int) bool literal))", "call sort.Search", "call len", "return !s.less(s.slice[i], value)", "call s.less"])] := rfl

/-- slices/slices.go, Insert and Remove - DEPENDENCIES of Sorted.Add / Remove / RemoveAt: 2 function(s) -/
theorem gen_shapes_dep_insert_remove :
    Gen.SlicesShapes.funcs.filter (fun f => (["Insert", "Remove"]).contains f.1) =
      [("Insert", ["store *slice", "call append", "call copy", "store (*slice)[index]"]),
       ("Remove", ["call copy", "store *slice", "call len"])] :=
  (TypVerif.Lemmas.filter_of_mask _ _ [false, true, false, true, false, false, false, false, false, false, false, false, false, false, false, false, false, false, false, false, false, false, false, false, false, false, false, false, false, false, false, false, false, false, false, false, false, false, false, false, false, false] (by decide +kernel)).trans rfl

end C07
