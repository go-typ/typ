import TypVerif.Lemmas.ObjAccept
import TypVerif.Lemmas.ObjCompleteLin
import TypVerif.Props.C18
/-
C05 — ACCEPTANCE IS SOUND for the API-level judge `Drv/ObjLin.lean`, set mode (`cset`), for histories of SINGLE
`sync2.Set` operations (Add / Remove / Has): an accepted history is linearizable w.r.t. the set specification
`MapObj.setSpec` (the judge's states are accounted for by executions, `ObjAccept.Acc`, and every execution is linearizable),
hence (`ObjComplete.exec_of_linearizable`) the visible trace of an execution of `AtomicObj.sys MapObj.setSpec menu N` from
its initial state.

The fold the theorems are about: `runLines (step j0 [cset] impl0).1 lines` — the real `Drv.ObjLin.step`, started with the
header line `cset` in any judge state, folded over lines that are all covered by `SetLine`:
  event lines      `inv t add|remove|has v` (exactly one integer argument), `res t true|false`;
  skipped lines    `inv t len`, `res t <int>` (Len is a Range count: the judge only checks `≥ 0`; NOT part of this
                   statement), `step _ _`, `iter _ _`.
LEFT OUT: the composite operations `addset` / `removeset` (expanded by the judge into element operations with
existentially chosen results, `compClosure`): a history containing such a line is not covered by `SetLine`.  With no
composite in progress `compClosure` adds nothing (`objlin_compClosure_sub`) and `liftStep` is `stepObj` on each state.
"Accepted": `violated = none` at the end, i.e. every output so far was `ok`.  Soundness only here; the converse is
`objlin_accept_complete` (`Props/C05complete.lean`).
-/
namespace C05
open TypVerif TypVerif.Conc TypVerif.Model TypVerif.Proto TypVerif.Drv.ObjLin
open TypVerif.Lemmas.ObjAcceptLin (SEvent SetLine Lines runLines sopOf OnlyLen)

/-- without composites in progress the composite closure adds no state -/
theorem objlin_compClosure_sub (n fuel : Nat) (cs : List CSt) (h : ∀ c ∈ cs, c.prog = []) :
    ∀ c ∈ compClosure n fuel cs, c ∈ cs :=
  Lemmas.ObjAcceptLin.compClosure_sub n fuel cs h

/-- what a covered line does to the set-mode state (as long as only `len` calls are pending among the multi-element
calls): the mode is kept, and if no violation is reported afterwards, none was reported before and — event line — the
state set was stepped by `liftStep` (with some number of goroutines) and is non-empty, — skipped line — it is unchanged -/
theorem objlin_step_set (j : JSt) (toks : List Val) (impl : String) (oe : Option SEvent) (hmode : j.st.mode = 2)
    (hol : OnlyLen j.st) (h : SetLine toks oe) :
    (step j toks impl).1.st.mode = 2 ∧ OnlyLen (step j toks impl).1.st ∧
    ((step j toks impl).1.st.violated = none → j.st.violated = none ∧
      (match (generalizing := false) oe with
       | some e => (∃ n, (step j toks impl).1.cs = liftStep n j.cs e) ∧ (step j toks impl).1.cs ≠ []
       | none => (step j toks impl).1.cs = j.cs)) := by
  obtain ⟨hst, hcs⟩ := Lemmas.ObjAcceptLin.step_set j toks impl oe hmode h
  rw [hst, hcs]
  obtain ⟨h1, h2, h3⟩ := Lemmas.ObjAcceptLin.stepSet_spec j.st j.cs toks oe h hol
  exact ⟨h1.trans hmode, h2, fun h0 => ⟨(h3.ok h0).1, by cases oe <;> exact (h3.ok h0).2⟩⟩

/-- **ObjLin judge, set mode**: an accepted history of single set operations is the visible trace of an execution of the
atomic set object -/
theorem objlin_accept_sound (j0 : JSt) (impl0 : String) (lines : List (List Val × String)) (tr : List SEvent)
    (hl : Lines SetLine lines tr) (hok : (runLines (step j0 [.w "cset"] impl0).1 lines).st.violated = none) :
    ∃ (N : Nat) (menu : List MapObj.SOp) (ls : List (Option SEvent)) (s : SSt),
      Exec (AtomicObj.sys MapObj.setSpec menu N) (AtomicObj.sys MapObj.setSpec menu N).init ls s ∧ visible ls = tr :=
  Lemmas.ObjComplete.exec_of_linearizable MapObj.setSpec
    ((Lemmas.ObjCompleteLin.set_track j0 impl0 lines tr hl).2.2.sound hok)

/-- an accepted history of single set operations is linearizable w.r.t. the set specification -/
theorem objlin_accepted_history_linearizable (j0 : JSt) (impl0 : String) (lines : List (List Val × String))
    (tr : List SEvent) (hl : Lines SetLine lines tr)
    (hok : (runLines (step j0 [.w "cset"] impl0).1 lines).st.violated = none) :
    AtomicObj.Linearizable MapObj.setSpec tr :=
  (Lemmas.ObjCompleteLin.set_track j0 impl0 lines tr hl).2.2.sound hok

/-! non-vacuity: `add 5 ‖ has 5 → true` is accepted; a second successful `add 5` is not -/
example : (runLines (step {} [.w "cset"] "").1
    [([.w "inv", .i 0, .w "add", .i 5], ""), ([.w "inv", .i 1, .w "has", .i 5], ""), ([.w "res", .i 1, .w "true"], ""),
     ([.w "res", .i 0, .w "true"], "")]).st.violated = none := by decide +kernel
example : Lines SetLine
    [([.w "inv", .i 0, .w "add", .i 5], ""), ([.w "inv", .i 1, .w "has", .i 5], ""), ([.w "res", .i 1, .w "true"], ""),
     ([.w "res", .i 0, .w "true"], "")]
    [.inv 0 (.add 5), .inv 1 (.has 5), .res 1 true, .res 0 true] :=
  .ev (.inv 0 "add" [.i 5] 5 (by decide) (by decide)) (.ev (.inv 1 "has" [.i 5] 5 (by decide) (by decide))
    (.ev (.res 1 "true" (by decide)) (.ev (.res 0 "true" (by decide)) .nil)))
example : (runLines (step {} [.w "cset"] "").1
    [([.w "inv", .i 0, .w "add", .i 5], ""), ([.w "res", .i 0, .w "true"], ""),
     ([.w "inv", .i 1, .w "add", .i 5], ""), ([.w "res", .i 1, .w "true"], "")]).st.violated
      = some "not-linearizable" := by decide +kernel

end C05

#print axioms C05.objlin_compClosure_sub
#print axioms C05.objlin_step_set
#print axioms C05.objlin_accept_sound
#print axioms C05.objlin_accepted_history_linearizable
