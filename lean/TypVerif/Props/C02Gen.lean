import TypVerif.Gen.Avl
import TypVerif.Props.C01Shapes
import TypVerif.Model.Avl
import TypVerif.Lemmas.AvlBasic
/-
C02, tie 4B: the height convention, the balance thresholds, calcHeight and the rebalance guards REGENERATED from
avl/avl.go on every run equal the integer kernels of the hand-written model (`Model.Avl.*K`), which
`Lemmas.Avl.hgt_kernel … rebalance_kernel` show to be what the model functions compute.  A change of a constant
or of a guard in the Go source changes `Gen.Avl.*` and these must re-check.
-/
namespace C02
open TypVerif.Model.Avl

/-- `leftHeight()`/`rightHeight()` of a nil child: the convention nil = -1 (a leaf has height 0) -/
theorem gen_nilHeight : Gen.Avl.leftHeightNil = nilHeightK ∧ Gen.Avl.rightHeightNil = nilHeightK := by
  unfold Gen.Avl.leftHeightNil Gen.Avl.rightHeightNil nilHeightK; omega

theorem gen_balance (lh rh : Int) : Gen.Avl.balance lh rh = balanceK lh rh := by
  unfold Gen.Avl.balance balanceK
  by_cases h1 : lh - rh > 1 <;> by_cases h2 : rh - lh > 1 <;> simp [h1, h2]

theorem gen_calcHeight (ln rn : Bool) (lh rh : Int) : Gen.Avl.calcHeight ln rn lh rh = calcHeightK ln rn lh rh := by
  unfold Gen.Avl.calcHeight calcHeightK
  cases ln <;> cases rn <;> simp

/-- the branch taken by `rebalance()`, reassembled from the regenerated guards, is the model's `rebalanceK` -/
theorem gen_rebalance (bal : Int) (rNonNil : Bool) (rl rr : Int) (lNonNil : Bool) (lr ll : Int) :
    (if Gen.Avl.rightHeavyCase bal then (if Gen.Avl.doubleLeftRight (!rNonNil) rl rr then 2 else 1)
     else if Gen.Avl.leftHeavyCase bal then (if Gen.Avl.doubleRightLeft (!lNonNil) ll lr then 4 else 3)
     else 0) = rebalanceK bal rNonNil rl rr lNonNil lr ll := by
  unfold Gen.Avl.rightHeavyCase Gen.Avl.leftHeavyCase Gen.Avl.doubleLeftRight Gen.Avl.doubleRightLeft rebalanceK
  by_cases h1 : bal = 1
  · cases rNonNil <;> by_cases c : rl > rr <;> simp [h1, c]
  · by_cases h2 : bal = -1
    · cases lNonNil <;> by_cases c : lr > ll <;> simp [h2, c]
    · simp [h1, h2]

/-- a node is reported heavy exactly when the heights differ by more than one -/
theorem gen_balance_zero_iff (lh rh : Int) : Gen.Avl.balance lh rh = 0 ↔ (lh - rh ≤ 1 ∧ rh - lh ≤ 1) := by
  rw [gen_balance]; unfold balanceK
  by_cases h1 : lh - rh > 1 <;> by_cases h2 : rh - lh > 1 <;> simp [h1, h2] <;> omega

example : Gen.Avl.calcHeight true true (-1) (-1) = 0 := by decide
example : Gen.Avl.balance 1 (-1) = -1 := by decide

/-- the function shapes of avl.go (recursion structure, stores, conditions, returns), regenerated on every run, are the ones the model mirrors
(`C01.gen_shapes_avl`): a skipped rebalance or an early return on any path is a broken obligation of C02 as well -/
theorem gen_avl_function_shapes : Gen.AvlShapes.funcs.length = 34 ∧ (Gen.AvlShapes.funcs.map Prod.fst).Nodup :=
  ⟨by rw [C01.gen_shapes_avl]; rfl, by rw [C01.gen_shapes_avl]; decide⟩

end C02
