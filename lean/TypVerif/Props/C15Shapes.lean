import TypVerif.Lemmas.FilterMask
import TypVerif.Gen.SortShapes
/-
C15, tie 4B — GOLDEN FUNCTION SHAPES (written by tools/mkshapes.py; do not edit by hand).  For every function of the source files this property's model mirrors,
the extractor regenerates on every run: its calls, its stores through selectors / indices / pointers, its conditions and loop headers, its select cases and
its return expressions, in source order.  The theorems below state that these equal the shapes of the tree the model was written against.  They are the STATIC,
all-paths complement of the differential runs: a guard dropped, a fast path or a threshold added, an early return, a changed comparison or a different callee
on ANY path - also one that no generated input happens to take - changes the regenerated list and breaks the evaluation (`rfl`; for a list filtered by function name the mask of `Lemmas/FilterMask.lean`, then `rfl`).  A broken shape theorem is reported like a
broken proof (with a failing input when the search finds one, else `no-failing-input-found`); after a deliberate change of the source the changed functions are
re-read against the model and this file is regenerated.
-/
namespace C15

/-- slices/sort.go: 16 function(s) -/
theorem gen_shapes_sort :
    Gen.SortShapes.funcs.filter (fun f => !(["Reverse"]).contains f.1) =
      [("sortOrdered.Len", ["return len(s)", "call len"]),
       ("sortOrdered.Swap", ["store s[i]", "store s[j]"]),
       ("sortOrdered.Less", ["return s[i] < s[j]"]),
       ("sortLess.Len", ["return len(s.slice)", "call len"]),
       ("sortLess.Swap", ["store s.slice[i]", "store s.slice[j]"]),
       ("sortLess.Less", ["return s.less(s.slice[i], s.slice[j])", "call s.less"]),
       ("Sort", ["call sort.Sort", "call sortOrdered[E]"]),
       ("SortFunc", ["call sort.Sort"]),
       ("SortDesc", ["call sort.Sort", "call sort.Reverse", "call sortOrdered[E]"]),
       ("SortDescFunc", ["call sort.Sort", "call sort.Reverse"]),
       ("SortStableFunc", ["call sort.Stable"]),
       ("SortStableDescFunc", ["call sort.Stable", "call sort.Reverse"]),
       ("Shuffle", ["call rand.Shuffle", "call len", "store slice[i]", "store slice[j]"]),
       ("ShuffleRand", ["call rand.Shuffle", "call len", "store slice[i]", "store slice[j]"]),
       ("BinarySearch", ["return sort.Search(len(slice), (func(i int) bool literal))", "call sort.Search", "call len", "return slice[i] >= value"]),
       ("BinarySearchFunc", ["return sort.Search(len(slice), (func(i int) bool literal))", "call sort.Search", "call len", "return !less(slice[i])", "call less"])] :=
  (TypVerif.Lemmas.filter_of_mask _ _ [true, true, true, true, true, true, true, true, true, true, true, true, false, true, true, true, true] (by decide +kernel)).trans rfl

end C15
