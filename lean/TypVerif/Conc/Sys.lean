/-
Transition-system framework for the schedule-quantified properties (DESIGN §7.1).

A system has finitely-branching nondeterministic successors; a successor is labelled by a visible
event (`some e`: something the harness can observe on the real code — an invocation, a response, a
callback, a receive) or is internal (`none`: an atomic step of some thread, a timer firing, a choice).
`Reachable` is the closure over all successors = all schedules, any number of steps.
A property of every schedule is `∀ s, Reachable sys s → P s`, proved by `invariant`.

Trace acceptance (DESIGN §4C): `accepts sys fuel tr` searches, by a subset construction over the
fuel-bounded internal closure, for an execution whose visible events are exactly `tr`; the driver runs it
on event traces recorded from the real code.  It is sound for every `fuel` (`accepts_sound` in
`Lemmas/ConcAccept.lean`: `true` yields such an execution), and the judge theorems rest on that; with too
little fuel it may answer `false` for a trace the system has.
-/
namespace TypVerif.Conc

structure Sys where
  State : Type
  Event : Type
  init : State
  succ : State → List (Option Event × State)

inductive Reachable (sys : Sys) : sys.State → Prop where
  | init : Reachable sys sys.init
  | step {s s' : sys.State} {l : Option sys.Event} : Reachable sys s → (l, s') ∈ sys.succ s → Reachable sys s'

/-- invariant rule that may use reachability of the pre-state (for invariants that build on others) -/
theorem invariant' (sys : Sys) (P : sys.State → Prop)
    (h0 : P sys.init)
    (hstep : ∀ s l s', Reachable sys s → P s → (l, s') ∈ sys.succ s → P s') :
    ∀ s, Reachable sys s → P s := by
  intro s hr
  induction hr with
  | init => exact h0
  | step hr' hmem ih => exact hstep _ _ _ hr' ih hmem

theorem invariant (sys : Sys) (P : sys.State → Prop)
    (h0 : P sys.init)
    (hstep : ∀ s l s', P s → (l, s') ∈ sys.succ s → P s') :
    ∀ s, Reachable sys s → P s :=
  invariant' sys P h0 fun s l s' _ => hstep s l s'

/-- executions as lists of labelled steps, for trace-shaped statements -/
inductive Exec (sys : Sys) : sys.State → List (Option sys.Event) → sys.State → Prop where
  | nil (s) : Exec sys s [] s
  | cons {s s' s'' l ls} : (l, s') ∈ sys.succ s → Exec sys s' ls s'' → Exec sys s (l :: ls) s''

def visible {ε : Type} (ls : List (Option ε)) : List ε := ls.filterMap id

section Accept
variable (sys : Sys) [BEq sys.State] [BEq sys.Event]

def dedup {α : Type} [BEq α] (xs : List α) : List α :=
  xs.foldl (fun acc x => if acc.contains x then acc else acc ++ [x]) []

/-- internal closure of a state set, fuel-bounded; returns `ss` early when a round adds no state
(lengths compared after `dedup`) -/
def tauClosure : Nat → List sys.State → List sys.State
  | 0, ss => ss
  | fuel + 1, ss =>
    let next := ss.flatMap (fun s => (sys.succ s).filterMap (fun p => match p.1 with | none => some p.2 | some _ => none))
    let all := dedup (ss ++ next)
    if all.length == ss.length then ss else tauClosure fuel all

def stepEvent (fuel : Nat) (ss : List sys.State) (e : sys.Event) : List sys.State :=
  let next := ss.flatMap (fun s => (sys.succ s).filterMap (fun p => match p.1 with | some e' => if e' == e then some p.2 else none | none => none))
  tauClosure sys fuel (dedup next)

/-- states the system can be in after exhibiting the visible trace `tr`: those the fuel-bounded closure reaches (all of them
only when `fuel` suffices) -/
def after (fuel : Nat) (tr : List sys.Event) : List sys.State :=
  tr.foldl (stepEvent sys fuel) (tauClosure sys fuel [sys.init])

def accepts (fuel : Nat) (tr : List sys.Event) : Bool := !(after sys fuel tr).isEmpty
end Accept

end TypVerif.Conc
