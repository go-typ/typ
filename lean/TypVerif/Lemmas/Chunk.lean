import TypVerif.Model.Chunk
import TypVerif.Spec.Chunk
/-
Every function of C13 is `(List.range lim).map f`: the model's loops by `setLoop_run` / `pushLoop_run` (stated for any loop with
the two loop equations), the specifications by their closed forms (`chunks_eq_map`).
-/
namespace TypVerif.Lemmas.Chunk
open TypVerif

variable {α : Type}

theorem div_mul_le_and_rem_lt (n size : Nat) (hz : 0 < size) :
    n / size * size ≤ n ∧ n - n / size * size < size := by
  have hdm := Nat.div_add_mod n size
  have hmod := Nat.mod_lt n hz
  have hcomm : size * (n / size) = n / size * size := Nat.mul_comm _ _
  omega

theorem ceilDiv_eq {n size : Nat} (hz : 0 < size) :
    Spec.Chunk.ceilDiv n size = if n / size * size = n then n / size else n / size + 1 := by
  have ⟨h1, h2⟩ := div_mul_le_and_rem_lt n size hz
  unfold Spec.Chunk.ceilDiv
  by_cases h : n / size * size = n
  · rw [if_pos h]
    exact Nat.div_eq_of_lt_le (by omega) (by rw [Nat.succ_mul]; omega)
  · rw [if_neg h]
    exact Nat.div_eq_of_lt_le (by rw [Nat.succ_mul]; omega) (by rw [Nat.succ_mul, Nat.succ_mul]; omega)

theorem kernel_lim {n size : Nat} (hz : 0 < size) :
    (Model.Chunk.kernel n size).2.2 = Spec.Chunk.ceilDiv n size := by
  unfold Model.Chunk.kernel
  simp only [bne_iff_ne, ne_eq, ite_not]
  exact (ceilDiv_eq hz).symm

theorem ceilDiv_succ {n size : Nat} (hz : 0 < size) (hn : 0 < n) :
    Spec.Chunk.ceilDiv n size = Spec.Chunk.ceilDiv (n - size) size + 1 := by
  unfold Spec.Chunk.ceilDiv
  by_cases h : size ≤ n
  · rw [← Nat.add_div_right _ hz]; congr 1; omega
  · rw [show n - size = 0 by omega, Nat.zero_add, Nat.div_eq_of_lt (Nat.sub_one_lt (Nat.ne_of_gt hz))]
    exact Nat.div_eq_of_lt_le (by omega) (by omega)

/-- piece `i` exists iff it starts inside the slice -/
theorem lt_ceilDiv {n size i : Nat} (hz : 0 < size) : i < Spec.Chunk.ceilDiv n size ↔ i * size < n := by
  unfold Spec.Chunk.ceilDiv
  rw [Nat.lt_iff_add_one_le, Nat.le_div_iff_mul_le hz, Nat.succ_mul]
  omega

theorem chunks_nil (size : Nat) : Spec.Chunk.chunks size ([] : List α) = [] := by
  rw [Spec.Chunk.chunks]; simp

theorem chunks_step {size : Nat} {s : List α} (hs : s ≠ []) (hz : 0 < size) :
    Spec.Chunk.chunks size s = s.take size :: Spec.Chunk.chunks size (s.drop size) := by
  rw [Spec.Chunk.chunks]
  have : ¬ (s = [] ∨ size = 0) := by
    intro h; cases h with
    | inl h => exact hs h
    | inr h => omega
  simp [this]

theorem chunks_induction {size : Nat} (hz : 0 < size) (P : List α → Prop)
    (hnil : P [])
    (hstep : ∀ s : List α, s ≠ [] → P (s.drop size) → P s) : ∀ s, P s := by
  intro s
  generalize hn : s.length = n
  induction n using Nat.strongRecOn generalizing s with
  | _ n ih =>
    by_cases hs : s = []
    · subst hs; exact hnil
    · have hpos : 0 < s.length := List.length_pos_iff.mpr hs
      exact hstep s hs (ih (s.drop size).length (by rw [List.length_drop]; omega) _ rfl)

theorem chunks_flatten {size : Nat} (hz : 0 < size) (s : List α) :
    (Spec.Chunk.chunks size s).flatten = s := by
  refine chunks_induction hz (fun s => (Spec.Chunk.chunks size s).flatten = s) ?_ ?_ s
  · simp [chunks_nil]
  · intro s hs ih
    rw [chunks_step hs hz, List.flatten_cons, ih, List.take_append_drop]

/-- the pieces in closed form: piece `i` is `s[i*size : i*size+size]`, for `i < ⌈n/size⌉` -/
theorem chunks_eq_map {size : Nat} (hz : 0 < size) (s : List α) :
    Spec.Chunk.chunks size s =
      (List.range (Spec.Chunk.ceilDiv s.length size)).map fun i => (s.drop (i * size)).take size := by
  refine chunks_induction hz (fun s => Spec.Chunk.chunks size s =
      (List.range (Spec.Chunk.ceilDiv s.length size)).map fun i => (s.drop (i * size)).take size) ?_ ?_ s
  · rw [chunks_nil, List.length_nil, Spec.Chunk.ceilDiv, Nat.zero_add, Nat.div_eq_of_lt (Nat.sub_one_lt (Nat.ne_of_gt hz))]; rfl
  · intro s hs ih
    rw [chunks_step hs hz, ih, ceilDiv_succ hz (List.length_pos_iff.mpr hs), List.length_drop,
      List.range_succ_eq_map, List.map_cons, List.map_map, Nat.zero_mul]
    refine congrArg _ (List.map_congr_left fun i _ => ?_)
    show ((s.drop size).drop (i * size)).take size = (s.drop ((i + 1) * size)).take size
    rw [List.drop_drop, Nat.succ_mul, Nat.add_comm]

theorem chunks_length {size : Nat} (hz : 0 < size) (s : List α) :
    (Spec.Chunk.chunks size s).length = Spec.Chunk.ceilDiv s.length size := by
  rw [chunks_eq_map hz, List.length_map, List.length_range]

theorem chunks_mem_bounds {size : Nat} (hz : 0 < size) (s : List α) :
    ∀ c ∈ Spec.Chunk.chunks size s, 0 < c.length ∧ c.length ≤ size := by
  intro c hc
  rw [chunks_eq_map hz] at hc
  obtain ⟨i, hi, rfl⟩ := List.mem_map.mp hc
  have := (lt_ceilDiv hz).mp (List.mem_range.mp hi)
  rw [List.length_take, List.length_drop]
  omega

theorem chunks_getElem_length {size : Nat} (hz : 0 < size) (s : List α) :
    ∀ (i : Nat) (h : i < (Spec.Chunk.chunks size s).length),
      i + 1 < (Spec.Chunk.chunks size s).length → ((Spec.Chunk.chunks size s)[i]).length = size := by
  intro i h h1
  rw [chunks_length hz, lt_ceilDiv hz, Nat.succ_mul] at h1
  rw [List.getElem_of_eq (chunks_eq_map hz s) h, List.getElem_map, List.getElem_range, List.length_take, List.length_drop]
  omega

/-- a loop `for i < lim { out[i] = f i }` -/
theorem setLoop_run {β : Type} (f : Nat → β) (lim : Nat) (loop : Nat → Nat → List β → List β)
    (h0 : ∀ i out, loop 0 i out = out)
    (hs : ∀ fuel i out, loop (fuel + 1) i out = if i < lim then loop fuel (i + 1) (out.set i (f i)) else out)
    (fuel : Nat) (out : List β) (ho : lim ≤ out.length) (hf : lim ≤ fuel) :
    loop fuel 0 out = (List.range lim).map f ++ out.drop lim := by
  -- run on an output whose first `i` cells are done
  have spec : ∀ (fuel i : Nat) (pre post : List β), pre.length = i → lim - i ≤ post.length → lim - i ≤ fuel →
      loop fuel i (pre ++ post) = pre ++ (List.range' i (lim - i)).map f ++ post.drop (lim - i) := by
    intro fuel
    induction fuel with
    | zero =>
      intro i pre post _ _ hf
      rw [h0, Nat.le_zero.mp hf]; exact (List.append_nil _).symm ▸ rfl
    | succ fuel ih =>
      intro i pre post hi hp hf
      rw [hs]
      by_cases hlt : i < lim
      · cases post with
        | nil => rw [List.length_nil] at hp; omega
        | cons y post =>
          rw [List.length_cons] at hp
          rw [if_pos hlt, List.set_append_right _ _ (Nat.le_of_eq hi), hi, Nat.sub_self, List.set_cons_zero,
            List.append_cons, ih (i + 1) (pre ++ [f i]) post (by rw [List.length_append, hi]; rfl) (by omega) (by omega),
            show lim - i = (lim - (i + 1)) + 1 by omega, List.range'_succ, List.map_cons, List.drop_succ_cons,
            List.append_assoc pre]
          rfl
      · rw [if_neg hlt, show lim - i = 0 by omega]; exact (List.append_nil _).symm ▸ rfl
  rw [List.range_eq_range']
  exact spec fuel 0 [] out rfl ho hf

/-- a loop `for i < lim { out = append(out, f i) }` -/
theorem pushLoop_run {β : Type} (f : Nat → β) (lim : Nat) (loop : Nat → Nat → List β → List β)
    (h0 : ∀ i out, loop 0 i out = out)
    (hs : ∀ fuel i out, loop (fuel + 1) i out = if i < lim then loop fuel (i + 1) (out ++ [f i]) else out)
    (fuel : Nat) (hf : lim ≤ fuel) : loop fuel 0 [] = (List.range lim).map f := by
  have spec : ∀ (fuel i : Nat) (out : List β), lim - i ≤ fuel →
      loop fuel i out = out ++ (List.range' i (lim - i)).map f := by
    intro fuel
    induction fuel with
    | zero =>
      intro i out hf
      rw [h0, Nat.le_zero.mp hf]; exact (List.append_nil out).symm
    | succ fuel ih =>
      intro i out hf
      rw [hs]
      by_cases hlt : i < lim
      · rw [if_pos hlt, ih (i + 1) _ (by omega), show lim - i = (lim - (i + 1)) + 1 by omega, List.range'_succ,
          List.map_cons, List.append_assoc]
        rfl
      · rw [if_neg hlt, show lim - i = 0 by omega]; exact (List.append_nil out).symm
  rw [List.range_eq_range']
  exact spec fuel 0 [] hf

/-! ### Chunk / ChunkFunc: `div` full pieces, then the rest -/

theorem sub_eq (s : List α) (j size : Nat) :
    Model.Chunk.sub s j (j + size) = (s.drop j).take size := by
  unfold Model.Chunk.sub; rw [List.take_drop]

theorem chunks_window_end {s : List α} {size rounded : Nat} :
    Spec.Chunk.chunks size ((s.take rounded).drop rounded) = [] := by
  have : (s.take rounded).drop rounded = [] := by
    apply List.drop_eq_nil_iff.mpr; rw [List.length_take]; omega
  rw [this, chunks_nil]

/-- the loop of Chunk, with `j = i * size`; called as in `Model.Chunk.chunk` with `d = len / size`: bound `rounded = d * size`,
fuel `d + 1` (the `d` rounds and the failing test) -/
theorem chunkLoop_run {size : Nat} (hz : 0 < size) (s : List α) (d : Nat) (out : List (List α)) (ho : d ≤ out.length) :
    Model.Chunk.chunkLoop s size (d * size) (d + 1) 0 0 out =
      (List.range d).map (fun i => (s.drop (i * size)).take size) ++ out.drop d := by
  have := setLoop_run (fun i => Model.Chunk.sub s (i * size) (i * size + size)) d
    (fun fuel i out => Model.Chunk.chunkLoop s size (d * size) fuel i (i * size) out) (fun _ _ => rfl)
    (fun fuel i out => by
      show (if i * size < d * size then _ else out) = _
      rw [Nat.succ_mul]; simp only [Nat.mul_lt_mul_right hz])
    (d + 1) out ho (Nat.le_succ d)
  simp only [sub_eq, Nat.zero_mul] at this
  exact this

theorem chunkFuncLoop_run {size : Nat} (hz : 0 < size) (s : List α) (d : Nat) :
    Model.Chunk.chunkFuncLoop s size (d * size) (d + 1) 0 [] =
      (List.range d).map fun i => (s.drop (i * size)).take size := by
  have := pushLoop_run (fun i => Model.Chunk.sub s (i * size) (i * size + size)) d
    (fun fuel i out => Model.Chunk.chunkFuncLoop s size (d * size) fuel (i * size) out) (fun _ _ => rfl)
    (fun fuel i out => by
      show (if i * size < d * size then _ else out) = _
      rw [Nat.succ_mul]; simp only [Nat.mul_lt_mul_right hz])
    (d + 1) (Nat.le_succ d)
  simp only [sub_eq, Nat.zero_mul] at this
  exact this

theorem chunkFunc_eq_spec (s : List α) {size : Nat} (hz : 0 < size) :
    Model.Chunk.chunkFunc s size = Spec.Chunk.chunks size s := by
  unfold Model.Chunk.chunkFunc
  by_cases h0 : s.length = 0
  · rw [if_pos h0, List.length_eq_zero_iff.mp h0, chunks_nil]
  · rw [if_neg h0, chunks_eq_map hz, ceilDiv_eq hz]
    simp only [chunkFuncLoop_run hz, bne_iff_ne, ne_eq]
    by_cases h : s.length / size * size = s.length
    · rw [if_neg (not_not_intro h), if_pos h]
    · -- the last, shorter piece is what is left of the slice
      rw [if_pos h, if_neg h, List.range_succ, List.map_append, List.map_singleton,
        List.take_of_length_le (by rw [List.length_drop]; exact Nat.le_of_lt (div_mul_le_and_rem_lt s.length size hz).2)]

theorem chunk_eq_spec (s : List α) {size : Nat} (hz : 0 < size) :
    Model.Chunk.chunk s size = Spec.Chunk.chunks size s := by
  unfold Model.Chunk.chunk
  by_cases h0 : s.length = 0
  · rw [if_pos h0, List.length_eq_zero_iff.mp h0, chunks_nil]
  · rw [if_neg h0, chunks_eq_map hz, ceilDiv_eq hz]
    unfold Model.Chunk.kernel
    simp only [bne_iff_ne, ne_eq]
    by_cases h : s.length / size * size = s.length
    · rw [if_neg (not_not_intro h), if_neg (not_not_intro rfl), if_pos h,
        chunkLoop_run hz s _ _ (Nat.le_of_eq List.length_replicate.symm), List.drop_replicate, Nat.sub_self]
      exact List.append_nil _
    · -- it goes to position `div`, after the `div` full ones
      rw [if_pos h, if_pos (Nat.ne_of_lt (Nat.lt_succ_self _)), if_neg h,
        chunkLoop_run hz s _ _ (by rw [List.length_replicate]; exact Nat.le_succ _), List.drop_replicate,
        Nat.add_sub_cancel_left, Nat.add_sub_cancel,
        List.set_append_right _ _ (by rw [List.length_map, List.length_range]; exact Nat.le_refl _),
        List.length_map, List.length_range, Nat.sub_self, List.range_succ, List.map_append, List.map_singleton,
        List.take_of_length_le (by rw [List.length_drop]; exact Nat.le_of_lt (div_mul_le_and_rem_lt s.length size hz).2)]
      rfl

theorem windowed_eq_spec (s : List α) (size : Nat) :
    Model.Chunk.windowed s size = Spec.Chunk.windows size s := by
  unfold Model.Chunk.windowed Spec.Chunk.windows
  by_cases h : s.length < size
  · rw [if_pos h, show s.length + 1 - size = 0 by omega]; rfl
  · rw [if_neg h, show s.length + 1 - size = s.length - size + 1 by omega]
    generalize s.length - size + 1 = lim
    have := setLoop_run (fun i => Model.Chunk.sub s i (i + size)) lim (Model.Chunk.windowedLoop s size lim)
      (fun _ _ => rfl) (fun _ _ _ => rfl) lim (List.replicate lim []) (Nat.le_of_eq List.length_replicate.symm) (Nat.le_refl _)
    simp only [sub_eq, List.drop_replicate, Nat.sub_self, List.replicate_zero, List.append_nil] at this
    exact this

theorem windowedFunc_eq_spec (s : List α) (size : Nat) :
    Model.Chunk.windowedFunc s size = Spec.Chunk.windows size s := by
  unfold Model.Chunk.windowedFunc Spec.Chunk.windows
  by_cases h : s.length < size
  · rw [if_pos h, show s.length + 1 - size = 0 by omega]; rfl
  · rw [if_neg h, show s.length + 1 - size = s.length - size + 1 by omega]
    generalize s.length - size + 1 = lim
    have := pushLoop_run (fun i => Model.Chunk.sub s i (i + size)) lim (Model.Chunk.windowedFuncLoop s size lim)
      (fun _ _ => rfl) (fun _ _ _ => rfl) lim (Nat.le_refl _)
    simp only [sub_eq] at this
    exact this

theorem windows_length (s : List α) (size : Nat) :
    (Spec.Chunk.windows size s).length = s.length + 1 - size := by
  simp [Spec.Chunk.windows]

theorem windows_getElem (s : List α) (size : Nat) (i : Nat) (h : i < (Spec.Chunk.windows size s).length) :
    (Spec.Chunk.windows size s)[i] = (s.drop i).take size := by
  simp [Spec.Chunk.windows]

theorem pairs_eq_map_range [Inhabited α] (s : List α) :
    Spec.Chunk.pairs s = (List.range (s.length - 1)).map (fun k => (s[k]!, s[k+1]!)) := by
  unfold Spec.Chunk.pairs
  apply List.ext_getElem
  · simp [List.length_zip]
  · intro i h1 h2
    simp only [List.length_zip, List.length_tail] at h1
    simp only [List.getElem_zip, List.getElem_tail, List.getElem_map, List.getElem_range]
    rw [getElem!_pos s i (by omega), getElem!_pos s (i + 1) (by omega)]

theorem pairs_eq_spec [Inhabited α] (s : List α) : Model.Chunk.pairs s = Spec.Chunk.pairs s := by
  rw [pairs_eq_map_range]
  unfold Model.Chunk.pairs
  by_cases h : s.length < 2
  · rw [if_pos h, show s.length - 1 = 0 by omega]; rfl
  · rw [if_neg h]
    have := setLoop_run _ _ (Model.Chunk.pairsLoop s (s.length - 1)) (fun _ _ => rfl) (fun _ _ _ => rfl)
      _ (List.replicate (s.length - 1) (default, default)) (Nat.le_of_eq List.length_replicate.symm) (Nat.le_refl _)
    simp only [List.drop_replicate, Nat.sub_self, List.replicate_zero, List.append_nil] at this
    exact this

theorem pairsFunc_eq_spec [Inhabited α] (s : List α) : Model.Chunk.pairsFunc s = Spec.Chunk.pairs s := by
  rw [pairs_eq_map_range]
  unfold Model.Chunk.pairsFunc
  by_cases h : s.length < 2
  · rw [if_pos h, show s.length - 1 = 0 by omega]; rfl
  · rw [if_neg h]
    exact pushLoop_run _ _ (Model.Chunk.pairsFuncLoop s (s.length - 1)) (fun _ _ => rfl) (fun _ _ _ => rfl)
      _ (Nat.le_refl _)

end TypVerif.Lemmas.Chunk
