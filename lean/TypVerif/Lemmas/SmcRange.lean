import TypVerif.Lemmas.SmcStep
/-
C04, `Range` under every schedule: what the simulation relation `R` (whose `T` component carries `RangeHold` at the
program counters of the `Range` loop) says about a goroutine inside `Range`; and `range_snapshot`: each of the three
loop-entry steps leaves `read` not amended and takes its `read.m` as the snapshot, so that contains every present key.
-/
namespace TypVerif.Lemmas.Smc
open TypVerif TypVerif.Conc TypVerif.Model TypVerif.Model.SyncMapConc TypVerif.Model.RelObj
open TypVerif.Model.SyncMap (alookup ainsert aerase akeys)

set_option linter.unusedSectionVars false

variable {K V : Type} [DecidableEq K] [DecidableEq V] [Inhabited V]
variable {s : State K V} {a : AState K V} {t : Tid}

theorem R.range_ret (hR : R s a) {l : List (K × V)} (hpc : s.pc t = .ret (.pairs l)) : (l.map Prod.fst).Nodup :=
  (hpc ▸ hR.thr t : T s.sh t (.ret (.pairs l)) (a.pcs t)).2.2

theorem R.range_pick (hR : R s a) {todo : List (K × EId)} {acc : List (K × V)} (hpc : s.pc t = .rangePick todo acc) :
    RangeHold s.sh todo acc :=
  (hpc ▸ hR.thr t : T s.sh t (.rangePick todo acc) (a.pcs t)).2.2

theorem R.range_load (hR : R s a) {todo : List (K × EId)} {acc : List (K × V)} {k' : K} {e' : EId}
    (hpc : s.pc t = .rangeLoad todo acc k' e') : RangeHold s.sh ((k', e') :: todo) acc :=
  (hpc ▸ hR.thr t : T s.sh t (.rangeLoad todo acc k' e') (a.pcs t)).2.2

/-- a value pointer in a held entry: the entry is not dead, so it is `read.m[k]`, and its value is the key's -/
theorem HoldRead.absOf_of_val {sh : Shared K V} {k : K} {e : EId} (h : HoldRead sh k e) {i : Nat} {w : V}
    (hv : getP sh e = .val i w) : alookup k sh.readM = some e ∧ absOf sh k = some w :=
  have h1 := h.read_of_not_expunged (by rw [hv]; rfl)
  ⟨h1, by rw [absOf_of_read h1, hv]; rfl⟩

/-- no value in a held entry: the key is absent now, or the entry is dead -/
theorem HoldRead.absOf_of_not_val {sh : Shared K V} {k : K} {e : EId} (h : HoldRead sh k e)
    (hv : (getP sh e).value? = none) : absOf sh k = none ∨ Dead sh e := by
  rcases h.2 with h1 | h1
  · left
    rw [absOf_of_read h1, hv]
  · exact Or.inr h1

theorem exec_rangeLoad_val {sh : Shared K V} (t : Tid) (todo : List (K × EId)) (acc : List (K × V)) (k' : K)
    {e' : EId} {i : Nat} {w : V} (hv : getP sh e' = .val i w) :
    exec sh t (.rangeLoad todo acc k' e') = some (sh, rangeNext todo (acc ++ [(k', w)])) := by
  dsimp only [exec]
  rw [hv]

theorem exec_rangeLoad_skip {sh : Shared K V} (t : Tid) (todo : List (K × EId)) (acc : List (K × V)) (k' : K)
    {e' : EId} (hv : (getP sh e').value? = none) :
    exec sh t (.rangeLoad todo acc k' e') = some (sh, rangeNext todo acc) := by
  dsimp only [exec]
  split
  · rename_i hp
    rw [hp] at hv
    cases hv
  · rfl

/-- not amended: every present key is a key of `read.m` -/
theorem mem_akeys_read_of_absOf {sh : Shared K V} (ha : sh.amended = false) {k : K} (hk : absOf sh k ≠ none) :
    k ∈ akeys sh.readM := by
  cases hr : alookup k sh.readM with
  | some e => exact mem_akeys_of_alookup hr
  | none => exact absurd (absOf_of_not_amended hr ha) hk

/-- the goroutine is at one of the three steps that enter the `Range` loop -/
def RangeEntry (sh : Shared K V) (pc : Pc K V) : Prop :=
  (pc = .rangeRead1 ∧ sh.amended = false) ∨ (pc = .rangeRead2 ∧ sh.amended = false) ∨ ∃ dm, pc = .rangeStore dm

/-- **snapshot completeness**: a step that enters the loop parks the goroutine at `rangeNext rm []` where `rm` is the
`read.m` of the shared state after the step, which is not amended and stands for the same abstract map as before the
step; so every key present at that moment is a key of the snapshot -/
theorem range_snapshot (hR : R s a) (hent : RangeEntry s.sh (s.pc t)) {sh' : Shared K V} {pc' : Pc K V}
    (hex : exec s.sh t (s.pc t) = some (sh', pc')) :
    ∃ rm, pc' = rangeNext rm [] ∧ rm = sh'.readM ∧ sh'.amended = false ∧ (∀ k, absOf sh' k = absOf s.sh k) ∧
      ∀ k, absOf sh' k ≠ none → k ∈ akeys rm := by
  rcases hent with ⟨hpc, ha⟩ | ⟨hpc, ha⟩ | ⟨dm, hpc⟩
  · rw [hpc] at hex
    dsimp only [exec] at hex
    rw [ha] at hex
    cases hex
    exact ⟨_, rfl, rfl, ha, fun _ => rfl, fun k hk => mem_akeys_read_of_absOf ha hk⟩
  · rw [hpc] at hex
    dsimp only [exec] at hex
    rw [ha] at hex
    cases hex
    exact ⟨_, rfl, rfl, ha, fun _ => rfl, fun k hk => mem_akeys_read_of_absOf (sh := unlock s.sh) ha hk⟩
  · obtain ⟨_, hprom, hdm⟩ : T s.sh t (.rangeStore dm) (a.pcs t) := hpc ▸ hR.thr t
    have g0 : GS s.sh [] := GS_nil_of_own hR hprom.1 (by rw [hpc]; rfl)
    rw [hpc] at hex
    cases hex
    refine ⟨_, rfl, rfl, rfl, fun k => absOf_rangeStore_unlock g0 hprom.2.2 hdm k, fun k hk => ?_⟩
    exact mem_akeys_read_of_absOf
      (sh := unlock { s.sh with readM := dm, amended := false, dirty := none, misses := 0 }) rfl hk

/-- follow a schedule: at each step take the successor with the given index (stay if there is none) -/
def runSched (sys : Sys) : List Nat → sys.State → sys.State
  | [], s => s
  | i :: is, s =>
    match (sys.succ s)[i]? with
    | some p => runSched sys is p.2
    | none => s

theorem reachable_runSched {sys : Sys} (is : List Nat) {s : sys.State} (h : Reachable sys s) :
    Reachable sys (runSched sys is s) := by
  induction is generalizing s with
  | nil => exact h
  | cons i is ih =>
    unfold runSched
    cases hp : (sys.succ s)[i]? with
    | none => exact h
    | some p =>
      have hm : (p.1, p.2) ∈ sys.succ s := List.mem_of_getElem? hp
      exact ih (Reachable.step h hm)

end TypVerif.Lemmas.Smc
