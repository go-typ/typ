import TypVerif.Model.RelObj
import TypVerif.Lemmas.AtomicObj
/-
Linearizability of the generic *relaxed* atomic object (`Model.RelObj`): an operation either takes effect at one
step (`lin`), or returns a result that the sequential object would have given, without changing the object, at
SOME instant between invocation and response (`observe` … `resSeen`).  Every history of that system is
`Linearizable` in the sense of `Model.AtomicObj`.

Proof: a prophecy-quantified invariant.  For every choice `f` of "which pending effect-free operations are
regarded as already linearized, and with which of their seen results", there is a completed log whose visible
part is the history, whose linearization part is a legal sequential run ending in the current object, and in
which every goroutine's protocol automaton is in the state that `f` prescribes.
-/
namespace TypVerif.Lemmas.RelObj
open TypVerif TypVerif.Model.AtomicObj TypVerif.Model.RelObj
open TypVerif.Lemmas.AtomicObj (runThread_cons advance_eq_some histOf_inv histOf_res histOf_lin
  linsOf_inv linsOf_res linsOf_lin)

variable {Op Res : Type}

/-- the protocol state a goroutine with relaxed pc `p` must have in the completed log; the second argument is the result
prophesied for its pending operation (`none`: it stays pending) -/
def expPc : RPc Op Res → Option Res → TPc Op Res
  | .idle, _ => .idle
  | .done op r, _ => .done op r
  | .pending op _, none => .pending op
  | .pending op _, some r => .done op r

def expected (pcs : Nat → RPc Op Res) (f : Nat → Option Res) (t : Nat) : TPc Op Res := expPc (pcs t) (f t)

/-- `expected` written out as one nested match -/
theorem expected_eq (pcs : Nat → RPc Op Res) (f : Nat → Option Res) (t : Nat) :
    expected pcs f t =
      (match pcs t with
       | .idle => TPc.idle
       | .done op r => TPc.done op r
       | .pending op _ => match f t with | none => TPc.pending op | some r => TPc.done op r) := by
  unfold expected
  cases pcs t with
  | idle => rfl
  | done op r => rfl
  | pending op seen => cases f t <;> rfl

/-- a prophecy may only pick results that have been seen by a still-pending operation -/
def Valid (pcs : Nat → RPc Op Res) (f : Nat → Option Res) : Prop :=
  ∀ t r, f t = some r → ∃ op seen, pcs t = .pending op seen ∧ r ∈ seen

/-- every valid prophecy `f` is realised by a complete log: same history, a sequential run of its linearization points ending
in the current object, every goroutine at the protocol state `f` predicts -/
def Inv (S : Spec) [DecidableEq S.Op] [DecidableEq S.Res] (s : RState S.σ S.Op S.Res) : Prop :=
  ∀ f : Nat → Option S.Res, Valid s.pcs f →
    ∃ log : List (Entry S.Op S.Res),
      histOf log = s.hist ∧ SeqRun S (linsOf log) s.obj ∧ ∀ t, runThread t log = some (expected s.pcs f t)

theorem valid_pre {pcs : Nat → RPc Op Res} {t : Nat} {p : RPc Op Res} {f' f : Nat → Option Res}
    (hv : Valid (update pcs t p) f') (hoth : ∀ t', t' ≠ t → f t' = f' t')
    (ht : ∀ r, f t = some r → ∃ op seen, pcs t = .pending op seen ∧ r ∈ seen) : Valid pcs f := by
  intro t' r hr
  by_cases h : t' = t
  · subst h; exact ht r hr
  · rw [hoth t' h] at hr
    obtain ⟨op, seen, h1, h2⟩ := hv t' r hr
    rw [update_other _ _ _ h] at h1
    exact ⟨op, seen, h1, h2⟩

theorem expected_other {pcs : Nat → RPc Op Res} {t : Nat} {p : RPc Op Res} {f' f : Nat → Option Res}
    {t' : Nat} (h : t' ≠ t) (hf : f t' = f' t') : expected (update pcs t p) f' t' = expected pcs f t' := by
  unfold expected
  rw [update_other _ _ _ h, hf]

theorem expected_same {pcs : Nat → RPc Op Res} {t : Nat} {p : RPc Op Res} {f' : Nat → Option Res} :
    expected (update pcs t p) f' t = expPc p (f' t) := by
  unfold expected
  rw [update_same]

/-- a prophecy valid after `t` has moved to `p` picks no result for `t` unless `p` is pending and has seen it -/
theorem valid_same {pcs : Nat → RPc Op Res} {t : Nat} {p : RPc Op Res} {f' : Nat → Option Res}
    (hv : Valid (update pcs t p) f') {r : Res} (hr : f' t = some r) : ∃ op seen, p = .pending op seen ∧ r ∈ seen := by
  obtain ⟨op, seen, h1, h2⟩ := hv t r hr
  exact ⟨op, seen, (update_same _ _ _).symm.trans h1, h2⟩

variable [DecidableEq Op] [DecidableEq Res]

theorem inv_init (S : Spec) [DecidableEq S.Op] [DecidableEq S.Res] : Inv S (RState.init S) := by
  intro f _
  exact ⟨[], rfl, SeqRun.nil, fun _ => rfl⟩

/-- What every step uses of the invariant before it.  Goroutine `t` moves to `p`, and `f'` is a prophecy for the state
after.  Shift it to the state before by letting `o` be what it says of `t`: the log this gives has `t` at `expPc (s.pcs t) o`
and everybody else where `f'` wants them after the step. -/
theorem log_before (S : Spec) [DecidableEq S.Op] [DecidableEq S.Res] {s : RState S.σ S.Op S.Res} (hI : Inv S s)
    {t : Nat} {p : RPc S.Op S.Res} {f' : Nat → Option S.Res} (hv : Valid (update s.pcs t p) f') (o : Option S.Res)
    (ho : ∀ r, o = some r → ∃ op seen, s.pcs t = .pending op seen ∧ r ∈ seen) :
    ∃ log, histOf log = s.hist ∧ SeqRun S (linsOf log) s.obj ∧ runThread t log = some (expPc (s.pcs t) o) ∧
      ∀ t', t' ≠ t → runThread t' log = some (expected (update s.pcs t p) f' t') := by
  have hvs : Valid s.pcs (update f' t o) :=
    valid_pre hv (fun t' h => update_other _ _ _ h) (fun r hr => ho r ((update_same _ _ _).symm.trans hr))
  obtain ⟨log, hh, hseq, hthr⟩ := hI _ hvs
  refine ⟨log, hh, hseq, ?_, fun t' h => ?_⟩
  · rw [hthr t, expected, update_same]
  · rw [hthr t', expected_other h (update_other _ _ _ h)]

/-- the step appends an entry of `t` that takes its automaton to where `f'` wants it -/
theorem threads_cons {log : List (Entry Op Res)} {pcs : Nat → RPc Op Res} {t : Nat} {p : RPc Op Res}
    {f' : Nat → Option Res} {q : TPc Op Res} (e : Entry Op Res) (he : e.tid = t) (ht : runThread t log = some q)
    (hadv : advance q e = some (expPc p (f' t)))
    (hoth : ∀ t', t' ≠ t → runThread t' log = some (expected (update pcs t p) f' t')) :
    ∀ t', runThread t' (e :: log) = some (expected (update pcs t p) f' t') := by
  intro t'
  rw [runThread_cons he ht (advance_eq_some.mp hadv)]
  by_cases h : t' = t
  · rw [if_pos h, h, expected_same]
  · rw [if_neg h, hoth t' h]

/-- the step appends nothing -/
theorem threads_same {log : List (Entry Op Res)} {pcs : Nat → RPc Op Res} {t : Nat} {p : RPc Op Res}
    {f' : Nat → Option Res} (ht : runThread t log = some (expPc p (f' t)))
    (hoth : ∀ t', t' ≠ t → runThread t' log = some (expected (update pcs t p) f' t')) :
    ∀ t', runThread t' log = some (expected (update pcs t p) f' t') := by
  intro t'
  by_cases h : t' = t
  · subst h
    rw [ht, expected_same]
  · exact hoth t' h

theorem inv_step (S : Spec) [DecidableEq S.Op] [DecidableEq S.Res] {s s' : RState S.σ S.Op S.Res}
    (hI : Inv S s) (hs : RStep S s s') : Inv S s' := by
  have none_ok : ∀ {t : Nat} (r : S.Res), (none : Option S.Res) = some r →
      ∃ op seen, s.pcs t = .pending op seen ∧ r ∈ seen := fun _ h => nomatch h
  cases hs with
  | inv t op hpc =>
    intro f' hv
    have hft : f' t = none := by
      cases hx : f' t with
      | none => rfl
      | some r =>
        obtain ⟨_, _, h1, h2⟩ := valid_same hv hx
        cases h1
        cases h2
    obtain ⟨log, hh, hseq, ht, hoth⟩ := log_before S hI hv none none_ok
    refine ⟨Entry.inv t op :: log, (histOf_inv t op log).trans (congrArg (· ++ _) hh), hseq,
      threads_cons _ rfl ht ?_ hoth⟩
    rw [hpc, hft]
    rfl
  | lin t op seen σ' r hpc happ =>
    intro f' hv
    obtain ⟨log, hh, hseq, ht, hoth⟩ := log_before S hI hv none none_ok
    refine ⟨Entry.lin t op r :: log, hh, SeqRun.cons hseq happ, threads_cons _ rfl ht ?_ hoth⟩
    rw [hpc]
    exact if_pos rfl
  | observe t op seen r hpc happ =>
    intro f' hv
    by_cases hfr : f' t = some r
    · -- the prophecy picks the freshly observed result: linearize `t` now (effect-free)
      obtain ⟨log, hh, hseq, ht, hoth⟩ := log_before S hI hv none none_ok
      refine ⟨Entry.lin t op r :: log, hh, SeqRun.cons hseq happ, threads_cons _ rfl ht ?_ hoth⟩
      rw [hpc, hfr]
      exact if_pos rfl
    · -- nothing, or a result seen earlier: the prophecy was already valid
      have ho : ∀ r0, f' t = some r0 → ∃ op seen, s.pcs t = .pending op seen ∧ r0 ∈ seen := by
        intro r0 hr0
        obtain ⟨_, _, h1, h2⟩ := valid_same hv hr0
        cases h1
        rcases List.mem_cons.1 h2 with rfl | h2
        · exact absurd hr0 hfr
        · exact ⟨op, seen, hpc, h2⟩
      obtain ⟨log, hh, hseq, ht, hoth⟩ := log_before S hI hv (f' t) ho
      refine ⟨log, hh, hseq, threads_same (ht.trans ?_) hoth⟩
      rw [hpc]
      cases f' t <;> rfl
  | resDone t op r hpc =>
    intro f' hv
    obtain ⟨log, hh, hseq, ht, hoth⟩ := log_before S hI hv none none_ok
    refine ⟨Entry.res t r :: log, (histOf_res t r log).trans (congrArg (· ++ _) hh), hseq,
      threads_cons _ rfl ht ?_ hoth⟩
    rw [hpc]
    exact if_pos rfl
  | resSeen t op seen r hpc hmem =>
    -- the whole idea: returning a result `r` seen earlier is justified by the log of the prophecy that picked `r` for `t`
    -- before the step (valid since `r ∈ seen`); in that log `t` is already linearized with `r`
    intro f' hv
    obtain ⟨log, hh, hseq, ht, hoth⟩ := log_before S hI hv (some r)
      (fun r0 h0 => Option.some.inj h0 ▸ ⟨op, seen, hpc, hmem⟩)
    refine ⟨Entry.res t r :: log, (histOf_res t r log).trans (congrArg (· ++ _) hh), hseq,
      threads_cons _ rfl ht ?_ hoth⟩
    rw [hpc]
    exact if_pos rfl

theorem inv_reach (S : Spec) [DecidableEq S.Op] [DecidableEq S.Res] {s : RState S.σ S.Op S.Res}
    (h : RReach S s) : Inv S s := by
  induction h with
  | init => exact inv_init S
  | step _ hs ih => exact inv_step S ih hs

theorem inv_star (S : Spec) [DecidableEq S.Op] [DecidableEq S.Res] {s s' : RState S.σ S.Op S.Res}
    (hI : Inv S s) (h : RStar S s s') : Inv S s' := by
  induction h with
  | refl => exact hI
  | tail _ hs ih => exact inv_step S ih hs

theorem rreach_star {S : Spec} {s s' : RState S.σ S.Op S.Res} : RReach S s → RStar S s s' → RReach S s' := by
  intro hr h
  induction h with
  | refl => exact hr
  | tail _ hs ih => exact RReach.step ih hs

theorem rstar_trans {S : Spec} {s s' s'' : RState S.σ S.Op S.Res} :
    RStar S s s' → RStar S s' s'' → RStar S s s'' := by
  intro h1 h2
  induction h2 with
  | refl => exact h1
  | tail _ hs ih => exact RStar.tail ih hs

theorem rstar_single {S : Spec} {s s' : RState S.σ S.Op S.Res} (h : RStep S s s') : RStar S s s' :=
  RStar.tail (RStar.refl s) h

/-- MAIN: every history of the relaxed object is linearizable -/
theorem linearizable (S : Spec) [DecidableEq S.Op] [DecidableEq S.Res] {s : RState S.σ S.Op S.Res}
    (h : RReach S s) : TypVerif.Model.AtomicObj.Linearizable S s.hist := by
  obtain ⟨log, hh, hseq, hthr⟩ := inv_reach S h (fun _ => none) (fun _ _ hr => by cases hr)
  refine ⟨log, hh, ⟨s.obj, hseq⟩, ?_⟩
  intro t
  rw [hthr t]
  rfl

end TypVerif.Lemmas.RelObj
