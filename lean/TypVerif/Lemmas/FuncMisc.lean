import TypVerif.Lemmas.FuncGroup
import TypVerif.Lemmas.ListCount
/-
The Trim family returns windows `(offset, length)` of its argument: a window is a split `a ++ b ++ c` (`window_split`), and the
loops move an edge of `b`.  The map helpers are loops over an association list in iteration order.
-/
namespace TypVerif.Lemmas.Func
open TypVerif TypVerif.Model

variable {α κ ν : Type}

/-- a window is addressed by the lengths of what precedes it and of itself, and lies inside the list -/
theorem window_split (a b c : List α) :
    Func.window (a ++ (b ++ c)) (a.length, b.length) = b ∧
    a.length + b.length + c.length = (a ++ (b ++ c)).length := by
  unfold Func.window
  rw [List.drop_left, List.take_left, List.length_append, List.length_append, Nat.add_assoc]
  exact ⟨rfl, rfl⟩

/-- the TrimLeft loop on the window `b` of `a ++ b ++ c` moves the left edge over the longest unwanted prefix of `b` -/
theorem trimLeftLoop_eq (p : α → Bool) (c : List α) : ∀ (b a : List α) (fuel : Nat), b.length < fuel →
    Func.trimLeftFuncLoop (a ++ (b ++ c)) p fuel (a.length, b.length) =
      .ok (a.length + (b.takeWhile p).length, (b.dropWhile p).length)
  | _, _, 0, h => absurd h (Nat.not_lt_zero _)
  | [], a, fuel + 1, _ => by rw [Func.trimLeftFuncLoop, if_neg (show ¬ ([] : List α).length > 0 from Nat.lt_irrefl 0)]; rfl
  | x :: b, a, fuel + 1, h => by
    have hx : (a ++ (x :: b ++ c))[a.length]? = some x := by
      rw [List.getElem?_append_right (Nat.le_refl _), Nat.sub_self]; rfl
    rw [Func.trimLeftFuncLoop, if_pos (show (x :: b).length > 0 from Nat.succ_pos _), hx]
    by_cases hp : p x = true
    · have ih := trimLeftLoop_eq p c b (a ++ [x]) fuel (Nat.lt_of_succ_lt_succ h)
      rw [List.length_append, List.length_singleton, Nat.add_right_comm, ← List.append_cons] at ih
      rw [List.takeWhile_cons_of_pos hp, List.dropWhile_cons_of_pos hp]
      exact (if_pos hp).trans ih
    · rw [List.takeWhile_cons_of_neg hp, List.dropWhile_cons_of_neg hp]
      exact if_neg hp

/-- the TrimRight loop on the window `r.reverse` moves the right edge over the longest unwanted suffix -/
theorem trimRightLoop_eq (p : α → Bool) (a : List α) : ∀ (r c : List α) (fuel : Nat), r.length < fuel →
    Func.trimRightFuncLoop (a ++ (r.reverse ++ c)) p fuel (a.length, r.length) =
      .ok (a.length, (r.dropWhile p).length)
  | _, _, 0, h => absurd h (Nat.not_lt_zero _)
  | [], c, fuel + 1, _ => by rw [Func.trimRightFuncLoop, if_neg (show ¬ ([] : List α).length > 0 from Nat.lt_irrefl 0)]; rfl
  | x :: r, c, fuel + 1, h => by
    have hx : (a ++ ((x :: r).reverse ++ c))[a.length + ((x :: r).length - 1)]? = some x := by
      rw [List.reverse_cons, List.append_assoc, ← List.append_assoc a,
        List.getElem?_append_right (by simp), List.length_append, List.length_reverse]
      simp
    rw [Func.trimRightFuncLoop, if_pos (show (x :: r).length > 0 from Nat.succ_pos _), hx]
    by_cases hp : p x = true
    · have ih := trimRightLoop_eq p a r (x :: c) fuel (Nat.lt_of_succ_lt_succ h)
      rw [List.append_cons, ← List.reverse_cons] at ih
      rw [List.dropWhile_cons_of_pos hp]
      exact (if_pos hp).trans ih
    · rw [List.dropWhile_cons_of_neg hp]
      exact if_neg hp

theorem trimLeftFunc_eq (s : List α) (p : α → Bool) :
    Func.trimLeftFunc s p = .ok ((s.takeWhile p).length, (s.dropWhile p).length) := by
  have h := trimLeftLoop_eq p [] s [] (s.length + 1) (Nat.lt_succ_self _)
  rwa [List.nil_append, List.append_nil, List.length_nil, Nat.zero_add] at h

/-- what TrimRight keeps, followed by what it cuts off -/
theorem trimRight_append (s : List α) (p : α → Bool) :
    Spec.Func.trimRight s p ++ (s.reverse.takeWhile p).reverse = s := by
  rw [Spec.Func.trimRight, ← List.reverse_append, List.takeWhile_append_dropWhile, List.reverse_reverse]

/-- what Trim cuts off on the left, what it keeps, what it cuts off on the right -/
theorem trim_append (s : List α) (p : α → Bool) :
    (Spec.Func.trimRight s p).takeWhile p ++ (Spec.Func.trim s p ++ (s.reverse.takeWhile p).reverse) = s := by
  rw [← List.append_assoc, Spec.Func.trim, List.takeWhile_append_dropWhile, trimRight_append]

theorem trimLeft_window (s : List α) (p : α → Bool) :
    Func.window s ((s.takeWhile p).length, (s.dropWhile p).length) = s.dropWhile p ∧
    (s.takeWhile p).length + (s.dropWhile p).length = s.length := by
  have h := window_split (s.takeWhile p) (s.dropWhile p) []
  rwa [List.append_nil, List.takeWhile_append_dropWhile] at h

theorem trimRight_window (s : List α) (p : α → Bool) :
    Func.window s (0, (Spec.Func.trimRight s p).length) = Spec.Func.trimRight s p ∧
    (Spec.Func.trimRight s p).length ≤ s.length := by
  have h := window_split [] (Spec.Func.trimRight s p) (s.reverse.takeWhile p).reverse
  rw [trimRight_append, List.nil_append, List.length_nil, Nat.zero_add] at h
  exact ⟨h.1, Nat.le.intro h.2⟩

theorem trim_window (s : List α) (p : α → Bool) :
    Func.window s (((Spec.Func.trimRight s p).takeWhile p).length, (Spec.Func.trim s p).length) =
      Spec.Func.trim s p ∧
    ((Spec.Func.trimRight s p).takeWhile p).length + (Spec.Func.trim s p).length ≤ s.length := by
  have h := window_split ((Spec.Func.trimRight s p).takeWhile p) (Spec.Func.trim s p) (s.reverse.takeWhile p).reverse
  rw [trim_append] at h
  exact ⟨h.1, Nat.le.intro h.2⟩

theorem trimRightFunc_eq (s : List α) (p : α → Bool) :
    Func.trimRightFunc s p = .ok (0, (Spec.Func.trimRight s p).length) := by
  have h := trimRightLoop_eq p [] s.reverse [] (s.length + 1) (by rw [List.length_reverse]; exact Nat.lt_succ_self _)
  rwa [List.nil_append, List.append_nil, List.reverse_reverse, List.length_reverse, ← List.length_reverse (as := s.reverse.dropWhile p)] at h

theorem trimFunc_eq (s : List α) (p : α → Bool) :
    Func.trimFunc s p =
      .ok (((Spec.Func.trimRight s p).takeWhile p).length, (Spec.Func.trim s p).length) := by
  have hr : Func.trimRightFuncLoop s p (s.length + 1) (0, s.length) = _ := trimRightFunc_eq s p
  have hl := trimLeftLoop_eq p (s.reverse.takeWhile p).reverse (Spec.Func.trimRight s p) [] (s.length + 1)
    (Nat.lt_succ_of_le (trimRight_window s p).2)
  rw [trimRight_append, List.nil_append, List.length_nil, Nat.zero_add] at hl
  rw [Func.trimFunc, hr]
  exact hl

/-! ### TryGet / SafeGet / SafeGetOr / Last: a Go `int` index is a natural number or negative -/

theorem at_natCast (s : List α) (n : Nat) :
    Func.at_ s n = match s[n]? with | some v => .ok v | none => Func.panicBounds := by
  unfold Func.at_
  rw [if_neg (Int.not_lt.2 (Int.natCast_nonneg n))]; rfl

theorem at_ok (s : List α) (i : Int) (h0 : 0 ≤ i) (h1 : i < s.length) :
    Func.at_ s i = .ok (s[i.toNat]'((Int.toNat_lt h0).2 h1)) := by
  unfold Func.at_
  rw [if_neg (Int.not_lt.2 h0), List.getElem?_eq_getElem ((Int.toNat_lt h0).2 h1)]

theorem guard_natCast (len n : Nat) :
    (decide ((n : Int) < 0) || decide ((n : Int) ≥ (len : Int))) = decide (len ≤ n) := by
  rw [decide_eq_false (Int.not_lt.2 (Int.natCast_nonneg n)), Bool.false_or]
  exact decide_eq_decide.2 Int.ofNat_le

theorem guard_negSucc (len n : Nat) :
    (decide (Int.negSucc n < 0) || decide (Int.negSucc n ≥ (len : Int))) = true := by
  rw [decide_eq_true (Int.negSucc_lt_zero n)]; rfl

theorem tryGet_eq (s : List α) (i : Int) (zero : α) :
    Func.tryGet s i zero = .ok (Spec.Func.tryGet s i zero) := by
  unfold Func.tryGet Spec.Func.tryGet
  cases i with
  | ofNat n =>
    rw [Int.ofNat_eq_natCast, guard_natCast, at_natCast, if_pos (Int.natCast_nonneg n), Int.toNat_natCast]
    by_cases h : s.length ≤ n
    · rw [if_pos (decide_eq_true h), List.getElem?_eq_none h]
    · rw [if_neg (mt of_decide_eq_true h), List.getElem?_eq_getElem (Nat.lt_of_not_le h)]; rfl
  | negSucc n => rw [guard_negSucc, if_pos rfl, if_neg (Int.not_le.2 (Int.negSucc_lt_zero n))]

theorem safeGetOr_eq (s : List α) (i : Int) (fb : α) :
    Func.safeGetOr s i fb = .ok (Spec.Func.safeGetOr s i fb) := by
  unfold Func.safeGetOr Spec.Func.safeGetOr
  cases i with
  | ofNat n =>
    rw [Int.ofNat_eq_natCast, guard_natCast, at_natCast, if_pos (Int.natCast_nonneg n), Int.toNat_natCast]
    by_cases h : s.length ≤ n
    · rw [if_pos (decide_eq_true h), List.getElem?_eq_none h]; rfl
    · rw [if_neg (mt of_decide_eq_true h), List.getElem?_eq_getElem (Nat.lt_of_not_le h)]; rfl
  | negSucc n => rw [guard_negSucc, if_pos rfl, if_neg (Int.not_le.2 (Int.negSucc_lt_zero n))]

theorem last_eq (s : List α) :
    Func.last s = match Spec.Func.last s with | some v => .ok v | none => .error "panic:bounds" := by
  cases s with
  | nil => rfl
  | cons x t =>
    show Func.at_ (x :: t) ((t.length : Int) + 1 - 1) = _
    rw [Int.add_sub_cancel, at_natCast, Spec.Func.last, List.getLast?_eq_getElem?]
    rfl

theorem keysLoop_eq : ∀ (it : List (κ × ν)) (keys : List κ), Func.keysLoop it keys = keys ++ it.map (·.1)
  | [], keys => by simp [Func.keysLoop]
  | (k, v) :: rest, keys => by rw [Func.keysLoop, keysLoop_eq rest]; simp

theorem valuesLoop_eq : ∀ (it : List (κ × ν)) (vals : List ν), Func.valuesLoop it vals = vals ++ it.map (·.2)
  | [], vals => by simp [Func.valuesLoop]
  | (k, v) :: rest, vals => by rw [Func.valuesLoop, valuesLoop_eq rest]; simp

theorem exists_snd_mem_cons {k : κ} {v value : ν} (rest : List (κ × ν)) (h : v ≠ value) :
    (∃ k', (k', value) ∈ (k, v) :: rest) ↔ ∃ k', (k', value) ∈ rest :=
  exists_congr fun _ => List.mem_cons.trans (or_iff_right fun e => h (Prod.mk.inj e).2.symm)

theorem exists_fst_mem_cons {k key : κ} {x : ν} (rest : List (κ × ν)) (h : k ≠ key) :
    (∃ v, (key, v) ∈ (k, x) :: rest) ↔ ∃ v, (key, v) ∈ rest :=
  exists_congr fun _ => List.mem_cons.trans (or_iff_right fun e => h (Prod.mk.inj e).1.symm)

theorem containsValue_iff [DecidableEq ν] (value : ν) :
    ∀ it : List (κ × ν), Func.containsValue it value = true ↔ ∃ k, (k, value) ∈ it
  | [] => ⟨nofun, fun ⟨_, h⟩ => nomatch h⟩
  | (k, v) :: rest => by
    rw [Func.containsValue]
    by_cases h : v = value
    · rw [if_pos h, h]; exact ⟨fun _ => ⟨k, List.mem_cons_self⟩, fun _ => rfl⟩
    · rw [if_neg h, containsValue_iff value rest, exists_snd_mem_cons rest h]

theorem keyOf_spec [DecidableEq ν] (value : ν) (zero : κ) :
    ∀ it : List (κ × ν),
      ((Func.keyOf it value zero).2 = true → ((Func.keyOf it value zero).1, value) ∈ it) ∧
      ((Func.keyOf it value zero).2 = false → (Func.keyOf it value zero).1 = zero ∧ ¬ ∃ k, (k, value) ∈ it)
  | [] => ⟨nofun, fun _ => ⟨rfl, fun ⟨_, h⟩ => nomatch h⟩⟩
  | (k, v) :: rest => by
    rw [Func.keyOf]
    by_cases h : v = value
    · rw [if_pos h, h]; exact ⟨fun _ => List.mem_cons_self, nofun⟩
    · rw [if_neg h, exists_snd_mem_cons rest h]
      exact ⟨fun ht => List.mem_cons_of_mem _ ((keyOf_spec value zero rest).1 ht), (keyOf_spec value zero rest).2⟩

theorem mapGet_isSome_iff [DecidableEq κ] (key : κ) :
    ∀ m : List (κ × ν), (Func.mapGet m key).isSome = true ↔ ∃ v, (key, v) ∈ m
  | [] => ⟨nofun, fun ⟨_, h⟩ => nomatch h⟩
  | (k, x) :: rest => by
    rw [Func.mapGet]
    by_cases h : k = key
    · rw [if_pos h, h]; exact ⟨fun _ => ⟨x, List.mem_cons_self⟩, fun _ => rfl⟩
    · rw [if_neg h, mapGet_isSome_iff key rest, exists_fst_mem_cons rest h]

theorem mapGet_eq_some_iff [DecidableEq κ] (key : κ) (v : ν) :
    ∀ m : List (κ × ν), (m.map (·.1)).Nodup → (Func.mapGet m key = some v ↔ (key, v) ∈ m)
  | [], _ => by simp [Func.mapGet]
  | (k, x) :: rest, hnd => by
    rw [List.map_cons, List.nodup_cons] at hnd
    rw [Func.mapGet]
    by_cases h : k = key
    · subst h
      simp only [if_true, Option.some.injEq, List.mem_cons, Prod.mk.injEq, true_and]
      constructor
      · intro e; exact Or.inl e.symm
      · rintro (e | hm)
        · exact e.symm
        · exact absurd (List.mem_map.mpr ⟨(k, v), hm, rfl⟩) hnd.1
    · rw [if_neg h, mapGet_eq_some_iff key v rest hnd.2, List.mem_cons]
      constructor
      · exact Or.inr
      · rintro (e | hm)
        · exact absurd (Prod.mk.inj e).1.symm h
        · exact hm

theorem keys_mapSet [DecidableEq κ] (key : κ) (v : ν) :
    ∀ m : List (κ × ν), (Func.mapSet m key v).map (·.1) = if key ∈ m.map (·.1) then m.map (·.1) else m.map (·.1) ++ [key]
  | [] => by simp [Func.mapSet]
  | (k, x) :: rest => by
    rw [Func.mapSet]
    by_cases h : k = key
    · subst h; simp
    · have : ¬ key = k := fun e => h e.symm
      rw [if_neg h, List.map_cons, keys_mapSet key v rest]
      by_cases hm : key ∈ rest.map (·.1)
      · simp [hm]
      · simp [hm, this]

theorem mapSet_of_not_mem [DecidableEq κ] (key : κ) (v : ν) :
    ∀ m : List (κ × ν), key ∉ m.map (·.1) → Func.mapSet m key v = m ++ [(key, v)]
  | [], _ => rfl
  | (k, x) :: rest, h => by
    rw [List.map_cons, List.mem_cons, not_or] at h
    rw [Func.mapSet, if_neg (Ne.symm h.1), mapSet_of_not_mem key v rest h.2]; rfl

/-- Clone re-inserts the entries in iteration order: with no duplicate keys it returns them as they are -/
theorem mcloneLoop_eq [DecidableEq κ] :
    ∀ (it newMap : List (κ × ν)), ((newMap ++ it).map (·.1)).Nodup → Func.mcloneLoop it newMap = newMap ++ it
  | [], _, _ => (List.append_nil _).symm
  | (k, v) :: rest, newMap, h => by
    rw [List.append_cons] at h
    have hk : k ∉ newMap.map (·.1) := by
      rw [List.map_append, List.map_append, List.nodup_append, List.nodup_append] at h
      exact fun hm => h.1.2.2 k hm k List.mem_cons_self rfl
    rw [Func.mcloneLoop, mapSet_of_not_mem k v newMap hk, mcloneLoop_eq rest _ h, ← List.append_cons]

theorem keys_mapDelete [DecidableEq κ] (key : κ) :
    ∀ m : List (κ × ν), (Func.mapDelete m key).map (·.1) = (m.map (·.1)).erase key
  | [] => rfl
  | (k, x) :: rest => by
    rw [Func.mapDelete, List.map_cons, List.erase_cons]
    by_cases h : k = key
    · rw [if_pos h, if_pos (beq_iff_eq.mpr h)]
    · rw [if_neg h, if_neg (mt beq_iff_eq.mp h), List.map_cons, keys_mapDelete key rest]

/-- Clear: deleting every key the iteration visits empties the map, duplicate keys or not -/
theorem mclear_eq_nil [DecidableEq κ] :
    ∀ (it m : List (κ × ν)), (it.map (·.1)).Perm (m.map (·.1)) → Func.mclear it m = []
  | [], m, h => List.map_eq_nil_iff.mp h.symm.eq_nil
  | (k, v) :: rest, m, h => by
    rw [Func.mclear]
    apply mclear_eq_nil rest
    rw [keys_mapDelete]
    have := h.erase k
    rwa [List.map_cons, List.erase_cons_head] at this

-- Distinct / GroupBy: here, not in `Func` / `FuncGroup`, because the sum of the group sizes goes through `ListCount`
theorem nodup_dedup [DecidableEq α] : ∀ s : List α, (Spec.Func.dedup s).Nodup
  | [] => by simp [Spec.Func.dedup]
  | v :: rest => by
    rw [Spec.Func.dedup, List.nodup_cons]
    refine ⟨?_, (nodup_dedup rest).sublist List.filter_sublist⟩
    intro hm
    rw [List.mem_filter] at hm
    simp at hm

theorem groupBy_sizes_sum [DecidableEq κ] (s : List α) (keyer : α → κ) :
    ((Spec.Func.groupBy s keyer).map (fun g => g.2.length)).sum = s.length := by
  unfold Spec.Func.groupBy Spec.Func.groupKeys
  rw [List.map_map]
  have h := ListCount.countP_by_label (fun _ => true) keyer _ (nodup_dedup (s.map keyer)) s
    (fun v hv _ => (mem_dedup _ _).mpr (List.mem_map.mpr ⟨v, hv, rfl⟩))
  rw [List.countP_true] at h
  simp only [Bool.true_and, List.countP_eq_length_filter] at h
  exact h

end TypVerif.Lemmas.Func
