import TypVerif.Lemmas.OncePanicTrace
/-
Progress for the Once system with panicking functions: nobody is stuck behind a goroutine whose function
panicked (the deferred `Unlock` releases the mutex), and every caller that did not panic can return.
-/
namespace TypVerif.Lemmas.OncePanic
open TypVerif TypVerif.Conc TypVerif.Model TypVerif.Model.OncePanic

theorem rank_eq_zero {p : Once.Pc} (h : rank p = 0) : p = .returned := by
  cases p <;> simp [rank] at h ⊢

/-- `ret` is the only step into `returned` -/
theorem nextPc_returned {d : Bool} {r : List Int} {p : Once.Pc} (h : Once.nextPc d r p = .returned) :
    p = .read ∨ p = .returned := by
  cases p
  case read => exact .inl rfl
  case returned => exact .inr rfl
  case fast | check => cases d <;> cases h
  all_goals cases h

theorem holds_facts {p : Once.Pc} (h : holds p = true) :
    p ≠ .returned ∧ p ≠ .read ∧ p ≠ .lock ∧ p ≠ .idle ∧ p ≠ .fast := by
  cases p <;> simp [holds] at h ⊢

variable {n a : Nat} (res : Nat → List Int) {s : State} {t : Nat}

/-- the holder of the mutex is at a location from which `Do` itself goes on: it is not gone and it is enabled -/
theorem holder_enabled (hi : Inv a s) {h : Nat}
    (hh : s.base.mu = some h) :
    h < s.base.pcs.length ∧ holds (s.base.pc h) = true ∧ s.unwound h = false ∧
      ∃ lb sb, Once.Step res s.base h lb sb := by
  obtain ⟨hlt, hho⟩ := hi.base.holder h hh
  have hf := holds_facts hho
  exact ⟨hlt, hho, by simp [State.unwound, hf.2.1], Once.Step.enabled res hf.1 fun e => absurd e hf.2.2.1⟩

/-- a goroutine that is inside `Do` has a step of `Model.Once`, or waits at `Lock` for a holder that is not gone and has one -/
theorem enabled_or_waiting (hi : Inv a s) (hnr : s.base.pc t ≠ .returned) :
    (∃ lb sb, Once.Step res s.base t lb sb) ∨
    (s.base.pc t = .lock ∧ ∃ h, s.base.mu = some h ∧ h ≠ t ∧ h < s.base.pcs.length ∧
      holds (s.base.pc h) = true ∧ s.unwound h = false ∧ ∃ lb sb, Once.Step res s.base h lb sb) := by
  by_cases hl : s.base.pc t = .lock ∧ s.base.mu ≠ none
  · right
    obtain ⟨hl, hm⟩ := hl
    obtain ⟨h, hh⟩ := Option.ne_none_iff_exists'.mp hm
    obtain ⟨hlt, hho, huh, hs⟩ := holder_enabled res hi hh
    exact ⟨hl, h, hh, fun e => (holds_facts hho).2.2.1 (e ▸ hl), hlt, hho, huh, hs⟩
  · exact .inl (Once.Step.enabled res hnr fun e => Classical.byContradiction fun hm => hl ⟨e, hm⟩)

/-- distance to the return of goroutine `t`: its own position, then the position of the mutex holder
(lexicographic: `11` is the largest rank plus one) -/
def measure (s : State) (t : Nat) : Nat :=
  11 * rank (s.base.pc t) + (match s.base.mu with | none => 0 | some h => rank (s.base.pc h))

theorem measure_le (s : State) (t : Nat) : measure s t ≤ 11 * rank (s.base.pc t) + 10 := by
  unfold measure
  split
  · omega
  · have := rank_le (s.base.pc ‹Nat›); omega

/-- while `t` has not returned (and did not panic) some step of `Do` itself brings it closer to its return -/
theorem progress_step (hi : Inv a s)
    (ht : t < s.base.pcs.length) (hp : t ∉ s.panicked) (hnr : s.base.pc t ≠ .returned) :
    ∃ l s', (l, s') ∈ succ res s ∧ measure s' t < measure s t ∧ s'.panicked = s.panicked ∧
      (s.base.pc t ≠ .read → s'.base.pc t ≠ .returned) := by
  have hu : s.unwound t = false := by simp [State.unwound, hp]
  rcases enabled_or_waiting res hi hnr with ⟨lb, sb, hs⟩ | ⟨_, h, hh, hne, hlt, hho, huh, lb, sb, hs⟩
  · -- `t` moves
    have f2 := step_rank_lt hs ht
    refine ⟨_, _, mem_succ_iff.mpr (.base ht hu hs), ?_, rfl,
      fun hrd e => (nextPc_returned ((hs.pc_self ht).symm.trans e)).elim hrd hnr⟩
    have h1 := measure_le ⟨sb, s.panicked⟩ t
    have h2 : 11 * rank (s.base.pc t) ≤ measure s t := by unfold measure; omega
    simp only at h1
    omega
  · -- the holder moves
    have hne : t ≠ h := hne.symm
    have f2 := step_rank_lt hs hlt
    refine ⟨_, _, mem_succ_iff.mpr (.base hlt huh hs), ?_, rfl, fun _ e => hnr ((hs.pc_ne hlt hne).symm.trans e)⟩
    unfold measure
    simp only [hs.pc_ne hlt hne, hh]
    rcases hs.mu with e | ⟨_, e⟩ | ⟨_, _, e⟩
    · exact absurd e.1 (holds_facts hho).2.2.1
    · rw [e]; simp only; omega
    · rw [e, hh]; simp only; omega

/-- every caller that has not returned and whose function did not panic can return: some schedule makes it
emit its `ret` (by induction on a bound `k` of the measure: at `read` the next step of `t` is the `ret`) -/
theorem can_return (t : Nat) :
    ∀ (k : Nat) (s : (sys n a res).State), Inv a s → measure s t ≤ k → t < s.base.pcs.length → t ∉ s.panicked →
      s.base.pc t ≠ .returned → ∃ ls s' r, Exec (sys n a res) s ls s' ∧ some (Event.ret t r) ∈ ls := by
  intro k
  induction k with
  | zero =>
    intro s _ hm _ _ hnr
    refine absurd (rank_eq_zero ?_) hnr
    unfold measure at hm
    omega
  | succ k ih =>
    intro s hi hm ht hp hnr
    by_cases hrd : s.base.pc t = .read
    · exact ⟨[_], _, s.base.fields, Exec.single (mem_succ_iff.mpr (.base ht (by simp [State.unwound, hp]) (.ret hrd))),
        List.mem_singleton.2 rfl⟩
    · obtain ⟨l, s1, hstep, hlt, hpan, hnr1⟩ := progress_step res hi ht hp hnr
      obtain ⟨ls, s2, r, he, hr⟩ := ih s1 (inv_step hi hstep) (by omega)
        (by rw [succ_length_eq hstep]; exact ht) (by rw [hpan]; exact hp) (hnr1 hrd)
      exact ⟨l :: ls, s2, r, Exec.cons hstep he, List.mem_cons_of_mem _ hr⟩

end TypVerif.Lemmas.OncePanic
