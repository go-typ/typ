import TypVerif.Lemmas.SmcStore
/-
C04 concurrent half: the steps of `LoadOrStore` that are not quiet —
`losLoad` / `losLoad2` (`tryLoadOrStore`'s pointer loads: linearization when a value is found; one lemma, `R_losLoaded`,
which `sim_step` applies at both), `losCas` (linearization when the CAS on a nil pointer succeeds), `losRead2` (the locked
re-read: linearization when the key is new and `amended` is already set: `finishNew`), `losUnexp` (un-expunge).

The store into an existing entry and the un-expunge are those of `Store` (`R_storeVal`, `R_unexp` in `SmcStore`).
-/
namespace TypVerif.Lemmas.Smc
open TypVerif.Model TypVerif.Model.SyncMapConc TypVerif.Model.RelObj
open TypVerif.Model.SyncMap (alookup ainsert aerase akeys)

set_option linter.unusedSectionVars false

variable {K V : Type} [DecidableEq K] [DecidableEq V] [Inhabited V]
variable {menu : List (Op K V)} {s : State K V} {a : AState K V} {t : Tid}

/-- the loaded pointer holds a value: linearization step, the shared data does not change -/
theorem R_losOk_loaded {c : LosCtx} {k : K} {v w : V} {e : EId} {i : Nat} (hR : R s a) (ht : t < s.pcs.length)
    (hpend : Pend (a.pcs t) (.loadOrStore k v)) (hhold : LosHold s.sh t c k e)
    (hlin : isLin s.sh (s.pc t) (a.pcs t) = true) (hunp : unprocPc (s.pc t) = [])
    (hp : getP s.sh e = .val i w) {sh' : Shared K V} {pc' : Pc K V} (hok : losOk s.sh c k w true = (sh', pc')) :
    R (setPc s t sh' pc') (witness s t none a) := by
  have hcur := hhold.cur_of_not_expunged (congrArg Ptr.isExpunged hp)
  have hobjk : a.obj k = some w := by rw [hR.abs k, hR.g.gs.absOf_cur hcur, hp]; rfl
  have happ : applyOp a.obj (.loadOrStore k v) = [(a.obj, .pair w true)] := applyOp_loadOrStore_some v hobjk
  cases c with
  | fast =>
    cases hok
    exact R_effect_same hR ht (.lin hlin hpend happ) (.refl _ _) ⟨rfl, hhold.1⟩
      (subset_of_eq_nil hunp) (subset_of_eq_nil (unlinkedPc_ret _ _))
  | slowRead =>
    cases hok
    exact R_effect_same hR ht (.lin hlin hpend happ) (.unlock hhold.1)
      ⟨rfl, Own_unlock _ _⟩
      (subset_of_eq_nil hunp) (subset_of_eq_nil (unlinkedPc_ret _ _))
  | slowDirty =>
    obtain ⟨hown, hrk, hdk⟩ := hhold
    have ham := hR.g.gs.amended_of_dirty_only hrk hdk
    unfold losOk missTail at hok
    dsimp only at hok
    split at hok
    · cases hok
      refine R_effect_same hR ht (.lin hlin hpend happ) (.missStep _ _) ?_
        (subset_of_eq_nil hunp) (subset_of_eq_nil (unlinkedPc_eq_nil_of_done rfl _))
      exact (T_congr (sameData_missStep_fst s.sh) (Own_missStep_fst _ _) _ _).mpr
        ⟨⟨decide_eq_true rfl, rfl⟩, rfl, hown, ham, hR.g.gs.dirty_isSome_of_amended ham⟩
    · cases hok
      exact R_effect_same hR ht (.lin hlin hpend happ) (.unlock_missStep hown)
        ⟨rfl, Own_unlock _ _⟩
        (subset_of_eq_nil hunp) (subset_of_eq_nil (unlinkedPc_ret _ _))

/-- both load sites of `tryLoadOrStore` -/
theorem R_losLoaded {c : LosCtx} {k : K} {v : V} {e : EId} (hR : R s a) (ht : t < s.pcs.length)
    (hpend : Pend (a.pcs t) (.loadOrStore k v)) (hhold : LosHold s.sh t c k e)
    (hlin : isLin s.sh (s.pc t) (a.pcs t) = isVal (getP s.sh e)) (hunp : unprocPc (s.pc t) = [])
    {sh' : Shared K V} {pc' : Pc K V} (hex : losLoaded s.sh c k v e = (sh', pc')) :
    R (setPc s t sh' pc') (witness s t none a) := by
  unfold losLoaded at hex
  split at hex <;> rename_i hp <;> rw [hp] at hlin
  · cases c with
    | fast =>
      cases hex
      exact Quiet.toR (.same ⟨hpend, hhold.1⟩ rfl) hR ht rfl hlin hunp
    | slowRead => exact absurd (congrArg Ptr.isExpunged hp) (Bool.eq_false_iff.mp hhold.2.2)
    | slowDirty =>
      exact absurd (congrArg Ptr.isExpunged hp) (Bool.eq_false_iff.mp (not_isExpunged_of_isVal (hR.g.gs.dirty_only_isVal hhold.2.1 hhold.2.2)))
  · exact R_losOk_loaded hR ht hpend hhold hlin hunp hp hex
  · cases hex
    exact Quiet.toR (.same ⟨hpend, hhold⟩ rfl) hR ht rfl hlin hunp

theorem stepOK_losCas {c : LosCtx} {k : K} {v : V} {e : EId} (hR : R s a) (ht : t < s.pcs.length)
    (hpc : s.pc t = .losCas c k v e) : StepOK menu s a t := by
  obtain ⟨hpend, hhold⟩ : T s.sh t (.losCas c k v e) (a.pcs t) := hpc ▸ hR.thr t
  have hunp : unprocPc (s.pc t) = [] := by rw [hpc]; rfl
  have hlin : isLin s.sh (s.pc t) (a.pcs t) = (getP s.sh e).isNil := by rw [hpc]; rfl
  refine stepOK_exec hR ht hpc nofun (fun _ => nofun) rfl fun sh' pc' hex => ?_
  dsimp only [exec] at hex
  split at hex <;> rename_i hn
  · rw [hn] at hlin
    have hx : (getP s.sh e).isExpunged = false := not_isExpunged_of_isNil hn
    have hcur := hhold.cur_of_not_expunged hx
    have hobjk : a.obj k = none := by
      rw [hR.abs k, hR.g.gs.absOf_cur hcur]
      exact value?_none_of_isNil hn
    have happ : applyOp a.obj (.loadOrStore k v) = [(put a.obj k v, .pair v false)] :=
      applyOp_loadOrStore_none v hobjk
    cases c with
    | fast =>
      cases hex
      exact R_storeVal hR ht hpend hlin happ nofun hx hcur (.refl _ _) hhold.1 hunp
    | slowRead =>
      cases hex
      exact R_storeVal hR ht hpend hlin happ nofun hx hcur (.unlock hhold.1) (Own_unlock _ _) hunp
    | slowDirty =>
      exact absurd hn (Bool.eq_false_iff.mp (not_isNil_of_isVal (hR.g.gs.dirty_only_isVal hhold.2.1 hhold.2.2)))
  · rw [Bool.eq_false_iff.mpr hn] at hlin
    cases hex
    exact Quiet.toR (.same ⟨hpend, hhold⟩ rfl) hR ht rfl hlin hunp

theorem stepOK_losRead2 {k : K} {v : V} (hR : R s a) (ht : t < s.pcs.length)
    (hpc : s.pc t = .losRead2 k v) : StepOK menu s a t := by
  obtain ⟨hpend, hown⟩ : T s.sh t (.losRead2 k v) (a.pcs t) := hpc ▸ hR.thr t
  have hunp : unprocPc (s.pc t) = [] := by rw [hpc]; rfl
  have hlin : isLin s.sh (s.pc t) (a.pcs t) =
      ((alookup k s.sh.readM).isNone && (alookup k (dirtyMap s.sh)).isNone && s.sh.amended) := by rw [hpc]; rfl
  refine stepOK_exec hR ht hpc nofun (fun _ => nofun) rfl fun sh' pc' hex => ?_
  dsimp only [exec] at hex
  split at hex <;> rename_i hr <;> rw [hr] at hlin
  · cases hex
    exact Quiet.toR (.same ⟨hpend, hown, hr⟩ rfl) hR ht rfl hlin hunp
  split at hex <;> rename_i hdk <;> rw [hdk] at hlin
  · cases hex
    exact Quiet.toR (.same ⟨hpend, hown, hr, hdk⟩ rfl) hR ht rfl hlin hunp
  exact R_newTail (c := .los) hR ht hpend hown hunp hr hdk hlin (Option.some.inj hex)

theorem stepOK_losUnexp {k : K} {v : V} {e : EId} (hR : R s a) (ht : t < s.pcs.length)
    (hpc : s.pc t = .losUnexp k v e) : StepOK menu s a t := by
  obtain ⟨hpend, hown, hr⟩ : T s.sh t (.losUnexp k v e) (a.pcs t) := hpc ▸ hR.thr t
  have hlin : isLin s.sh (s.pc t) (a.pcs t) = false := by rw [hpc]; rfl
  have hunp : unprocPc (s.pc t) = [] := by rw [hpc]; rfl
  refine stepOK_exec hR ht hpc nofun (fun _ => nofun) rfl fun sh' pc' hex => ?_
  dsimp only [exec] at hex
  split at hex <;> rename_i hx <;> cases hex
  · exact R_unexp hR ht hlin hown hunp hr hx (fun _ ho hr' hx' => ⟨hpend, ho, hr', hx'⟩) rfl
  · exact Quiet.toR (.same ⟨hpend, hown, hr, Bool.eq_false_iff.mpr hx⟩ rfl) hR ht rfl hlin hunp

end TypVerif.Lemmas.Smc
