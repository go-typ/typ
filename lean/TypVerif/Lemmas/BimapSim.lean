import TypVerif.Lemmas.Bimap
/-
C11: the model refines the specification (`Spec/Bimap.lean`): simulation relation `Rep b s` between a model
Bimap and a specification relation, preserved by every operation, lifted to worlds.
-/
set_option linter.unusedSectionVars false

namespace TypVerif.Lemmas.Bimap
open TypVerif.Model.Bimap
open TypVerif.Spec.Bimap (Rel Injective)

section SP
variable {K V : Type} [DecidableEq K] [DecidableEq V]

/-! `Spec/Bimap.lean` uses no model function: its `fwd`, `rev`, `wget`, `wset` are shown here to be `lookup`/`put`. -/

theorem spec_fwd_eq_lookup (s : Rel K V) (k : K) : Spec.Bimap.fwd s k = lookup s k := by
  induction s with
  | nil => rfl
  | cons p xs ih => obtain ⟨a, b⟩ := p; simp only [Spec.Bimap.fwd, lookup, ih]

theorem spec_rev_eq_lookup (s : Rel K V) (v : V) :
    Spec.Bimap.rev s v = lookup (s.map (fun p => (p.2, p.1))) v := by
  induction s with
  | nil => rfl
  | cons p xs ih => obtain ⟨a, b⟩ := p; simp only [Spec.Bimap.rev, List.map_cons, lookup, ih]

theorem spec_fwd_iff {s : Rel K V} (inj : Injective s) (k : K) (v : V) :
    Spec.Bimap.fwd s k = some v ↔ (k, v) ∈ s := by
  rw [spec_fwd_eq_lookup, lookup_eq_some_iff inj.1]

theorem spec_rev_iff {s : Rel K V} (inj : Injective s) (k : K) (v : V) :
    Spec.Bimap.rev s v = some k ↔ (k, v) ∈ s := by
  rw [spec_rev_eq_lookup, lookup_eq_some_iff (nodupKeys_map_swap.mpr inj.2), mem_map_swap]

theorem spec_inverse {s : Rel K V} (inj : Injective s) (k : K) (v : V) :
    Spec.Bimap.fwd s k = some v ↔ Spec.Bimap.rev s v = some k := by
  rw [spec_fwd_iff inj, spec_rev_iff inj]

theorem injective_empty : Injective (Spec.Bimap.empty : Rel K V) :=
  ⟨List.nodup_nil, List.nodup_nil⟩

theorem injective_filter {s : Rel K V} (inj : Injective s) (p : K × V → Bool) : Injective (s.filter p) :=
  ⟨inj.1.sublist (List.filter_sublist.map _), inj.2.sublist (List.filter_sublist.map _)⟩

theorem mem_add {s : Rel K V} {k : K} {v : V} {p : K × V} :
    p ∈ Spec.Bimap.add s k v ↔ p = (k, v) ∨ (p ∈ s ∧ p.1 ≠ k ∧ p.2 ≠ v) := by
  rw [Spec.Bimap.add, List.mem_cons, List.mem_filter, Bool.and_eq_true, decide_eq_true_eq, decide_eq_true_eq]

theorem injective_add {s : Rel K V} (inj : Injective s) (k : K) (v : V) :
    Injective (Spec.Bimap.add s k v) := by
  have hf := injective_filter inj (fun p => decide (p.1 ≠ k) && decide (p.2 ≠ v))
  have hp : ∀ p ∈ s.filter (fun p => decide (p.1 ≠ k) && decide (p.2 ≠ v)), p.1 ≠ k ∧ p.2 ≠ v := by
    intro p hp
    have := (List.mem_filter.mp hp).2
    rwa [Bool.and_eq_true, decide_eq_true_eq, decide_eq_true_eq] at this
  refine ⟨List.nodup_cons.mpr ⟨fun hm => ?_, hf.1⟩, List.nodup_cons.mpr ⟨fun hm => ?_, hf.2⟩⟩
  · obtain ⟨p, hm, e⟩ := List.mem_map.mp hm
    exact (hp p hm).1 e
  · obtain ⟨p, hm, e⟩ := List.mem_map.mp hm
    exact (hp p hm).2 e

/-! ### the simulation relation -/

/-- `s` is the set of pairs stored in `b` -/
structure Rep (b : Bimap K V) (s : Rel K V) : Prop where
  wf : WF b
  inj : Injective s
  mem : ∀ k v, b.getForward? k = some v ↔ (k, v) ∈ s

theorem Rep.fwd_eq {b : Bimap K V} {s : Rel K V} (r : Rep b s) (k : K) :
    b.getForward? k = Spec.Bimap.fwd s k :=
  Option.ext fun v => by rw [r.mem, spec_fwd_iff r.inj]

theorem Rep.rev_eq {b : Bimap K V} {s : Rel K V} (r : Rep b s) (v : V) :
    b.getReverse? v = Spec.Bimap.rev s v :=
  Option.ext fun k => by rw [← r.wf.inv, r.mem, spec_rev_iff r.inj]

theorem Rep.len_eq {b : Bimap K V} {s : Rel K V} (r : Rep b s) : b.len = Spec.Bimap.len s :=
  (len_eq_of_enum r.wf s (nodup_of_map _ r.inj.1) (fun k v => (r.mem k v).symm)).symm

theorem rep_zero : Rep (zero : Bimap K V) Spec.Bimap.empty :=
  ⟨wf_zero, injective_empty, fun _ _ => ⟨nofun, nofun⟩⟩

theorem rep_add [Inhabited K] [Inhabited V] {b : Bimap K V} {s : Rel K V} (r : Rep b s) (k : K) (v : V) :
    ∃ b', b.add k v = .ok b' ∧ Rep b' (Spec.Bimap.add s k v) := by
  obtain ⟨b', hb', wf', hF, _⟩ := add_spec r.wf k v
  refine ⟨b', hb', wf', injective_add r.inj k v, fun k' v' => ?_⟩
  rw [hF, update_iff r.wf.inv, mem_add, r.mem, Prod.mk.injEq]

theorem rep_removeForward [Inhabited V] {b : Bimap K V} {s : Rel K V} (r : Rep b s) (k : K) :
    Rep (b.removeForward k) (Spec.Bimap.removeKey s k) := by
  obtain ⟨wf', hF, _⟩ := removeForward_spec r.wf k
  refine ⟨wf', injective_filter r.inj _, fun k' v' => ?_⟩
  rw [hF, Option.ite_none_left_eq_some, r.mem, Spec.Bimap.removeKey, List.mem_filter, decide_eq_true_eq,
    and_comm, ne_comm]

theorem rep_removeReverse [Inhabited K] {b : Bimap K V} {s : Rel K V} (r : Rep b s) (v : V) :
    Rep (b.removeReverse v) (Spec.Bimap.removeVal s v) := by
  obtain ⟨wf', hF, _⟩ := removeReverse_spec r.wf v
  refine ⟨wf', injective_filter r.inj _, fun k' v' => ?_⟩
  rw [hF, evict_iff (fun v k => (r.wf.inv k v).symm), ← r.wf.inv, r.mem, Spec.Bimap.removeVal,
    List.mem_filter, decide_eq_true_eq]

theorem rep_clear {b : Bimap K V} {s : Rel K V} (r : Rep b s) : Rep b.clear (Spec.Bimap.clear s) := by
  obtain ⟨wf', hF, _⟩ := clear_spec r.wf
  exact ⟨wf', injective_empty, fun k v => by rw [hF]; exact ⟨nofun, nofun⟩⟩

theorem rep_clone {b : Bimap K V} {s : Rel K V} (r : Rep b s) : Rep b.clone (Spec.Bimap.clone s) := by
  obtain ⟨wf', _, _, hF, _⟩ := clone_spec r.wf
  exact ⟨wf', r.inj, fun k v => by rw [hF]; exact r.mem k v⟩

/-! ### worlds -/

theorem wget_eq_lookup (w : Spec.Bimap.World K V) (h : Int) : Spec.Bimap.wget w h = lookup w h := by
  induction w with
  | nil => rfl
  | cons p xs ih => obtain ⟨a, b⟩ := p; simp only [Spec.Bimap.wget, lookup, ih]

theorem wset_eq_put (w : Spec.Bimap.World K V) (h : Int) (s : Rel K V) : Spec.Bimap.wset w h s = put w h s := by
  induction w with
  | nil => rfl
  | cons p xs ih => obtain ⟨a, b⟩ := p; simp only [Spec.Bimap.wset, put, ih]

def ORel {α β : Type} (R : α → β → Prop) : Option α → Option β → Prop
  | some a, some b => R a b
  | none, none => True
  | _, _ => False

theorem orel_imp {α β : Type} {R S : α → β → Prop} (h : ∀ a b, R a b → S a b) :
    ∀ {x : Option α} {y : Option β}, ORel R x y → ORel S x y
  | some a, some b, r => h a b r
  | none, none, _ => trivial

theorem orel_some_left {α β : Type} {R : α → β → Prop} {a : α} :
    ∀ {y : Option β}, ORel R (some a) y → ∃ b, y = some b ∧ R a b
  | some b, r => ⟨b, rfl, r⟩

theorem orel_some_right {α β : Type} {R : α → β → Prop} {b : β} :
    ∀ {x : Option α}, ORel R x (some b) → ∃ a, x = some a ∧ R a b
  | some a, r => ⟨a, rfl, r⟩

/-- same handles bound on both sides, and bound objects related; in particular every bound bimap satisfies
the representation invariant -/
def Sim (w : World K V) (sw : Spec.Bimap.World K V) : Prop :=
  ∀ h, ORel Rep (lookup w h) (Spec.Bimap.wget sw h)

theorem sim_nil : Sim ([] : World K V) ([] : Spec.Bimap.World K V) := fun _ => trivial

theorem sim_put {w : World K V} {sw : Spec.Bimap.World K V} (hs : Sim w sw) (h : Int)
    {b : Bimap K V} {s : Rel K V} (r : Rep b s) : Sim (put w h b) (Spec.Bimap.wset sw h s) := by
  intro h'
  rw [wset_eq_put, wget_eq_lookup, lookup_put, lookup_put]
  by_cases hh : h = h'
  · rw [if_pos hh, if_pos hh]; exact r
  · rw [if_neg hh, if_neg hh, ← wget_eq_lookup]; exact hs h'

/-- the shape of every operation but `new`, on both sides: read handle `h`, write the result to handle `t`.
No panic, the simulation is kept, and only handle `t` changes. -/
theorem sim_bind {w : World K V} {sw : Spec.Bimap.World K V} (hs : Sim w sw) (h t : Int)
    (f : Bimap K V → Except String (Bimap K V)) {g : Rel K V → Rel K V}
    (hfg : ∀ b s, Rep b s → ∃ b', f b = .ok b' ∧ Rep b' (g s)) :
    ∃ w', (match lookup w h with
        | none => .ok w
        | some b =>
          match f b with
          | .ok b' => .ok (put w t b')
          | .error e => .error e) = Except.ok w' ∧
      Sim w' (match Spec.Bimap.wget sw h with
        | none => sw
        | some s => Spec.Bimap.wset sw t (g s)) ∧
      ∀ h', h' ≠ t → lookup w' h' = lookup w h' := by
  have hh := hs h
  cases e1 : lookup w h with
  | none =>
    cases e2 : Spec.Bimap.wget sw h with
    | none => exact ⟨w, rfl, hs, fun _ _ => rfl⟩
    | some s => rw [e1, e2] at hh; exact hh.elim
  | some b =>
    rw [e1] at hh
    obtain ⟨s, e2, r⟩ := orel_some_left hh
    obtain ⟨b', hb', r'⟩ := hfg b s r
    refine ⟨put w t b', ?_, ?_, fun h' ne => lookup_put_ne w b' (Ne.symm ne)⟩
    · simp only [hb']
    · rw [e2]; exact sim_put hs t r'

variable [Inhabited K] [Inhabited V]

theorem step_sim {w : World K V} {sw : Spec.Bimap.World K V} (hs : Sim w sw) (op : Op K V) :
    ∃ w', step w op = .ok w' ∧ Sim w' (Spec.Bimap.step sw op) ∧
      ∀ h', h' ≠ op.target → lookup w' h' = lookup w h' := by
  cases op with
  | new h => exact ⟨_, rfl, sim_put hs h rep_zero, fun h' ne => lookup_put_ne w _ (Ne.symm ne)⟩
  | add h k v => exact sim_bind hs h h (·.add k v) fun b s r => rep_add r k v
  | rmf h k => exact sim_bind hs h h (.ok <| ·.removeForward k) fun b s r => ⟨_, rfl, rep_removeForward r k⟩
  | rmr h v => exact sim_bind hs h h (.ok <| ·.removeReverse v) fun b s r => ⟨_, rfl, rep_removeReverse r v⟩
  | clear h => exact sim_bind hs h h (.ok ·.clear) fun b s r => ⟨_, rfl, rep_clear r⟩
  | clone h t => exact sim_bind hs h t (.ok ·.clone) fun b s r => ⟨_, rfl, rep_clone r⟩

theorem sim_step {w w' : World K V} {sw : Spec.Bimap.World K V} (hs : Sim w sw) (op : Op K V)
    (hstep : step w op = .ok w') : Sim w' (Spec.Bimap.step sw op) := by
  obtain ⟨w'', h1, h2, _⟩ := step_sim hs op
  cases hstep.symm.trans h1
  exact h2

theorem runFrom_sim {w : World K V} {sw : Spec.Bimap.World K V} (hs : Sim w sw) (ops : List (Op K V)) :
    ∃ w', runFrom w ops = .ok w' ∧ Sim w' (Spec.Bimap.runFrom sw ops) ∧
      ∀ h, (∀ op ∈ ops, op.target ≠ h) → lookup w' h = lookup w h := by
  induction ops generalizing w sw with
  | nil => exact ⟨w, rfl, hs, fun _ _ => rfl⟩
  | cons op ops ih =>
    obtain ⟨w1, h1, hs1, fr⟩ := step_sim hs op
    obtain ⟨w2, h2, hs2, fr2⟩ := ih hs1
    refine ⟨w2, by simp only [runFrom, h1, h2], hs2, fun h hfar => ?_⟩
    rw [fr2 h fun o ho => hfar o (List.mem_cons_of_mem _ ho)]
    exact fr h (Ne.symm (hfar op List.mem_cons_self))

theorem sim_run (ops : List (Op K V)) {w' : World K V} (hrun : run ops = .ok w') :
    Sim w' (Spec.Bimap.run ops) := by
  obtain ⟨w'', h1, h2, _⟩ := runFrom_sim sim_nil ops
  cases hrun.symm.trans h1
  exact h2

theorem runFrom_append (w : World K V) (ops₁ ops₂ : List (Op K V)) :
    runFrom w (ops₁ ++ ops₂) =
      match runFrom w ops₁ with
      | .ok w' => runFrom w' ops₂
      | .error e => .error e := by
  induction ops₁ generalizing w with
  | nil => rfl
  | cons op ops ih =>
    simp only [List.cons_append, runFrom]
    cases step w op with
    | ok w1 => exact ih w1
    | error e => rfl

/-- a bimap obtained from the zero value or from clones by the public operations -/
def Reachable (b : Bimap K V) : Prop :=
  ∃ (ops : List (Op K V)) (w : World K V) (h : Int), run ops = .ok w ∧ lookup w h = some b

theorem reachable_wf {b : Bimap K V} (hb : Reachable b) : WF b := by
  obtain ⟨ops, w, h, hr, hl⟩ := hb
  have := sim_run ops hr h
  rw [hl] at this
  obtain ⟨s, _, r⟩ := orel_some_left this
  exact r.wf

end SP

end TypVerif.Lemmas.Bimap
