import TypVerif.Lemmas.ListSim
/-
Method-level simulation lemmas: each method of list.go, run on a heap that represents the world `w`,
does not panic (except on the documented nil dereferences), returns what the specification returns and
leaves a heap representing the specification's new world.
-/
namespace TypVerif.Lemmas.LinkedList
open TypVerif.Spec.ListOp
open TypVerif.Spec.Seq
open TypVerif.Model
open TypVerif.Model.LinkedList

def Agree {α : Type} (r : Result α) (w' : World) (a : α) : Prop := ∃ h', r = .ok a h' ∧ Sim h' w'

theorem mem_cyc_ne_null {l : ListId} {xs : List ElemId} {p : Ptr} (hp : p ∈ cyc l xs) : p ≠ .null := by
  rcases mem_cyc.1 hp with rfl | ⟨x, _, rfl⟩ <;> simp

theorem Sim.congr {h : Heap} {w w' : World} (hs : Sim h w)
    (h1 : ∀ l, w'.lists.get l = w.lists.get l) (h2 : ∀ e, w'.owner.get e = w.owner.get e)
    (h3 : ∀ e, w'.value.get e = w.value.get e) (h4 : w'.nextId = w.nextId) : Sim h w' := by
  refine ⟨?_, ?_, ?_, ?_, ?_, ?_, ?_, ?_⟩
  · rw [h4]; exact hs.nextId
  · intro e; rw [h3]; exact hs.value e
  · intro e; rw [h2]; exact hs.owner e
  · intro e l; rw [h1, h2]; exact hs.mem e l
  · intro l; rw [h1]; exact hs.nodup l
  · intro e he; rw [h2]; exact hs.fresh e (h4 ▸ he)
  · intro e he; rw [h2] at he; exact hs.detached e he
  · intro l; rw [h1]; exact hs.shape l

theorem Sim.bumpNext {h : Heap} {w : World} (hs : Sim h w) (n : Nat) (hn : w.nextId ≤ n) :
    Sim (h.setNextElem n) { w with nextId := n } := by
  refine ⟨rfl, hs.value, hs.owner, hs.mem, hs.nodup, ?_, hs.detached, hs.shape⟩
  intro e he
  exact hs.fresh e (Nat.le_trans hn he)

/-! ### Init / lazyInit -/

theorem init_run (l : ListId) (h : Heap) :
    init l h = .ok () (((h.setNext (.root l) (.root l)).setPrev (.root l) (.root l)).setLen l 0) := by
  unfold init
  rw [bind_ok (setNext_ok _ _ (root_ne_null l)), bind_ok (setPrev_ok _ _ (root_ne_null l))]
  rfl

theorem Sim.init_views {h g : Heap} {w : World} (hs : Sim h w) {l : ListId} (hxs : w.lists.get l = [])
    (gnext : ∀ x, g.next x = if x = .root l then .root l else h.next x)
    (gprev : ∀ x, g.prev x = if x = .root l then .root l else h.prev x)
    (glen : ∀ l', g.len l' = if l' = l then 0 else h.len l')
    (glist : g.listOf = h.listOf) (gval : g.value = h.value) (gne : g.nextElem = h.nextElem) :
    Sim g w ∧ Inited g w l := by
  have hin : Inited g w l := by
    constructor
    · rw [hxs]
      exact ⟨by rw [gnext]; simp, by rw [gprev]; simp, trivial⟩
    · rw [glen, hxs]; simp
  refine ⟨⟨?_, ?_, ?_, hs.mem, hs.nodup, hs.fresh, ?_, ?_⟩, hin⟩
  · rw [gne]; exact hs.nextId
  · intro e; rw [gval]; exact hs.value e
  · intro e; rw [glist]; exact hs.owner e
  · intro e he
    rw [gnext, gprev]; simp only [elem_ne_root, if_false]
    exact hs.detached e he
  · intro l'
    by_cases hl : l' = l
    · subst hl; exact Or.inr hin
    · apply Shape.frame (hs.shape l')
      · intro p hp
        have : p ≠ .root l := by
          intro hh; subst hh
          rcases mem_cyc.1 (List.dropLast_subset _ hp) with h1 | ⟨x, _, h1⟩
          · cases h1; exact hl rfl
          · cases h1
        rw [gnext]; simp only [this, if_false]
      · intro p hp
        have : p ≠ .root l := by
          intro hh; subst hh
          rcases mem_cyc.1 (List.mem_of_mem_tail hp) with h1 | ⟨x, _, h1⟩
          · cases h1; exact hl rfl
          · cases h1
        rw [gprev]; simp only [this, if_false]
      · rw [glen, if_neg hl]

theorem init_sim {h : Heap} {w : World} (hs : Sim h w) {l : ListId} (hxs : w.lists.get l = []) :
    ∃ h', init l h = .ok () h' ∧ Sim h' w ∧ Inited h' w l := by
  refine ⟨_, init_run l h, ?_⟩
  apply hs.init_views hxs
  · intro x
    simp only [next_setLen, next_setPrev, next_setNext _ _ (root_ne_null l), upd_apply]
  · intro x
    simp only [prev_setLen, prev_setPrev _ _ (root_ne_null l), prev_setNext, upd_apply]
  · intro l'
    simp only [len_setLen, len_setPrev, len_setNext, upd_apply]
  · simp
  · simp
  · simp

theorem lazyInit_sim {h : Heap} {w : World} (hs : Sim h w) (l : ListId) :
    ∃ h', lazyInit l h = .ok () h' ∧ Sim h' w ∧ Inited h' w l := by
  unfold lazyInit
  rw [bind_ok (getNext_ok _ (root_ne_null l))]
  rcases hs.shape l with ⟨h1, _, _, h4⟩ | h2
  · rw [if_pos h1]
    exact init_sim hs h4
  · have : h.next (.root l) ≠ .null := by
      rw [Linked.next_root h2.1]; exact ptrOr_ne_null _ _
    rw [if_neg this]
    exact ⟨h, rfl, hs, h2⟩

/-! ### insertValue -/

theorem insertValue_sim {h : Heap} {w : World} (hs : Sim h w) {l : ListId} {id : ElemId} (v : Int) {at' : Ptr}
    (hin : Inited h w l) (hat : at' ∈ (cyc l (w.lists.get l)).dropLast)
    (hfree : w.owner.get id = none) (hid : id < w.nextId) :
    Agree (insertValue l id v at' h) (w.place l id v (insAfter at' id (w.lists.get l))) (.elem id) := by
  have hnd := hs.nodup l
  have hatc : at' ∈ cyc l (w.lists.get l) := List.dropLast_subset _ hat
  have hat0 : at' ≠ .null := mem_cyc_ne_null hatc
  have hnc : h.next at' ∈ cyc l (w.lists.get l) := List.mem_of_mem_tail (Linked.next_mem hin.1 hat)
  have hn0 : h.next at' ≠ .null := mem_cyc_ne_null hnc
  have hidc : Ptr.elem id ∉ cyc l (w.lists.get l) := hs.free_not_mem_cyc hfree l
  have hne : at' ≠ .elem id := fun hh => hidc (hh ▸ hatc)
  have hdet := hs.detached id hfree
  -- the fresh cell changes only the value
  have n0 : (h.newElemAt id v).next = h.next := by
    rw [next_newElemAt]; exact upd_eq_self _ _ _ hdet.1
  have p0 : (h.newElemAt id v).prev = h.prev := by
    rw [prev_newElemAt]; exact upd_eq_self _ _ _ hdet.2
  have gnext : ∀ x, (insertH (h.newElemAt id v) l id at').next x =
      if x = at' then .elem id else if x = .elem id then h.next at' else h.next x := by
    intro x
    simp only [insertH, next_setLen, next_setList]
    rw [next_linkH _ _ hat0, n0]
  have gprev : ∀ x, (insertH (h.newElemAt id v) l id at').prev x =
      if x = h.next at' then .elem id else if x = .elem id then at' else h.prev x := by
    intro x
    simp only [insertH, prev_setLen, prev_setList]
    rw [prev_linkH _ _ _ (by rw [n0]; exact hn0), n0, p0]
  refine ⟨insertH (h.newElemAt id v) l id at', ?_, ?_⟩
  · unfold insertValue
    rw [bind_ok (newElemAt_run id v h)]
    exact insert_run _ l id hat0 (by rw [n0]; exact hn0) hne
  · apply hs.relink (Or.inl hfree) (Or.inr rfl) hid (fun x => Store.get_set _ _ _ _)
    · rw [if_pos rfl, List.erase_of_not_mem fun hm => hidc (elem_mem_cyc.2 hm)]
      exact insAfter_perm id hnd hat
    · rw [← insP_cyc id hatc]
      exact Linked.insP gnext gprev hin.1 hat (cyc_dropLast_nodup hnd) (cyc_tail_nodup hnd) hidc
    · simp only [insertH, len_setLen, len_setList, len_linkH, len_newElemAt, upd_apply, if_true, hin.2,
        (insAfter_perm id hnd hat).length_eq, List.length_cons, Int.natCast_add, Int.cast_ofNat_Int]
    · intro h0; cases h0
    · intro p hp hpe
      have h1 : p ≠ at' := fun hh => hp (hh ▸ hatc)
      rw [gnext, if_neg h1, if_neg hpe]
    · intro p hp hpe
      have h1 : p ≠ h.next at' := fun hh => hp (hh ▸ hnc)
      rw [gprev, if_neg h1, if_neg hpe]
    · intro l' hl
      simp only [insertH, len_setLen, len_setList, len_linkH, len_newElemAt, upd_apply, if_neg hl]
    · simp [insertH]
    · intro x
      simp only [insertH, listOf_setLen, listOf_setList, listOf_linkH, listOf_newElemAt, upd_apply, Ptr.elem.injEq,
        Store.get_set, hs.owner]
      split
      · rfl
      · rfl
    · intro x
      simp only [insertH, value_setLen, value_setList, value_linkH, value_newElemAt, upd_apply, Ptr.elem.injEq,
        Store.get_set, hs.value]

theorem insertValueFresh_sim {h : Heap} {w : World} (hs : Sim h w) {l : ListId} (v : Int) {at' : Ptr}
    (hin : Inited h w l) (hat : at' ∈ (cyc l (w.lists.get l)).dropLast) :
    Agree (insertValueFresh l v at' h)
      ((w.place l w.nextId v (insAfter at' w.nextId (w.lists.get l))).bump) (.elem w.nextId) := by
  unfold insertValueFresh
  rw [bind_ok (getNextElem_run h), bind_ok (setNextElem_run _ _), hs.nextId]
  have hs1 := hs.bumpNext (w.nextId + 1) (Nat.le_succ _)
  -- the goal's world `(w.place …).bump` is the world of `insertValue_sim` at this `w` once `place`, `bump` are unfolded
  exact insertValue_sim (w := { w with nextId := w.nextId + 1 }) hs1 v hin hat
    (hs.fresh _ (Nat.le_refl _)) (Nat.lt_succ_self _)

/-! ### Len / Front / Back, Element.Next / Prev -/

theorem Sim.len_eq {h : Heap} {w : World} (hs : Sim h w) (l : ListId) : h.len l = (w.lists.get l).length := by
  rcases hs.shape l with ⟨_, _, h3, h4⟩ | h2
  · rw [h3, h4]; rfl
  · exact h2.2

theorem len_run {h : Heap} {w : World} (hs : Sim h w) (l : ListId) :
    len l h = .ok ((w.lists.get l).length : Int) h := by
  unfold len; rw [getLen_run, hs.len_eq]

theorem front_run {h : Heap} {w : World} (hs : Sim h w) (l : ListId) :
    front l h = .ok (optPtr (w.lists.get l).head?) h := by
  unfold front
  rw [bind_ok (getLen_run l h), hs.len_eq]
  cases hxs : w.lists.get l with
  | nil => simp [optPtr]
  | cons x xs =>
    have : ¬ (((x :: xs).length : Nat) : Int) = 0 := by simp; omega
    rw [if_neg this, getNext_ok _ (root_ne_null l)]
    rcases hs.shape l with ⟨_, _, _, h4⟩ | h2
    · rw [hxs] at h4; cases h4
    · rw [Linked.next_root h2.1, hxs]; rfl

theorem back_run {h : Heap} {w : World} (hs : Sim h w) (l : ListId) :
    back l h = .ok (optPtr (w.lists.get l).getLast?) h := by
  unfold back
  rw [bind_ok (getLen_run l h), hs.len_eq]
  cases hxs : w.lists.get l with
  | nil => simp [optPtr]
  | cons x xs =>
    have : ¬ (((x :: xs).length : Nat) : Int) = 0 := by simp; omega
    rw [if_neg this, getPrev_ok _ (root_ne_null l)]
    rcases hs.shape l with ⟨_, _, _, h4⟩ | h2
    · rw [hxs] at h4; cases h4
    · rw [Linked.prev_root h2.1, hxs]
      cases hl : (x :: xs).getLast? with
      | none => simp at hl
      | some y => rfl

/-- what the specification says `e.Next()` is -/
def specNext (w : World) (x : ElemId) : Ptr :=
  match w.owner.get x with
  | none => .null
  | some l => optPtr (succOf x (w.lists.get l))

def specPrev (w : World) (x : ElemId) : Ptr :=
  match w.owner.get x with
  | none => .null
  | some l => optPtr (predOf x (w.lists.get l))

theorem elemNext_run {h : Heap} {w : World} (hs : Sim h w) (x : ElemId) :
    elemNext (.elem x) h = .ok (specNext w x) h := by
  unfold elemNext specNext
  rw [bind_ok (getNext_ok _ (elem_ne_null x)), bind_ok (getList_ok _ (elem_ne_null x)), hs.owner]
  cases ho : w.owner.get x with
  | none => rfl
  | some l =>
    obtain ⟨hlk, _⟩ := hs.linked_of_mem ho
    have hm := (hs.mem x l).1 ho
    simp only []
    rw [Linked.next_elem_cyc hlk hm, ite_run, pure_run, pure_run, ← optPtr_of_ptrOr l]
    split <;> rfl

theorem elemPrev_run {h : Heap} {w : World} (hs : Sim h w) (x : ElemId) :
    elemPrev (.elem x) h = .ok (specPrev w x) h := by
  unfold elemPrev specPrev
  rw [bind_ok (getPrev_ok _ (elem_ne_null x)), bind_ok (getList_ok _ (elem_ne_null x)), hs.owner]
  cases ho : w.owner.get x with
  | none => rfl
  | some l =>
    obtain ⟨hlk, _⟩ := hs.linked_of_mem ho
    have hm := (hs.mem x l).1 ho
    simp only []
    rw [Linked.prev_elem_cyc hlk hm, ite_run, pure_run, pure_run, ← optPtr_of_ptrOr l]
    split <;> rfl

/-! ### Remove -/

theorem remove_sim {h : Heap} {w : World} (hs : Sim h w) {l : ListId} {e : ElemId}
    (hown : w.owner.get e = some l) :
    Agree (remove l e h)
      { w with lists := w.lists.set l ((w.lists.get l).erase e), owner := w.owner.set e none } () := by
  have hnd := hs.nodup l
  obtain ⟨hlk, hlen⟩ := hs.linked_of_mem hown
  have hex : e ∈ w.lists.get l := (hs.mem e l).1 hown
  obtain ⟨hpc, hnc, hpe⟩ := hs.owned hown
  have hp0 := mem_cyc_ne_null hpc
  have hn0 := mem_cyc_ne_null hnc
  have gnext : ∀ x, (removeH h l e).next x =
      if x = .elem e then .null else if x = h.prev (.elem e) then h.next (.elem e) else h.next x := by
    intro x
    simp only [removeH, next_setLen, next_setList, next_setPrev, next_setNext _ _ (elem_ne_null e), upd_apply]
    rw [next_unlinkH _ _ hp0]
  have gprev : ∀ x, (removeH h l e).prev x =
      if x = .elem e then .null else if x = h.next (.elem e) then h.prev (.elem e) else h.prev x := by
    intro x
    simp only [removeH, prev_setLen, prev_setList, prev_setPrev _ _ (elem_ne_null e), prev_setNext, upd_apply]
    rw [prev_unlinkH _ _ hn0]
  refine ⟨removeH h l e, remove_run h l e hp0 hn0 hpe, ?_⟩
  apply hs.relink (Or.inr hown) (Or.inl rfl) (Nat.lt_of_not_le fun hle => nomatch (hs.fresh e hle).symm.trans hown)
    (fun x => Store.get_set _ _ _ _)
  · rw [if_neg nofun]
  · apply Linked.frame (hs.unlink_linked hown (fun _ => rfl) (fun _ => rfl))
    · intro p hp
      have h1 : p ≠ .elem e := fun hh => (hnd.mem_erase_iff.1 (elem_mem_cyc.1 (hh ▸ List.dropLast_subset _ hp))).1 rfl
      rw [gnext, if_neg h1]
    · intro p hp
      have h1 : p ≠ .elem e := fun hh => (hnd.mem_erase_iff.1 (elem_mem_cyc.1 (hh ▸ List.mem_of_mem_tail hp))).1 rfl
      rw [gprev, if_neg h1]
  · simp only [removeH, len_setLen, len_setList, len_setPrev, len_setNext, len_unlinkH, upd_apply, if_true, hlen]
    rw [← length_erase_add_one hex, Int.natCast_add, Int.natCast_one, Int.add_sub_cancel]
  · intro _
    exact ⟨by rw [gnext, if_pos rfl], by rw [gprev, if_pos rfl]⟩
  · intro p hp hpe'
    have h1 : p ≠ h.prev (.elem e) := fun hh => hp (hh ▸ hpc)
    rw [gnext, if_neg hpe', if_neg h1]
  · intro p hp hpe'
    have h1 : p ≠ h.next (.elem e) := fun hh => hp (hh ▸ hnc)
    rw [gprev, if_neg hpe', if_neg h1]
  · intro l' hl
    simp only [removeH, len_setLen, len_setList, len_setPrev, len_setNext, len_unlinkH, upd_apply, if_neg hl]
  · simp [removeH]
  · intro x
    simp only [removeH, listOf_setLen, listOf_setList, listOf_setPrev, listOf_setNext, listOf_unlinkH, upd_apply,
      Ptr.elem.injEq, Store.get_set, hs.owner]
  · intro x
    simp only [removeH, value_setLen, value_setList, value_setPrev, value_setNext, value_unlinkH, hs.value]

theorem removeM_sim {h : Heap} {w : World} (hs : Sim h w) (l : ListId) (x : ElemId) :
    Agree (removeM l (.elem x) h) (Spec.Seq.step w (.remove l (some x))).1 (w.value.get x) := by
  unfold removeM
  simp only []
  rw [bind_ok (getList_ok _ (elem_ne_null x)), hs.owner]
  by_cases ho : w.owner.get x = some l
  · obtain ⟨h', hr, hs'⟩ := remove_sim hs ho
    rw [if_pos ho, bind_ok hr, getValue_ok _ (elem_ne_null x)]
    refine ⟨h', ?_, ?_⟩
    · rw [hs'.value]
    · simp only [Spec.Seq.step, if_pos ho]; exact hs'
  · rw [if_neg ho]
    refine ⟨h, ?_, ?_⟩
    · show (pure PUnit.unit >>= fun _ => getValue (.elem x)) h = _
      rw [bind_ok (pure_run _ h), getValue_ok _ (elem_ne_null x), hs.value]
    · simp only [Spec.Seq.step, if_neg ho]; exact hs

/-! ### PushFront / PushBack / InsertBefore / InsertAfter -/

theorem root_mem_dropLast (l : ListId) (xs : List ElemId) : Ptr.root l ∈ (cyc l xs).dropLast := by
  rw [mem_cyc_dropLast]; exact Or.inl rfl

theorem ptrOr_mem_dropLast {l : ListId} {xs : List ElemId} {o : Option ElemId}
    (ho : ∀ x, o = some x → x ∈ xs) : ptrOr l o ∈ (cyc l xs).dropLast := by
  rw [mem_cyc_dropLast]
  cases o with
  | none => exact Or.inl rfl
  | some x => exact Or.inr ⟨x, ho x rfl, rfl⟩

theorem pushFront_sim {h : Heap} {w : World} (hs : Sim h w) (l : ListId) (v : Int) :
    Agree (pushFront l v h) (Spec.Seq.step w (.pushFront l v)).1 (.elem w.nextId) := by
  unfold pushFront
  obtain ⟨h1, hr, hs1, hin⟩ := lazyInit_sim hs l
  rw [bind_ok hr]
  exact insertValueFresh_sim hs1 v hin (root_mem_dropLast l _)

theorem pushBack_sim {h : Heap} {w : World} (hs : Sim h w) (l : ListId) (v : Int) :
    Agree (pushBack l v h) (Spec.Seq.step w (.pushBack l v)).1 (.elem w.nextId) := by
  unfold pushBack
  obtain ⟨h1, hr, hs1, hin⟩ := lazyInit_sim hs l
  rw [bind_ok hr, bind_ok (getPrev_ok _ (root_ne_null l)), Linked.prev_root hin.1]
  have hat : ptrOr l (w.lists.get l).getLast? ∈ (cyc l (w.lists.get l)).dropLast :=
    ptrOr_mem_dropLast (fun x hx => List.mem_of_getLast? hx)
  have := insertValueFresh_sim hs1 v hin hat
  rw [insAfter_last _ (hs.nodup l)] at this
  exact this

/-- InsertBefore and InsertAfter of the specification differ only in where the new element goes (`ins`) -/
def insRel (ins : ElemId → ElemId → List ElemId → List ElemId) (w : World) (l : ListId) (v : Int) (m : ElemId) :
    World × Res :=
  if w.owner.get m = some l then
    ((w.place l w.nextId v (ins m w.nextId (w.lists.get l))).bump, .ptr (.elem w.nextId))
  else (w, .ptr .null)

/-- the guard `mark.list != l` shared by InsertBefore and InsertAfter, then `body` -/
def insGuard (l : ListId) (mark : Ptr) (body : M Ptr) : M Ptr := do
  let o ← getList mark
  if o ≠ some l then return .null else
  body

/-- `insGuard` is the text of the model's `insertAfter` / `insertBefore` up to the guard -/
theorem insertAfter_eq (l : ListId) (v : Int) (mark : Ptr) :
    insertAfter l v mark = insGuard l mark (insertValueFresh l v mark) := rfl

theorem insertBefore_eq (l : ListId) (v : Int) (mark : Ptr) :
    insertBefore l v mark = insGuard l mark (do let p ← getPrev mark; insertValueFresh l v p) := rfl

theorem insGuard_sim {ins : ElemId → ElemId → List ElemId → List ElemId} {body : M Ptr}
    {h : Heap} {w : World} (hs : Sim h w) (l : ListId) (v : Int) (m : ElemId)
    (hbody : w.owner.get m = some l →
      Agree (body h) ((w.place l w.nextId v (ins m w.nextId (w.lists.get l))).bump) (.elem w.nextId)) :
    Agree (insGuard l (.elem m) body h) (insRel ins w l v m).1
      (if w.owner.get m = some l then .elem w.nextId else .null) := by
  unfold insGuard insRel
  rw [bind_ok (getList_ok _ (elem_ne_null m)), hs.owner]
  by_cases ho : w.owner.get m = some l
  · rw [if_neg (not_not_intro ho), if_pos ho, if_pos ho]
    exact hbody ho
  · rw [if_pos ho, if_neg ho, if_neg ho]
    exact ⟨h, rfl, hs⟩

theorem insertAfter_sim {h : Heap} {w : World} (hs : Sim h w) (l : ListId) (v : Int) (m : ElemId) :
    Agree (insertAfter l v (.elem m) h) (Spec.Seq.step w (.insertAfter l v (some m))).1
      (if w.owner.get m = some l then .elem w.nextId else .null) := by
  rw [insertAfter_eq]
  -- the goal's world `(Spec.Seq.step w (.insertAfter …)).1` is `(insRel insertAfterL …).1` by unfolding `step`
  refine insGuard_sim (ins := insertAfterL) hs l v m fun ho => ?_
  exact insertValueFresh_sim hs v (hs.linked_of_mem ho)
    (mem_cyc_dropLast.2 (Or.inr ⟨m, (hs.mem m l).1 ho, rfl⟩))

theorem insertBefore_sim {h : Heap} {w : World} (hs : Sim h w) (l : ListId) (v : Int) (m : ElemId) :
    Agree (insertBefore l v (.elem m) h) (Spec.Seq.step w (.insertBefore l v (some m))).1
      (if w.owner.get m = some l then .elem w.nextId else .null) := by
  rw [insertBefore_eq]
  refine insGuard_sim (ins := insertBeforeL) hs l v m fun ho => ?_
  have hin := hs.linked_of_mem ho
  have hm := (hs.mem m l).1 ho
  rw [bind_ok (getPrev_ok _ (elem_ne_null m)), Linked.prev_elem_cyc hin.1 hm,
    ← insAfter_pred (l := l) _ (hs.nodup l) hm]
  exact insertValueFresh_sim hs v hin (ptrOr_mem_dropLast fun x hx => predOf_mem hx)

end TypVerif.Lemmas.LinkedList
