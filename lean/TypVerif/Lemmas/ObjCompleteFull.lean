import TypVerif.Lemmas.ObjComplete
/-
A trace-indexed form of the completeness of the atomic-object state-set step, for judges whose number of goroutines `n`
is not a function of the events alone (`Drv.ObjLin`: `inv t range` / `inv t len` lines raise `n` without stepping the set):

  `Full S n0 tr ss`: for EVERY execution of EVERY `AtomicObj.sys S menu N` from its initial state whose visible trace is
  `tr`, the goroutines `≥ n0` of the final state `s` are idle and the judge's state `proj n0 s` (first `n0` goroutines, same
  object, empty ghost log) is in `ss`.

`full_init`: `Full S n0 [] [init S n0]`;  `full_step`: one `stepObjF S fuel n` with `n0 ≤ n ≤ fuel` (and `t < n` if the event
is an invocation by goroutine `t`) takes `Full S n0 tr ss` to `Full S n (tr ++ [e]) (stepObjF S fuel n ss e)`.
`foldObj_full`: so the judges' fold `foldObj` (where `n` is chosen per event by `nf`) keeps the set full; with
`ObjAccept.fold_stepObj_sound` it decides membership in the trace set (`fold_stepObj_iff`), i.e. linearizability.
-/
namespace TypVerif.Lemmas.ObjComplete
open TypVerif TypVerif.Conc TypVerif.Model.AtomicObj TypVerif.Lemmas.AtomicObj TypVerif.Lemmas.ObjAccept
open TypVerif.Lemmas.OnceRed (TauN tauClosure_complete stepEvent_complete)

theorem exec_split_last {sys : Sys} {a b : sys.State} {ls : List (Option sys.Event)} (h : Exec sys a ls b) :
    ∀ (tr0 : List sys.Event) (e : sys.Event), visible ls = tr0 ++ [e] →
      ∃ (ls0 : List (Option sys.Event)) (s0 s1 : sys.State) (taus : List (Option sys.Event)),
        Exec sys a ls0 s0 ∧ visible ls0 = tr0 ∧ (some e, s1) ∈ sys.succ s0 ∧ Exec sys s1 taus b ∧ visible taus = [] := by
  induction h with
  | nil s => intro tr0 e hv; simp at hv
  | @cons s s' s'' l ls hm hrest ih =>
    intro tr0 e hv
    cases l with
    | none =>
      obtain ⟨ls0, s0, s1, taus, h0, hv0, hm1, h1, hv1⟩ := ih tr0 e (by simpa using hv)
      exact ⟨none :: ls0, s0, s1, taus, Exec.cons hm h0, by simpa using hv0, hm1, h1, hv1⟩
    | some e0 =>
      rw [visible_cons_some] at hv
      cases tr0 with
      | nil =>
        simp only [List.nil_append, List.cons.injEq] at hv
        obtain ⟨rfl, hv⟩ := hv
        exact ⟨[], s, s', ls, Exec.nil _, rfl, hm, hrest, hv⟩
      | cons x tr0 =>
        simp only [List.cons_append, List.cons.injEq] at hv
        obtain ⟨rfl, hv⟩ := hv
        obtain ⟨ls0, s0, s1, taus, h0, hv0, hm1, h1, hv1⟩ := ih tr0 e hv
        exact ⟨some e0 :: ls0, s0, s1, taus, Exec.cons hm h0, by simp [hv0], hm1, h1, hv1⟩

section Judge
variable (S : Spec)

variable [DecidableEq S.σ] [DecidableEq S.Op] [DecidableEq S.Res]

/-- the state set `ss` (judge working with `n0` goroutines) contains the judge's state of every state that any
atomic-object system can be in after exhibiting `tr` -/
def Full (n0 : Nat) (tr : List (Event S.Op S.Res)) (ss : List (State S.σ S.Op S.Res)) : Prop :=
  ∀ (N : Nat) (menu : List S.Op) (ls : List (Option (Event S.Op S.Res))) (s : State S.σ S.Op S.Res),
    Exec (sys S menu N) (init S N) ls s → visible ls = tr → IdleFrom n0 s ∧ proj n0 s ∈ ss

omit [DecidableEq S.σ] [DecidableEq S.Op] [DecidableEq S.Res] in
theorem full_init (n0 : Nat) : Full S n0 [] [init S n0] := by
  intro N menu ls s hex hv
  have ht := TauN.of_exec hex hv
  have hb := tauN_bound S menu N ht
  rw [pend_init] at hb
  rw [tauN_zero hb, proj_init]
  exact ⟨idleFrom_init S n0 N, List.mem_singleton.2 rfl⟩

theorem full_step (fuel n0 n : Nat) (hn : n0 ≤ n) (hf : n ≤ fuel) {tr : List (Event S.Op S.Res)}
    {ss : List (State S.σ S.Op S.Res)} (e : Event S.Op S.Res) (he : ∀ t op, e = .inv t op → t < n)
    (h : Full S n0 tr ss) : Full S n (tr ++ [e]) (stepObjF S fuel n ss e) := by
  intro N menu ls s hex hv
  obtain ⟨ls0, s0, s1, taus, h0, hv0, hm, h1, hv1⟩ := exec_split_last hex tr e hv
  obtain ⟨hi0, hmem0⟩ := h N menu ls0 s0 h0 hv0
  exact stepObjF_complete S fuel menu N n0 n hn hf hm hi0 he hmem0 (TauN.of_exec h1 hv1)

omit [DecidableEq S.σ] in
theorem full_nonempty {n0 : Nat} {tr : List (Event S.Op S.Res)} {ss : List (State S.σ S.Op S.Res)}
    (h : Full S n0 tr ss) (hl : Linearizable S tr) : ss ≠ [] := by
  obtain ⟨N, menu, ls, s, hex, hv⟩ := exec_of_linearizable S hl
  have := (h N menu ls s hex hv).2
  intro h0
  rw [h0] at this
  cases this

/-- `P`: what is known of the events of the trace (the judges: the goroutine id is `< fuel`) -/
theorem foldObj_full (fuel : Nat) (nf : Nat → Event S.Op S.Res → Nat)
    (hmono : ∀ n e, n ≤ nf n e) (hinv : ∀ n t op, t < nf n (.inv t op)) {P : Event S.Op S.Res → Prop}
    (hbound : ∀ n e, n ≤ fuel → P e → nf n e ≤ fuel) (tr : List (Event S.Op S.Res)) :
    ∀ (tr0 : List (Event S.Op S.Res)) (j : Nat × List (State S.σ S.Op S.Res)), j.1 ≤ fuel →
      (∀ e ∈ tr, P e) → Full S j.1 tr0 j.2 →
      Full S (foldObj S fuel nf j tr).1 (tr0 ++ tr) (foldObj S fuel nf j tr).2 := by
  induction tr with
  | nil => intro tr0 j _ _ h; rw [List.append_nil]; exact h
  | cons e tr ih =>
    intro tr0 j hj htid h
    have hn' : nf j.1 e ≤ fuel := hbound j.1 e hj (htid e List.mem_cons_self)
    have := ih (tr0 ++ [e]) (nf j.1 e, stepObjF S fuel (nf j.1 e) j.2 e) hn'
      (fun e' h' => htid e' (List.mem_cons_of_mem _ h'))
      (full_step S fuel j.1 (nf j.1 e) (hmono _ _) hn' e (fun t op he => he ▸ hinv _ _ _) h)
    rw [List.append_assoc] at this
    exact this

/-- **Completeness of the acceptor for bounded concurrency**: the judges' fold over the visible trace of an execution of
`AtomicObj.sys S menu N` (any `N`, any `menu`) whose goroutine ids are `< fuel` is non-empty, provided the rule `nf` for the
number of goroutines never decreases it, makes room for the invoking goroutine, and stays `≤ fuel` on goroutine ids `< fuel`
(`Drv.C18.step`: `nextN`; `Drv.ObjLin`: `max n (t + 1)` at `inv`, `n` at `res`) -/
theorem fold_stepObj_complete (fuel : Nat) (nf : Nat → Event S.Op S.Res → Nat)
    (hmono : ∀ n e, n ≤ nf n e) (hinv : ∀ n t op, t < nf n (.inv t op)) {P : Event S.Op S.Res → Prop}
    (hbound : ∀ n e, n ≤ fuel → P e → nf n e ≤ fuel)
    (n0 : Nat) (hn0 : n0 ≤ fuel) (N : Nat) (menu : List S.Op) (ls : List (Option (Event S.Op S.Res)))
    (s : State S.σ S.Op S.Res) (hex : Exec (sys S menu N) (sys S menu N).init ls s)
    (htid : ∀ e ∈ visible ls, P e) :
    (foldObj S fuel nf (n0, [init S n0]) (visible ls)).2 ≠ [] := by
  have h := foldObj_full S fuel nf hmono hinv hbound (visible ls) [] (n0, [init S n0]) hn0 htid (full_init S n0)
  rw [List.nil_append] at h
  exact List.ne_nil_of_mem (h N menu ls s hex rfl).2

/-- the fold decides membership in the trace set of the atomic-object systems -/
theorem fold_stepObj_iff (fuel : Nat) (nf : Nat → Event S.Op S.Res → Nat)
    (hmono : ∀ n e, n ≤ nf n e) (hinv : ∀ n t op, t < nf n (.inv t op)) {P : Event S.Op S.Res → Prop}
    (hbound : ∀ n e, n ≤ fuel → P e → nf n e ≤ fuel)
    (n0 : Nat) (hn0 : n0 ≤ fuel) (tr : List (Event S.Op S.Res)) (htid : ∀ e ∈ tr, P e) :
    (foldObj S fuel nf (n0, [init S n0]) tr).2 ≠ [] ↔
      ∃ (N : Nat) (menu : List S.Op) (ls : List (Option (Event S.Op S.Res))) (s : State S.σ S.Op S.Res),
        Exec (sys S menu N) (sys S menu N).init ls s ∧ visible ls = tr := by
  constructor
  · exact fold_stepObj_sound S fuel nf n0 tr
  · rintro ⟨N, menu, ls, s, hex, rfl⟩
    exact fold_stepObj_complete S fuel nf hmono hinv hbound n0 hn0 N menu ls s hex htid

/-- the fold decides linearizability (`fold_stepObj_iff` with `linearizable_iff_exec`) -/
theorem fold_stepObj_iff_linearizable (fuel : Nat) (nf : Nat → Event S.Op S.Res → Nat)
    (hmono : ∀ n e, n ≤ nf n e) (hinv : ∀ n t op, t < nf n (.inv t op))
    (hbound : ∀ n e, n ≤ fuel → evT e < fuel → nf n e ≤ fuel)
    (n0 : Nat) (hn0 : n0 ≤ fuel) (tr : List (Event S.Op S.Res)) (htid : ∀ e ∈ tr, evT e < fuel) :
    (foldObj S fuel nf (n0, [init S n0]) tr).2 ≠ [] ↔ Linearizable S tr := by
  rw [fold_stepObj_iff S fuel nf hmono hinv hbound n0 hn0 tr htid, linearizable_iff_exec]

end Judge

end TypVerif.Lemmas.ObjComplete

#print axioms TypVerif.Lemmas.ObjComplete.full_init
#print axioms TypVerif.Lemmas.ObjComplete.full_step
#print axioms TypVerif.Lemmas.ObjComplete.full_nonempty
#print axioms TypVerif.Lemmas.ObjComplete.fold_stepObj_complete
#print axioms TypVerif.Lemmas.ObjComplete.fold_stepObj_iff
#print axioms TypVerif.Lemmas.ObjComplete.fold_stepObj_iff_linearizable
