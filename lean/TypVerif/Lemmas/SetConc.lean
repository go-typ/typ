import TypVerif.Lemmas.SmcStep
import TypVerif.Lemmas.AtomicObj
import TypVerif.Lemmas.AtomicSet
/-
C05, concurrent half: `sync2.Set` is an atomic set under every schedule.

`Set[T]` wraps `Map[T, struct{}]`; `Add(v) = !loaded of LoadOrStore(v, struct{}{})`, `Remove(v) = loaded of
LoadAndDelete(v)`, `Has(v) = ok of Load(v)`.  A concurrent execution of Add/Remove/Has IS an execution of the step-level
map model (`Model.SyncMapConc`) with `V := Unit`, `zst := true` and a menu of `.loadOrStore v ()`, `.loadAndDelete v`,
`.load v`; the Set-level result is a function of the map-level result and of the operation.

`φ m v := (m v).isSome` is a homomorphism from the map specification to the set specification (`sstep_hom`), so a
linearization of a map history, translated call by call (`toSetOp`/`toSetRes`; a response is translated with the operation
of the most recent invocation of its goroutine), is a linearization of the set history: `transfer`.  The counting
part compares, in a well-formed log, completed and in-flight calls with linearization entries (`calls_inv`); hence without
`Remove v` at most one completed `Add v` reports success (`add_once_log`).
`setSpec α` here (membership functions, any `α`) is not `Model.MapObj.setSpec` (lists over `Int`), the judge's executable instance.
-/
namespace TypVerif.Lemmas.SetConc
open TypVerif TypVerif.Conc TypVerif.Model TypVerif.Model.AtomicObj
open TypVerif.Model.SyncMapConc (Op Res)
open TypVerif.Spec.AtomicSet
open TypVerif.Lemmas.Smc (mapSpec applyOp put del evOf)
open TypVerif.Lemmas.AtomicObj
open TypVerif.Lemmas.AtomicSet (evOne events_cons srunFrom_append upd_eq_self)

set_option linter.unusedSectionVars false   -- many statements below do not use the section's `[DecidableEq α]`

/-! ### generic facts about well-formed logs -/
section Generic
variable {Op Res : Type}

/-- the operation of the most recent invocation of goroutine `t` in a (newest-first) history -/
def lastInvE (t : Nat) : List (Event Op Res) → Option Op
  | [] => none
  | .inv t' op :: rest => if t' = t then some op else lastInvE t rest
  | .res _ _ :: rest => lastInvE t rest

/-- the same in a (newest-first) log: linearization entries are skipped -/
def lastInv (t : Nat) (log : List (Entry Op Res)) : Option Op := lastInvE t (log.filterMap Entry.event?)

theorem lastInv_mem (t : Nat) (op : Op) : ∀ log : List (Entry Op Res), lastInv t log = some op → Entry.inv t op ∈ log := by
  intro log
  induction log with
  | nil => intro h; cases h
  | cons e rest ih =>
    intro h
    cases e with
    | inv t' op' =>
      replace h : (if t' = t then some op' else lastInv t rest) = some op := h
      split at h
      · cases h; subst t'; exact List.mem_cons_self
      · exact List.mem_cons_of_mem _ (ih h)
    | lin | res => exact List.mem_cons_of_mem _ (ih h)

theorem lastInv_cons_other (t : Nat) (e : Entry Op Res) (log : List (Entry Op Res)) (h : e.tid ≠ t) :
    lastInv t (e :: log) = lastInv t log := by
  cases e with
  | inv t' op => exact if_neg h
  | lin t' op r => rfl
  | res t' r => rfl

def curOp : TPc Op Res → Option Op
  | .idle => none
  | .pending op => some op
  | .done op _ => some op

variable [DecidableEq Op] [DecidableEq Res]

theorem lastInv_of_run (t : Nat) : ∀ (log : List (Entry Op Res)) (p : TPc Op Res), runThread t log = some p →
    ∀ op, curOp p = some op → lastInv t log = some op :=
  runThread_induction t (fun _ h => nomatch h)
    (fun e log _ he _ ih op hc => (lastInv_cons_other t e log he).trans (ih op hc))
    (fun e log p q he _ ha ih op hc => by
      cases ha with
      | inv t' o => cases hc; exact if_pos he
      | lin t' o r => cases hc; exact ih _ rfl
      | res t' o r => cases hc)

theorem inv_mem_histOf (log : List (Entry Op Res)) (t : Nat) (op : Op) (h : Entry.inv t op ∈ log) :
    Event.inv t op ∈ histOf log :=
  List.mem_reverse.mpr (List.mem_filterMap.mpr ⟨_, h, rfl⟩)

theorem lin_mem_of_linsOf (log : List (Entry Op Res)) (op : Op) (r : Res) (h : (op, r) ∈ linsOf log) :
    ∃ t, Entry.lin t op r ∈ log := by
  obtain ⟨e, he, hl⟩ := List.mem_filterMap.mp h
  cases e with
  | inv | res => cases hl
  | lin t op' r' => cases hl; exact ⟨t, he⟩

/-- in a well-formed log every linearization entry carries the operation of an earlier invocation; so a property of
all invoked operations is a property of all linearized ones -/
theorem lin_of_inv (P : Op → Prop) (log : List (Entry Op Res)) (hthr : ∀ t, (runThread t log).isSome = true)
    (hinv : ∀ t op, Event.inv t op ∈ histOf log → P op) : ∀ x ∈ linsOf log, P x.1 := by
  intro x hx
  obtain ⟨t, hmem⟩ := lin_mem_of_linsOf log x.1 x.2 hx
  obtain ⟨post, pre, rfl⟩ := List.append_of_mem hmem
  obtain ⟨hpre, _⟩ := lin_in_interval t x.1 x.2 pre post (hthr t)
  have h2 := lastInv_mem t x.1 pre (lastInv_of_run t pre _ hpre x.1 rfl)
  exact hinv t x.1 (inv_mem_histOf _ t x.1 (List.mem_append_right _ (List.mem_cons_of_mem _ h2)))

theorem seqRun_nil_inv {S : Spec} {σ : S.σ} (h : SeqRun S [] σ) : σ = S.init := by
  cases h; rfl

theorem seqRun_cons_inv {S : Spec} {op : S.Op} {r : S.Res} {hs : List (S.Op × S.Res)} {σ' : S.σ}
    (h : SeqRun S ((op, r) :: hs) σ') : ∃ σ, SeqRun S hs σ ∧ (σ', r) ∈ S.apply σ op := by
  cases h with
  | cons h1 h2 => exact ⟨_, h1, h2⟩

/-- a homomorphism of specifications (operations translated by the partial `f`, results by `g`, states by `φ`) maps
sequential runs all of whose operations are translatable to sequential runs -/
theorem seqRun_hom {S S' : Spec} (f : S.Op → Option S'.Op) (g : S.Op → S.Res → S'.Res) (φ : S.σ → S'.σ)
    (hinit : φ S.init = S'.init)
    (hom : ∀ σ σ' op r op', (σ', r) ∈ S.apply σ op → f op = some op' → (φ σ', g op r) ∈ S'.apply (φ σ) op')
    {h : List (S.Op × S.Res)} {σ : S.σ} (hr : SeqRun S h σ) (hf : ∀ x ∈ h, (f x.1).isSome = true) :
    SeqRun S' (h.filterMap fun x => (f x.1).map (·, g x.1 x.2)) (φ σ) := by
  induction hr with
  | nil => exact hinit ▸ SeqRun.nil
  | @cons h σ σ' op r _ happ ih =>
    obtain ⟨op', hop'⟩ := Option.isSome_iff_exists.mp (hf (op, r) List.mem_cons_self)
    rw [List.filterMap_cons, hop']
    exact SeqRun.cons (ih fun x hx => hf x (List.mem_cons_of_mem _ hx)) (hom _ _ _ _ _ happ hop')

end Generic

/-! ### the set specification and the translation -/

variable {α : Type} [DecidableEq α]

def setSpec (α : Type) [DecidableEq α] : Spec :=
  { σ := α → Bool, Op := SOp α, Res := Bool, init := fun _ => false, apply := fun m op => [sstep m op] }

instance instDecEqSetSpecOp : DecidableEq (setSpec α).Op := inferInstanceAs (DecidableEq (SOp α))
instance instDecEqSetSpecRes : DecidableEq (setSpec α).Res := inferInstanceAs (DecidableEq Bool)

/-- `Add(v)` is `LoadOrStore(v, struct{}{})`, `Remove(v)` is `LoadAndDelete(v)`, `Has(v)` is `Load(v)` -/
def toSetOp : Op α Unit → Option (SOp α)
  | .loadOrStore v _ => some (.add v)
  | .loadAndDelete v => some (.remove v)
  | .load v => some (.has v)
  | _ => none

/-- `Add` returns `!loaded`, `Remove` returns `loaded`, `Has` returns `ok`.  The last line only makes the function
total: a linearization entry of the map model carries a result of the form its operation returns (`sstep_hom`), and a
response is translated with the operation that is running (`exists_tr`) -/
def toSetRes : Op α Unit → Res α Unit → Bool
  | .loadOrStore _ _, .pair _ loaded => !loaded
  | .loadAndDelete _, .val o => o.isSome
  | .load _, .val o => o.isSome
  | _, _ => false

abbrev MEntry (α : Type) := Entry (Op α Unit) (Res α Unit)
abbrev SEntry (α : Type) := Entry (SOp α) Bool
abbrev MEvent (α : Type) := Event (Op α Unit) (Res α Unit)
abbrev SEvent (α : Type) := Event (SOp α) Bool

def setEvent (older : List (MEvent α)) : MEvent α → Option (SEvent α)
  | .inv t op => (toSetOp op).map (fun sop => .inv t sop)
  | .res t r => (lastInvE t older).bind (fun op => (toSetOp op).map (fun _ => .res t (toSetRes op r)))

def setEvs : List (MEvent α) → List (SEvent α)
  | [] => []
  | e :: rest =>
    match setEvent rest e with
    | some e' => e' :: setEvs rest
    | none => setEvs rest

/-- the Set-level history (oldest first) of a Map-level history (oldest first): `inv t (LoadOrStore v {})` becomes
`inv t (Add v)` etc.; `res t r` becomes `res t b` where `b` is the Bool the Set method computes from `r`, the method
being the one of the most recent earlier invocation of goroutine `t` -/
def setHist (h : List (MEvent α)) : List (SEvent α) := (setEvs h.reverse).reverse

theorem setEvs_cons (rest : List (MEvent α)) (e : MEvent α) :
    setEvs (e :: rest) = (setEvent rest e).toList ++ setEvs rest := by
  rw [setEvs]
  cases setEvent rest e <;> rfl

/-! ### the homomorphism -/

def φ (m : α → Option Unit) : α → Bool := fun v => (m v).isSome

theorem φ_put (m : α → Option Unit) (k : α) (u : Unit) : φ (put m k u) = fun x => if x = k then true else φ m x :=
  funext fun x => apply_ite Option.isSome (x = k) (some u) (m x)

theorem φ_del (m : α → Option Unit) (k : α) : φ (del m k) = fun x => if x = k then false else φ m x :=
  funext fun x => apply_ite Option.isSome (x = k) none (m x)

/-- **Key lemma**: `φ` maps every step of the map specification with a set-shaped operation to the step of the set
specification, with the translated result -/
theorem sstep_hom {m m' : α → Option Unit} {op : Op α Unit} {r : Res α Unit} {sop : SOp α}
    (h : (m', r) ∈ applyOp m op) (hs : toSetOp op = some sop) : sstep (φ m) sop = (φ m', toSetRes op r) := by
  cases op with
  | load k =>
    cases hs
    cases List.mem_singleton.mp h
    rfl
  | loadOrStore k u =>
    cases hs
    have h' := List.mem_singleton.mp h
    show ((fun x => if x = k then true else φ m x), !φ m k) = _
    cases hk : m k with
    | some w =>
      -- present: the map and the set stay as they are
      rw [hk] at h'
      cases h'
      have hφ : φ m k = true := congrArg Option.isSome hk
      rw [upd_eq_self (φ m) k true hφ, hφ]
      rfl
    | none =>
      rw [hk] at h'
      cases h'
      rw [φ_put, show φ m k = false from congrArg Option.isSome hk]
      rfl
  | loadAndDelete k =>
    cases hs
    cases List.mem_singleton.mp h
    rw [φ_del]
    rfl
  | store k v => cases hs
  | delete k => cases hs
  | range => cases hs

/-! ### the translated log is a linearization -/

def mapPc : TPc (Op α Unit) (Res α Unit) → Option (TPc (SOp α) Bool)
  | .idle => some .idle
  | .pending op => (toSetOp op).map (fun sop => .pending sop)
  | .done op r => (toSetOp op).map (fun sop => .done sop (toSetRes op r))

/-- `log'` is the Set-level rendering of the map-level log `log`, entry by entry; `ok` is there for `seqRun_hom`, which needs
every linearized operation translatable -/
structure Tr (log : List (MEntry α)) (log' : List (SEntry α)) : Prop where
  events : log'.filterMap Entry.event? = setEvs (log.filterMap Entry.event?)
  ok : ∀ x ∈ linsOf log, (toSetOp x.1).isSome = true
  lins : linsOf log' = (linsOf log).filterMap fun x => (toSetOp x.1).map (·, toSetRes x.1 x.2)
  thread : ∀ t p, runThread t log = some p → ∃ q, mapPc p = some q ∧ runThread t log' = some q

/-- both logs get one more entry of the same goroutine, which advances its two automata to corresponding states -/
theorem thread_cons {log : List (MEntry α)} {log' : List (SEntry α)}
    (h : ∀ t p, runThread t log = some p → ∃ q, mapPc p = some q ∧ runThread t log' = some q)
    {e : MEntry α} {e' : SEntry α} (htid : e'.tid = e.tid) {p p' : TPc (Op α Unit) (Res α Unit)} {q q' : TPc (SOp α) Bool}
    (hp : runThread e.tid log = some p) (ha : Adv p e p') (hq : runThread e.tid log' = some q) (ha' : Adv q e' q')
    (hm : mapPc p' = some q') :
    ∀ t p, runThread t (e :: log) = some p → ∃ q, mapPc p = some q ∧ runThread t (e' :: log') = some q := by
  intro t p'' h''
  rw [runThread_cons rfl hp ha] at h''
  rw [runThread_cons htid hq ha']
  by_cases ht : t = e.tid
  · rw [if_pos ht] at h'' ⊢
    cases h''
    exact ⟨q', hm, rfl⟩
  · rw [if_neg ht] at h'' ⊢
    exact h t p'' h''

theorem exists_tr : ∀ log : List (MEntry α), (∀ t, (runThread t log).isSome = true) →
    (∀ t op, Entry.inv t op ∈ log → (toSetOp op).isSome = true) → ∃ log', Tr log log' := by
  intro log
  induction log with
  | nil => intro _ _; exact ⟨[], rfl, nofun, rfl, fun t p h => by cases h; exact ⟨.idle, rfl, rfl⟩⟩
  | cons e rest ih =>
    intro hthr hinv
    obtain ⟨log', h1, h0, h2, h3⟩ := ih (fun t => runThread_append_isSome t [e] rest (hthr t))
      fun t op h => hinv t op (List.mem_cons_of_mem _ h)
    obtain ⟨p, _, hp, ha, _⟩ := runThread_cons_isSome rfl (hthr e.tid)
    obtain ⟨q, hq, hr⟩ := h3 _ p hp
    cases ha with
    | inv t op =>
      obtain ⟨sop, hsop⟩ := Option.isSome_iff_exists.mp (hinv t op List.mem_cons_self)
      cases hq
      refine ⟨.inv t sop :: log', ?_, h0, h2,
        thread_cons h3 rfl hp (.inv t op) hr (.inv t sop) (congrArg (Option.map _) hsop)⟩
      show Event.inv t sop :: log'.filterMap Entry.event? = setEvs (Event.inv t op :: rest.filterMap Entry.event?)
      rw [setEvs_cons, h1, show setEvent _ (Event.inv t op) = some (Event.inv t sop) from congrArg (Option.map _) hsop]
      rfl
    | lin t op r =>
      -- the goroutine is at `pending op`, whose translation exists: `op` is a Set call
      obtain ⟨sop, hsop, rfl⟩ := Option.map_eq_some_iff.mp hq
      refine ⟨.lin t sop (toSetRes op r) :: log', h1, ?_, ?_,
        thread_cons h3 rfl hp (.lin t op r) hr (.lin t sop _) (congrArg (Option.map _) hsop)⟩
      · intro x hx
        rcases List.mem_cons.mp hx with rfl | hx
        · exact Option.isSome_iff_exists.mpr ⟨sop, hsop⟩
        · exact h0 x hx
      · show (sop, toSetRes op r) :: linsOf log' = List.filterMap _ ((op, r) :: linsOf rest)
        rw [List.filterMap_cons, h2, hsop]
        rfl
    | res t op r =>
      -- the response is translated with the operation of the most recent invocation, which is the one that is running
      obtain ⟨sop, hsop, rfl⟩ := Option.map_eq_some_iff.mp hq
      have hl : lastInvE t (rest.filterMap Entry.event?) = some op := lastInv_of_run t rest _ hp op rfl
      refine ⟨.res t (toSetRes op r) :: log', ?_, h0, h2, thread_cons h3 rfl hp (.res t op r) hr (.res t sop _) rfl⟩
      show Event.res t (toSetRes op r) :: log'.filterMap Entry.event? = setEvs (Event.res t r :: rest.filterMap Entry.event?)
      rw [setEvs_cons, h1, show setEvent _ (Event.res t r) = some (Event.res t (toSetRes op r)) from by
        show (lastInvE t _).bind _ = _
        rw [hl]
        exact congrArg (Option.map _) hsop]
      rfl

theorem Tr.hist {log : List (MEntry α)} {log' : List (SEntry α)} (h : Tr log log') : histOf log' = setHist (histOf log) := by
  unfold histOf setHist
  rw [List.reverse_reverse, h.events]

/-- **Transfer**: a map-level history that is linearizable w.r.t. the map and consists of set-shaped calls only is,
translated to the Set level, linearizable w.r.t. the set -/
theorem transfer {h : List (MEvent α)} (hl : Linearizable (mapSpec α Unit) h)
    (hs : ∀ t op, Event.inv t op ∈ h → (toSetOp op).isSome = true) :
    Linearizable (setSpec α) (setHist h) := by
  obtain ⟨log, rfl, ⟨σ, hseq⟩, hthr⟩ := hl
  obtain ⟨log', htr⟩ := exists_tr log hthr fun t op hm => hs t op (inv_mem_histOf log t op hm)
  refine ⟨log', htr.hist, ⟨φ σ, ?_⟩, fun t => ?_⟩
  · exact htr.lins ▸ seqRun_hom (S := mapSpec α Unit) (S' := setSpec α) toSetOp toSetRes φ rfl
      (fun m m' op r sop happ hs => List.mem_singleton.mpr (sstep_hom happ hs).symm) hseq htr.ok
  · obtain ⟨p, hp⟩ := Option.isSome_iff_exists.mp (hthr t)
    obtain ⟨q, _, hq⟩ := htr.thread t p hp
    exact Option.isSome_iff_exists.mpr ⟨q, hq⟩

/-! ### `SeqRun (setSpec α)` is `Spec.AtomicSet.srun` -/

theorem srunFrom_snoc (op : SOp α) (ops : List (SOp α)) (m : SState α) :
    srunFrom m (ops ++ [op]) =
      ((sstep (srunFrom m ops).1 op).1, (srunFrom m ops).2 ++ [(op, (sstep (srunFrom m ops).1 op).2)]) :=
  Prod.ext (srunFrom_append m ops [op]).2 (srunFrom_append m ops [op]).1

/-- a legal sequential history of the set specification (newest first) is, read oldest first, exactly the history
`srun` produces for its operations, and ends in the state `srun` ends in -/
theorem seqRun_srun : ∀ (h : List (SOp α × Bool)) (σ : α → Bool), SeqRun (setSpec α) h σ →
    srun (h.reverse.map Prod.fst) = (σ, h.reverse) := by
  intro h
  induction h with
  | nil => intro σ hs; cases seqRun_nil_inv hs; rfl
  | cons x hs ih =>
    intro σ hrun
    obtain ⟨σ0, h0, happ⟩ := seqRun_cons_inv hrun
    have happ' : (σ, x.2) = sstep σ0 x.1 := List.mem_singleton.mp happ
    rw [List.reverse_cons, List.map_append]
    show srunFrom sempty (hs.reverse.map Prod.fst ++ [x.1]) = _
    rw [srunFrom_snoc, show srunFrom sempty (hs.reverse.map Prod.fst) = (σ0, hs.reverse) from ih σ0 h0, ← happ']

/-- every linearizable set history has a linearization (a well-formed log with that history) which is a sequential
history `srun ops` of the specification -/
theorem linearization_srun {h : List (SEvent α)} (hl : Linearizable (setSpec α) h) :
    ∃ (log : List (SEntry α)) (ops : List (SOp α)),
      histOf log = h ∧ (∀ t, (runThread t log).isSome = true) ∧
      SeqRun (setSpec α) (linsOf log) (srun ops).1 ∧ (srun ops).2 = (linsOf log).reverse := by
  obtain ⟨log, hh, ⟨σ, hseq⟩, hthr⟩ := hl
  have h := seqRun_srun (linsOf log) σ hseq
  exact ⟨log, (linsOf log).reverse.map Prod.fst, hh, hthr, h ▸ hseq, congrArg Prod.snd h⟩

/-! ### facts about alternating event lists -/

theorem events_append (v : α) (l1 l2 : List (SOp α × Bool)) : events v (l1 ++ l2) = events v l1 ++ events v l2 := by
  induction l1 with
  | nil => rfl
  | cons x rest ih => rw [List.cons_append, events_cons, events_cons, ih, List.append_assoc]

theorem false_mem_evOne {v : α} {x : SOp α × Bool} (h : false ∈ evOne v x) : x = (.remove v, true) := by
  unfold evOne at h
  split at h
  · cases List.mem_singleton.mp h
  · split at h
    · assumption
    · cases h

theorem false_mem_events (v : α) (l : List (SOp α × Bool)) (h : false ∈ events v l) : (SOp.remove v, true) ∈ l := by
  induction l with
  | nil => cases h
  | cons x rest ih =>
    rw [events_cons, List.mem_append] at h
    rcases h with h | h
    · exact false_mem_evOne h ▸ List.mem_cons_self
    · exact List.mem_cons_of_mem _ (ih h)

theorem alternates_suffix : ∀ (l1 l2 : List Bool) (b : Bool), Alternates b (l1 ++ l2) → ∃ b', Alternates b' l2 := by
  intro l1
  induction l1 with
  | nil => intro l2 b h; exact ⟨b, h⟩
  | cons x rest ih => intro l2 b h; exact ih l2 (!b) h.2

theorem alternates_true_true (b : Bool) (pre mid post : List Bool)
    (h : Alternates b (pre ++ true :: (mid ++ true :: post))) : false ∈ mid := by
  obtain ⟨b', h'⟩ := alternates_suffix pre _ b h
  obtain ⟨h1, h2⟩ := h'
  subst h1
  cases mid with
  | nil => exact absurd h2.1 (by decide)
  | cons x xs =>
    have : x = false := h2.1
    subst this
    exact List.mem_cons_self

/-- in a history whose successful Adds/Removes of `v` alternate, between two successful `Add v` there is a successful
`Remove v` -/
theorem add_add_remove (v : α) (b : Bool) (pre mid post : List (SOp α × Bool))
    (h : Alternates b (events v (pre ++ (SOp.add v, true) :: (mid ++ (SOp.add v, true) :: post)))) :
    (SOp.remove v, true) ∈ mid := by
  apply false_mem_events v mid
  rw [events_append, events_cons, events_append, events_cons] at h
  simp only [evOne, if_true, List.singleton_append] at h
  exact alternates_true_true b _ _ _ h

/-! ### the invocations of an execution of the map model come from the menu -/

section Exec
open TypVerif.Model.SyncMapConc (sys)
variable {K V : Type} [DecidableEq K] [DecidableEq V] [Inhabited V]

theorem exec_inv_menu {menu : List (Op K V)} {n : Nat} {zst : Bool} {s s' : SyncMapConc.State K V}
    {ls : List (Option (SyncMapConc.Event K V))} (he : Exec (sys K V menu n zst) s ls s') :
    ∀ t op, some (SyncMapConc.Event.inv t op) ∈ ls → op ∈ menu := by
  intro t op h
  refine Exec.labels (sys := sys K V menu n zst) (fun _ => True)
    (fun l => ∀ t op, l = some (SyncMapConc.Event.inv t op) → op ∈ menu) ?_ he trivial _ h t op rfl
  -- only an invocation step carries an `inv` label, and it takes its operation from the menu
  refine fun s l s1 _ hmem => ⟨trivial, fun t op h => ?_⟩
  obtain ⟨u, _, hu⟩ := Smc.mem_succ_iff.mp (show (l, s1) ∈ SyncMapConc.succ menu s from hmem)
  rcases Smc.mem_stepT_iff.mp hu with ⟨_, op', hop', hl, _⟩ | ⟨r, _, hl, _⟩ | ⟨_, _, hl, _⟩
  · cases hl.symm.trans h; exact hop'
  · cases hl.symm.trans h
  · cases hl.symm.trans h

theorem evOf_inv {e : SyncMapConc.Event K V} {t : Nat} {op : Op K V} (h : evOf e = some (Event.inv t op)) :
    e = .inv t op := by
  cases e with
  | inv t' op' => cases op' <;> cases h <;> rfl
  | res t' r => cases r <;> cases h

theorem hist_inv_menu {menu : List (Op K V)} {n : Nat} {zst : Bool} {s s' : SyncMapConc.State K V}
    {ls : List (Option (SyncMapConc.Event K V))} (he : Exec (sys K V menu n zst) s ls s') :
    ∀ t op, Event.inv t op ∈ ls.filterMap (·.bind evOf) → op ∈ menu := by
  intro t op h
  obtain ⟨l, hl, hb⟩ := List.mem_filterMap.mp h
  cases l with
  | none => cases hb
  | some e => exact exec_inv_menu he t op (evOf_inv hb ▸ hl)

end Exec

/-! ### completed calls versus linearization points

Every completed call (a response, together with the operation of its invocation) has its own linearization entry with the
same goroutine, operation and result: the completed calls plus the calls that have taken effect but not yet returned
(`inflight`) are exactly the linearization entries. -/
section Calls
variable {Op Res : Type}

/-- the linearization entries with their goroutines (newest first) -/
def linsT : List (Entry Op Res) → List (Nat × Op × Res)
  | [] => []
  | .lin t op r :: rest => (t, op, r) :: linsT rest
  | .inv _ _ :: rest => linsT rest
  | .res _ _ :: rest => linsT rest

theorem linsOf_eq_linsT (log : List (Entry Op Res)) : linsOf log = (linsT log).map (·.2) := by
  induction log with
  | nil => rfl
  | cons e rest ih =>
    cases e with
    | inv t op => exact ih
    | res t r => exact ih
    | lin t op r =>
      show (op, r) :: linsOf rest = (op, r) :: (linsT rest).map (·.2)
      rw [ih]

theorem mem_linsT (t : Nat) (op : Op) (r : Res) : ∀ log : List (Entry Op Res), (t, op, r) ∈ linsT log → Entry.lin t op r ∈ log := by
  intro log
  induction log with
  | nil => intro h; cases h
  | cons e rest ih =>
    intro h
    cases e with
    | inv | res => exact List.mem_cons_of_mem _ (ih h)
    | lin t' op' r' =>
      rcases List.mem_cons.mp (show (t, op, r) ∈ (t', op', r') :: linsT rest from h) with h | h
      · cases h; exact List.mem_cons_self
      · exact List.mem_cons_of_mem _ (ih h)

theorem lin_mem_linsOf (t : Nat) (op : Op) (r : Res) (log : List (Entry Op Res)) (h : Entry.lin t op r ∈ log) :
    (op, r) ∈ linsOf log := by
  unfold linsOf
  exact List.mem_filterMap.mpr ⟨_, h, rfl⟩

/-- the completed calls of a (newest-first) history: goroutine, operation of the most recent invocation, returned result -/
def callsE : List (Event Op Res) → List (Nat × Op × Res)
  | [] => []
  | .res t r :: rest =>
    match lastInvE t rest with
    | some op => (t, op, r) :: callsE rest
    | none => callsE rest
  | .inv _ _ :: rest => callsE rest

/-- the completed calls of a history (oldest first), newest first -/
def calls (h : List (Event Op Res)) : List (Nat × Op × Res) := callsE h.reverse

/-- the completed calls of a (newest-first) log -/
def callsOf (log : List (Entry Op Res)) : List (Nat × Op × Res) := callsE (log.filterMap Entry.event?)

theorem calls_histOf (log : List (Entry Op Res)) : calls (histOf log) = callsOf log :=
  congrArg callsE (List.reverse_reverse _)

def firstT (t : Nat) : List (Nat × Op × Res) → Option (Nat × Op × Res)
  | [] => none
  | x :: l => if x.1 = t then some x else firstT t l

def removeT (t : Nat) : List (Nat × Op × Res) → List (Nat × Op × Res)
  | [] => []
  | x :: l => if x.1 = t then l else x :: removeT t l

/-- the calls that have taken effect and not yet returned -/
def inflight : List (Entry Op Res) → List (Nat × Op × Res)
  | [] => []
  | .inv _ _ :: rest => inflight rest
  | .lin t op r :: rest => (t, op, r) :: inflight rest
  | .res t _ :: rest => removeT t (inflight rest)

theorem firstT_removeT (t t' : Nat) (hne : t ≠ t') (l : List (Nat × Op × Res)) :
    firstT t (removeT t' l) = firstT t l := by
  induction l with
  | nil => rfl
  | cons x l ih =>
    unfold removeT
    split
    · next h1 => exact (if_neg fun h => hne (h.symm.trans h1)).symm
    · exact congrArg (fun o => if x.1 = t then some x else o) ih

theorem countP_removeT (t : Nat) (Q : Nat × Op × Res → Bool) (l : List (Nat × Op × Res)) (x : Nat × Op × Res)
    (h : firstT t l = some x) : (removeT t l).countP Q + (if Q x = true then 1 else 0) = l.countP Q := by
  induction l with
  | nil => cases h
  | cons y l ih =>
    by_cases h1 : y.1 = t
    · rw [firstT, if_pos h1] at h
      cases h
      rw [removeT, if_pos h1, List.countP_cons]
    · rw [firstT, if_neg h1] at h
      rw [removeT, if_neg h1, List.countP_cons, List.countP_cons, ← ih h]
      exact Nat.add_right_comm _ _ _

variable [DecidableEq Op] [DecidableEq Res]

theorem runThread_cons_done {e : Entry Op Res} {log : List (Entry Op Res)} {t : Nat} {op : Op} {r : Res}
    (h : runThread t (e :: log) = some (.done op r)) :
    e = .lin t op r ∨ (e.tid ≠ t ∧ runThread t log = some (.done op r)) := by
  by_cases het : e.tid = t
  · obtain ⟨_, _, ha⟩ := (runThread_cons_eq_some het).mp h
    cases ha
    exact .inl (het ▸ rfl)
  · exact .inr ⟨het, (runThread_cons_ne het log).symm.trans h⟩

/-- in a well-formed log: a goroutine that has taken effect and not returned is `inflight` with its operation and
result; and completed calls + inflight calls = linearization entries (as multisets: for every predicate, by count) -/
theorem calls_inv : ∀ (log : List (Entry Op Res)), (∀ t, (runThread t log).isSome = true) →
    (∀ t op r, runThread t log = some (.done op r) → firstT t (inflight log) = some (t, op, r)) ∧
    ∀ Q : Nat × Op × Res → Bool, (callsOf log).countP Q + (inflight log).countP Q = (linsT log).countP Q := by
  intro log
  induction log with
  | nil => intro _; exact ⟨fun t op r h => (nomatch h), fun Q => rfl⟩
  | cons e rest ih =>
    intro hthr
    obtain ⟨ihD, ihC⟩ := ih fun t => runThread_append_isSome t [e] rest (hthr t)
    obtain ⟨p, q, hp, ha, _⟩ := runThread_cons_isSome rfl (hthr e.tid)
    cases ha with
    | inv t' op' =>
      refine ⟨fun t op r h => ?_, ihC⟩
      rcases runThread_cons_done h with h' | ⟨_, h'⟩
      · cases h'
      · exact ihD t op r h'
    | lin t' op' r' =>
      refine ⟨fun t op r h => ?_, fun Q => ?_⟩
      · show firstT t ((t', op', r') :: inflight rest) = some (t, op, r)
        rcases runThread_cons_done h with h' | ⟨hne, h'⟩
        · cases h'; exact if_pos rfl
        · exact (if_neg hne).trans (ihD t op r h')
      · show (callsOf rest).countP Q + ((t', op', r') :: inflight rest).countP Q = ((t', op', r') :: linsT rest).countP Q
        rw [List.countP_cons, List.countP_cons, ← ihC Q, Nat.add_assoc]
    | res t' op' r' =>
      have hf := ihD t' op' r' hp
      refine ⟨fun t op r h => ?_, fun Q => ?_⟩
      · show firstT t (removeT t' (inflight rest)) = some (t, op, r)
        rcases runThread_cons_done h with h' | ⟨hne, h'⟩
        · cases h'
        · exact (firstT_removeT t t' (Ne.symm hne) _).trans (ihD t op r h')
      · -- the call that returns leaves `inflight` and enters the completed calls
        show (callsOf (.res t' r' :: rest)).countP Q + (removeT t' (inflight rest)).countP Q = (linsT rest).countP Q
        rw [show callsOf (.res t' r' :: rest) = (t', op', r') :: callsOf rest by
            show (match lastInv t' rest with | some op => _ | none => _) = _
            rw [lastInv_of_run t' rest _ hp op' rfl]
            rfl,
          List.countP_cons, ← ihC Q, ← countP_removeT t' Q (inflight rest) _ hf]
        exact (Nat.add_assoc _ _ _).trans (congrArg _ (Nat.add_comm _ _))

/-- every completed call has its own linearization entry: for every predicate, no more completed calls than
linearization entries satisfy it -/
theorem calls_le_lins (log : List (Entry Op Res)) (hthr : ∀ t, (runThread t log).isSome = true)
    (Q : Nat × Op × Res → Bool) : (callsOf log).countP Q ≤ (linsT log).countP Q :=
  (calls_inv log hthr).2 Q ▸ Nat.le_add_right _ _

theorem calls_le_linsOf (log : List (Entry Op Res)) (hthr : ∀ t, (runThread t log).isSome = true)
    (Q : Op × Res → Bool) : (callsOf log).countP (fun c => Q c.2) ≤ (linsOf log).countP Q := by
  rw [linsOf_eq_linsT, List.countP_map]
  exact calls_le_lins log hthr _

/-- **Every completed call has a linearization entry** with the same goroutine, operation and result -/
theorem call_has_point (log : List (Entry Op Res)) (hthr : ∀ t, (runThread t log).isSome = true)
    (x : Nat × Op × Res) (hx : x ∈ callsOf log) : Entry.lin x.1 x.2.1 x.2.2 ∈ log := by
  have h1 := calls_le_lins log hthr (fun c => decide (c = x))
  have h2 : 0 < (callsOf log).countP (fun c => decide (c = x)) :=
    List.countP_pos_iff.mpr ⟨x, hx, by simp⟩
  have h3 : 0 < (linsT log).countP (fun c => decide (c = x)) := Nat.lt_of_lt_of_le h2 h1
  obtain ⟨y, hy, hyx⟩ := List.countP_pos_iff.mp h3
  have : y = x := by simpa using hyx
  subst this
  exact mem_linsT _ _ _ log hy

end Calls

/-! ### at most one successful Add when nobody removes -/

theorem countTrue_append (a b : List Bool) : countTrue (a ++ b) = countTrue a + countTrue b := by
  unfold countTrue
  rw [List.filter_append, List.length_append]

theorem countTrue_evOne (v : α) (x : SOp α × Bool) :
    countTrue (evOne v x) = if x = (SOp.add v, true) then 1 else 0 := by
  unfold evOne
  split
  · rfl
  · split <;> rfl

theorem countTrue_events (v : α) (l : List (SOp α × Bool)) :
    countTrue (events v l) = l.countP (fun x => decide (x = (SOp.add v, true))) := by
  induction l with
  | nil => rfl
  | cons x rest ih =>
    rw [events_cons, countTrue_append, ih, List.countP_cons, countTrue_evOne, Nat.add_comm]
    simp only [decide_eq_true_eq]

theorem countFalse_zero (l : List Bool) (h : false ∉ l) : countFalse l = 0 := by
  induction l with
  | nil => rfl
  | cons x l ih =>
    cases x with
    | false => exact absurd List.mem_cons_self h
    | true => exact ih fun hm => h (List.mem_cons_of_mem _ hm)

/-- in a well-formed set-level log without any `Remove v` invocation whose linearization satisfies the counting
property, at most one completed `Add v` reported success -/
theorem add_once_log (log : List (SEntry α)) (hthr : ∀ t, (runThread t log).isSome = true) (v : α)
    (hno : ∀ t, Event.inv t (SOp.remove v) ∉ histOf log)
    (hcount : countTrue (events v (linsOf log).reverse) ≤ countFalse (events v (linsOf log).reverse) + 1) :
    (callsOf log).countP (fun c => decide (c.2 = (SOp.add v, true))) ≤ 1 := by
  have hnolin := lin_of_inv (fun sop : SOp α => sop ≠ SOp.remove v) log hthr (fun t op hm heq => hno t (heq ▸ hm))
  have hnf : false ∉ events v (linsOf log).reverse := fun hf =>
    hnolin _ (List.mem_reverse.mp (false_mem_events v _ hf)) rfl
  rw [countFalse_zero _ hnf, countTrue_events, List.countP_reverse] at hcount
  exact Nat.le_trans (calls_le_linsOf log hthr fun x => decide (x = (SOp.add v, true))) hcount

theorem inv_mem_setEvs (t : Nat) (sop : SOp α) (l : List (MEvent α)) (h : Event.inv t sop ∈ setEvs l) :
    ∃ op, Event.inv t op ∈ l ∧ toSetOp op = some sop := by
  induction l with
  | nil => cases h
  | cons e rest ih =>
    rw [setEvs_cons, List.mem_append, Option.mem_toList] at h
    rcases h with h | h
    · cases e with
      | inv t' op =>
        obtain ⟨sop', hs, heq⟩ := Option.map_eq_some_iff.mp h
        cases heq
        exact ⟨op, List.mem_cons_self, hs⟩
      | res t' r =>
        obtain ⟨_, _, h'⟩ := Option.bind_eq_some_iff.mp h
        obtain ⟨_, _, heq⟩ := Option.map_eq_some_iff.mp h'
        cases heq
    · obtain ⟨op, h1, h2⟩ := ih h
      exact ⟨op, List.mem_cons_of_mem _ h1, h2⟩

theorem inv_mem_setHist (t : Nat) (sop : SOp α) (h : List (MEvent α)) (hm : Event.inv t sop ∈ setHist h) :
    ∃ op, Event.inv t op ∈ h ∧ toSetOp op = some sop := by
  obtain ⟨op, h1, h2⟩ := inv_mem_setEvs t sop _ (List.mem_reverse.mp hm)
  exact ⟨op, List.mem_reverse.mp h1, h2⟩

theorem toSetOp_remove {op : Op α Unit} {v : α} (h : toSetOp op = some (SOp.remove v)) : op = .loadAndDelete v := by
  cases op <;> cases h
  rfl

end TypVerif.Lemmas.SetConc
