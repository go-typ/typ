import TypVerif.Lemmas.PubSubLogSync
import TypVerif.Lemmas.PubSubExec
/-
A call is a `CallRun`: the snapshot step of a `pubStart` task and any execution after it.  Each call-local invariant `I` of the
earlier files comes with `Snapshot.I` (holds after the snapshot) and `I_bstep` (kept by every step), so `CallRun.I` is
`Conc.Exec.invariant` along the continuation.
-/
namespace TypVerif.Lemmas.PubSubLog
open TypVerif TypVerif.Model.PubSub TypVerif.Lemmas.PubSubSafe

/-- `CallRun cfg s0 s1 s2 i p o v evs`: in the reachable state `s0` task `i` is the publish call
`pubStart p o v evs` (invoked by `pubinv p o v evs`, not yet past its `RLock`); `s0 → s1` is the step of that task
(the snapshot: it reads `(s0.obj o).subs` under the read lock and builds its items); `s2` is any state reached from
`s1` by any execution (any schedule, any further invocations). -/
structure CallRun (cfg : Cfg) (s0 s1 s2 : State) (i p o : Nat) (v : Variant) (evs : List Int) : Prop where
  reach : Conc.Reachable (sys cfg) s0
  at0 : s0.tasks[i]? = some (.pubStart p o v evs)
  snap : ∃ l, (l, s1) ∈ succ cfg s0 ∧ s1.tasks[i]? ≠ s0.tasks[i]?
  run : ∃ ls, Conc.Exec (sys cfg) s1 ls s2

theorem CallRun.snapshot {cfg : Cfg} {s0 s1 s2 : State} {i p o : Nat} {v : Variant} {evs : List Int}
    (h : CallRun cfg s0 s1 s2 i p o v evs) : Snapshot cfg s0 s1 i p o v evs := by
  obtain ⟨l, h01, hne⟩ := h.snap
  exact snapshot_of_step h.reach h.at0 h01 hne

theorem CallRun.reach1 {cfg : Cfg} {s0 s1 s2 : State} {i p o : Nat} {v : Variant} {evs : List Int}
    (h : CallRun cfg s0 s1 s2 i p o v evs) : Conc.Reachable (sys cfg) s1 := by
  obtain ⟨l, h01, _⟩ := h.snap
  exact Conc.Reachable.step h.reach h01

theorem CallRun.reach2 {cfg : Cfg} {s0 s1 s2 : State} {i p o : Nat} {v : Variant} {evs : List Int}
    (h : CallRun cfg s0 s1 s2 i p o v evs) : Conc.Reachable (sys cfg) s2 := by
  obtain ⟨ls, hex⟩ := h.run
  exact Conc.Exec.reachable hex h.reach1

theorem CallRun.callLe {cfg : Cfg} {s0 s1 s2 : State} {i p o : Nat} {v : Variant} {evs : List Int}
    (h : CallRun cfg s0 s1 s2 i p o v evs) : CallLe p (callKeys p evs (s0.obj o).subs) s2 := by
  obtain ⟨ls, hex⟩ := h.run
  exact Conc.Exec.invariant (sys := sys cfg) (CallLe p (callKeys p evs (s0.obj o).subs))
    (fun _ _ _ hc hs => callLe_bstep hc (succ_bstep hs)) hex h.snapshot.callLe

theorem CallRun.callEq {cfg : Cfg} {s0 s1 s2 : State} {i p o : Nat} {v : Variant} {evs : List Int}
    (h : CallRun cfg s0 s1 s2 i p o v evs) (hv : v.isSync = true ∨ v.isWait = true) :
    CallEq p (callKeys p evs (s0.obj o).subs) s2 := by
  obtain ⟨ls, hex⟩ := h.run
  exact Conc.Exec.invariant (sys := sys cfg) (CallEq p (callKeys p evs (s0.obj o).subs))
    (fun _ _ _ hc hs => callEq_bstep hc (succ_bstep hs)) hex (h.snapshot.callEq hv)

theorem CallRun.syncInv {cfg : Cfg} {s0 s1 s2 : State} {i p o : Nat} {v : Variant} {evs : List Int}
    (h : CallRun cfg s0 s1 s2 i p o v evs) (hv : v.isSync = true) :
    SyncInv i p o (callKeys p evs (s0.obj o).subs) s2 := by
  obtain ⟨ls, hex⟩ := h.run
  exact Conc.Exec.invariant (sys := sys cfg) (SyncInv i p o (callKeys p evs (s0.obj o).subs))
    (fun _ _ _ hc hs => syncInv_bstep (fun k hk => callKeys_pid hk) hc (succ_bstep hs)) hex (h.snapshot.syncInv hv)

theorem CallRun.waitInv {cfg : Cfg} (hd : cfg.allowClone = false) {s0 s1 s2 : State} {i p o : Nat} {v : Variant}
    {evs : List Int} (h : CallRun cfg s0 s1 s2 i p o v evs) (hv : v.isSync = false) (hw : v.isWait = true) :
    WaitInv i p o s0.wgs.length s2 := by
  obtain ⟨ls, hex⟩ := h.run
  -- `CallLe` rides along for its field `used` only, which `waitInv_bstep` needs and `WaitInv` does not carry
  have := (Conc.Exec.invariant' (sys := sys cfg)
    (fun s => CallLe p (callKeys p evs (s0.obj o).subs) s ∧ WaitInv i p o s0.wgs.length s)
    (fun s _ _ hr hc hs => ⟨callLe_bstep hc.1 (succ_bstep hs),
      waitInv_bstep (no_panic_noClone cfg hd s hr) hc.1.used hc.2 (succ_bstep hs)⟩)
    hex h.reach1 ⟨h.snapshot.callLe, h.snapshot.waitInv hv hw⟩).2
  exact this.2

/-- Every step either leaves both logs alone or is the hand-off of ONE pending item `it` of ONE task: exactly
`key it` is appended to exactly one of `delivered` / `timedOut` (the latter only with a positive timeout), and the
number of pending items with that key drops by one. -/
theorem log_step {cfg : Cfg} {s s' : State} {l : Option Event} (h : (l, s') ∈ succ cfg s) :
    (s'.delivered = s.delivered ∧ s'.timedOut = s.timedOut) ∨
    ∃ (i : Nat) (t : Task) (it : Item), s.tasks[i]? = some t ∧ it ∈ pend t ∧ it.c ∈ targets t ∧ cP (key it) s' + 1 = cP (key it) s ∧
      ((s'.delivered = s.delivered ++ [key it] ∧ s'.timedOut = s.timedOut) ∨
       (s'.delivered = s.delivered ∧ s'.timedOut = s.timedOut ++ [key it] ∧ cfg.timeout > 0)) := by
  rcases succ_bstep h with ⟨ts, hs⟩ | ⟨i, t, hi, t', new, dl, tl, hT, h1, h2, h3, _⟩
  · exact .inl ⟨hs.delivered, hs.timedOut⟩
  · have quiet : dl = [] → tl = [] → s'.delivered = s.delivered ∧ s'.timedOut = s.timedOut := fun e1 e2 =>
      ⟨h2.trans (e1 ▸ List.append_nil _), h3.trans (e2 ▸ List.append_nil _)⟩
    cases tstep_kind hT with
    | quiet _ _ _ e1 e2 => exact .inl (quiet e1 e2)
    | handOff hnp hna _ it hit htg hlog =>
      obtain ⟨_, b, _⟩ := task_counts hi hT h1 h2 h3 (key it)
      have hb := b (hna _)
      rw [gain_notPub hnp] at hb
      have hcl := cL_append h2 h3 (key it)
      have hone : dl.count (key it) + tl.count (key it) = 1 := by
        rcases hlog with ⟨rfl, rfl⟩ | ⟨rfl, rfl, _⟩ <;> simp
      refine .inr ⟨i, t, it, hi, hit ▸ List.mem_cons_self, htg, by omega, ?_⟩
      rcases hlog with ⟨rfl, rfl⟩ | ⟨rfl, rfl, htm⟩
      · exact .inl ⟨h2, h3.trans (List.append_nil _)⟩
      · exact .inr ⟨h2.trans (List.append_nil _), h3, htm⟩
    | snapshot _ _ _ _ _ _ e1 e2 => exact .inl (quiet e1 e2)
    | drop _ _ _ _ _ e1 e2 => exact .inl (quiet e1 e2)

/-- without clones: a log entry is written only for a channel that is subscribed and open at that moment -/
theorem log_step_subscribed {cfg : Cfg} (hd : cfg.allowClone = false) {s s' : State} {l : Option Event}
    (hr : Conc.Reachable (sys cfg) s) (h : (l, s') ∈ succ cfg s) :
    (s'.delivered = s.delivered ∧ s'.timedOut = s.timedOut) ∨
    ∃ k : Key, k.2.2 ∈ (s.obj 0).subs ∧ isClosed s.chans k.2.2 = false ∧
      ((s'.delivered = s.delivered ++ [k] ∧ s'.timedOut = s.timedOut) ∨
       (s'.delivered = s.delivered ∧ s'.timedOut = s.timedOut ++ [k] ∧ cfg.timeout > 0)) := by
  have hs := no_panic_noClone cfg hd s hr
  rcases log_step h with h1 | ⟨i, t, it, hi, _, htg, _, hlog⟩
  · exact Or.inl h1
  · have hsub := hs.targ t (List.mem_of_getElem? hi) it.c htg
    exact Or.inr ⟨key it, hsub, hs.opn _ hsub, hlog⟩

theorem not_both_logs {cfg : Cfg} (hd : cfg.allowClone = false) {s : State} (hr : Conc.Reachable (sys cfg) s)
    (k : Key) (h1 : k ∈ s.delivered) (h2 : k ∈ s.timedOut) : False := by
  have ha : cP k s + (s.delivered ++ s.timedOut).count k ≤ 1 := atMostOnce_reachable cfg hd s hr k
  rw [List.count_append] at ha
  have := List.count_pos_iff.mpr h1
  have := List.count_pos_iff.mpr h2
  omega

open TypVerif.Lemmas.PubSubExec in
/-- a `CallRun` from explicit paths (positions in `succ`), for the non-vacuity examples of `Props/C10log` -/
theorem callRun_of_paths (cfg : Cfg) (pre post : List Nat) (n i p o : Nat) (v : Variant) (evs : List Int)
    (s0 s1 s2 : State) (h0 : runPath cfg {} pre = some s0)
    (hn : ((succ cfg s0)[n]?).map (·.2) = some s1) (h2 : runPath cfg s1 post = some s2)
    (hi : s0.tasks[i]? = some (.pubStart p o v evs)) (hne : s1.tasks[i]? ≠ s0.tasks[i]?) :
    CallRun cfg s0 s1 s2 i p o v evs := by
  refine ⟨runPath_reachable cfg pre {} s0 Conc.Reachable.init h0, hi, ?_, ⟨_, runPath_exec cfg post s1 s2 h2⟩⟩
  cases hx : (succ cfg s0)[n]? with
  | none => simp [hx] at hn
  | some x =>
    simp only [hx, Option.map_some, Option.some.injEq] at hn
    subst hn
    exact ⟨x.1, List.mem_of_getElem? hx, hne⟩

/-- the state a path leads to (`{}` if the path does not exist), and the `n`-th successor of a state -/
def runFrom (cfg : Cfg) (s : State) (path : List Nat) : State := (PubSubExec.runPath cfg s path).getD {}
def nextAt (cfg : Cfg) (s : State) (n : Nat) : State := (((succ cfg s)[n]?).map (·.2)).getD {}

/-- `callRun_of_paths` for the states the paths lead to: only the existence of the paths has to be checked -/
theorem callRun_of_path (cfg : Cfg) (pre post : List Nat) (n i p o : Nat) (v : Variant) (evs : List Int)
    (h0 : (PubSubExec.runPath cfg {} pre).isSome = true)
    (hn : ((succ cfg (runFrom cfg {} pre))[n]?).isSome = true)
    (h2 : (PubSubExec.runPath cfg (nextAt cfg (runFrom cfg {} pre) n) post).isSome = true)
    (hi : (runFrom cfg {} pre).tasks[i]? = some (.pubStart p o v evs))
    (hne : (nextAt cfg (runFrom cfg {} pre) n).tasks[i]? ≠ (runFrom cfg {} pre).tasks[i]?) :
    CallRun cfg (runFrom cfg {} pre) (nextAt cfg (runFrom cfg {} pre) n)
      (runFrom cfg (nextAt cfg (runFrom cfg {} pre) n) post) i p o v evs :=
  callRun_of_paths cfg pre post n i p o v evs _ _ _ (PubSubExec.eq_some_getD h0 _)
    (PubSubExec.eq_some_getD (Option.isSome_map.trans hn) _) (PubSubExec.eq_some_getD h2 _) hi hne

end TypVerif.Lemmas.PubSubLog
