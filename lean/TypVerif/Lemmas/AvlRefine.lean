import TypVerif.Lemmas.AvlSorted
import TypVerif.Lemmas.AvlWorld
/-
C01: the model refines the sorted-multiset specification on every history (simulation relation per handle).
-/
set_option linter.unusedSectionVars false
namespace TypVerif.Lemmas.Avl
open TypVerif.Model.Avl TypVerif.Model.Avl.Node TypVerif.Spec.Avl

variable {α ι : Type} [DecidableEq α]

structure Rel (cmps : ι → α → α → Int) (t : Tree α) (s : STree ι α) : Prop where
  cmp_eq : t.compare = cmps s.ci
  bst : BST t.compare t.root
  ino : inorder t.root = s.elems
  cnt : t.count = s.elems.length

theorem Rel.sorted {cmps : ι → α → α → Int} (ok : ∀ c, CmpOK (cmps c)) {t : Tree α} {s : STree ι α}
    (r : Rel cmps t s) : Sorted (cmps s.ci) s.elems := by
  rw [← r.ino, ← r.cmp_eq]
  exact (bst_iff_sorted (by rw [r.cmp_eq]; exact ok _) _).mp r.bst

theorem preorder_perm_inorder (t : Node α) : (preorder t).Perm (inorder t) := by
  induction t with
  | nil => exact List.Perm.refl _
  | node l v h r ihl ihr =>
    simp only [preorder, inorder]
    exact (List.Perm.cons v (List.Perm.append ihl ihr)).trans List.perm_middle.symm

theorem postorder_perm_inorder (t : Node α) : (postorder t).Perm (inorder t) := by
  induction t with
  | nil => exact List.Perm.refl _
  | node l v h r ihl ihr =>
    simp only [postorder, inorder]
    refine (List.Perm.append ihl (List.perm_append_comm (l₁ := postorder r) (l₂ := [v]))).trans ?_
    exact List.Perm.append_left _ (List.Perm.cons v ihr)

theorem Rel_new (cmps : ι → α → α → Int) (c : ι) : Rel cmps (Tree.new (cmps c)) { ci := c, elems := [] } :=
  ⟨rfl, trivial, rfl, rfl⟩

theorem Rel_add {cmps : ι → α → α → Int} (ok : ∀ c, CmpOK (cmps c)) {t : Tree α} {s : STree ι α}
    (r : Rel cmps t s) (v : α) : Rel cmps (t.Add v) (s.add cmps v) := by
  have okc : CmpOK t.compare := by rw [r.cmp_eq]; exact ok _
  refine ⟨r.cmp_eq, ?_, ?_, ?_⟩
  · rw [Add_root]; exact bst_add okc v _ r.bst
  · rw [Add_root, inorder_add_eq okc v _ r.bst, r.ino, r.cmp_eq]; rfl
  · simp only [Add_count, STree.add, length_sinsert, r.cnt]; omega

theorem Rel_remove {cmps : ι → α → α → Int} (ok : ∀ c, CmpOK (cmps c)) {t : Tree α} {s : STree ι α}
    (r : Rel cmps t s) (v : α) :
    Rel cmps (t.Remove v).1 (s.remove v).1 ∧ (t.Remove v).2 = (s.remove v).2 := by
  obtain ⟨h1, h2, h3⟩ := remove_spec (r.cmp_eq ▸ ok s.ci) v t.root r.bst
  rw [r.ino] at h1 h2
  rw [Remove_eq, h1]
  refine ⟨⟨r.cmp_eq, h3, h2, ?_⟩, rfl⟩
  show (if decide (v ∈ s.elems) = true then t.count - 1 else t.count) = ((s.elems.erase v).length : Int)
  rw [r.cnt]
  by_cases hm : v ∈ s.elems
  · have := List.length_pos_of_mem hm
    rw [decide_eq_true hm, if_pos rfl, List.length_erase_of_mem hm]; omega
  · rw [decide_eq_false hm, if_neg (by decide), List.erase_of_not_mem hm]

theorem Rel_contains {cmps : ι → α → α → Int} (ok : ∀ c, CmpOK (cmps c)) {t : Tree α} {s : STree ι α}
    (r : Rel cmps t s) (v : α) : t.Contains v = s.contains v := by
  rw [Contains_eq, contains_eq_decide (r.cmp_eq ▸ ok s.ci) v t.root r.bst, r.ino]; rfl

theorem Rel_clear {cmps : ι → α → α → Int} {t : Tree α} {s : STree ι α}
    (r : Rel cmps t s) : Rel cmps t.Clear s.clear :=
  ⟨r.cmp_eq, trivial, rfl, rfl⟩

/-- C01.clone on well-formed trees: the clone's walk is a permutation of the pre-order walk, hence of the in-order walk, and
it is sorted, so the two walks are equal (`sorted_unique`) -/
theorem Clone_spec {cmp : α → α → Int} (okc : CmpOK cmp) (t : Tree α) (hc : t.compare = cmp)
    (hb : BST cmp t.root) :
    t.Clone.compare = cmp ∧ BST cmp t.Clone.root ∧ inorder t.Clone.root = inorder t.root ∧
      t.Clone.count = (inorder t.root).length := by
  obtain ⟨h1, h2, h3, h4⟩ := Clone_ind
    (fun L c => c.compare = cmp ∧ BST cmp c.root ∧ (inorder c.root).Perm L ∧ c.count = L.length) t
    ⟨hc, trivial, List.Perm.refl _, rfl⟩ fun L u v ⟨e, b, p, n⟩ =>
      ⟨e, by rw [Add_root, e]; exact bst_add okc v _ b,
        by rw [Add_root]; exact (inorder_add_perm _ v _).trans ((p.cons v).trans (List.perm_append_singleton v L).symm),
        by rw [Add_count, n, List.length_append]; rfl⟩
  have hp := preorder_perm_inorder t.root
  exact ⟨h1, h2, sorted_unique okc ((bst_iff_sorted okc _).mp h2) ((bst_iff_sorted okc _).mp hb) (h3.trans hp),
    h4.trans (congrArg _ hp.length_eq)⟩

theorem Rel_clone {cmps : ι → α → α → Int} (ok : ∀ c, CmpOK (cmps c)) {t : Tree α} {s : STree ι α}
    (r : Rel cmps t s) : Rel cmps t.Clone s.clone := by
  have okc : CmpOK t.compare := by rw [r.cmp_eq]; exact ok _
  obtain ⟨h1, h2, h3, h4⟩ := Clone_spec okc t rfl r.bst
  exact ⟨by rw [h1]; exact r.cmp_eq, by rw [h1]; exact h2, by rw [h3]; exact r.ino,
    by rw [h4, r.ino]; rfl⟩

def ORel (cmps : ι → α → α → Int) : Option (Tree α) → Option (STree ι α) → Prop
  | some t, some s => Rel cmps t s
  | none, none => True
  | _, _ => False

def WRel (cmps : ι → α → α → Int) (wm : World (Tree α)) (ws : World (STree ι α)) : Prop :=
  ∀ h, ORel cmps (wm.get h) (ws.get h)

theorem WRel_set {cmps : ι → α → α → Int} {wm : World (Tree α)} {ws : World (STree ι α)}
    (hw : WRel cmps wm ws) (h : Nat) {t : Tree α} {s : STree ι α} (r : Rel cmps t s) :
    WRel cmps (wm.set h t) (ws.set h s) := by
  intro h'
  rw [get_set, get_set]
  by_cases e : h = h'
  · simp only [e, if_true]; exact r
  · simp only [e, if_false]; exact hw h'

/-- the shape of every operation but `new`, on both sides: read handle `h`, then act on the object found there -/
theorem WRel_bind {cmps : ι → α → α → Int} {wm : World (Tree α)} {ws : World (STree ι α)}
    (hw : WRel cmps wm ws) (h : Nat) {F : Tree α → World (Tree α) × Res α}
    {G : STree ι α → World (STree ι α) × Res α}
    (hFG : ∀ t s, Rel cmps t s → (F t).2 = (G s).2 ∧ WRel cmps (F t).1 (G s).1) :
    (match wm.get h with | some t => F t | none => (wm, .bad)).2 =
      (match ws.get h with | some s => G s | none => (ws, .bad)).2 ∧
    WRel cmps (match wm.get h with | some t => F t | none => (wm, .bad)).1
      (match ws.get h with | some s => G s | none => (ws, .bad)).1 := by
  have hh := hw h
  cases hm : wm.get h <;> cases hs : ws.get h <;> rw [hm, hs] at hh
  · exact ⟨rfl, hw⟩
  · exact hh.elim
  · exact hh.elim
  · exact hFG _ _ hh

theorem step_refines {cmps : ι → α → α → Int} (ok : ∀ c, CmpOK (cmps c))
    {wm : World (Tree α)} {ws : World (STree ι α)} (hw : WRel cmps wm ws) (op : Op ι α) :
    (modelStep cmps wm op).2 = (specStep cmps ws op).2 ∧
    WRel cmps (modelStep cmps wm op).1 (specStep cmps ws op).1 := by
  cases op with
  | new h c => exact ⟨rfl, WRel_set hw h (Rel_new cmps c)⟩
  | add h v => exact WRel_bind hw h fun t s r => ⟨rfl, WRel_set hw h (Rel_add ok r v)⟩
  | remove h v =>
    exact WRel_bind hw h fun t s r => ⟨congrArg Res.bool (Rel_remove ok r v).2, WRel_set hw h (Rel_remove ok r v).1⟩
  | contains h v => exact WRel_bind hw h fun t s r => ⟨congrArg Res.bool (Rel_contains ok r v), hw⟩
  | len h => exact WRel_bind hw h fun t s r => ⟨congrArg Res.int r.cnt, hw⟩
  | clear h => exact WRel_bind hw h fun t s r => ⟨rfl, WRel_set hw h (Rel_clear r)⟩
  | clone h h2 => exact WRel_bind hw h fun t s r => ⟨rfl, WRel_set hw h2 (Rel_clone ok r)⟩
  | inorder h => exact WRel_bind hw h fun t s r => ⟨congrArg Res.list ((SliceInOrder_eq t).trans r.ino), hw⟩

theorem runFrom_refines {cmps : ι → α → α → Int} (ok : ∀ c, CmpOK (cmps c))
    (wm : World (Tree α)) (ws : World (STree ι α)) (hw : WRel cmps wm ws) (ops : List (Op ι α)) :
    (runFrom (modelStep cmps) wm ops).2 = (runFrom (specStep cmps) ws ops).2 ∧
    WRel cmps (runFrom (modelStep cmps) wm ops).1 (runFrom (specStep cmps) ws ops).1 := by
  induction ops generalizing wm ws with
  | nil => exact ⟨rfl, hw⟩
  | cons op ops ih =>
    obtain ⟨h1, h2⟩ := step_refines ok hw op
    obtain ⟨h3, h4⟩ := ih _ _ h2
    simp only [runFrom]
    exact ⟨by rw [h1, h3], h4⟩

/-- C01.refines -/
theorem refines {cmps : ι → α → α → Int} (ok : ∀ c, CmpOK (cmps c)) (ops : List (Op ι α)) :
    (runModel cmps ops).2 = (runSpec cmps ops).2 ∧ WRel cmps (runModel cmps ops).1 (runSpec cmps ops).1 :=
  runFrom_refines ok [] [] (fun _ => trivial) ops

end TypVerif.Lemmas.Avl
