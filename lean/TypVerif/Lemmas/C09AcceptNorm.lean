import TypVerif.Lemmas.C09AcceptRel
import TypVerif.Lemmas.ConcAccept
namespace TypVerif.Lemmas.C09Accept
open TypVerif TypVerif.Conc TypVerif.Model.KeyedMutex TypVerif.Drv.C09

/-! ### insertion sort

`sortNat` and `sortPairs` are the same insertion sort for two orders: the facts are proved for `sortBy le`. -/

def insertBy {α : Type} (le : α → α → Prop) [DecidableRel le] (x : α) : List α → List α
  | [] => [x]
  | y :: ys => if le x y then x :: y :: ys else y :: insertBy le x ys

def sortBy {α : Type} (le : α → α → Prop) [DecidableRel le] (xs : List α) : List α := xs.foldr (insertBy le) []

theorem sortNat_eq : sortNat = sortBy (· ≤ ·) := by
  have h : insertSorted = insertBy (· ≤ ·) := by
    funext x l
    induction l with
    | nil => rfl
    | cons y ys ih =>
      unfold insertSorted insertBy
      rw [ih]
  funext l
  unfold sortNat sortBy
  rw [h]

theorem sortPairs_eq : sortPairs = sortBy (fun a b => pairLe a b = true) := by
  have h : insertPair = insertBy (fun a b => pairLe a b = true) := by
    funext x l
    induction l with
    | nil => rfl
    | cons y ys ih =>
      unfold insertPair insertBy
      rw [ih]
  funext l
  unfold sortPairs sortBy
  rw [h]

section
variable {α : Type} {le : α → α → Prop} [DecidableRel le]

theorem insertBy_perm (x : α) (l : List α) : (insertBy le x l).Perm (x :: l) := by
  induction l with
  | nil => exact .refl _
  | cons y ys ih =>
    unfold insertBy
    split
    · exact .refl _
    · exact (ih.cons y).trans (.swap x y ys)

theorem sortBy_perm (l : List α) : (sortBy le l).Perm l := by
  induction l with
  | nil => exact .refl _
  | cons y ys ih => exact (insertBy_perm y _).trans (ih.cons y)

theorem insertBy_sorted (total : ∀ a b, ¬ le a b → le b a) (trans : ∀ a b c, le a b → le b c → le a c) (x : α)
    {l : List α} (h : l.Pairwise le) : (insertBy le x l).Pairwise le := by
  induction l with
  | nil => exact List.pairwise_singleton _ _
  | cons y ys ih =>
    unfold insertBy
    rw [List.pairwise_cons] at h
    split
    · rename_i hxy
      refine List.pairwise_cons.mpr ⟨fun z hz => ?_, List.pairwise_cons.mpr h⟩
      rcases List.mem_cons.mp hz with e | hz
      · exact e ▸ hxy
      · exact trans _ _ _ hxy (h.1 z hz)
    · rename_i hxy
      refine List.pairwise_cons.mpr ⟨fun z hz => ?_, ih h.2⟩
      rcases List.mem_cons.mp ((insertBy_perm x ys).mem_iff.mp hz) with e | hz
      · exact e ▸ total _ _ hxy
      · exact h.1 z hz

theorem sortBy_sorted (total : ∀ a b, ¬ le a b → le b a) (trans : ∀ a b c, le a b → le b c → le a c) (l : List α) :
    (sortBy le l).Pairwise le := by
  induction l with
  | nil => exact .nil
  | cons y ys ih => exact insertBy_sorted total trans y ih

theorem sortBy_congr (total : ∀ a b, ¬ le a b → le b a) (trans : ∀ a b c, le a b → le b c → le a c)
    (anti : ∀ a b, le a b → le b a → a = b) {l1 l2 : List α} (h : l1.Perm l2) : sortBy le l1 = sortBy le l2 :=
  List.Perm.eq_of_pairwise (fun a b _ _ => anti a b) (sortBy_sorted total trans l1) (sortBy_sorted total trans l2)
    (((sortBy_perm l1).trans h).trans (sortBy_perm l2).symm)

end

theorem nrm_sortNat_perm (l : List Nat) : (sortNat l).Perm l := sortNat_eq ▸ sortBy_perm l

theorem nrm_sortPairs_perm (l : List (Nat × Nat)) : (sortPairs l).Perm l := sortPairs_eq ▸ sortBy_perm l

/-- `normLive` is the deduplicating fold of `Conc.dedup`, started from the ids in the map, over the ids the program counters hold -/
theorem nrm_normLive_eq (s : State) :
    normLive s = (s.pcs.filterMap pcLocal).foldl dstep ((normMap s).map (·.2)) := by
  rw [List.foldl_filterMap]
  unfold normLive
  congr 1
  funext acc p
  cases pcLocal p <;> rfl

theorem nrm_live_mem {s : State} {m : Nat} (h : Live s m) : m ∈ normLive s := by
  rw [nrm_normLive_eq]
  rcases h with ⟨k, hk⟩ | ⟨p, hp, hl⟩
  · apply dfold_acc
    have : (k, m) ∈ normMap s := (nrm_sortPairs_perm s.map).mem_iff.mpr hk
    exact List.mem_map.mpr ⟨(k, m), this, rfl⟩
  · exact dfold_mem _ _ m (List.mem_filterMap.mpr ⟨p, hp, hl⟩)

theorem can_normMap_live {a : State} {p : Nat × Nat} (h : p ∈ normMap a) : Live a p.2 :=
  .inl ⟨p.1, (nrm_sortPairs_perm a.map).mem_iff.mp h⟩

theorem can_normLive_live (a : State) : ∀ m ∈ normLive a, Live a m := by
  intro m hm
  rw [nrm_normLive_eq] at hm
  rcases mem_dfold _ _ m hm with h | h
  · obtain ⟨p, hp, e⟩ := List.mem_map.mp h
    exact e ▸ can_normMap_live hp
  · obtain ⟨p, hp, hl⟩ := List.mem_filterMap.mp h
    exact .inr ⟨p, hp, hl⟩

theorem nrm_normF_spec {s : State} {m : Nat} (h : m ∈ normLive s) :
    ∃ hlt : normF s m < (normLive s).length, (normLive s)[normF s m] = m := by
  unfold normF
  cases hf : (normLive s).findIdx? (· == m) with
  | none =>
    have := List.findIdx?_eq_none_iff.mp hf m h
    simp at this
  | some i =>
    obtain ⟨hlt, hp, _⟩ := List.findIdx?_eq_some_iff_getElem.mp hf
    refine ⟨hlt, ?_⟩
    show (normLive s)[i] = m
    exact eq_of_beq hp

theorem nrm_normCell_muEq (s : State) (m : Nat) : MuEq (normCell s m) (s.mu m) :=
  ⟨rfl, nrm_sortNat_perm _, nrm_sortNat_perm _, nrm_sortNat_perm _⟩

theorem nrm_norm_mu {s : State} {m : Nat} (h : m ∈ normLive s) : (norm s).mu (normF s m) = normCell s m := by
  obtain ⟨hlt, hget⟩ := nrm_normF_spec h
  rw [norm_eq]
  show ((normLive s).map (normCell s)).getD (normF s m) Mu.free = normCell s m
  rw [List.getD_eq_getElem?_getD, List.getElem?_map, List.getElem?_eq_getElem hlt, hget]
  rfl

/-- `norm s` is `s` up to the renaming `normF s` (no hypothesis on `s`) -/
theorem rel_norm (s : State) : Rel (normF s) s (norm s) where
  pcs := by rw [norm_eq]
  map := by
    rw [norm_eq]
    exact (nrm_sortPairs_perm s.map).map _
  inj := by
    intro m m' hm hm' he
    obtain ⟨_, h1⟩ := nrm_normF_spec (nrm_live_mem hm)
    obtain ⟨_, h2⟩ := nrm_normF_spec (nrm_live_mem hm')
    rw [← h1, ← h2]
    simp only [he]
  ltX := by
    intro m hm
    obtain ⟨hlt, _⟩ := nrm_normF_spec (nrm_live_mem hm)
    rw [norm_eq]
    show normF s m < ((normLive s).map (normCell s)).length
    rw [List.length_map]
    exact hlt
  mu := by
    intro m hm
    rw [nrm_norm_mu (nrm_live_mem hm)]
    exact nrm_normCell_muEq s m
  wh := by
    rw [norm_eq]
    exact nrm_sortPairs_perm s.wh
  rh := by
    rw [norm_eq]
    exact nrm_sortPairs_perm s.rh

theorem nrm_pcLocal_renPc (f : Nat → Nat) (p : Pc) : pcLocal (renPc f p) = (pcLocal p).map f := by
  cases p <;> rfl

theorem nrm_renPc_comp (f g : Nat → Nat) (p : Pc) : renPc g (renPc f p) = renPc (fun m => g (f m)) p := by
  cases p <;> rfl

theorem nrm_live_of_rel {f : Nat → Nat} {a b : State} (h : Rel f a b) {m : Nat} (hm : Live a m) : Live b (f m) := by
  rcases hm with ⟨k, hk⟩ | ⟨p, hp, hl⟩
  · left
    refine ⟨k, h.map.mem_iff.mpr ?_⟩
    exact List.mem_map.mpr ⟨(k, m), hk, rfl⟩
  · right
    refine ⟨renPc f p, ?_, ?_⟩
    · rw [h.pcs]
      exact List.mem_map.mpr ⟨p, hp, rfl⟩
    · rw [nrm_pcLocal_renPc, hl]
      rfl

theorem nrm_MuEq_trans {x y z : Mu} (h1 : MuEq x y) (h2 : MuEq y z) : MuEq x z :=
  ⟨h1.1.trans h2.1, h1.2.1.trans h2.2.1, h1.2.2.1.trans h2.2.2.1, h1.2.2.2.trans h2.2.2.2⟩

theorem Rel.trans {f g : Nat → Nat} {a b c : State} (h1 : Rel f a b) (h2 : Rel g b c) :
    Rel (fun m => g (f m)) a c where
  pcs := by
    rw [h2.pcs, h1.pcs, List.map_map]
    apply List.map_congr_left
    intro p _
    exact nrm_renPc_comp f g p
  map := by
    refine h2.map.trans ?_
    have := h1.map.map (fun p : Nat × Nat => (p.1, g p.2))
    refine this.trans ?_
    rw [List.map_map]
    exact List.Perm.refl _
  inj := by
    intro m m' hm hm' he
    exact h1.inj m m' hm hm' (h2.inj _ _ (nrm_live_of_rel h1 hm) (nrm_live_of_rel h1 hm') he)
  ltX := fun m hm => h2.ltX _ (nrm_live_of_rel h1 hm)
  mu := fun m hm => nrm_MuEq_trans (h2.mu _ (nrm_live_of_rel h1 hm)) (h1.mu m hm)
  wh := h2.wh.trans h1.wh
  rh := h2.rh.trans h1.rh

theorem R_norm {a x : State} (h : R a x) : R a (norm x) := by
  obtain ⟨hwf, f, hf⟩ := h
  exact ⟨hwf, fun m => normF x (f m), Rel.trans hf (rel_norm x)⟩

end TypVerif.Lemmas.C09Accept
