import TypVerif.Model.OncePanic
import TypVerif.Lemmas.OncePanicBase
import TypVerif.Lemmas.ConcAccept
/-
Invariants of the Once transition system with panicking functions (`Model/OncePanic.lean`):
every step is a step of `Model.Once` or (`fpanic`) the composition of two steps of `Model.Once`,
so `Model.Once`'s invariants carry over; plus what is known about the goroutines that panicked.
-/
namespace TypVerif.Lemmas.OncePanic
open TypVerif TypVerif.Conc TypVerif.Model TypVerif.Model.OncePanic

theorem exec_trans {S : Sys} {s m s' : S.State} {l1 l2 : List (Option S.Event)}
    (h1 : Exec S s l1 m) (h2 : Exec S m l2 s') : Exec S s (l1 ++ l2) s' :=
  Exec.append h1 h2

@[simp] theorem visible_nil {ε : Type} : visible ([] : List (Option ε)) = [] := rfl
@[simp] theorem visible_none {ε : Type} (ls : List (Option ε)) : visible (none :: ls) = visible ls := rfl
@[simp] theorem visible_some {ε : Type} (e : ε) (ls : List (Option ε)) :
    visible (some e :: ls) = e :: visible ls := rfl

theorem glue_ofBase (a : Nat) (e : Once.Event) : glue a (Event.ofBase e) = e := by
  cases e <;> rfl

theorem ofBase_injective {e e' : Once.Event} (h : Event.ofBase e = Event.ofBase e') : e = e' :=
  (glue_ofBase 0 e).symm.trans ((congrArg (glue 0) h).trans (glue_ofBase 0 e'))

theorem map_ofBase_eq {lb : Option Once.Event} {e : Once.Event} :
    lb.map Event.ofBase = some (Event.ofBase e) ↔ lb = some e := by
  cases lb with
  | none => exact ⟨fun h => (nomatch h), fun h => (nomatch h)⟩
  | some e' => exact ⟨fun h => congrArg some (ofBase_injective (Option.some.inj h)), fun h => h ▸ rfl⟩

theorem map_ofBase_call {lb : Option Once.Event} {t : Nat} :
    lb.map Event.ofBase = some (Event.call t) ↔ lb = some (.call t) :=
  map_ofBase_eq (e := .call t)

theorem map_ofBase_fstart {lb : Option Once.Event} {t : Nat} :
    lb.map Event.ofBase = some (Event.fstart t) ↔ lb = some (.fstart t) :=
  map_ofBase_eq (e := .fstart t)

theorem map_ofBase_fpanic {lb : Option Once.Event} {t : Nat} :
    lb.map Event.ofBase ≠ some (Event.fpanic t) := by
  cases lb with
  | none => exact fun h => nomatch h
  | some e => cases e <;> exact fun h => nomatch h

theorem mem_succ {res : Nat → List Int} {s : State} {p : Option Event × State} :
    p ∈ succ res s ↔ ∃ t, t < s.base.pcs.length ∧ p ∈ stepT res s t := by
  unfold succ
  simp [List.mem_flatMap, List.mem_range]

def afterPanic (s : State) (t : Nat) : State :=
  { base := { s.base.setPc t .store with fres := some s.base.fields }, panicked := t :: s.panicked }

/-- the steps of the extended system as a relation: a step of `Model.Once` by a goroutine that is not gone, or `fpanic` -/
inductive Step (res : Nat → List Int) (s : State) : Option Event → State → Prop
  | base {t lb sb} : t < s.base.pcs.length → s.unwound t = false → Once.Step res s.base t lb sb →
      Step res s (lb.map Event.ofBase) ⟨sb, s.panicked⟩
  | fpanic {t} : t < s.base.pcs.length → s.base.pc t = .inF → Step res s (some (.fpanic t)) (afterPanic s t)

theorem fpanic_step_mem {res : Nat → List Int} {s : State} {t : Nat}
    (ht : t < s.base.pcs.length) (hpc : s.base.pc t = .inF) :
    (some (Event.fpanic t), afterPanic s t) ∈ succ res s := by
  refine mem_succ.mpr ⟨t, ht, ?_⟩
  have hu : ¬ s.unwound t = true := by simp [State.unwound, hpc]
  unfold stepT
  rw [if_neg hu, if_pos hpc]
  exact List.mem_append_right _ (List.mem_singleton.mpr rfl)

theorem base_step_mem {res : Nat → List Int} {s : State} {t : Nat} {lb : Option Once.Event} {sb : Once.State}
    (hu : s.unwound t = false) (hp : Once.Step res s.base t lb sb) :
    (lb.map Event.ofBase, (⟨sb, s.panicked⟩ : State)) ∈ stepT res s t := by
  unfold stepT
  rw [if_neg (Bool.eq_false_iff.mp hu)]
  exact List.mem_append_left _ (List.mem_map.mpr ⟨(lb, sb), Once.mem_stepT.mpr hp, rfl⟩)

theorem mem_succ_iff {res : Nat → List Int} {s s' : State} {l : Option Event} :
    (l, s') ∈ succ res s ↔ Step res s l s' := by
  constructor
  · intro h
    obtain ⟨t, ht, hstep⟩ := mem_succ.mp h
    unfold stepT at hstep
    split at hstep
    · cases hstep
    · rename_i hu
      rcases List.mem_append.mp hstep with hstep | hstep
      · obtain ⟨⟨lb, sb⟩, hp, heq⟩ := List.mem_map.mp hstep
        cases heq
        exact .base ht (Bool.eq_false_iff.mpr hu) (Once.mem_stepT.mp hp)
      · split at hstep
        · cases List.mem_singleton.mp hstep
          exact .fpanic ht ‹_›
        · cases hstep
  · intro h
    cases h with
    | fpanic ht hpc => exact fpanic_step_mem ht hpc
    | base ht hu hp => exact mem_succ.mpr ⟨_, ht, base_step_mem hu hp⟩

structure Inv (a : Nat) (s : State) : Prop where
  base : BInv a s.base
  pan : ∀ t, t ∈ s.panicked → s.base.fres = some (List.replicate a 0) ∧
    (s.base.pc t = .store ∨ s.base.pc t = .unlock ∨ s.base.pc t = .read)

theorem inv_init (n a : Nat) : Inv a (init n a) :=
  ⟨binv_init n a, fun _ h => nomatch h⟩

section
variable {a : Nat} {res : Nat → List Int} {s s' : State} {l : Option Event} {t : Nat} {r : List Int}

theorem inF_facts (hi : Inv a s) (hpc : s.base.pc t = .inF) :
    s.base.fres = none ∧ s.base.fields = List.replicate a 0 ∧ s.base.invoked = [t] ∧ s.panicked = [] := by
  have hT := hi.base.good.thread t
  unfold Once.ThreadOk at hT
  rw [hpc] at hT
  refine ⟨hT.2.2.2, hi.base.zero hT.2.2.2, hT.2.2.1, ?_⟩
  cases hp : s.panicked with
  | nil => rfl
  | cons u us => exact nomatch hT.2.2.2.symm.trans (hi.pan u (hp ▸ List.mem_cons_self)).1

theorem binv_afterPanic (hi : Inv a s) (ht : t < s.base.pcs.length) (hpc : s.base.pc t = .inF) :
    BInv a (afterPanic s t).base := by
  obtain ⟨h1, h2⟩ := panic_as_two_steps (res := fun _ => s.base.fields) ht hpc rfl
  exact (hi.base.step ht h1).step (h1.length_eq ▸ ht) h2

theorem inv_step (hi : Inv a s) (hmem : (l, s') ∈ succ res s) : Inv a s' := by
  cases mem_succ_iff.mp hmem with
  | @base t0 _ _ ht0 hu hb =>
    refine ⟨hi.base.step ht0 hb, fun t htp => ?_⟩
    obtain ⟨hf, hpc⟩ := hi.pan t htp
    refine ⟨hb.fres_stable hi.base.good hf, ?_⟩
    by_cases e : t = t0
    · -- a goroutine that panicked and still steps is on its way through the deferred calls
      cases e
      rw [hb.pc_self ht0]
      rcases hpc with hpc | hpc | hpc
      · exact .inr (.inl (hpc ▸ rfl))
      · exact .inr (.inr (hpc ▸ rfl))
      · simp [State.unwound, htp, hpc] at hu
    · rwa [hb.pc_ne ht0 e]
  | @fpanic t0 ht0 hpc =>
    obtain ⟨hf, hz, _, hpn⟩ := inF_facts hi hpc
    refine ⟨binv_afterPanic hi ht0 hpc, fun t htp => ?_⟩
    rw [afterPanic, hpn] at htp
    cases List.mem_singleton.mp htp
    exact ⟨congrArg some hz, .inl (Once.pc_mk_self ht0 ..)⟩

end

theorem inv_reachable (n a : Nat) (res : Nat → List Int) :
    ∀ s, Reachable (sys n a res) s → Inv a s :=
  Conc.invariant (sys n a res) (Inv a) (inv_init n a) (fun _ _ _ h hm => inv_step h hm)

theorem inv_exec {n a : Nat} {res : Nat → List Int} {s s' : State} {ls : List (Option Event)}
    (h : Exec (sys n a res) s ls s') : Inv a s → Inv a s' :=
  Exec.invariant (sys := sys n a res) (Inv a) (fun _ _ _ hp hm => inv_step hp hm) h

theorem succ_length_eq {res : Nat → List Int} {s s' : State} {l : Option Event}
    (hmem : (l, s') ∈ succ res s) : s'.base.pcs.length = s.base.pcs.length := by
  cases mem_succ_iff.mp hmem with
  | base _ _ hb => exact hb.length_eq
  | fpanic => exact List.length_set

theorem len_reachable (n a : Nat) (res : Nat → List Int) :
    ∀ s, Reachable (sys n a res) s → s.base.pcs.length = n :=
  Conc.invariant (sys n a res) (fun s => s.base.pcs.length = n) List.length_replicate
    (fun _ _ _ h hm => (succ_length_eq hm).trans h)

section
variable {a : Nat} {res : Nat → List Int} {s s' : State} {l : Option Event} {t : Nat} {r : List Int}

theorem step_fres_stable (hi : Inv a s) (hmem : (l, s') ∈ succ res s) (hr : s.base.fres = some r) :
    s'.base.fres = some r := by
  cases mem_succ_iff.mp hmem with
  | base _ _ hb => exact hb.fres_stable hi.base.good hr
  | fpanic _ hpc => exact nomatch (inF_facts hi hpc).1.symm.trans hr

theorem step_panicked_iff {res : Nat → List Int} {s s' : State} {l : Option Event}
    (hmem : (l, s') ∈ succ res s) (t : Nat) :
    t ∈ s'.panicked ↔ t ∈ s.panicked ∨ l = some (Event.fpanic t) := by
  cases mem_succ_iff.mp hmem with
  | @base _ lb =>
    have := @map_ofBase_fpanic lb t
    simp [this]
  | fpanic =>
    simp only [afterPanic, List.mem_cons, Option.some.injEq, Event.fpanic.injEq]
    constructor
    · rintro (e | h)
      · exact Or.inr e.symm
      · exact Or.inl h
    · rintro (h | e)
      · exact Or.inr h
      · exact Or.inl e.symm

theorem step_returned_stable (hmem : (l, s') ∈ succ res s) (ht : s.base.pc t = .returned) :
    s'.base.pc t = .returned := by
  cases mem_succ_iff.mp hmem with
  | @base t0 _ _ ht0 _ hb =>
    by_cases e : t = t0
    · exact absurd (e ▸ ht) hb.not_returned
    · rwa [hb.pc_ne ht0 e]
  | @fpanic t0 ht0 hpc =>
    have e : t ≠ t0 := fun e => nomatch (e ▸ ht).symm.trans hpc
    exact (Once.pc_mk_ne ht0 e ..).trans ht

theorem step_fend (hi : Inv a s) (hmem : (some (Event.fend t r), s') ∈ succ res s) :
    s.base.fres = none ∧ s.base.pc t = .inF ∧ s'.base.fres = some r ∧ s'.panicked = s.panicked := by
  generalize hl : some (Event.fend t r) = l at hmem
  cases mem_succ_iff.mp hmem with
  | base ht0 _ hb =>
    cases (map_ofBase_eq (e := .fend t r)).mp hl.symm
    have hf := Once.fend_step (hb.mem_succ ht0)
    exact ⟨(inF_facts hi hf.1).1, hf.1, hf.2.2, rfl⟩
  | fpanic => cases hl

theorem step_ret (hi : Inv a s) (hmem : (some (Event.ret t r), s') ∈ succ res s) :
    s.base.fres = some r ∧ s'.base.pc t = .returned ∧ t ∉ s.panicked := by
  generalize hl : some (Event.ret t r) = l at hmem
  cases mem_succ_iff.mp hmem with
  | fpanic => cases hl
  | @base t0 _ _ ht0 hu hb =>
    cases (map_ofBase_eq (e := .ret t r)).mp hl.symm
    -- the stepping goroutine is `t`: the base step carries the label `ret t r`, and only `Step.ret` of `t` shows it
    cases (show t0 = t by cases hb; rfl)
    obtain ⟨hpc, rfl, hret⟩ := Once.ret_step (hb.mem_succ ht0)
    have hT := hi.base.good.thread t
    unfold Once.ThreadOk at hT
    rw [hpc] at hT
    refine ⟨(hi.base.good.doneT hT).2, hret, fun hin => ?_⟩
    simp [State.unwound, hin, hpc] at hu

end

end TypVerif.Lemmas.OncePanic
