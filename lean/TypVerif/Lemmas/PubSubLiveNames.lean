import TypVerif.Lemmas.PubSubLiveBlocked
/-
The naming discipline behind `C10.FreshSubNames`: channel names (of pending `Sub` calls and of existing channels) are
pairwise distinct.  `NamesOk` is preserved by EVERY step of the system (any configuration, clones or not): the only
step that could break it, an environment invocation `sub c` / `mkchan c` whose name `c` is carried by a pending `Sub`
or by an existing channel, is refused by the model (`envStep`, guard `nameTaken`).  Hence `NamesOk` holds in every
reachable state (`namesOk_reachable`).
-/
namespace TypVerif.Lemmas.PubSubLive
open TypVerif TypVerif.Model.PubSub TypVerif.Lemmas.PubSubStep TypVerif.Lemmas.PubSubSafe

/- `subName c t` (the task is a pending `Sub` that will create channel `c`) is defined in `Model/PubSub.lean`: the
environment step reads it. -/

def idCount (cs : List ChanSt) (c : Chan) : Nat := cs.countP (fun ch => ch.id == c)

/-- how often the name `c` is in use: pending `Sub`s plus existing channels -/
def nameCount (s : State) (c : Chan) : Nat := s.tasks.countP (subName c) + idCount s.chans c

def NamesOk (s : State) : Prop := ∀ c, nameCount s c ≤ 1

theorem namesOk_init : NamesOk ({} : State) := by
  intro c; simp [nameCount, idCount]

theorem idCount_updChan (cs : List ChanSt) (c' c : Chan) (f : ChanSt → ChanSt) (hid : ∀ ch, (f ch).id = ch.id) :
    idCount (updChan cs c' f) c = idCount cs c := by
  have := congrArg (·.countP (· == c)) (map_updChan (·.id) cs c' f fun ch _ => hid ch)
  rwa [List.countP_map, List.countP_map] at this

theorem idCount_closeAll {l : List Chan} {cs cs' : List ChanSt} (c : Chan) (he : closeAll cs l = some cs') :
    idCount cs' c = idCount cs c :=
  closeAll_inv (P := fun x => idCount x c = idCount cs c)
    (fun x a _ h => (idCount_updChan x a c (fun ch => { ch with closed := true }) (fun _ => rfl)).trans h) he rfl

theorem idCount_append (cs : List ChanSt) (ch : ChanSt) (c : Chan) :
    idCount (cs ++ [ch]) c = idCount cs c + (if ch.id == c then 1 else 0) := by
  simp [idCount, List.countP_append, List.countP_cons]

theorem idCount_eq_zero {cs : List ChanSt} {c : Chan} : idCount cs c = 0 ↔ hasChan cs c = false := by
  simp only [idCount, List.countP_eq_zero, hasChan, List.any_eq_false]

/-- the model's own guard on `sub c` / `mkchan c`: neither a pending `Sub` nor a channel carries the name -/
theorem nameCount_of_free {s : State} {c : Chan} (h : nameTaken s c = false) : nameCount s c = 0 := by
  simp only [nameTaken, Bool.or_eq_false_iff, List.any_eq_false] at h
  unfold nameCount
  rw [idCount_eq_zero.2 h.1, List.countP_eq_zero.2 h.2]

/-- `NamesOk` gives the hypothesis of the deadlock theorem -/
theorem fresh_of_namesOk {s : State} (h : NamesOk s) :
    ∀ o c cap, Task.subWait o c cap ∈ s.tasks → hasChan s.chans c = false := by
  intro o c cap hm
  have h1 : 0 < s.tasks.countP (subName c) :=
    List.countP_pos_iff.mpr ⟨_, hm, by simp [subName]⟩
  have h2 := h c
  unfold nameCount at h2
  exact idCount_eq_zero.1 (by omega)

theorem nameCount_set_spawn {s s' : State} {i : Nat} {t t' : Task} {ts : List Task} (c : Chan)
    (hi : s.tasks[i]? = some t) (htasks : s'.tasks = s.tasks.set i t' ++ ts) (hn : subName c t' = subName c t)
    (hts : ∀ x ∈ ts, subName c x = false)
    (hch : idCount s'.chans c = idCount s.chans c) : nameCount s' c = nameCount s c := by
  have h1 := countP_set_eq (subName c) s.tasks i t t' hi
  rw [hn] at h1
  have h2 : ts.countP (subName c) = 0 := by
    rw [List.countP_eq_zero]; intro x hx; simp [hts x hx]
  unfold nameCount
  rw [htasks, hch, List.countP_append, h2]; omega

theorem nameCount_set {s s' : State} {i : Nat} {t t' : Task} (c : Chan) (hi : s.tasks[i]? = some t)
    (htasks : s'.tasks = s.tasks.set i t') (hn : subName c t' = subName c t)
    (hch : idCount s'.chans c = idCount s.chans c) : nameCount s' c = nameCount s c :=
  nameCount_set_spawn (ts := []) c hi (by rw [List.append_nil]; exact htasks) hn (fun _ h => nomatch h) hch

theorem nameCount_updChan (s : State) (c' : Chan) (f : ChanSt → ChanSt) (hid : ∀ ch, (f ch).id = ch.id) (c : Chan) :
    nameCount { s with chans := updChan s.chans c' f } c = nameCount s c :=
  congrArg (s.tasks.countP (subName c) + ·) (idCount_updChan _ _ _ _ hid)

theorem sendTo_sent_nameCount {s s1 : State} {it : Item} (h : sendTo s it = .sent s1) (c : Chan) :
    nameCount s1 c = nameCount s c := by
  obtain ⟨f, hf, rfl⟩ := sendTo_eq_sent h
  exact nameCount_updChan s _ _ (fun x => (hf.keeps x).1) c

theorem nameCount_fin {i : Nat} {t tfin tcb : Task} {it : Item} {cb : Bool} {fin : State → State}
    (h : Sender i t it cb fin tfin tcb) {s : State} (hi : s.tasks[i]? = some t) (c : Chan) :
    nameCount (fin s) c = nameCount s c :=
  nameCount_set c hi (h.fin_tasks s) (by cases h <;> rfl) (congrArg (idCount · c) (h.fin_chans s))

/-- a completed `Sub` turns its pending name into a channel -/
theorem nameCount_taskStep {cfg : Cfg} {s s' : State} {i : Nat} {t : Task}
    (hi : s.tasks[i]? = some t) (h : TaskStep cfg s i t s') (c : Chan) : nameCount s' c = nameCount s c := by
  have spawned : ∀ {α} (f : α → Task) (l : List α), (∀ a, subName c (f a) = false) →
      ∀ x ∈ l.map f, subName c x = false := fun f l hf x hx => by
    obtain ⟨a, _, rfl⟩ := List.mem_map.mp hx
    exact hf a
  cases h with
  | plain hp => cases hp <;> exact nameCount_set c hi rfl rfl rfl
  | rw o r hr => cases hr <;> exact nameCount_set c hi rfl rfl rfl
  | pubWait | pubAsync => exact nameCount_set_spawn c hi rfl rfl (spawned _ _ (fun _ => rfl)) rfl
  | sub o c' cap _ _ =>
    have h1 := countP_set_eq (subName c) s.tasks i (.subWait o c' cap) (.subRet c') hi
    have h2 : idCount (s.chans ++ [{ id := c', cap := cap }]) c = idCount s.chans c + (if c' == c then 1 else 0) :=
      idCount_append ..
    have h3 : subName c (.subWait o c' cap) = (c' == c) := rfl
    have h4 : subName c (.subRet c') = false := rfl
    rw [h3, h4] at h1
    show (s.tasks.set i (.subRet c')).countP (subName c) + idCount (s.chans ++ [{ id := c', cap := cap }]) c
      = s.tasks.countP (subName c) + idCount s.chans c
    simp only [Bool.false_eq_true, if_false] at h1
    omega
  | unsub u o c' _ _ _ => exact nameCount_set c hi rfl rfl (idCount_updChan _ _ _ _ (fun _ => rfl))
  | unsubAll u o cs _ hc => exact nameCount_set c hi rfl rfl (idCount_closeAll c hc)
  | unsubClosed | unsubAllClosed | sendClosed => rfl
  | withOnly w o c' _ => exact nameCount_set c hi rfl rfl rfl
  | sendCb hsnd => exact nameCount_fin hsnd hi c
  | sent hsnd hst =>
    exact (nameCount_fin hsnd ((sendTo_sent hst).tasks ▸ hi) c).trans (sendTo_sent_nameCount hst c)
  | timeout hsnd _ => cases hsnd <;> exact nameCount_set (s := s.logTimeout _) c hi rfl rfl rfl

theorem nameCount_spawn1 (s : State) (t : Task) (c : Chan) :
    nameCount (s.spawn [t]) c = nameCount s c + (if subName c t then 1 else 0) := by
  unfold nameCount
  simp only [State.spawn, List.countP_append, List.countP_cons, List.countP_nil]
  omega

theorem nameCount_spawn1_other {s : State} {t : Task} {c : Chan} (h : subName c t = false) :
    nameCount (s.spawn [t]) c = nameCount s c := by
  rw [nameCount_spawn1, h]; rfl

/-- an invocation keeps the names distinct: a `sub c` / `mkchan c` whose name is carried by a pending `Sub` or by an
existing channel is refused by the model itself -/
theorem namesOk_envStep {cfg : Cfg} {s s' : State} {e : Event} (hok : NamesOk s) (h : EnvStep cfg s e s') :
    NamesOk s' := by
  intro c'
  have hc' := hok c'
  cases h with
  | sub c cap hn =>
    by_cases hcc : c = c'
    · rw [nameCount_spawn1, ← hcc, nameCount_of_free hn, Nat.zero_add, show subName c (.subStart 0 c _) = true from beq_self_eq_true c]
      exact Nat.le_refl 1
    · exact Nat.le_trans (Nat.le_of_eq (nameCount_spawn1_other (beq_eq_false_iff_ne.mpr hcc))) hc'
  | mkchan c hn =>
    show s.tasks.countP (subName c') + idCount (s.chans ++ [{ id := c, cap := 0 }]) c' ≤ 1
    rw [idCount_append]
    by_cases hcc : c = c'
    · have := hcc ▸ nameCount_of_free hn
      unfold nameCount at this
      rw [if_pos (beq_iff_eq.mpr hcc)]
      omega
    · rw [if_neg (by simpa using hcc)]; exact hc'
  | withonly via c _ _ => exact Nat.le_trans (Nat.le_of_eq (nameCount_spawn1_other rfl)) hc'
  | pubinv p via v evs _ _ => exact Nat.le_trans (Nat.le_of_eq (nameCount_spawn1_other rfl)) hc'
  | allow c n _ =>
    exact Nat.le_trans (Nat.le_of_eq (nameCount_updChan s c (fun ch => { ch with allow := ch.allow + n }) (fun _ => rfl) c')) hc'
  | unsubinv u via c _ => exact Nat.le_trans (Nat.le_of_eq (nameCount_spawn1_other rfl)) hc'
  | unsuballinv u via _ => exact Nat.le_trans (Nat.le_of_eq (nameCount_spawn1_other rfl)) hc'

theorem nameCount_work {cfg : Cfg} {s s' : State} (h : Work cfg s s') (c : Chan) : nameCount s' c = nameCount s c := by
  cases h with
  | task hi ht => exact nameCount_taskStep hi ht c
  | recv _ hf => exact nameCount_updChan s _ _ (fun x => (hf.keeps x).1) c

theorem namesOk_step {cfg : Cfg} {s s' : State} (hok : NamesOk s) (h : Step cfg s s') : NamesOk s' := by
  cases h with
  | exit => exact hok
  | env he => exact namesOk_envStep hok he
  | work hw => exact fun c => Nat.le_trans (Nat.le_of_eq (nameCount_work hw c)) (hok c)

theorem namesOk_succ {cfg : Cfg} {s s' : State} {l : Option Event} (hok : NamesOk s) (h : (l, s') ∈ succ cfg s) :
    NamesOk s' :=
  namesOk_step hok (step_of_mem_succ h)

theorem namesOk_reachable (cfg : Cfg) : ∀ s, Conc.Reachable (sys cfg) s → NamesOk s :=
  Conc.invariant (sys cfg) NamesOk namesOk_init (fun _ _ _ hok h => namesOk_succ hok h)

end TypVerif.Lemmas.PubSubLive
