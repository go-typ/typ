import TypVerif.Lemmas.SmcQuiet
import TypVerif.Lemmas.SmcEntry
/-
C04 concurrent half: the promotion steps — `loadMiss`, `losMiss`, `ladMiss` (`unlock (promote sh)`, the tail of
`missLocked`), `rangeStore` (the inline promotion of `Range`) — and the quiet `rangeRead2` that leads to it.

None of them is a linearization step.  General lemma: `R_promote` (the owner `t`, not a builder, promotes the dirty
map, releases the mutex and goes on at `pc'`).
-/
namespace TypVerif.Lemmas.Smc
open TypVerif.Model TypVerif.Model.SyncMapConc TypVerif.Model.RelObj
open TypVerif.Model.SyncMap (alookup ainsert aerase akeys)

theorem unlinkedPc_delLoad_sub_ladMiss {K V : Type} (d : Bool) (k : K) (e : EId) (p : APc K V) :
    unlinkedPc (.delLoad d k e : Pc K V) p ⊆ unlinkedPc (.ladMiss d k (some e) : Pc K V) p := by
  cases p <;> first | exact List.nil_subset _ | exact List.Subset.refl _

variable {K V : Type} [DecidableEq K] [DecidableEq V]

section
variable {s : State K V} {a : AState K V} {t : Tid}

/-- Promotion by `t` parked at `pc` (`unlock (promote sh)`), not a linearization step: `R` is re-established, provided
`T` holds for `t` itself at its new pc (stated for the un-observed abstract pc) and `t` unlinks nothing new. -/
theorem R_promote {pc pc' : Pc K V} (hR : R s a) (ht : t < s.pcs.length) (hpc : s.pc t = pc)
    (hlin : isLin s.sh pc (a.pcs t) = false) (hprom : Promoting s.sh t) (hunp : unprocPc pc = [])
    (hself : T (unlock (promote s.sh)) t pc' (a.pcs t))
    (hunl : unlinkedPc pc' (a.pcs t) ⊆ unlinkedPc pc (a.pcs t)) :
    R (setPc s t (unlock (promote s.sh)) pc') (witness s t none a) := by
  subst hpc
  exact R_effect hR ht (.tau hlin) (promote_effect hR hprom.1 hunp hprom.2.2) rfl
    (.unlock hprom.1) hself (subset_of_eq_nil hunp) hunl

theorem Unlinker_promote_unlock {sh : Shared K V} {d : Bool} {k : K} {e : EId} {p : APc K V}
    (h : Unlinker sh d k e p) : Unlinker (unlock (promote sh)) d k e p :=
  (sameData_unlock _).keepRead.unlinker (.refl _) (promote_unlinker (.refl _) h)

end

variable [Inhabited V] {menu : List (Op K V)} {s : State K V} {a : AState K V} {t : Tid}

theorem stepOK_loadMiss {k : K} {e : Option EId} (hR : R s a) (ht : t < s.pcs.length)
    (hpc : s.pc t = .loadMiss k e) : StepOK menu s a t := by
  obtain ⟨hpend, hprom, hr, he⟩ := hpc ▸ hR.thr t
  refine stepOK_exec hR ht hpc nofun (fun _ => nofun) rfl ?_
  rintro _ _ ⟨⟩
  refine R_promote hR ht hpc rfl hprom rfl ?_
    (subset_of_eq_nil (unlinkedPc_loadAfter k e _))
  cases e with
  | some e' => exact ⟨hpend, Own_unlock _ _, hR.g.gs.dirty_lt_length he.symm, Or.inl (Or.inl he.symm)⟩
  | none =>
    refine ⟨hR.obs.retOk hpend ?_, Own_unlock _ _⟩
    rw [pureRes_load, hR.abs k, absOf_of_none_none hr he.symm]

/-- `losMiss k r`: `T` records that `r` is not a `Range` result (every `r` that `missTail` parks here is a `pair`) -/
theorem stepOK_losMiss {k : K} {r : Res K V} (hR : R s a) (ht : t < s.pcs.length)
    (hpc : s.pc t = .losMiss k r) : StepOK menu s a t := by
  obtain ⟨hdw, hnp, hprom⟩ := hpc ▸ hR.thr t
  have hr : ∀ l, r ≠ .pairs l := fun l h => by rw [h] at hnp; cases hnp
  refine stepOK_exec hR ht hpc nofun (fun _ => nofun) rfl ?_
  rintro _ _ ⟨⟩
  exact R_promote hR ht hpc rfl hprom rfl
    ((T_ret_iff hr).mpr ⟨hdw.retOk, Own_unlock _ _⟩) (subset_of_eq_nil (unlinkedPc_ret _ _))

theorem stepOK_ladMiss {d : Bool} {k : K} {e : Option EId} (hR : R s a) (ht : t < s.pcs.length)
    (hpc : s.pc t = .ladMiss d k e) : StepOK menu s a t := by
  have hT := hpc ▸ hR.thr t
  refine stepOK_exec hR ht hpc nofun (fun _ => nofun) rfl ?_
  rintro _ _ ⟨⟩
  cases e with
  | some e' =>
    exact R_promote hR ht hpc rfl hT.1 rfl ⟨Own_unlock _ _, Or.inr (Unlinker_promote_unlock hT.2.2.2)⟩
      (unlinkedPc_delLoad_sub_ladMiss d k e' _)
  | none =>
    refine R_promote hR ht hpc rfl hT.1 rfl ((T_ret_iff (noneRes_ne_pairs d)).mpr
      ⟨hR.obs.retOk hT.2.2.2 (pureRes_ladOp_none ?_), Own_unlock _ _⟩) (subset_of_eq_nil (unlinkedPc_ret _ _))
    rw [hR.abs k, absOf_of_none_none hT.2.1 hT.2.2.1]

theorem stepOK_rangeRead2 (hR : R s a) (ht : t < s.pcs.length) (hpc : s.pc t = .rangeRead2) :
    StepOK menu s a t := by
  have hT := hpc ▸ hR.thr t
  refine stepOK_quiet hR ht hpc nofun (fun _ => nofun) rfl rfl rfl ?_
  dsimp only [exec]
  cases ha : s.sh.amended with
  | true =>
    rintro _ _ ⟨⟩
    exact .same ⟨hT.1, ⟨hT.2, ha, hR.g.gs.dirty_isSome_of_amended ha⟩, rfl⟩ rfl
  | false =>
    rintro _ _ ⟨⟩
    exact .of_tail (.unlock hT.2)
      (T_rangeNext_iff.mpr ⟨hT.1, Own_unlock _ _, RangeHold.snapshot rfl hR.g.keysR hR.g.boundR⟩)
      (unlinkedPc_rangeNext _ _ _)

theorem stepOK_rangeStore {dm : List (K × EId)} (hR : R s a) (ht : t < s.pcs.length)
    (hpc : s.pc t = .rangeStore dm) : StepOK menu s a t := by
  obtain ⟨hidle, hprom, hdm⟩ := hpc ▸ hR.thr t
  refine stepOK_exec hR ht hpc nofun (fun _ => nofun) rfl ?_
  rintro _ _ ⟨⟩
  rw [rangeStore_update_eq hdm]
  exact R_promote hR ht hpc rfl hprom rfl
    (T_rangeNext_iff.mpr ⟨hidle, Own_unlock _ _, RangeHold.snapshot hdm (hdm ▸ hR.g.keysD) (hdm ▸ hR.g.boundD)⟩)
    (subset_of_eq_nil (unlinkedPc_rangeNext _ _ _))

end TypVerif.Lemmas.Smc
