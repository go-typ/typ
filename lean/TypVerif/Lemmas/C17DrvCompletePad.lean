import TypVerif.Lemmas.OnceRedAccept
import TypVerif.Lemmas.ConcAcceptC17Drv
/-
Completeness of the fold the C17 driver performs (`ConcAcceptC17.jfold`): padding a state with idle goroutines
(`Drv.C17.padTo`) commutes with everything the reduced system does (a step of a padded state is the padding of a step, or the
`call` of a new goroutine), what `red n a res` reaches internally does not depend on `n`, `a`, `res` (`covers_indep`), so the
covering invariant is preserved when the judge pads its state set (`cover_pad`).
-/
namespace TypVerif.Lemmas.C17Drv
open TypVerif TypVerif.Conc TypVerif.Model.Once TypVerif.Drv.C17 TypVerif.Lemmas.Once TypVerif.Lemmas.OnceRed
open TypVerif.Lemmas.ConcAcceptC17

theorem padTo_len (m : Nat) (s : State) (h : s.pcs.length ≤ m) : (padTo m s).pcs.length = m := by
  simp only [padTo, List.length_append, List.length_replicate]
  exact Nat.add_sub_cancel' h

theorem padTo_of_le (m : Nat) (s : State) (h : m ≤ s.pcs.length) : padTo m s = s := by
  unfold padTo
  rw [Nat.sub_eq_zero_of_le h, List.replicate_zero, List.append_nil]

theorem padTo_padTo (n' N : Nat) (p : State) (h : n' ≤ N) : padTo N (padTo n' p) = padTo N p := by
  by_cases hl : n' ≤ p.pcs.length
  · rw [padTo_of_le n' p hl]
  · have hl := Nat.le_of_not_le hl
    unfold padTo
    simp only [List.length_append, List.length_replicate, List.append_assoc, List.replicate_append_replicate,
      Nat.add_sub_cancel' hl]
    rw [Nat.add_comm, Nat.sub_add_sub_cancel h hl]

theorem threadOk_pad (m : Nat) (s : State) (t : Nat) : ThreadOk (padTo m s) t ↔ ThreadOk s t := by
  unfold ThreadOk
  rw [padTo_pc]
  exact Iff.rfl

theorem goodX_pad (m : Nat) (s : State) (hg : GoodX s) : GoodX (padTo m s) := by
  refine ⟨⟨fun t => (threadOk_pad m s t).2 (hg.good.thread t), hg.good.doneT, ?_⟩, ?_⟩
  · intro hd
    rcases hg.good.doneF hd with h | ⟨t, ht⟩
    · exact Or.inl h
    · exact Or.inr ⟨t, by rw [padTo_pc]; exact ht⟩
  · intro w hw
    rw [padTo_pc]
    exact hg.holder w hw

theorem urgent_pad (m : Nat) (s : State) (t : Nat) : urgent (padTo m s) t = urgent s t := by
  unfold urgent
  rw [padTo_pc]
  rfl

theorem willDone_pad (m : Nat) (s : State) : willDone (padTo m s) = willDone s := by
  unfold willDone
  show (s.done || match s.mu with | some w => isAS ((padTo m s).pc w) | none => false) = _
  cases s.mu with
  | none => rfl
  | some w => simp only [padTo_pc]

theorem nf_pad (m : Nat) (s : State) : nf (padTo m s) = padTo m (nf s) := by
  have hW := willDone_pad m s
  unfold nf
  rw [hW]
  simp [padTo, List.map_append, nfPc]

theorem pick_pad_none (m : Nat) (s : State) : pick (padTo m s) = none ↔ pick s = none := by
  simp only [pick_eq_none_iff, urgent_pad]

theorem stepT_idle (res : Nat → List Int) (s : State) (t : Nat) (h : s.pc t = .idle) :
    stepT res s t = [(some (.call t), s.setPc t .fast)] := by
  unfold stepT
  rw [h]

theorem stepT_pad_inv (res : Nat → List Int) (m : Nat) (y : State) (t : Nat) (l : Option Event) (x : State)
    (hty : t < y.pcs.length) (hm : (l, x) ∈ stepT res (padTo m y) t) :
    ∃ x0, (l, x0) ∈ stepT res y t ∧ x = padTo m x0 := by
  rw [stepT_pad res m y t hty] at hm
  obtain ⟨⟨l0, x0⟩, hm0, heq⟩ := List.mem_map.1 hm
  simp only [Prod.mk.injEq] at heq
  obtain ⟨rfl, rfl⟩ := heq
  exact ⟨x0, hm0, rfl⟩

theorem succ_pad_inv (res : Nat → List Int) (m : Nat) (y : State) (l : Option Event) (x : State)
    (h : (l, x) ∈ succ res (padTo m y)) :
    (∃ x0, (l, x0) ∈ succ res y ∧ x = padTo m x0) ∨ (∃ t, y.pcs.length ≤ t ∧ l = some (.call t)) := by
  obtain ⟨t, ht, hm⟩ := mem_succ.1 h
  by_cases hty : t < y.pcs.length
  · left
    obtain ⟨x0, hm0, hx⟩ := stepT_pad_inv res m y t l x hty hm
    exact ⟨x0, mem_succ.2 ⟨t, hty, hm0⟩, hx⟩
  · right
    have hpc : (padTo m y).pc t = .idle := by
      rw [padTo_pc]
      exact pc_ge y t (Nat.le_of_not_lt hty)
    rw [stepT_idle _ _ _ hpc] at hm
    simp only [List.mem_singleton, Prod.mk.injEq] at hm
    exact ⟨t, Nat.le_of_not_lt hty, hm.1⟩

theorem red_succ_tau_indep (n a : Nat) (res : Nat → List Int) (n' a' : Nat) (res' : Nat → List Int)
    (s s1 : State) (h : (none, s1) ∈ (red n a res).succ s) : (none, s1) ∈ (red n' a' res').succ s := by
  cases hp : pick s with
  | none =>
    rw [red_succ_none _ _ _ _ hp] at h ⊢
    exact succ_res res res' s none s1 h (by intro t r hl; cases hl)
  | some x' =>
    rw [red_succ_some _ _ _ _ _ hp] at h ⊢
    exact h

/-- what `red n a res` covers does not depend on `n`, `a`, `res` -/
theorem covers_indep (n a : Nat) (res : Nat → List Int) (n' a' : Nat) (res' : Nat → List Int)
    {ss : List State} {b : Nat} {x : State} (h : Covers (red n a res) ss b x) : Covers (red n' a' res') ss b x := by
  intro y k hk ht
  obtain ⟨_, hy, rfl⟩ := Covers.sim (J := red n a res) (J' := red n' a' res') (fun z y => z = y)
    (fun s s' _ e hm => by subst e; exact ⟨s', red_succ_tau_indep n' a' res' n a res s s' hm, rfl⟩) h rfl hk ht
  exact hy

theorem goodX_red_tau (n a : Nat) (res : Nat → List Int) (y y1 : State) (hg : GoodX y)
    (hm : (none, y1) ∈ (red n a res).succ y) : GoodX y1 := by
  obtain ⟨ls, hex, _⟩ := red_step_sound n a res y y1 none hm
  exact goodX_exec n a res hex hg

theorem red_succ_pad_inv (n a : Nat) (res : Nat → List Int) (m : Nat) (y s1 : State) (hg : GoodX y)
    (hm : (none, s1) ∈ (red n a res).succ (padTo m y)) :
    ∃ y1, s1 = padTo m y1 ∧ (none, y1) ∈ (red n a res).succ y := by
  cases hp : pick y with
  | none =>
    have hp' : pick (padTo m y) = none := (pick_pad_none m y).2 hp
    rw [red_succ_none _ _ _ _ hp'] at hm
    rw [red_succ_none _ _ _ _ hp]
    rcases succ_pad_inv res m y none s1 hm with ⟨x0, hx0, hx⟩ | ⟨t, _, hl⟩
    · exact ⟨x0, hx, hx0⟩
    · cases hl
  | some y' =>
    cases hp' : pick (padTo m y) with
    | none =>
      rw [(pick_pad_none m y).1 hp'] at hp
      cases hp
    | some z =>
      rw [red_succ_some _ _ _ _ _ hp', normalize_red_eq_nf _ (goodX_pad m y hg)] at hm
      rw [red_succ_some _ _ _ _ _ hp, normalize_red_eq_nf _ hg]
      have hm2 := (Prod.mk.inj (List.eq_of_mem_singleton hm)).2
      exact ⟨nf y, by rw [hm2, nf_pad], List.mem_singleton.2 rfl⟩

/-- the result function the covering invariant is stated with (irrelevant: `covers_indep`) -/
def cres : Nat → List Int := fun _ => []

/-- the state set `ss` of the judge holds everything `red` reaches internally from `nf p` within the budget `bud p` -/
def CoverD (ss : List State) (p : State) : Prop := Covers (red 0 0 cres) ss (bud p) (nf p)

theorem cover_pad (m : Nat) (ss : List State) (p : State) (hg : GoodX p) (hc : CoverD ss p) :
    CoverD (ss.map (padTo m)) (padTo m p) := by
  intro x k hk ht
  -- `hk` bounds `k` by `bud (padTo m p)`, which is `bud p` by unfolding (`bud` reads `done` and `mu` only)
  obtain ⟨x0, hx0, hx, _⟩ := Covers.sim (J := red 0 0 cres) (J' := red 0 0 cres) (fun z y => z = padTo m y ∧ GoodX y)
    (fun s s' y hs hm => by
      obtain ⟨rfl, hgy⟩ := hs
      obtain ⟨y1, hy1, hm1⟩ := red_succ_pad_inv 0 0 cres m y s' hgy hm
      exact ⟨y1, hm1, hy1, goodX_red_tau 0 0 cres y y1 hgy hm1⟩)
    hc ⟨nf_pad m p, goodX_nf p hg⟩ hk ht
  exact List.mem_map.2 ⟨x0, hx0, hx.symm⟩

end TypVerif.Lemmas.C17Drv
