import TypVerif.Model.LinkedList
/-
Read-over-write lemmas for the heap of `Model/LinkedList.lean`, phrased on the "view" of a heap as the
pure functions `h.next h.prev : Ptr → Ptr`, `h.listOf`, `h.value`, `h.len`; and the stepping lemmas of
the monad `M`.
-/
namespace TypVerif.Lemmas.LinkedList
open TypVerif.Spec.ListOp
open TypVerif.Model
open TypVerif.Model.LinkedList

def upd {α β : Type} [DecidableEq α] (f : α → β) (a : α) (b : β) : α → β :=
  fun x => if x = a then b else f x

theorem upd_apply {α β : Type} [DecidableEq α] (f : α → β) (a : α) (b : β) (x : α) :
    upd f a b x = if x = a then b else f x := rfl

@[simp] theorem upd_same {α β : Type} [DecidableEq α] (f : α → β) (a : α) (b : β) : upd f a b a = b := by
  simp [upd]

theorem upd_ne {α β : Type} [DecidableEq α] (f : α → β) {a x : α} (b : β) (h : x ≠ a) : upd f a b x = f x := by
  simp [upd, h]

theorem upd_eq_self {α β : Type} [DecidableEq α] (f : α → β) (a : α) (b : β) (h : f a = b) : upd f a b = f := by
  funext x; unfold upd; split
  · next hx => rw [hx, h]
  · rfl

/-- reading field `g` of a cell after a conditional write that does not change `g` -/
theorem ite_proj {α β : Type} (g : α → β) {c : Prop} [Decidable c] {a b : α} (h : c → g a = g b) :
    g (if c then a else b) = g b := by
  split
  · next hc => exact h hc
  · rfl

/-! ### setNext -/

theorem next_setNext (h : Heap) {p : Ptr} (q : Ptr) (hp : p ≠ .null) :
    (h.setNext p q).next = upd h.next p q := by
  funext x
  cases p with
  | null => exact absurd rfl hp
  | root l =>
    cases x with
    | null => simp [Heap.next, upd]
    | root l' =>
      simp only [Heap.next, Heap.setNext, upd, Store.get_set, Ptr.root.injEq]
      by_cases e : l' = l <;> simp [e]
    | elem e => simp [Heap.next, Heap.setNext, upd]
  | elem e =>
    cases x with
    | null => simp [Heap.next, upd]
    | root l' => simp [Heap.next, Heap.setNext, upd]
    | elem e' =>
      simp only [Heap.next, Heap.setNext, upd, Store.get_set, Ptr.elem.injEq]
      by_cases e2 : e' = e <;> simp [e2]

@[simp] theorem prev_setNext (h : Heap) (p q : Ptr) : (h.setNext p q).prev = h.prev := by
  funext x
  cases p <;> cases x <;> simp only [Heap.prev, Heap.setNext, Store.get_set] <;> exact ite_proj _ fun e => e ▸ rfl

@[simp] theorem listOf_setNext (h : Heap) (p q : Ptr) : (h.setNext p q).listOf = h.listOf := by
  funext x
  cases p <;> cases x <;> simp only [Heap.listOf, Heap.setNext, Store.get_set] <;> exact ite_proj _ fun e => e ▸ rfl

@[simp] theorem value_setNext (h : Heap) (p q : Ptr) : (h.setNext p q).value = h.value := by
  funext x
  cases p <;> cases x <;> simp only [Heap.value, Heap.setNext, Store.get_set] <;> exact ite_proj _ fun e => e ▸ rfl

@[simp] theorem len_setNext (h : Heap) (p q : Ptr) : (h.setNext p q).len = h.len := by
  funext x
  cases p <;> simp only [Heap.len, Heap.setNext, Store.get_set] <;> exact ite_proj _ fun e => e ▸ rfl

@[simp] theorem nextElem_setNext (h : Heap) (p q : Ptr) : (h.setNext p q).nextElem = h.nextElem := by
  cases p <;> rfl

/-! ### setPrev -/

theorem prev_setPrev (h : Heap) {p : Ptr} (q : Ptr) (hp : p ≠ .null) :
    (h.setPrev p q).prev = upd h.prev p q := by
  funext x
  cases p with
  | null => exact absurd rfl hp
  | root l =>
    cases x with
    | null => simp [Heap.prev, upd]
    | root l' =>
      simp only [Heap.prev, Heap.setPrev, upd, Store.get_set, Ptr.root.injEq]
      by_cases e : l' = l <;> simp [e]
    | elem e => simp [Heap.prev, Heap.setPrev, upd]
  | elem e =>
    cases x with
    | null => simp [Heap.prev, upd]
    | root l' => simp [Heap.prev, Heap.setPrev, upd]
    | elem e' =>
      simp only [Heap.prev, Heap.setPrev, upd, Store.get_set, Ptr.elem.injEq]
      by_cases e2 : e' = e <;> simp [e2]

@[simp] theorem next_setPrev (h : Heap) (p q : Ptr) : (h.setPrev p q).next = h.next := by
  funext x
  cases p <;> cases x <;> simp only [Heap.next, Heap.setPrev, Store.get_set] <;> exact ite_proj _ fun e => e ▸ rfl

@[simp] theorem listOf_setPrev (h : Heap) (p q : Ptr) : (h.setPrev p q).listOf = h.listOf := by
  funext x
  cases p <;> cases x <;> simp only [Heap.listOf, Heap.setPrev, Store.get_set] <;> exact ite_proj _ fun e => e ▸ rfl

@[simp] theorem value_setPrev (h : Heap) (p q : Ptr) : (h.setPrev p q).value = h.value := by
  funext x
  cases p <;> cases x <;> simp only [Heap.value, Heap.setPrev, Store.get_set] <;> exact ite_proj _ fun e => e ▸ rfl

@[simp] theorem len_setPrev (h : Heap) (p q : Ptr) : (h.setPrev p q).len = h.len := by
  funext x
  cases p <;> simp only [Heap.len, Heap.setPrev, Store.get_set] <;> exact ite_proj _ fun e => e ▸ rfl

@[simp] theorem nextElem_setPrev (h : Heap) (p q : Ptr) : (h.setPrev p q).nextElem = h.nextElem := by
  cases p <;> rfl

/-! ### setList -/

@[simp] theorem next_setList (h : Heap) (e : ElemId) (o : Option ListId) : (h.setList e o).next = h.next := by
  funext x
  cases x <;> simp only [Heap.next, Heap.setList, Store.get_set] <;> exact ite_proj _ fun e => e ▸ rfl

@[simp] theorem prev_setList (h : Heap) (e : ElemId) (o : Option ListId) : (h.setList e o).prev = h.prev := by
  funext x
  cases x <;> simp only [Heap.prev, Heap.setList, Store.get_set] <;> exact ite_proj _ fun e => e ▸ rfl

theorem listOf_setList (h : Heap) (e : ElemId) (o : Option ListId) :
    (h.setList e o).listOf = upd h.listOf (.elem e) o := by
  funext x
  cases x with
  | null => simp [Heap.listOf, upd]
  | root l => simp [Heap.listOf, upd]
  | elem e' =>
    simp only [Heap.listOf, Heap.setList, upd, Store.get_set, Ptr.elem.injEq]
    by_cases e2 : e' = e <;> simp [e2]

@[simp] theorem value_setList (h : Heap) (e : ElemId) (o : Option ListId) : (h.setList e o).value = h.value := by
  funext x
  cases x <;> simp only [Heap.value, Heap.setList, Store.get_set] <;> exact ite_proj _ fun e => e ▸ rfl

@[simp] theorem len_setList (h : Heap) (e : ElemId) (o : Option ListId) : (h.setList e o).len = h.len := rfl

@[simp] theorem nextElem_setList (h : Heap) (e : ElemId) (o : Option ListId) :
    (h.setList e o).nextElem = h.nextElem := rfl

/-! ### setLen -/

@[simp] theorem next_setLen (h : Heap) (l : ListId) (n : Int) : (h.setLen l n).next = h.next := by
  funext x
  cases x <;> simp only [Heap.next, Heap.setLen, Store.get_set] <;> exact ite_proj _ fun e => e ▸ rfl

@[simp] theorem prev_setLen (h : Heap) (l : ListId) (n : Int) : (h.setLen l n).prev = h.prev := by
  funext x
  cases x <;> simp only [Heap.prev, Heap.setLen, Store.get_set] <;> exact ite_proj _ fun e => e ▸ rfl

@[simp] theorem listOf_setLen (h : Heap) (l : ListId) (n : Int) : (h.setLen l n).listOf = h.listOf := rfl
@[simp] theorem value_setLen (h : Heap) (l : ListId) (n : Int) : (h.setLen l n).value = h.value := rfl

theorem len_setLen (h : Heap) (l : ListId) (n : Int) : (h.setLen l n).len = upd h.len l n := by
  funext x
  simp only [Heap.len, Heap.setLen, upd, Store.get_set]
  by_cases e : x = l <;> simp [e]

@[simp] theorem nextElem_setLen (h : Heap) (l : ListId) (n : Int) : (h.setLen l n).nextElem = h.nextElem := rfl

/-! ### newElemAt -/

theorem next_newElemAt (h : Heap) (e : ElemId) (v : Int) : (h.newElemAt e v).next = upd h.next (.elem e) .null := by
  funext x
  cases x with
  | null => simp [Heap.next, upd]
  | root l => simp [Heap.next, Heap.newElemAt, upd]
  | elem e' =>
    simp only [Heap.next, Heap.newElemAt, upd, Store.get_set, Ptr.elem.injEq]
    by_cases e2 : e' = e <;> simp [e2]

theorem prev_newElemAt (h : Heap) (e : ElemId) (v : Int) : (h.newElemAt e v).prev = upd h.prev (.elem e) .null := by
  funext x
  cases x with
  | null => simp [Heap.prev, upd]
  | root l => simp [Heap.prev, Heap.newElemAt, upd]
  | elem e' =>
    simp only [Heap.prev, Heap.newElemAt, upd, Store.get_set, Ptr.elem.injEq]
    by_cases e2 : e' = e <;> simp [e2]

theorem listOf_newElemAt (h : Heap) (e : ElemId) (v : Int) :
    (h.newElemAt e v).listOf = upd h.listOf (.elem e) none := by
  funext x
  cases x with
  | null => simp [Heap.listOf, upd]
  | root l => simp [Heap.listOf, upd]
  | elem e' =>
    simp only [Heap.listOf, Heap.newElemAt, upd, Store.get_set, Ptr.elem.injEq]
    by_cases e2 : e' = e <;> simp [e2]

theorem value_newElemAt (h : Heap) (e : ElemId) (v : Int) :
    (h.newElemAt e v).value = upd h.value (.elem e) v := by
  funext x
  cases x with
  | null => simp [Heap.value, upd]
  | root l => simp [Heap.value, upd]
  | elem e' =>
    simp only [Heap.value, Heap.newElemAt, upd, Store.get_set, Ptr.elem.injEq]
    by_cases e2 : e' = e <;> simp [e2]

@[simp] theorem len_newElemAt (h : Heap) (e : ElemId) (v : Int) : (h.newElemAt e v).len = h.len := rfl
@[simp] theorem nextElem_newElemAt (h : Heap) (e : ElemId) (v : Int) : (h.newElemAt e v).nextElem = h.nextElem := rfl

/-! ### setNextElem -/

@[simp] theorem next_setNextElem (h : Heap) (n : Nat) : (h.setNextElem n).next = h.next := rfl
@[simp] theorem prev_setNextElem (h : Heap) (n : Nat) : (h.setNextElem n).prev = h.prev := rfl
@[simp] theorem listOf_setNextElem (h : Heap) (n : Nat) : (h.setNextElem n).listOf = h.listOf := rfl
@[simp] theorem value_setNextElem (h : Heap) (n : Nat) : (h.setNextElem n).value = h.value := rfl
@[simp] theorem len_setNextElem (h : Heap) (n : Nat) : (h.setNextElem n).len = h.len := rfl
@[simp] theorem nextElem_setNextElem (h : Heap) (n : Nat) : (h.setNextElem n).nextElem = n := rfl

/-! ### null and empty heap -/

@[simp] theorem next_null (h : Heap) : h.next .null = .null := rfl
@[simp] theorem prev_null (h : Heap) : h.prev .null = .null := rfl
@[simp] theorem listOf_null (h : Heap) : h.listOf .null = none := rfl
@[simp] theorem listOf_root (h : Heap) (l : ListId) : h.listOf (.root l) = none := rfl
@[simp] theorem value_root (h : Heap) (l : ListId) : h.value (.root l) = 0 := rfl

@[simp] theorem empty_next (p : Ptr) : Heap.empty.next p = .null := by
  cases p <;> simp [Heap.next, Heap.empty] <;> rfl
@[simp] theorem empty_prev (p : Ptr) : Heap.empty.prev p = .null := by
  cases p <;> simp [Heap.prev, Heap.empty] <;> rfl
@[simp] theorem empty_listOf (p : Ptr) : Heap.empty.listOf p = none := by
  cases p <;> simp [Heap.listOf, Heap.empty] <;> rfl
@[simp] theorem empty_value (p : Ptr) : Heap.empty.value p = 0 := by
  cases p <;> simp [Heap.value, Heap.empty] <;> rfl
@[simp] theorem empty_len (l : ListId) : Heap.empty.len l = 0 := by
  simp [Heap.len, Heap.empty]; rfl
@[simp] theorem empty_nextElem : Heap.empty.nextElem = 0 := rfl

/-! ### stepping the monad -/

theorem bind_run {α β : Type} (x : M α) (f : α → M β) (h : Heap) :
    (x >>= f) h = match x h with
      | .ok a h' => f a h'
      | .panic m h' => .panic m h' := rfl

theorem bind_ok {α β : Type} {x : M α} {f : α → M β} {h h' : Heap} {a : α} (hx : x h = .ok a h') :
    (x >>= f) h = f a h' := by
  rw [bind_run, hx]

theorem bind_panic {α β : Type} {x : M α} {f : α → M β} {h h' : Heap} {m : String} (hx : x h = .panic m h') :
    (x >>= f) h = .panic m h' := by
  rw [bind_run, hx]

@[simp] theorem pure_run {α : Type} (a : α) (h : Heap) : (pure a : M α) h = .ok a h := rfl

theorem bind_pure_unit (x : M Unit) : (x >>= fun _ => pure ()) = x := by
  funext h
  rw [bind_run]
  cases x h <;> rfl

theorem ite_run {α : Type} (c : Prop) [Decidable c] (x y : M α) (h : Heap) :
    (if c then x else y) h = if c then x h else y h := by
  split <;> rfl

theorem getNext_ok {p : Ptr} (h : Heap) (hp : p ≠ .null) : getNext p h = .ok (h.next p) h := by
  simp [getNext, hp]
theorem getPrev_ok {p : Ptr} (h : Heap) (hp : p ≠ .null) : getPrev p h = .ok (h.prev p) h := by
  simp [getPrev, hp]
theorem getList_ok {p : Ptr} (h : Heap) (hp : p ≠ .null) : getList p h = .ok (h.listOf p) h := by
  simp [getList, hp]
theorem getValue_ok {p : Ptr} (h : Heap) (hp : p ≠ .null) : getValue p h = .ok (h.value p) h := by
  simp [getValue, hp]
theorem setNext_ok {p : Ptr} (q : Ptr) (h : Heap) (hp : p ≠ .null) : setNext p q h = .ok () (h.setNext p q) := by
  simp [setNext, hp]
theorem setPrev_ok {p : Ptr} (q : Ptr) (h : Heap) (hp : p ≠ .null) : setPrev p q h = .ok () (h.setPrev p q) := by
  simp [setPrev, hp]
@[simp] theorem setList_run (e : ElemId) (o : Option ListId) (h : Heap) : setList e o h = .ok () (h.setList e o) := rfl
@[simp] theorem getLen_run (l : ListId) (h : Heap) : getLen l h = .ok (h.len l) h := rfl
@[simp] theorem setLen_run (l : ListId) (n : Int) (h : Heap) : setLen l n h = .ok () (h.setLen l n) := rfl
@[simp] theorem newElemAt_run (e : ElemId) (v : Int) (h : Heap) : newElemAt e v h = .ok () (h.newElemAt e v) := rfl
@[simp] theorem getNextElem_run (h : Heap) : getNextElem h = .ok h.nextElem h := rfl
@[simp] theorem setNextElem_run (n : Nat) (h : Heap) : setNextElem n h = .ok () (h.setNextElem n) := rfl

@[simp] theorem getNext_null (h : Heap) : getNext .null h = .panic "nilfunc" h := rfl
@[simp] theorem getPrev_null (h : Heap) : getPrev .null h = .panic "nilfunc" h := rfl
@[simp] theorem getList_null (h : Heap) : getList .null h = .panic "nilfunc" h := rfl
@[simp] theorem getValue_null (h : Heap) : getValue .null h = .panic "nilfunc" h := rfl
@[simp] theorem nilPanic_run {α : Type} (h : Heap) : (nilPanic : M α) h = .panic "nilfunc" h := rfl

@[simp] theorem elem_ne_null (e : ElemId) : Ptr.elem e ≠ Ptr.null := by intro h; cases h
@[simp] theorem root_ne_null (l : ListId) : Ptr.root l ≠ Ptr.null := by intro h; cases h
@[simp] theorem elem_ne_root (e : ElemId) (l : ListId) : Ptr.elem e ≠ Ptr.root l := by intro h; cases h
@[simp] theorem root_ne_elem (e : ElemId) (l : ListId) : Ptr.root l ≠ Ptr.elem e := by intro h; cases h

end TypVerif.Lemmas.LinkedList
