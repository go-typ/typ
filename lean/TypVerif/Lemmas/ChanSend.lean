import TypVerif.Model.ChanHelpers
/-
The control flow the four timed helpers share (`ChanCtl`: the automaton `CStep` on the control state `Ctl`, its invariant `ModeOk`
and its termination measure), then the invariants of the SendTimeout / SendContext transition system (all schedules, arbitrary
environment).
-/
namespace TypVerif.Lemmas.ChanCtl
open TypVerif TypVerif.Model.ChanHelpers

/-- where a timed helper is in its code: its program counter without the payload (the send and the receive helpers
have the same control flow) -/
inductive Loc where
  | start | blk | sel | wait | stop | done

/-- where the channel statement / channel case continues: at `timer.Stop()` exactly on the positive-timeout path -/
def Loc.next (m : Mode) : Loc → Loc
  | .blk => .done
  | _ => match m with
    | .timeout _ => .stop
    | .context _ _ => .done

def Loc.rank : Loc → Nat
  | .start => 4
  | .blk => 3
  | .sel => 3
  | .wait => 2
  | .stop => 1
  | .done => 0

theorem Loc.rank_next (m : Mode) {l : Loc} (h : l = .blk ∨ l = .sel ∨ l = .wait) : (Loc.next m l).rank < l.rank := by
  rcases h with rfl | rfl | rfl <;> cases m <;> exact Nat.lt_of_sub_eq_succ rfl

/-- program counters and the timer, per mode -/
def ModeOk (m : Mode) (armed fired : Bool) (l : Loc) : Prop :=
  match m with
  | .timeout tmo =>
    (armed = true → 0 < tmo) ∧ (fired = true → armed = true) ∧ (l = .blk → tmo ≤ 0) ∧
      (l = .sel ∨ l = .wait ∨ l = .stop → 0 < tmo)
  | .context _ _ => armed = false ∧ l ≠ .blk ∧ l ≠ .stop

namespace ModeOk
variable {m : Mode} {a f : Bool} {l : Loc}

theorem init (p : Params) : ModeOk p.mode false p.preFired .start := by
  unfold ModeOk Params.preFired
  cases p.mode
  · exact ⟨nofun, nofun, nofun, nofun⟩
  · exact ⟨rfl, nofun, nofun⟩

theorem startBlk {tmo : Int} (h : ModeOk m a f .start) (hm : m = .timeout tmo) (ht : tmo ≤ 0) : ModeOk m a f .blk := by
  subst hm
  exact ⟨h.1, h.2.1, fun _ => ht, nofun⟩

theorem startArm {tmo : Int} (hm : m = .timeout tmo) (ht : 0 < tmo) : ModeOk m true f .sel := by
  subst hm
  exact ⟨fun _ => ht, fun _ => rfl, nofun, fun _ => ht⟩

theorem startCtx {pre mc : Bool} (h : ModeOk m a f .start) (hm : m = .context pre mc) : ModeOk m a f .sel := by
  subst hm
  exact ⟨h.1, nofun, nofun⟩

theorem done (h : ModeOk m a f l) : ModeOk m a f .done := by
  unfold ModeOk at h ⊢
  cases m
  · exact ⟨h.1, h.2.1, nofun, nofun⟩
  · exact ⟨h.1, nofun, nofun⟩

theorem park (h : ModeOk m a f .sel) : ModeOk m a f .wait := by
  unfold ModeOk at h ⊢
  cases m
  · exact ⟨h.1, h.2.1, nofun, fun _ => h.2.2.2 (.inl rfl)⟩
  · exact ⟨h.1, nofun, nofun⟩

theorem next (h : ModeOk m a f l) (hl : l = .blk ∨ l = .sel ∨ l = .wait) : ModeOk m a f (Loc.next m l) := by
  rcases hl with rfl | hl
  · exact h.done
  · unfold ModeOk at h ⊢
    cases m
    · exact ⟨h.1, h.2.1, by rcases hl with rfl | rfl <;> nofun, fun _ => h.2.2.2 (hl.imp_right .inl)⟩
    · exact ⟨h.1, by rcases hl with rfl | rfl <;> nofun, by rcases hl with rfl | rfl <;> nofun⟩

theorem fire (h : ModeOk m a f l) (ha : ∀ tmo, m = .timeout tmo → a = true) : ModeOk m a true l := by
  unfold ModeOk at h ⊢
  cases m
  · exact ⟨h.1, fun _ => ha _ rfl, h.2.2⟩
  · exact h

/-- with a non-positive timeout no timer exists and the helper never reaches its `select` -/
theorem nonpositive {tmo : Int} (h : ModeOk (.timeout tmo) a f l) (ht : tmo ≤ 0) :
    a = false ∧ f = false ∧ l ≠ .sel ∧ l ≠ .wait ∧ l ≠ .stop :=
  have hpos : ¬ 0 < tmo := Int.not_lt.2 ht
  ⟨Bool.eq_false_iff.2 fun e => hpos (h.1 e), Bool.eq_false_iff.2 fun e => hpos (h.1 (h.2.1 e)),
    fun e => hpos (h.2.2.2 (.inl e)), fun e => hpos (h.2.2.2 (.inr (.inl e))), fun e => hpos (h.2.2.2 (.inr (.inr e)))⟩

end ModeOk

theorem fireOk_armed {p : Params} {tmo : Int} {a f w : Bool} (hm : p.mode = .timeout tmo) (h : fireOk p a f w = true) :
    a = true := by
  simp only [fireOk, hm, Bool.and_eq_true] at h
  exact h.1.2

theorem fireOk_fired {p : Params} {a f w : Bool} (h : fireOk p a f w = true) : f = false := by
  simp only [fireOk, Bool.and_eq_true, Bool.not_eq_true'] at h
  exact h.1.1

/-- what `ModeOk` and the termination measure see of a state: where the helper is, the timer, and how many steps the environment
has left, `fire` apart (the peers' receive budget + the values they still send, + 1 on the receive side while the channel is open) -/
structure Ctl where
  loc : Loc
  armed : Bool
  fired : Bool
  pot : Nat

/-- the control automaton the four timed helpers share: every step of `sendSys` / `recvSys` is one of these on the control state
(`SStep.ctl`, `RStep.ctl`) -/
inductive CStep (p : Params) (c : Ctl) : Ctl → Prop where
  | startBlk (tmo : Int) : c.loc = .start → p.mode = .timeout tmo → tmo ≤ 0 → CStep p c { c with loc := .blk }
  | startArm (tmo : Int) : c.loc = .start → p.mode = .timeout tmo → 0 < tmo → CStep p c { c with loc := .sel, armed := true }
  | startCtx (pre mc : Bool) : c.loc = .start → p.mode = .context pre mc → CStep p c { c with loc := .sel }
  | chan (l : Loc) (n : Nat) : (c.loc = .blk ∨ c.loc = .sel ∨ c.loc = .wait) → l = c.loc.next p.mode → n ≤ c.pot →
      CStep p c { c with loc := l, pot := n }
  | done : (c.loc = .sel ∨ c.loc = .wait ∨ c.loc = .stop) → CStep p c { c with loc := .done }
  | park : c.loc = .sel → CStep p c { c with loc := .wait }
  | fire (w : Bool) : fireOk p c.armed c.fired w = true → CStep p c { c with fired := true }
  | env (n : Nat) : n < c.pot → CStep p c { c with pot := n }

/-- rank of the helper's place + "timer / context not fired yet" + what the environment can still do -/
def Ctl.measure (c : Ctl) : Nat := c.loc.rank + (if c.fired then 0 else 1) + c.pot

namespace CStep
variable {p : Params} {c c' : Ctl}

theorem modeOk (h : CStep p c c') (hm : ModeOk p.mode c.armed c.fired c.loc) : ModeOk p.mode c'.armed c'.fired c'.loc := by
  cases h with
  | startBlk tmo hl hmd ht => exact (hl ▸ hm).startBlk hmd ht
  | startArm tmo hl hmd ht => exact .startArm hmd ht
  | startCtx pre mc hl hmd => exact (hl ▸ hm).startCtx hmd
  | chan l n hat hl => exact hl ▸ hm.next hat
  | done => exact hm.done
  | park hl => exact (hl ▸ hm).park
  | fire w hf => exact hm.fire fun _ hmd => fireOk_armed hmd hf
  | env => exact hm

/-- the measure is a sum; a step of the helper lowers the rank of its place, a step of the environment one of the other summands,
and neither raises any -/
theorem lt (h : CStep p c c') : c'.measure < c.measure := by
  unfold Ctl.measure
  cases h with
  | startBlk _ hl | startArm _ hl | startCtx _ _ hl | park hl =>
    rw [hl]
    exact Nat.add_lt_add_right (Nat.add_lt_add_right (Nat.lt_succ_self _) _) _
  | chan l n hat hl hn =>
    have := hl ▸ Loc.rank_next p.mode hat
    dsimp only
    omega
  | done hl =>
    have : Loc.done.rank < c.loc.rank := by rcases hl with h | h | h <;> rw [h] <;> exact Nat.succ_pos _
    exact Nat.add_lt_add_right (Nat.add_lt_add_right this _) _
  | fire w hf =>
    rw [fireOk_fired hf]
    exact Nat.add_lt_add_right (Nat.add_lt_add_left Nat.one_pos _) _
  | env n hn => exact Nat.add_lt_add_left hn _

/-- a context that is neither cancelled before the call nor may be cancelled later is never cancelled -/
theorem fired (h : CStep p c c') (hm : p.mode = .context false false) : c'.fired = c.fired := by
  cases h with
  | fire w hf => simp [fireOk, hm] at hf
  | _ => rfl

end CStep
end TypVerif.Lemmas.ChanCtl

namespace TypVerif.Lemmas.ChanSend
open TypVerif TypVerif.Conc TypVerif.Model.ChanHelpers TypVerif.Model.Chan ChanCtl

def atSend (pc : SPc) : Prop := pc = .blk ∨ pc = .sel ∨ pc = .wait

inductive SStep (p : Params) (s : SState) : SState → Prop where
  | startBlk (tmo : Int) : s.pc = .start → p.mode = .timeout tmo → tmo ≤ 0 → SStep p s { s with pc := .blk }
  | startArm (tmo : Int) : s.pc = .start → p.mode = .timeout tmo → 0 < tmo →
      SStep p s { s with pc := .sel, armed := true }
  | startCtx (pre mc : Bool) : s.pc = .start → p.mode = .context pre mc → SStep p s { s with pc := .sel }
  | send : atSend s.pc → s.ch.canSend = true →
      SStep p s { s with ch := s.ch.send p.val, pc := sendNext p s.pc, sendFired := true }
  | handoff : atSend s.pc → handoffOkS p s = true →
      SStep p s { s with budget := s.budget - 1, taken := s.taken ++ [p.val], pc := sendNext p s.pc, sendFired := true }
  | timer : (s.pc = .sel ∨ s.pc = .wait) → s.fired = true → SStep p s { s with pc := .done false }
  | park : s.pc = .sel → s.ch.canSend = false → s.fired = false → SStep p s { s with pc := .wait }
  | stop : s.pc = .stop → SStep p s { s with pc := .done true }
  | fire : fireOk p s.armed s.fired (decide (s.pc = .wait)) = true → SStep p s { s with fired := true }
  | peerRecv (v : Int) (rest : List Int) : s.ch.buf = v :: rest → peerRecvOkS p s = true →
      SStep p s { s with ch := { s.ch with buf := rest }, budget := s.budget - 1, taken := s.taken ++ [v] }
  | peerSend (v : Int) (vs : List Int) : s.supply = v :: vs → s.ch.canSend = true →
      SStep p s { s with ch := s.ch.send v, supply := vs }
  | peerHandoff (v : Int) (vs : List Int) : s.supply = v :: vs → handoffOkS p s = true →
      SStep p s { s with supply := vs, budget := s.budget - 1, taken := s.taken ++ [v] }

/-- every member of a successor list is an internal step into `R`; the successor lists are built from `if … then [x] else []`
and `++` -/
def AllSteps {σ : Type} (R : σ → Prop) (l : List (Option Unit × σ)) : Prop := ∀ x ∈ l, x.1 = none ∧ R x.2

namespace AllSteps
variable {σ : Type} {R : σ → Prop} {l₁ l₂ : List (Option Unit × σ)} {s' : σ}

theorem nil : AllSteps R [] := nofun

theorem single (h : R s') : AllSteps R [(none, s')] := fun _ hx => List.mem_singleton.1 hx ▸ ⟨rfl, h⟩

theorem append (h₁ : AllSteps R l₁) (h₂ : AllSteps R l₂) : AllSteps R (l₁ ++ l₂) :=
  fun x hx => (List.mem_append.1 hx).elim (h₁ x) (h₂ x)

theorem ite {c : Prop} [Decidable c] (h : c → R s') : AllSteps R (if c then [(none, s')] else []) := by
  split
  · exact single (h ‹c›)
  · exact nil

end AllSteps

theorem sendAlts_steps {p : Params} {s : SState} (hpc : atSend s.pc) : AllSteps (SStep p s) (sendAlts p s) :=
  .append (.ite (.send hpc)) (.ite (.handoff hpc))

theorem timerAltS_steps {p : Params} {s : SState} (hpc : s.pc = .sel ∨ s.pc = .wait) :
    AllSteps (SStep p s) (timerAltS s) :=
  .ite (.timer hpc)

theorem stepSH_steps {p : Params} {s : SState} : AllSteps (SStep p s) (stepSH p s) := by
  unfold stepSH
  split
  · split
    · split
      · exact .single (.startBlk _ ‹_› ‹_› ‹_›)
      · exact .single (.startArm _ ‹_› ‹_› (Int.not_le.1 ‹_›))
    · exact .single (.startCtx _ _ ‹_› ‹_›)
  · exact sendAlts_steps (.inl ‹_›)
  · refine .append (.append (sendAlts_steps (.inr (.inl ‹_›))) (timerAltS_steps (.inl ‹_›))) ?_
    split
    · exact .nil
    · rename_i hc
      rw [Bool.or_eq_true, not_or, Bool.not_eq_true, Bool.not_eq_true] at hc
      exact .single (.park ‹_› hc.1 hc.2)
  · exact .append (sendAlts_steps (.inr (.inr ‹_›))) (timerAltS_steps (.inr ‹_›))
  · exact .single (.stop ‹_›)
  · exact .nil

theorem envS_steps {p : Params} {s : SState} : AllSteps (SStep p s) (envS p s) := by
  unfold envS
  refine .append (.append (.ite .fire) ?_) ?_
  · split
    · exact .ite (.peerRecv _ _ ‹_›)
    · exact .nil
  · split
    · exact .append (.ite (.peerSend _ _ ‹_›)) (.ite (.peerHandoff _ _ ‹_›))
    · exact .nil

theorem step_of_mem {p : Params} {s s' : SState} {l : Option Unit} (h : (l, s') ∈ succS p s) :
    l = none ∧ SStep p s s' :=
  AllSteps.append stepSH_steps envS_steps _ h


/-! ### the invariant -/

/-- what the helper knows at its program counter -/
def SPcOk (s : SState) : Prop :=
  match s.pc with
  | .start | .blk | .sel | .wait => s.sendFired = false
  | .stop => s.sendFired = true
  | .done r => r = s.sendFired ∧ (r = false → s.fired = true)

def _root_.TypVerif.Model.ChanHelpers.SPc.loc : SPc → Loc
  | .start => .start
  | .blk => .blk
  | .sel => .sel
  | .wait => .wait
  | .stop => .stop
  | .done _ => .done

theorem sendNext_loc (p : Params) (pc : SPc) : (sendNext p pc).loc = Loc.next p.mode pc.loc := by
  unfold sendNext Loc.next
  cases pc <;> cases p.mode <;> rfl

theorem loc_at {pc : SPc} (h : atSend pc) : pc.loc = .blk ∨ pc.loc = .sel ∨ pc.loc = .wait :=
  h.imp (congrArg _) (Or.imp (congrArg _) (congrArg _))

/-- the clause about the value is conditional on its being fresh, so that the others hold of every system -/
structure SGood (p : Params) (s : SState) : Prop where
  supply : s.supply <:+ p.peerSends
  count : p.val ∉ p.fill → p.val ∉ p.peerSends → (s.ch.buf ++ s.taken).count p.val = if s.sendFired then 1 else 0
  pcOk : SPcOk s
  modeOk : ModeOk p.mode s.armed s.fired s.pc.loc

theorem handoffOkS_eq {p : Params} {s : SState} (h : handoffOkS p s = true) :
    s.ch.buf = [] ∧ s.ch.closed = false ∧ peerRecvOkS p s = true := by
  simpa [handoffOkS, List.isEmpty_iff, and_assoc] using h

theorem peerRecvOkS_budget {p : Params} {s : SState} (h : peerRecvOkS p s = true) : 0 < s.budget := by
  simp only [peerRecvOkS, Bool.and_eq_true, decide_eq_true_eq] at h
  exact h.1

theorem sendNext_done_or_stop (p : Params) (pc : SPc) : sendNext p pc = .done true ∨ sendNext p pc = .stop := by
  unfold sendNext
  split <;> simp

theorem good_init (p : Params) : SGood p (initS p) where
  supply := List.suffix_refl _
  count h1 _ := (congrArg (List.count p.val) (List.append_nil _)).trans (List.count_eq_zero.2 h1)
  pcOk := rfl
  modeOk := .init p

theorem supply_step {p : Params} {s s' : SState} (hg : SGood p s) (h : SStep p s s') : s'.supply <:+ p.peerSends := by
  cases h with
  | peerSend v vs hs | peerHandoff v vs hs => exact (hs ▸ List.suffix_cons v vs).trans hg.supply
  | _ => exact hg.supply

/-! `SPcOk` by the kind of program counter -/

theorem SPcOk_pre {s : SState} (h : s.pc = .start ∨ atSend s.pc) :
    SPcOk s ↔ s.sendFired = false := by
  unfold SPcOk
  rcases h with h | h | h | h <;> rw [h]

theorem SPcOk_sendNext {p : Params} {pc : SPc} {s : SState} (hpc : s.pc = sendNext p pc) (hf : s.sendFired = true) :
    SPcOk s := by
  unfold SPcOk
  rcases sendNext_done_or_stop p pc with h | h <;> rw [hpc, h]
  · exact ⟨hf.symm, nofun⟩
  · exact hf

theorem pcOk_step {p : Params} {s s' : SState} (hg : SGood p s) (h : SStep p s s') : SPcOk s' := by
  have h3 := hg.pcOk
  cases h with
  | startBlk _ hpc | startArm _ hpc | startCtx _ _ hpc => exact (SPcOk_pre (.inl hpc)).1 h3
  | park hpc => exact (SPcOk_pre (.inr (.inr (.inl hpc)))).1 h3
  | send | handoff => exact SPcOk_sendNext rfl rfl
  | timer hpc hfd => exact ⟨((SPcOk_pre (.inr (.inr hpc))).1 h3).symm, fun _ => hfd⟩
  | stop hpc =>
    unfold SPcOk at h3
    rw [hpc] at h3
    exact ⟨h3.symm, nofun⟩
  | fire =>
    unfold SPcOk at h3 ⊢
    dsimp only
    generalize s.pc = pc at h3 ⊢
    cases pc with
    | done r => exact ⟨h3.1, fun _ => rfl⟩
    | _ => exact h3
  | _ => exact h3

theorem count_step {p : Params} {s s' : SState} (hg : SGood p s) (h : SStep p s s') (h1 : p.val ∉ p.fill)
    (hs : p.val ∉ p.peerSends) : (s'.ch.buf ++ s'.taken).count p.val = if s'.sendFired then 1 else 0 := by
  have h2 := hg.count h1 hs
  have hne : ∀ {v vs}, s.supply = v :: vs → (v == p.val) = false := fun hv =>
    beq_false_of_ne fun e => hs (hg.supply.subset (hv ▸ e ▸ List.mem_cons_self))
  cases h with
  | send hpc =>
    rw [(SPcOk_pre (.inr hpc)).1 hg.pcOk] at h2
    simp [Chan.send, List.count_append] at h2 ⊢
    omega
  | handoff hpc =>
    rw [(SPcOk_pre (.inr hpc)).1 hg.pcOk] at h2
    simp [List.count_append] at h2 ⊢
    omega
  | peerRecv v rest hb =>
    rw [hb] at h2
    rw [← h2]
    simp only [List.count_append, List.count_cons, List.count_nil]
    omega
  | peerSend v vs hv =>
    rw [← h2]
    simp [Chan.send, List.count_append, List.count_cons, hne hv]
  | peerHandoff v vs hv =>
    rw [← h2]
    simp [List.count_append, List.count_cons, hne hv]
  | _ => exact h2

def _root_.TypVerif.Model.ChanHelpers.SState.ctl (s : SState) : Ctl :=
  ⟨s.pc.loc, s.armed, s.fired, s.budget + s.supply.length⟩

theorem SStep.ctl {p : Params} {s s' : SState} (h : SStep p s s') : CStep p s.ctl s'.ctl := by
  cases h with
  | startBlk tmo hpc hm ht => exact .startBlk tmo (congrArg SPc.loc hpc) hm ht
  | startArm tmo hpc hm ht => exact .startArm tmo (congrArg SPc.loc hpc) hm ht
  | startCtx pre mc hpc hm => exact .startCtx pre mc (congrArg SPc.loc hpc) hm
  | send hat => exact .chan _ _ (loc_at hat) (sendNext_loc p s.pc) (Nat.le_refl _)
  | handoff hat => exact .chan _ _ (loc_at hat) (sendNext_loc p s.pc) (Nat.add_le_add_right (Nat.sub_le _ _) _)
  | timer hpc => exact .done (hpc.elim (fun h => .inl (congrArg SPc.loc h)) fun h => .inr (.inl (congrArg SPc.loc h)))
  | park hpc => exact .park (congrArg SPc.loc hpc)
  | stop hpc => exact .done (.inr (.inr (congrArg SPc.loc hpc)))
  | fire hf => exact .fire _ hf
  | peerRecv _ _ _ hok => exact .env _ (Nat.add_lt_add_right (Nat.sub_lt (peerRecvOkS_budget hok) Nat.one_pos) _)
  | peerSend _ _ hv => exact .env _ (Nat.add_lt_add_left (hv ▸ Nat.lt_succ_self _) _)
  | peerHandoff _ _ hv => exact .env _ (Nat.add_lt_add_of_le_of_lt (Nat.sub_le _ _) (hv ▸ Nat.lt_succ_self _))

theorem good_step {p : Params} {s s' : SState} (hg : SGood p s) (h : SStep p s s') : SGood p s' :=
  ⟨supply_step hg h, count_step hg h, pcOk_step hg h, h.ctl.modeOk hg.modeOk⟩

theorem good_reachable (p : Params) : ∀ s, Reachable (sendSys p) s → SGood p s :=
  Conc.invariant (sendSys p) (SGood p) (good_init p) (fun _ _ _ hg hm => good_step hg (step_of_mem hm).2)


/-! ### consequences -/

/-- the result of SendTimeout / SendContext tells exactly whether the value went into the channel -/
theorem send_iff (p : Params) (h1 : p.val ∉ p.fill) (h2 : p.val ∉ p.peerSends)
    (s : SState) (hr : Reachable (sendSys p) s) (r : Bool) (hpc : s.pc = .done r) :
    (r = true ↔ s.sendFired = true) ∧
    (s.ch.buf ++ s.taken).count p.val = (if r then 1 else 0) ∧
    (r = false → p.val ∉ s.ch.buf ∧ p.val ∉ s.taken ∧ p.val ∉ s.supply ∧ s.fired = true) := by
  have hg := good_reachable p s hr
  have h3 := hg.pcOk
  have h4 := hg.count h1 h2
  unfold SPcOk at h3
  rw [hpc] at h3
  obtain ⟨e, hf⟩ := h3
  subst e
  refine ⟨Iff.rfl, h4, fun hfalse => ?_⟩
  rw [hfalse] at h4
  have hn : p.val ∉ s.ch.buf ++ s.taken := List.count_eq_zero.1 h4
  exact ⟨fun h => hn (List.mem_append_left _ h), fun h => hn (List.mem_append_right _ h), fun h => h2 (hg.supply.subset h),
    hf hfalse⟩

/-- with a non-positive timeout no timer exists: SendTimeout never returns false -/
theorem nonpositive_send (p : Params) (tmo : Int) (hm : p.mode = .timeout tmo) (ht : tmo ≤ 0)
    (s : SState) (hr : Reachable (sendSys p) s) :
    s.armed = false ∧ s.fired = false ∧ s.pc ≠ .sel ∧ s.pc ≠ .wait ∧ s.pc ≠ .stop ∧ s.pc ≠ .done false := by
  have hg := good_reachable p s hr
  obtain ⟨ha, hf, h4, h5, h6⟩ := (hm ▸ hg.modeOk).nonpositive ht
  refine ⟨ha, hf, fun e => h4 (congrArg SPc.loc e), fun e => h5 (congrArg SPc.loc e), fun e => h6 (congrArg SPc.loc e),
    fun h => ?_⟩
  have h3 := hg.pcOk
  unfold SPcOk at h3
  rw [h] at h3
  exact Bool.noConfusion (hf.symm.trans (h3.2 rfl))

end TypVerif.Lemmas.ChanSend
