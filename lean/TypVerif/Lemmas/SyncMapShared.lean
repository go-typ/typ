import TypVerif.Lemmas.SyncMapInv
import TypVerif.Lemmas.SmcEntry
import TypVerif.Lemmas.SmcMaps
/-
The state of the sequential model is the shared data of the step-level model (`Model/SyncMapConc.lean`) with nobody
inside a call: `SeqInv` is the data invariant `GS … []` of the concurrent proof at rest, plus S7, and `abs` is `absOf`.
Every update of map.go therefore keeps `SeqInv` and acts on `abs` as the concurrent proof shows of the shared data
(`SeqInv.step`); `SyncMapSteps` instantiates it update by update.
-/
namespace TypVerif.Lemmas.SyncMap
open TypVerif.Model
open TypVerif.Model.SyncMap
open TypVerif.Lemmas.Smc (GS absOf vals SameData)

set_option linter.unusedSectionVars false

variable {K V : Type} [DecidableEq K]

/-- pointer identity plays no part in a sequential run; the id is 0 because `toShared` leaves `nextPtr` and `zst` at their
defaults, so `freshId (toShared s) = 0` and the concurrent `storeVal`/`addNew` write exactly `toPtr (.val v)` -/
def toPtr : P V → SyncMapConc.Ptr V
  | .nil => .nil
  | .expunged => .expunged
  | .val v => .val 0 v

def toShared (s : State K V) : SyncMapConc.Shared K V :=
  { entries := s.entries.map toPtr, readM := s.read, amended := s.amended, dirty := s.dirty, misses := s.misses,
    fault := s.fault }

theorem getP_toShared (s : State K V) (e : EId) : SyncMapConc.getP (toShared s) e = toPtr (getP s e) := by
  unfold SyncMapConc.getP getP toShared
  rw [List.getD_eq_getElem?_getD, List.getD_eq_getElem?_getD, List.getElem?_map]
  cases s.entries[e]? <;> rfl

theorem isExpunged_toPtr (p : P V) : (toPtr p).isExpunged = true ↔ p = .expunged := by
  cases p <;> simp [toPtr, SyncMapConc.Ptr.isExpunged]

theorem isExpunged_toShared {s : State K V} {e : EId} (hx : getP s e ≠ .expunged) :
    (SyncMapConc.getP (toShared s) e).isExpunged = false := by
  rw [getP_toShared, Bool.eq_false_iff]
  exact fun c => hx ((isExpunged_toPtr _).mp c)

theorem abs_eq_absOf (s : State K V) : abs s = absOf (toShared s) := by
  funext k
  have hv : ∀ e, (SyncMapConc.getP (toShared s) e).value? = loadEntry s e := fun e => by
    rw [getP_toShared, loadEntry_eq]; cases getP s e <;> rfl
  unfold abs cur absOf rd dt
  show _ = match alookup k s.read with
    | some e => (SyncMapConc.getP (toShared s) e).value?
    | none => if s.amended then (alookup k (dirtyMap s)).bind (fun e => (SyncMapConc.getP (toShared s) e).value?) else none
  simp only [hv]
  cases alookup k s.read with
  | some e => rfl
  | none => cases s.amended <;> rfl

/-- the converse of `Smc.alookup_inj`: entry ids are duplicate-free when keys are and an id serves one key -/
theorem nodup_vals_of_inj {l : List (K × EId)} (hn : (akeys l).Nodup)
    (hi : ∀ k k' e, alookup k l = some e → alookup k' l = some e → k = k') : (vals l).Nodup := by
  refine List.pairwise_map.mpr
    ((List.Pairwise.of_map Prod.fst (fun _ _ hne e => hne (congrArg Prod.fst e)) hn).imp_of_mem ?_)
  rintro ⟨k, e⟩ ⟨k', e'⟩ hp hp' hne (rfl : e = e')
  exact hne (by rw [hi k k' e (alookup_of_mem hn hp) (alookup_of_mem hn hp')])

theorem SeqInv.toGS {s : State K V} (h : SeqInv s) : GS (toShared s) [] where
  keysR := h.readNodup
  valsR := nodup_vals_of_inj h.readNodup fun k k' e h1 h2 => h.s6 k k' e (Or.inl h1) (Or.inl h2)
  keysD := h.dirtyNodup
  valsD := nodup_vals_of_inj h.dirtyNodup fun k k' e h1 h2 => h.s6 k k' e (Or.inr h1) (Or.inr h2)
  boundR := fun p hp =>
    Nat.lt_of_lt_of_eq (h.readRange p.1 p.2 (alookup_of_mem h.readNodup hp)) (List.length_map _).symm
  boundD := fun p hp =>
    Nat.lt_of_lt_of_eq (h.dirtyRange p.1 p.2 (alookup_of_mem h.dirtyNodup hp)) (List.length_map _).symm
  s1 := h.s1
  nofault := h.nofault
  readDirty := fun p hp _ => by
    obtain ⟨k, e⟩ := p
    have hk : rd s k = some e := alookup_of_mem h.readNodup hp
    rw [getP_toShared]
    by_cases hx : getP s e = .expunged
    · rw [if_pos ((isExpunged_toPtr _).mpr hx)]
      have hdn : s.dirty ≠ none := fun hd => h.s3 hd k e hk hx
      refine ⟨Option.isSome_iff_ne_none.mpr hdn, (h.s2 hdn k e hk).2 hx, fun hm => ?_⟩
      obtain ⟨⟨k', e'⟩, hm', (rfl : e' = e)⟩ := List.mem_map.mp hm
      have hk' : dt s k' = some e' := alookup_of_mem h.dirtyNodup hm'
      rw [← h.s6 k k' e' (Or.inl hk) (Or.inr hk'), (h.s2 hdn k e' hk).2 hx] at hk'
      cases hk'
    · rw [if_neg (fun c => hx ((isExpunged_toPtr _).mp c))]
      exact fun hds => (h.s2 (Option.isSome_iff_ne_none.mp hds) k e hk).1 hx
  dirtySub := fun ha p hp => by
    exact nomatch (h.s7 (dirty_ne_of_dt (alookup_of_mem h.dirtyNodup hp))).symm.trans ha
  dirtyLive := fun p hp hr => by
    obtain ⟨v, hv⟩ := h.s5 p.1 p.2 hr (alookup_of_mem h.dirtyNodup hp)
    rw [getP_toShared, hv]; rfl

theorem SeqInv.ofGS {s : State K V} (g : GS (toShared s) []) (h7 : s.dirty ≠ none → s.amended = true) : SeqInv s := by
  have hx : ∀ e, (SyncMapConc.getP (toShared s) e).isExpunged = true ↔ getP s e = .expunged := fun e => by
    rw [getP_toShared]; exact isExpunged_toPtr _
  have hlen : (toShared s).entries.length = s.entries.length := List.length_map _
  have hrd : ∀ {k e}, rd s k = some e →
      if (SyncMapConc.getP (toShared s) e).isExpunged then
        s.dirty.isSome = true ∧ dt s k = none ∧ e ∉ vals (dirtyMap s)
      else (s.dirty.isSome = true → dt s k = some e) :=
    fun hk => g.readDirty _ (mem_of_alookup hk) List.not_mem_nil
  have hsame : ∀ {k k' e}, rd s k = some e → dt s k' = some e → k = k' := fun {k k' e} h1 h2 => by
    have := hrd h1
    split at this
    · exact absurd (List.mem_map.mpr ⟨(k', e), mem_of_alookup h2, rfl⟩) this.2.2
    · exact Smc.alookup_inj g.valsD (this (Option.isSome_iff_ne_none.mpr (dirty_ne_of_dt h2))) h2
  refine
    { nofault := g.nofault, readNodup := g.keysR, dirtyNodup := g.keysD,
      readRange := fun k e hk => hlen ▸ g.boundR _ (mem_of_alookup hk),
      dirtyRange := fun k e hk => hlen ▸ g.boundD _ (mem_of_alookup hk),
      s1 := g.s1, s2 := ?_, s3 := ?_, s4 := ?_, s5 := ?_, s6 := ?_, s7 := h7 }
  · intro hdn k e hk
    have := hrd hk
    by_cases hxe : getP s e = .expunged
    · rw [if_pos ((hx e).mpr hxe)] at this
      exact ⟨fun c => absurd hxe c, fun _ => this.2.1⟩
    · rw [if_neg (fun c => hxe ((hx e).mp c))] at this
      exact ⟨fun _ => this (Option.isSome_iff_ne_none.mpr hdn), fun c => absurd c hxe⟩
  · intro hd k e hk hxe
    have := hrd hk
    rw [if_pos ((hx e).mpr hxe)] at this
    exact absurd hd (Option.isSome_iff_ne_none.mp this.1)
  · intro ha k e hk
    show (alookup k s.read).isSome
    rw [show alookup k s.read = some e from g.dirtySub ha (k, e) (mem_of_alookup hk)]; rfl
  · intro k e hr hk
    have := g.dirtyLive (k, e) (mem_of_alookup hk) hr
    rw [getP_toShared] at this
    cases hp : getP s e with
    | val v => exact ⟨v, rfl⟩
    | nil => rw [hp] at this; cases this
    | expunged => rw [hp] at this; cases this
  · intro k k' e h1 h2
    rcases h1 with h1 | h1 <;> rcases h2 with h2 | h2
    · exact Smc.alookup_inj g.valsR h1 h2
    · exact hsame h1 h2
    · exact (hsame h2 h1).symm
    · exact Smc.alookup_inj g.valsD h1 h2

/-- `SameData` and not equality: the two updates may differ in the allocation counter `nextPtr`, which `GS` and `absOf`
ignore -/
theorem SeqInv.step {s' : State K V} {sh' : SyncMapConc.Shared K V} {m : K → Option V}
    (hd : SameData (toShared s') sh') (hf : s'.fault = false) (h7 : s'.dirty ≠ none → s'.amended = true)
    (g : GS sh' []) (ha : ∀ k, absOf sh' k = m k) : SeqInv s' ∧ ∀ k, abs s' k = m k :=
  ⟨SeqInv.ofGS (g.of_sameData hd hf) h7, fun k => by rw [abs_eq_absOf, Smc.absOf_congr hd, ha]⟩

theorem sameData_of_eq {sh sh' : SyncMapConc.Shared K V} (h : sh' = sh) : SameData sh' sh := h ▸ SameData.refl sh

theorem toShared_setP (s : State K V) (e : EId) (p : P V) :
    toShared (setP s e p) = SyncMapConc.setP (toShared s) e (toPtr p) := by
  unfold toShared setP SyncMapConc.setP
  simp only [List.map_set]

theorem toShared_setDirty (s : State K V) (k : K) (e : EId) :
    toShared (setDirty s k e) = SyncMapConc.setDirty (toShared s) k e := by
  unfold toShared setDirty SyncMapConc.setDirty
  cases s.dirty <;> rfl

end TypVerif.Lemmas.SyncMap
