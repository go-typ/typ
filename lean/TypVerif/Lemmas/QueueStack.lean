import TypVerif.Lemmas.ListOps
import TypVerif.Spec.QueueStack
/-
C16: the Queue (over the heap list model) and the Stack refine their FIFO / LIFO specifications.
-/
namespace TypVerif.Lemmas.QueueStack
open TypVerif.Spec.ListOp (Ptr ElemId ListId)
open TypVerif.Spec.Seq
open TypVerif.Model
open TypVerif.Model.LinkedList
open TypVerif.Model.Queue (Op Res qlist)
open TypVerif.Lemmas.LinkedList
open TypVerif.Spec.QueueStack

/-- the heap list cell of the queue spells the abstract queue: front-to-back it holds the values in
reverse order of arrival -/
def QSim (h : Heap) (q : List Int) : Prop :=
  ∃ w, Sim h w ∧ (w.lists.get qlist).map w.value.get = q.reverse

theorem QSim.init : QSim Heap.empty [] := by
  refine ⟨World.empty, Sim.init, ?_⟩
  show ((Store.empty : Store (List ElemId)).get qlist).map _ = _
  rw [Store.get_empty]; rfl

theorem step_of_ok {h h' : Heap} {op : Op} {r : Res} (hr : Queue.runOp op h = .ok r h') :
    Queue.step h op = (h', r) := by
  unfold Queue.step; rw [hr]

theorem optPtr_eq_null {o : Option ElemId} : optPtr o = .null ↔ o = none := by
  cases o <;> simp [optPtr]

/-! the queue is the list read backwards (`xs.map f = q.reverse`): its head is the last cell of the list -/

theorem back_none {xs : List ElemId} {f : ElemId → Int} {q : List Int} (hv : xs.map f = q.reverse)
    (hl : xs.getLast? = none) : xs = [] ∧ q = [] := by
  have hxs : xs = [] := List.getLast?_eq_none_iff.1 hl
  rw [hxs] at hv
  exact ⟨hxs, List.reverse_eq_nil_iff.1 hv.symm⟩

theorem back_some {xs : List ElemId} {f : ElemId → Int} {q : List Int} (hv : xs.map f = q.reverse) {x : ElemId}
    (hl : xs.getLast? = some x) : ∃ A, xs = A ++ [x] ∧ q = f x :: (A.map f).reverse := by
  obtain ⟨A, hA⟩ := List.getLast?_eq_some_iff.1 hl
  refine ⟨A, hA, ?_⟩
  rw [← List.reverse_reverse q, ← hv, hA, List.map_append, List.reverse_append]
  rfl

theorem peek_run {h : Heap} {w : World} (hs : Sim h w) :
    Queue.runOp .peek h = .ok (match (w.lists.get qlist).getLast? with
      | none => .pair 0 false
      | some x => .pair (w.value.get x) true) h := by
  cases hl : (w.lists.get qlist).getLast? with
  | none =>
    exact bind_ok (x := Queue.peek) (a := (0, false)) ((bind_ok (back_run hs qlist)).trans (by rw [hl]; rfl))
  | some x =>
    exact bind_ok (x := Queue.peek) (a := (w.value.get x, true)) ((bind_ok (back_run hs qlist)).trans (by
      rw [hl, ← hs.value]; exact bind_ok (getValue_ok _ (elem_ne_null x))))

theorem qstep_sim {h : Heap} {q : List Int} (hq : QSim h q) (op : Op) :
    (Queue.step h op).2 = (qstep q op).2 ∧ QSim (Queue.step h op).1 (qstep q op).1 := by
  obtain ⟨w, hs, hv⟩ := hq
  cases op with
  | enq v =>
    obtain ⟨h', hr, hs'⟩ := pushFront_sim hs qlist v
    rw [step_of_ok (r := .ok) (bind_ok (x := Queue.enqueue v) (bind_ok hr))]
    refine ⟨rfl, _, hs', ?_⟩
    have hid : w.nextId ∉ w.lists.get qlist := by
      intro hm
      have := (hs.mem _ _).2 hm
      rw [hs.fresh _ (Nat.le_refl _)] at this; cases this
    show ((w.lists.set qlist (w.nextId :: w.lists.get qlist)).get qlist).map ((w.value.set w.nextId v).get)
      = (q ++ [v]).reverse
    rw [Store.get_set_self, List.map_cons, Store.get_set_self, List.reverse_append, ← hv]
    exact congrArg (List.cons v)
      (List.map_congr_left fun x hx => Store.get_set_ne _ _ fun hh => hid (hh ▸ hx))
  | deq =>
    have hb := back_run hs qlist
    cases hl : (w.lists.get qlist).getLast? with
    | none =>
      obtain ⟨hxs, hq0⟩ := back_none hv hl
      rw [step_of_ok (r := .pair 0 false) (bind_ok (x := Queue.dequeue) (a := (0, false))
        ((bind_ok hb).trans (by rw [hl]; rfl))), hq0]
      exact ⟨rfl, w, hs, by rw [hxs]; rfl⟩
    | some x =>
      obtain ⟨A, hA, hq'⟩ := back_some hv hl
      obtain ⟨h', hr, hs'⟩ := removeM_sim hs qlist x
      have hx : x ∈ w.lists.get qlist := List.mem_of_getLast? hl
      have ho : w.owner.get x = some qlist := (hs.mem x qlist).2 hx
      have : Queue.runOp .deq h = .ok (.pair (w.value.get x) true) h' :=
        bind_ok (x := Queue.dequeue) (a := (w.value.get x, true)) ((bind_ok hb).trans (by rw [hl]; exact bind_ok hr))
      have hxA : x ∉ A := (nodup_middle (hA ▸ hs.nodup qlist)).1
      rw [step_of_ok this, hq']
      refine ⟨rfl, _, hs', ?_⟩
      simp only [Spec.Seq.step, if_pos ho, qstep, List.reverse_reverse]
      show ((w.lists.set qlist ((w.lists.get qlist).erase x)).get qlist).map w.value.get = _
      rw [Store.get_set_self, hA, List.erase_append_right _ hxA, List.erase_cons_head, List.append_nil]
  | peek =>
    rw [step_of_ok (peek_run hs)]
    cases hl : (w.lists.get qlist).getLast? with
    | none =>
      obtain ⟨hxs, hq0⟩ := back_none hv hl
      rw [hq0]
      exact ⟨rfl, w, hs, by rw [hxs]; rfl⟩
    | some x =>
      obtain ⟨A, hA, hq'⟩ := back_some hv hl
      subst hq'
      exact ⟨rfl, w, hs, hv⟩
  | len =>
    rw [step_of_ok (r := .int _) (bind_ok (x := Queue.qlen) (len_run hs qlist))]
    have hlen : (w.lists.get qlist).length = q.length := by
      rw [← List.length_map (f := w.value.get), hv, List.length_reverse]
    exact ⟨congrArg (fun n : Nat => Res.int n) hlen, w, hs, hv⟩

theorem queue_run_sim : ∀ (ops : List Op) {h : Heap} {q : List Int}, QSim h q →
    Queue.run h ops = runWith qstep q ops := by
  intro ops
  induction ops with
  | nil => intro _ _ _; rfl
  | cons op ops ih =>
    intro h q hq
    obtain ⟨h1, h2⟩ := qstep_sim hq op
    simp only [Queue.run, runWith, h1, ih h2]

theorem queue_final_sim : ∀ (ops : List Op) {h : Heap} {q : List Int}, QSim h q →
    QSim (Queue.final h ops) (finalWith qstep q ops) := by
  intro ops
  induction ops with
  | nil => intro _ _ hq; exact hq
  | cons op ops ih => intro _ _ hq; exact ih (qstep_sim hq op).2

theorem queue_peek_pure {h : Heap} {q : List Int} (hq : QSim h q) : (Queue.step h .peek).1 = h := by
  obtain ⟨w, hs, _⟩ := hq
  rw [step_of_ok (peek_run hs)]

/-! ### Stack -/

theorem sstep_sim (s : List Int) (op : Op) :
    (Stack.step s op).2 = (sstep s.reverse op).2 ∧ (Stack.step s op).1.reverse = (sstep s.reverse op).1 := by
  cases op with
  | enq v => simp [Stack.step, Stack.push, sstep]
  | deq =>
    rcases List.eq_nil_or_concat s with rfl | ⟨A, x, rfl⟩
    · simp [Stack.step, Stack.pop, sstep]
    · simp [Stack.step, Stack.pop, sstep]
  | peek =>
    rcases List.eq_nil_or_concat s with rfl | ⟨A, x, rfl⟩
    · simp [Stack.step, Stack.peek, sstep]
    · simp [Stack.step, Stack.peek, sstep]
  | len => simp [Stack.step, sstep]

theorem stack_run_sim : ∀ (ops : List Op) (s : List Int),
    Stack.run s ops = runWith sstep s.reverse ops := by
  intro ops
  induction ops with
  | nil => intro _; rfl
  | cons op ops ih =>
    intro s
    obtain ⟨h1, h2⟩ := sstep_sim s op
    simp only [Stack.run, runWith, h1, ih, h2]

theorem stack_final_sim : ∀ (ops : List Op) (s : List Int),
    (Stack.final s ops).reverse = finalWith sstep s.reverse ops := by
  intro ops
  induction ops with
  | nil => intro _; rfl
  | cons op ops ih =>
    intro s
    simp only [Stack.final, finalWith, ih, (sstep_sim s op).2]

end TypVerif.Lemmas.QueueStack
