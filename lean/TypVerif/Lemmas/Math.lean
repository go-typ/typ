/-
Lemmas for C20: decimal digit count, the threshold ladder of Digits10, the widen-then-negate step, and the
integer helpers of math.go read through `toInt`.
-/
import TypVerif.Spec.Math
import TypVerif.Model.Math
namespace TypVerif.Lemmas.Math
open TypVerif.Spec.Math TypVerif.Model.Math

theorem numDigits_lt10 {n : Nat} (h : n < 10) : numDigits n = 1 := by
  rw [numDigits, if_pos h]

theorem numDigits_ge10 {n : Nat} (h : 10 ≤ n) : numDigits n = 1 + numDigits (n / 10) := by
  rw [numDigits, if_neg (Nat.not_lt.2 h)]

theorem numDigits_of_range : ∀ (j n : Nat), 10 ^ j ≤ n → n < 10 ^ (j + 1) → numDigits n = j + 1
  | 0, _, _, h2 => numDigits_lt10 h2
  | j + 1, n, h1, h2 => by
    have h10 : 10 ≤ n := Nat.le_trans (Nat.le_mul_of_pos_left 10 (Nat.pow_pos (by decide))) h1
    rw [numDigits_ge10 h10, Nat.add_comm, numDigits_of_range j (n / 10)
      ((Nat.le_div_iff_mul_le (by decide)).2 h1) (Nat.div_lt_of_lt_mul (Nat.mul_comm _ _ ▸ h2))]

/-- one rung of the ladder: below `10 ^ j` is excluded, `r` answers for everything from `10 ^ (j + 1)` on -/
theorem ladder_step {n : Nat} (j : Nat) {r : Int} (lo : 10 ^ j ≤ n) (hr : 10 ^ (j + 1) ≤ n → r = numDigits n) :
    (if n < 10 ^ (j + 1) then ((j + 1 : Nat) : Int) else r) = numDigits n := by
  by_cases h : n < 10 ^ (j + 1)
  · rw [if_pos h, numDigits_of_range j n lo h]
  · rw [if_neg h, hr (Nat.not_lt.1 h)]

theorem ladder_spec (n : BitVec 64) : ladder n = numDigits n.toNat := by
  unfold ladder
  simp only [BitVec.ult, BitVec.toNat_ofNat, decide_eq_true_eq, Nat.reducePow, Nat.reduceMod]
  by_cases h : n.toNat < 10
  · rw [if_pos h, numDigits_lt10 h]; rfl
  rw [if_neg h]
  exact ladder_step 1 (Nat.not_lt.1 h) fun h => ladder_step 2 h fun h => ladder_step 3 h fun h => ladder_step 4 h fun h =>
    ladder_step 5 h fun h => ladder_step 6 h fun h => ladder_step 7 h fun h => ladder_step 8 h fun h =>
    ladder_step 9 h fun h => ladder_step 10 h fun h => ladder_step 11 h fun h => ladder_step 12 h fun h =>
    ladder_step 13 h fun h => ladder_step 14 h fun h => ladder_step 15 h fun h => ladder_step 16 h fun h =>
    ladder_step 17 h fun h => ladder_step 18 h fun h =>
    -- the last rung needs no test: `n < 2 ^ 64 < 10 ^ 20`
    congrArg Nat.cast (numDigits_of_range 19 _ h (Nat.lt_trans n.isLt (by decide))).symm

@[simp] theorem toInt_true {w : Nat} (v : BitVec w) : toInt true v = v.toInt := rfl
@[simp] theorem toInt_false {w : Nat} (v : BitVec w) : toInt false v = (v.toNat : Int) := rfl

theorem lt_iff (sg : Bool) {w : Nat} (a b : BitVec w) : lt sg a b = decide (toInt sg a < toInt sg b) := by
  cases sg
  · exact (decide_eq_decide.2 Int.ofNat_lt).symm
  · rfl

theorem toInt_inj (sg : Bool) {w : Nat} {a b : BitVec w} (h : toInt sg a = toInt sg b) : a = b := by
  cases sg
  · exact BitVec.eq_of_toNat_eq (Int.ofNat_inj.1 h)
  · exact BitVec.eq_of_toInt_eq h

theorem toInt_zero (sg : Bool) {w : Nat} : toInt sg (0#w) = 0 := by
  cases sg
  · rfl
  · exact BitVec.toInt_zero

theorem toInt_one (sg : Bool) {w : Nat} (hw : 1 < w) : toInt sg (1#w) = 1 := by
  cases sg
  · exact congrArg Nat.cast (BitVec.toNat_one (Nat.lt_of_succ_lt hw))
  · exact BitVec.toInt_one hw

theorem lt_zero (sg : Bool) {w : Nat} (v : BitVec w) : lt sg v 0#w = decide (toInt sg v < 0) := by
  rw [lt_iff, toInt_zero]

theorem lt_unsigned_zero {w : Nat} (v : BitVec w) : lt false v 0#w = false := by
  rw [lt_zero]; exact decide_eq_false (Int.not_lt.2 (Int.natCast_nonneg _))

/-! ### Abs and the widen-then-negate step of Digits10: both are `BitVec.abs` -/

theorem abs_signed_eq_abs {w : Nat} (v : BitVec w) : Model.Math.abs true v = v.abs := by
  rw [BitVec.abs_eq, ← BitVec.slt_zero_eq_msb]; rfl

theorem toNat_abs_eq_natAbs {w : Nat} (x : BitVec w) : x.abs.toNat = x.toInt.natAbs := by
  have := x.isLt
  rw [BitVec.toNat_abs, BitVec.toInt_eq_msb_cond]
  cases x.msb
  · exact (Int.natAbs_natCast _).symm
  · simp only [if_true]; omega

theorem eq_intMin_iff {w : Nat} (hw : 0 < w) (v : BitVec w) : v = BitVec.intMin w ↔ v.toInt = -(2 ^ (w - 1) : Nat) := by
  rw [← BitVec.toInt_inj, BitVec.toInt_intMin_of_pos hw, Int.natCast_pow]; rfl

theorem abs_signed {w : Nat} (hw : 0 < w) (v : BitVec w) (hmin : v.toInt ≠ -(2 ^ (w - 1) : Nat)) :
    (Model.Math.abs true v).toInt = v.toInt.natAbs := by
  rw [abs_signed_eq_abs]
  exact BitVec.toInt_abs_eq_natAbs_of_ne_intMin (mt (eq_intMin_iff hw v).1 hmin)

/-- Abs of the signed minimum is the minimum itself (not representable) -/
theorem abs_signed_min {w : Nat} (hw : 0 < w) (v : BitVec w) (hmin : v.toInt = -(2 ^ (w - 1) : Nat)) :
    Model.Math.abs true v = v := by
  rw [abs_signed_eq_abs, (eq_intMin_iff hw v).2 hmin, BitVec.abs_intMin]

theorem abs_unsigned {w : Nat} (v : BitVec w) : Model.Math.abs false v = v := by
  unfold Model.Math.abs
  rw [lt_unsigned_zero]; rfl

/-- after `n := uint64(v); if v < 0 { n = -n }`, `n` is |v| — the minimum of a signed type included,
because the negation happens at width 64 -/
theorem widen_toNat (sg : Bool) {w : Nat} (hw64 : w ≤ 64) (v : BitVec w) :
    (if lt sg v 0#w then -(widen sg v) else widen sg v).toNat = (toInt sg v).natAbs := by
  cases sg
  · rw [lt_unsigned_zero]
    exact BitVec.toNat_setWidth_of_le hw64
  · have hx : (v.signExtend 64).toInt = v.toInt := BitVec.toInt_signExtend_of_le hw64
    have hs : lt true v 0#w = (v.signExtend 64).msb := by
      rw [← BitVec.slt_zero_eq_msb, BitVec.slt_eq_decide, hx, BitVec.toInt_zero]; exact lt_zero true v
    rw [hs, toInt_true, ← hx, ← toNat_abs_eq_natAbs, BitVec.abs_eq]; rfl

theorem digits10_toInt (sg : Bool) {w : Nat} (hw64 : w ≤ 64) (v : BitVec w) :
    Model.Math.digits10 sg v = Spec.Math.digits10 (toInt sg v) := by
  unfold Model.Math.digits10 Spec.Math.digits10
  rw [ladder_spec, widen_toNat sg hw64]

theorem natAbs_toInt_neg {w : Nat} (v : BitVec w) : (-v).toInt.natAbs = v.toInt.natAbs := by
  rw [BitVec.toInt_neg_eq_ite]
  split
  · rfl
  · exact Int.natAbs_neg _

theorem digitsSign10_toInt (sg : Bool) {w : Nat} (hw64 : w ≤ 64) (v : BitVec w) :
    Model.Math.digitsSign10 sg v = Spec.Math.digitsSign10 (toInt sg v) := by
  unfold Model.Math.digitsSign10
  rw [lt_zero, digits10_toInt sg hw64, digits10_toInt sg hw64]
  unfold Spec.Math.digitsSign10 Spec.Math.digits10
  by_cases h : toInt sg v < 0
  · rw [if_pos (decide_eq_true h), if_pos h]
    cases sg
    · exact absurd h (by simp)
    · exact congrArg (fun n : Nat => (numDigits n : Int) + 1) (natAbs_toInt_neg v)
  · rw [if_neg (by simpa using h), if_neg h]; rfl


theorem digitsSign10_signed {w : Nat} (hw64 : w ≤ 64) (v : BitVec w) :
    Model.Math.digitsSign10 true v = numDigits v.toInt.natAbs + (if v.toInt < 0 then 1 else 0) := by
  rw [digitsSign10_toInt true hw64, Spec.Math.digitsSign10, Int.natCast_add, apply_ite Nat.cast]; rfl

theorem clamp_eq (sg : Bool) {w : Nat} (v lo hi : BitVec w) :
    Model.Math.clamp sg v lo hi =
      if toInt sg v < toInt sg lo then lo else if toInt sg hi < toInt sg v then hi else v := by
  unfold Model.Math.clamp
  simp only [lt_iff, decide_eq_true_eq]

theorem clamp_toInt (sg : Bool) {w : Nat} (v lo hi : BitVec w) :
    toInt sg (Model.Math.clamp sg v lo hi) = Spec.Math.clamp (toInt sg v) (toInt sg lo) (toInt sg hi) := by
  rw [clamp_eq, apply_ite (toInt sg), apply_ite (toInt sg)]; rfl

/-- the clause of the property: inside the interval → v, otherwise the nearer bound -/
theorem spec_clamp_cases {v lo hi : Int} (h : lo ≤ hi) :
    (lo ≤ v → v ≤ hi → Spec.Math.clamp v lo hi = v) ∧ (v < lo → Spec.Math.clamp v lo hi = lo) ∧
    (hi < v → Spec.Math.clamp v lo hi = hi) ∧ lo ≤ Spec.Math.clamp v lo hi ∧ Spec.Math.clamp v lo hi ≤ hi := by
  unfold Spec.Math.clamp
  by_cases h1 : v < lo
  · rw [if_pos h1]
    exact ⟨fun a _ => absurd h1 (Int.not_lt.2 a), fun _ => rfl,
      fun a => absurd (Int.lt_trans a h1) (Int.not_lt.2 h), Int.le_refl _, h⟩
  · rw [if_neg h1]
    by_cases h2 : hi < v
    · rw [if_pos h2]
      exact ⟨fun _ b => absurd h2 (Int.not_lt.2 b), fun a => absurd a h1, fun _ => rfl, h, Int.le_refl _⟩
    · rw [if_neg h2]
      exact ⟨fun _ _ => rfl, fun a => absurd a h1, fun a => absurd a h2, Int.not_lt.1 h1, Int.not_lt.1 h2⟩

theorem clamp_cases (sg : Bool) {w : Nat} (v lo hi : BitVec w) (h : toInt sg lo ≤ toInt sg hi) :
    (toInt sg lo ≤ toInt sg v → toInt sg v ≤ toInt sg hi → Model.Math.clamp sg v lo hi = v) ∧
    (toInt sg v < toInt sg lo → Model.Math.clamp sg v lo hi = lo) ∧
    (toInt sg hi < toInt sg v → Model.Math.clamp sg v lo hi = hi) := by
  rw [clamp_eq]
  exact ⟨fun a b => by rw [if_neg (Int.not_lt.2 a), if_neg (Int.not_lt.2 b)], fun a => if_pos a,
    fun a => by rw [if_neg (Int.not_lt.2 (Int.le_trans h (Int.le_of_lt a))), if_pos a]⟩

theorem clamp01_spec (sg : Bool) {w : Nat} (hw : 1 < w) (v : BitVec w) :
    Model.Math.clamp01 sg v = Model.Math.clamp sg v 0#w 1#w ∧
    toInt sg (Model.Math.clamp01 sg v) = Spec.Math.clamp (toInt sg v) 0 1 := by
  refine ⟨rfl, ?_⟩
  rw [show Model.Math.clamp01 sg v = Model.Math.clamp sg v 0#w 1#w from rfl, clamp_toInt, toInt_zero, toInt_one sg hw]

theorem spec_compare_cases (a b : Int) :
    (Spec.Math.compare a b = 0 ↔ a = b) ∧ (Spec.Math.compare a b = -1 ↔ a < b) ∧ (Spec.Math.compare a b = 1 ↔ b < a) := by
  unfold Spec.Math.compare
  by_cases h1 : a < b
  · rw [if_pos h1]; omega
  · rw [if_neg h1]
    by_cases h2 : a = b
    · rw [if_pos h2]; omega
    · rw [if_neg h2]; omega

theorem compare_toInt (sg : Bool) {w : Nat} (a b : BitVec w) :
    Model.Math.compare sg a b = Spec.Math.compare (toInt sg a) (toInt sg b) := by
  unfold Model.Math.compare Spec.Math.compare
  simp only [lt_iff, decide_eq_true_eq]
  by_cases h1 : toInt sg a < toInt sg b
  · rw [if_neg (Int.lt_asymm h1), if_pos h1, if_pos h1]
  · rw [if_neg h1, if_neg h1]
    by_cases h2 : toInt sg a = toInt sg b
    · rw [if_neg (h2 ▸ Int.lt_irrefl _), if_pos h2]
    · rw [if_pos (by omega), if_neg h2]

theorem compare_spec (sg : Bool) {w : Nat} (a b : BitVec w) :
    Model.Math.compare sg a b = Spec.Math.compare (toInt sg a) (toInt sg b) ∧
    (Model.Math.compare sg a b = 0 ↔ a = b) ∧
    (Model.Math.compare sg a b = -1 ↔ toInt sg a < toInt sg b) ∧
    (Model.Math.compare sg a b = 1 ↔ toInt sg b < toInt sg a) := by
  rw [compare_toInt]
  have h := spec_compare_cases (toInt sg a) (toInt sg b)
  exact ⟨rfl, h.1.trans ⟨toInt_inj sg, congrArg (toInt sg)⟩, h.2⟩

theorem less_toInt (sg : Bool) {w : Nat} (a b : BitVec w) :
    Model.Math.less sg a b = Spec.Math.less (toInt sg a) (toInt sg b) :=
  lt_iff sg a b

/-! The same at a signed type (`toInt true v` is `v.toInt`) and at an unsigned type (`toInt false v` is `v.toNat`),
stated in the form the per-type theorems of `Props/C20.lean` have: unfolding `toInt` at a concrete width is slow. -/

theorem clamp_signed {w : Nat} (v lo hi : BitVec w) (h : lo.toInt ≤ hi.toInt) :
    (lo.toInt ≤ v.toInt → v.toInt ≤ hi.toInt → Model.Math.clamp true v lo hi = v) ∧
    (v.toInt < lo.toInt → Model.Math.clamp true v lo hi = lo) ∧
    (hi.toInt < v.toInt → Model.Math.clamp true v lo hi = hi) :=
  clamp_cases true v lo hi h

theorem clamp_unsigned {w : Nat} (v lo hi : BitVec w) (h : (lo.toNat : Int) ≤ hi.toNat) :
    ((lo.toNat : Int) ≤ v.toNat → (v.toNat : Int) ≤ hi.toNat → Model.Math.clamp false v lo hi = v) ∧
    ((v.toNat : Int) < lo.toNat → Model.Math.clamp false v lo hi = lo) ∧
    ((hi.toNat : Int) < v.toNat → Model.Math.clamp false v lo hi = hi) :=
  clamp_cases false v lo hi h

theorem clamp01_signed {w : Nat} (hw : 1 < w) (v : BitVec w) :
    Model.Math.clamp01 true v = Model.Math.clamp true v 0#w 1#w ∧
    (Model.Math.clamp01 true v).toInt = Spec.Math.clamp v.toInt 0 1 :=
  clamp01_spec true hw v

theorem clamp01_unsigned {w : Nat} (hw : 1 < w) (v : BitVec w) :
    Model.Math.clamp01 false v = Model.Math.clamp false v 0#w 1#w ∧
    ((Model.Math.clamp01 false v).toNat : Int) = Spec.Math.clamp v.toNat 0 1 :=
  clamp01_spec false hw v

theorem compare_signed {w : Nat} (a b : BitVec w) :
    Model.Math.compare true a b = Spec.Math.compare a.toInt b.toInt ∧
    (Model.Math.compare true a b = 0 ↔ a = b) ∧
    (Model.Math.compare true a b = -1 ↔ a.toInt < b.toInt) ∧
    (Model.Math.compare true a b = 1 ↔ b.toInt < a.toInt) :=
  compare_spec true a b

theorem compare_unsigned {w : Nat} (a b : BitVec w) :
    Model.Math.compare false a b = Spec.Math.compare a.toNat b.toNat ∧
    (Model.Math.compare false a b = 0 ↔ a = b) ∧
    (Model.Math.compare false a b = -1 ↔ (a.toNat : Int) < b.toNat) ∧
    (Model.Math.compare false a b = 1 ↔ (b.toNat : Int) < a.toNat) :=
  compare_spec false a b

theorem less_signed {w : Nat} (a b : BitVec w) : Model.Math.less true a b = decide (a.toInt < b.toInt) :=
  less_toInt true a b

theorem less_unsigned {w : Nat} (a b : BitVec w) : Model.Math.less false a b = decide ((a.toNat : Int) < b.toNat) :=
  less_toInt false a b

/-- with `2 ^ w = 2 * k` and `r = v % (2 * k)`: `Int.bmod` takes `r` when `r < (2 * k + 1) / 2`, which is `k`; `wrap` takes `r - 2 * k` when
`2 * r ≥ 2 * k`: the same test -/
theorem wrap_signed {w : Nat} (hw : 0 < w) (v : Int) : wrap true w v = v.bmod (2 ^ w) := by
  have hm : (2 : Int) ^ w = 2 * 2 ^ (w - 1) := by rw [← Int.pow_succ', Nat.sub_add_cancel hw]
  unfold wrap
  simp only [Bool.true_and, decide_eq_true_eq]
  rw [Int.bmod_def, show ((2 ^ w : Nat) : Int) = 2 ^ w from rfl, hm]
  generalize (2 : Int) ^ (w - 1) = k
  generalize v % (2 * k) = r
  rw [Int.add_comm (2 * k), Int.add_mul_ediv_left _ _ (by decide), show (1 : Int) / 2 + k = k from Int.zero_add k]
  by_cases h : r < k
  · rw [if_pos h, if_neg (Int.not_le.2 (Int.mul_lt_mul_of_pos_left h (by decide)))]
  · rw [if_neg h, if_pos (Int.mul_le_mul_of_nonneg_left (Int.not_lt.1 h) (by decide))]

theorem wrap_unsigned {w : Nat} (v : Int) : wrap false w v = v % ((2 ^ w : Nat) : Int) := rfl

theorem toInt_add (sg : Bool) {w : Nat} (hw : 0 < w) (a b : BitVec w) :
    toInt sg (a + b) = wrap sg w (toInt sg a + toInt sg b) := by
  cases sg
  · rw [wrap_unsigned, toInt_false, BitVec.toNat_add, Int.natCast_emod, Int.natCast_add]; rfl
  · rw [wrap_signed hw]; exact BitVec.toInt_add a b

theorem toInt_mul (sg : Bool) {w : Nat} (hw : 0 < w) (a b : BitVec w) :
    toInt sg (a * b) = wrap sg w (toInt sg a * toInt sg b) := by
  cases sg
  · rw [wrap_unsigned, toInt_false, BitVec.toNat_mul, Int.natCast_emod, Int.natCast_mul]; rfl
  · rw [wrap_signed hw]; exact BitVec.toInt_mul a b

theorem sum_toInt (sg : Bool) {w : Nat} (hw : 0 < w) (vs : List (BitVec w)) :
    toInt sg (Model.Math.sum vs) = Spec.Math.sum sg w (vs.map (toInt sg)) := by
  unfold Model.Math.sum Spec.Math.sum
  rw [List.foldl_map, ← toInt_zero sg (w := w)]
  exact (List.foldl_hom (toInt sg) fun a b => (toInt_add sg hw a b).symm).symm

theorem product_toInt (sg : Bool) {w : Nat} (hw : 1 < w) (vs : List (BitVec w)) :
    toInt sg (Model.Math.product vs) = Spec.Math.product sg w (vs.map (toInt sg)) := by
  unfold Model.Math.product Spec.Math.product
  rw [List.foldl_map, ← toInt_one sg hw]
  exact (List.foldl_hom (toInt sg) fun a b => (toInt_mul sg (Nat.lt_of_succ_lt hw) a b).symm).symm

/-- the loop invariant of Min: the running minimum is one of the elements seen so far, and none of them is smaller -/
theorem foldl_min_spec {α : Type} (lt : α → α → Bool)
    (irrefl : ∀ a, lt a a = false) (trans : ∀ a b c, lt a b = true → lt b c = true → lt a c = true) :
    ∀ (rest seen : List α) (m : α), m ∈ seen → (∀ y ∈ seen, lt y m = false) →
      rest.foldl (fun m v => if lt v m then v else m) m ∈ seen ++ rest ∧
      ∀ y ∈ seen ++ rest, lt y (rest.foldl (fun m v => if lt v m then v else m) m) = false
  | [], seen, m, hm, h => by rw [List.append_nil]; exact ⟨hm, h⟩
  | v :: vs, seen, m, hm, h => by
    rw [List.foldl_cons, List.append_cons]
    apply foldl_min_spec lt irrefl trans vs
    · by_cases hv : lt v m = true
      · rw [if_pos hv]; exact List.mem_append_right _ List.mem_cons_self
      · rw [if_neg hv]; exact List.mem_append_left _ hm
    · intro y hy
      by_cases hv : lt v m = true
      · rw [if_pos hv]
        rcases List.mem_append.1 hy with hy | hy
        · -- `y < v < m` would contradict the invariant
          exact Bool.eq_false_iff.2 fun hyv => Bool.eq_false_iff.1 (h y hy) (trans y v m hyv hv)
        · rw [List.mem_singleton.1 hy]; exact irrefl v
      · rw [if_neg hv]
        rcases List.mem_append.1 hy with hy | hy
        · exact h y hy
        · rw [List.mem_singleton.1 hy]; exact Bool.eq_false_iff.2 hv

/-- Min: panics exactly on no arguments; otherwise returns an argument that no argument is smaller than -/
theorem min_spec {α : Type} (lt : α → α → Bool)
    (irrefl : ∀ a, lt a a = false) (trans : ∀ a b c, lt a b = true → lt b c = true → lt a c = true)
    (l : List α) :
    (l = [] → Model.Math.min lt l = .error pCustom) ∧
    (l ≠ [] → ∃ r, Model.Math.min lt l = .ok r ∧ r ∈ l ∧ ∀ y ∈ l, lt y r = false) := by
  refine ⟨fun h => h ▸ rfl, fun h => ?_⟩
  match l, h with
  | x :: rest, _ =>
    have e : Model.Math.min lt (x :: rest) = .ok (rest.foldl (fun m v => if lt v m then v else m) x) := by
      cases rest <;> rfl
    exact ⟨_, e, foldl_min_spec lt irrefl trans rest [x] x List.mem_cons_self
      fun y hy => List.mem_singleton.1 hy ▸ irrefl x⟩

theorem max_eq_min_flip {α : Type} (lt : α → α → Bool) (l : List α) :
    Model.Math.max lt l = Model.Math.min (fun a b => lt b a) l := by
  match l with
  | [] => rfl
  | [x] => rfl
  | x :: v :: vs => rfl

/-- Max: returns an argument that is smaller than no argument -/
theorem max_spec {α : Type} (lt : α → α → Bool)
    (irrefl : ∀ a, lt a a = false) (trans : ∀ a b c, lt a b = true → lt b c = true → lt a c = true)
    (l : List α) :
    (l = [] → Model.Math.max lt l = .error pCustom) ∧
    (l ≠ [] → ∃ r, Model.Math.max lt l = .ok r ∧ r ∈ l ∧ ∀ y ∈ l, lt r y = false) := by
  rw [max_eq_min_flip]
  exact min_spec (fun a b => lt b a) irrefl (fun a b c h1 h2 => trans c b a h2 h1) l

theorem lt_irrefl (sg : Bool) {w : Nat} (a : BitVec w) : lt sg a a = false := by
  rw [lt_iff]; exact decide_eq_false (Int.lt_irrefl _)

theorem lt_trans (sg : Bool) {w : Nat} (a b c : BitVec w) (h1 : lt sg a b = true) (h2 : lt sg b c = true) :
    lt sg a c = true := by
  rw [lt_iff, decide_eq_true_eq] at *
  exact Int.lt_trans h1 h2

theorem lt_eq_false_iff (sg : Bool) {w : Nat} (a b : BitVec w) : lt sg a b = false ↔ toInt sg b ≤ toInt sg a := by
  rw [lt_iff, decide_eq_false_iff_not, Int.not_lt]

theorem coal_spec {α : Type} [DecidableEq α] (z : α) (l : List α) :
    Model.Math.coal z l = (l.find? (fun v => decide (v ≠ z))).getD z := by
  induction l with
  | nil => rfl
  | cons v vs ih =>
    rw [Model.Math.coal, List.find?_cons]
    by_cases h : v ≠ z
    · rw [if_pos h, decide_eq_true h]; rfl
    · rw [if_neg h, decide_eq_false h, ih]

end TypVerif.Lemmas.Math
