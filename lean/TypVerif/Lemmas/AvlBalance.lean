import TypVerif.Lemmas.AvlBasic
/-
C02: `rebalance` restores the AVL invariant and never dereferences nil; `add`, `remove`, `popLeftMost` preserve the
invariant and change the height by at most one.
-/
namespace TypVerif.Lemmas.Avl
open TypVerif.Model.Avl TypVerif.Model.Avl.Node TypVerif.Spec.Avl

variable {α : Type}

theorem height_ge (t : Node α) : height t ≥ -1 := by
  cases t with
  | nil => simp [height]
  | node l v h r => simp only [height]; have := height_ge l; omega

@[simp] theorem height_nil : height (nil : Node α) = -1 := rfl
theorem height_node (l : Node α) v h r : height (node l v h r) = 1 + max (height l) (height r) := rfl
@[simp] theorem height_mk (l : Node α) v r : height (mk l v r) = 1 + max (height l) (height r) := rfl
@[simp] theorem height_leaf (v : α) : height (leaf v) = 0 := by simp [leaf, height]

theorem hgt_eq_height {t : Node α} (h : AVL t) : hgt t = height t := by
  cases t with
  | nil => rfl
  | node l v c r => simp only [AVL] at h; simp only [hgt, height]; exact h.2.2.1

theorem calcHeight_eq (l r : Node α) (hl : hgt l ≥ -1) (hr : hgt r ≥ -1) :
    calcHeight l r = 1 + max (hgt l) (hgt r) := by
  cases l <;> cases r <;> simp only [calcHeight, hgt] at * <;> omega

theorem calcHeight_avl {l r : Node α} (hl : AVL l) (hr : AVL r) :
    calcHeight l r = 1 + max (height l) (height r) := by
  have h1 := hgt_eq_height hl
  have h2 := hgt_eq_height hr
  have := height_ge l
  have := height_ge r
  rw [calcHeight_eq l r (by omega) (by omega), h1, h2]

theorem avl_mk {l r : Node α} (v : α) (hl : AVL l) (hr : AVL r)
    (h1 : height l - height r ≤ 1) (h2 : height r - height l ≤ 1) : AVL (mk l v r) := by
  unfold mk; simp only [AVL]
  exact ⟨hl, hr, calcHeight_avl hl hr, h1, h2⟩

theorem avl_leaf (v : α) : AVL (leaf v) := by
  simp [leaf, AVL, height]

theorem refresh_avl {t : Node α} (h : AVL t) : refresh t = t := by
  cases t with
  | nil => rfl
  | node l v c r =>
    simp only [AVL] at h
    simp only [refresh, mk]
    rw [calcHeight_avl h.1 h.2.1, h.2.2.1]

theorem avl_node_iff (l : Node α) v h r : AVL (node l v h r) ↔
    (AVL l ∧ AVL r ∧ h = 1 + max (height l) (height r) ∧ height l - height r ≤ 1 ∧ height r - height l ≤ 1) := by
  simp only [AVL]

/-- the linear-time checker used by the C02 judge decides `AVL` and computes the height -/
theorem avlHeight?_iff (t : Node α) (k : Int) : avlHeight? t = some k ↔ AVL t ∧ height t = k := by
  induction t generalizing k with
  | nil => simp [avlHeight?, AVL, height]
  | node l v h r ihl ihr =>
    simp only [avlHeight?, AVL, height]
    cases hl : avlHeight? l with
    | none => exact ⟨fun hx => (nomatch hx), fun hx => nomatch hl.symm.trans ((ihl _).mpr ⟨hx.1.1, rfl⟩)⟩
    | some a =>
      cases hr : avlHeight? r with
      | none => exact ⟨fun hx => (nomatch hx), fun hx => nomatch hr.symm.trans ((ihr _).mpr ⟨hx.1.2.1, rfl⟩)⟩
      | some b =>
        obtain ⟨al, rfl⟩ := (ihl a).mp hl
        obtain ⟨ar, rfl⟩ := (ihr b).mp hr
        simp only
        split
        · rename_i hc
          exact ⟨fun hx => ⟨⟨al, ar, hc⟩, hc.1.symm.trans (Option.some.inj hx)⟩, fun hx => congrArg some (hc.1.trans hx.2)⟩
        · rename_i hc
          exact ⟨fun hx => (nomatch hx), fun hx => absurd hx.1.2.2 hc⟩

section
variable {l r ll lr rl rr a b c d : Node α} {v lv rv x y z : α} {h lh rh k : Int}

/-! ### `rebalance`, branch by branch

On a cell with AVL children the cached heights are the true ones, so the true heights decide the branch.
`rebalanceE` has the same guards and is treated alongside: the branch taken never dereferences nil.  The `refresh`
calls of the rotations are the identity on AVL subtrees (`refresh_avl`). -/

theorem balance_left (hl : AVL l) (hr : AVL r) (c : height l - height r > 1) :
    ¬ balance (node l v h r) = 1 ∧ balance (node l v h r) = -1 := by
  have e : balance (node l v h r) = -1 := if_pos (by rw [hgt_eq_height hl, hgt_eq_height hr]; exact c)
  exact ⟨by rw [e]; decide, e⟩

theorem balance_right (hl : AVL l) (hr : AVL r) (c : height r - height l > 1) : balance (node l v h r) = 1 :=
  (if_neg (by rw [hgt_eq_height hl, hgt_eq_height hr]; omega)).trans
    (if_pos (by rw [hgt_eq_height hl, hgt_eq_height hr]; exact c))

theorem balance_zero (hl : AVL l) (hr : AVL r) (h1 : height l - height r ≤ 1) (h2 : height r - height l ≤ 1) :
    balance (node l v h r) = 0 :=
  (if_neg (by rw [hgt_eq_height hl, hgt_eq_height hr]; omega)).trans
    (if_neg (by rw [hgt_eq_height hl, hgt_eq_height hr]; omega))

theorem rebalance_balanced (hl : AVL l) (hr : AVL r) (h1 : height l - height r ≤ 1) (h2 : height r - height l ≤ 1) :
    rebalanceE (node l v h r) = .ok (node l v h r) ∧ rebalance (node l v h r) = node l v h r := by
  have e := balance_zero (v := v) (h := h) hl hr h1 h2
  have n1 : ¬ balance (node l v h r) = 1 := by rw [e]; decide
  have n2 : ¬ balance (node l v h r) = -1 := by rw [e]; decide
  exact ⟨(if_neg n1).trans (if_neg n2), (if_neg n1).trans (if_neg n2)⟩

theorem avl_mk_ge (v : α) (hl : AVL l) (hr : AVL r) (h1 : height r ≤ height l) (h2 : height l - height r ≤ 1) :
    AVL (mk l v r) ∧ height (mk l v r) = 1 + height l :=
  ⟨avl_mk v hl hr h2 (by omega), by rw [height_mk, Int.max_eq_left h1]⟩

theorem avl_mk_le (v : α) (hl : AVL l) (hr : AVL r) (h1 : height l ≤ height r) (h2 : height r - height l ≤ 1) :
    AVL (mk l v r) ∧ height (mk l v r) = 1 + height r :=
  ⟨avl_mk v hl hr (by omega) h2, by rw [height_mk, Int.max_eq_right h1]⟩

/-- `rebalance` on the cell `n` whose children `l`, `r` are two levels apart: no nil dereference, and the result is an
AVL tree as high as the higher child or one higher -/
def Rotated (n l r : Node α) : Prop :=
  rebalanceE n = .ok (rebalance n) ∧ (height l - height r ≤ 2 → height r - height l ≤ 2 → AVL (rebalance n) ∧
    (height (rebalance n) = max (height l) (height r) ∨ height (rebalance n) = 1 + max (height l) (height r)))

theorem rotated_right (hl : AVL (node ll lv lh lr)) (hr : AVL r)
    (c1 : height (node ll lv lh lr) - height r > 1) (c2 : height lr ≤ height ll) :
    Rotated (node (node ll lv lh lr) v h r) (node ll lv lh lr) r := by
  have ⟨n1, e⟩ := balance_left (v := v) (h := h) hl hr c1
  have g : ¬ (!isNil (node ll lv lh lr) && decide (hgt lr > hgt ll)) = true := by
    rw [hgt_eq_height hl.1, hgt_eq_height hl.2.1]; simpa [isNil] using c2
  have eR : rebalance (node (node ll lv lh lr) v h r) = mk ll lv (mk (refresh lr) v r) :=
    (if_neg n1).trans ((if_pos e).trans (if_neg g))
  refine ⟨((if_neg n1).trans ((if_pos e).trans (if_neg g))).trans (congrArg Except.ok eR.symm), fun hd _ => ?_⟩
  obtain ⟨all, alr, -, b1, -⟩ := hl
  rw [eR, refresh_avl alr, Int.max_eq_left (by omega)]
  rw [height_node, Int.max_eq_left c2] at c1 hd ⊢
  have ⟨A, e⟩ := avl_mk_ge v alr hr (by omega) (by omega)
  have ⟨B, e'⟩ := avl_mk_le lv all A (by omega) (by omega)
  exact ⟨B, by omega⟩

theorem rotated_left (hl : AVL l) (hr : AVL (node rl rv rh rr))
    (c1 : height (node rl rv rh rr) - height l > 1) (c2 : height rl ≤ height rr) :
    Rotated (node l v h (node rl rv rh rr)) l (node rl rv rh rr) := by
  have e := balance_right (v := v) (h := h) hl hr c1
  have g : ¬ (!isNil (node rl rv rh rr) && decide (hgt rl > hgt rr)) = true := by
    rw [hgt_eq_height hr.1, hgt_eq_height hr.2.1]; simpa [isNil] using c2
  have eR : rebalance (node l v h (node rl rv rh rr)) = mk (mk l v (refresh rl)) rv rr :=
    (if_pos e).trans (if_neg g)
  refine ⟨((if_pos e).trans (if_neg g)).trans (congrArg Except.ok eR.symm), fun _ hd => ?_⟩
  obtain ⟨arl, arr, -, -, b2⟩ := hr
  rw [eR, refresh_avl arl, Int.max_eq_right (by omega)]
  rw [height_node, Int.max_eq_right c2] at c1 hd ⊢
  have ⟨A, e⟩ := avl_mk_le v hl arl (by omega) (by omega)
  have ⟨B, e'⟩ := avl_mk_ge rv A arr (by omega) (by omega)
  exact ⟨B, by omega⟩

/-- a double rotation hangs the two halves `b`, `c` of the inner grandchild under the outer subtrees `a`, `d` -/
theorem avl_rotateDouble (ha : AVL a) (hb : AVL b) (hc : AVL c) (hd : AVL d)
    (h1 : height d = height a) (h2 : 1 + max (height b) (height c) = 1 + height a)
    (h3 : height b - height c ≤ 1) (h4 : height c - height b ≤ 1) :
    AVL (mk (mk a x b) y (mk c z d)) ∧ height (mk (mk a x b) y (mk c z d)) = 2 + height a := by
  have ⟨A, e⟩ := avl_mk_ge x ha hb (by omega) (by omega)
  have ⟨B, e'⟩ := avl_mk_le z hc hd (by omega) (by omega)
  have ⟨C, e''⟩ := avl_mk_ge y A B (by omega) (by omega)
  exact ⟨C, by omega⟩

theorem rotated_rightLeft (hl : AVL (node ll lv lh (node a x k b))) (hr : AVL r)
    (c1 : height (node ll lv lh (node a x k b)) - height r > 1) (c2 : height ll < height (node a x k b)) :
    Rotated (node (node ll lv lh (node a x k b)) v h r) (node ll lv lh (node a x k b)) r := by
  have ⟨n1, e⟩ := balance_left (v := v) (h := h) hl hr c1
  have g : (!isNil (node ll lv lh (node a x k b)) && decide (hgt (node a x k b) > hgt ll)) = true := by
    rw [hgt_eq_height hl.1, hgt_eq_height hl.2.1]; simpa [isNil] using c2
  have eR : rebalance (node (node ll lv lh (node a x k b)) v h r) =
      mk (mk ll lv (refresh a)) x (mk (refresh b) v r) := (if_neg n1).trans ((if_pos e).trans (if_pos g))
  refine ⟨((if_neg n1).trans ((if_pos e).trans (if_pos g))).trans (congrArg Except.ok eR.symm), fun hd _ => ?_⟩
  obtain ⟨all, ⟨aa, ab, -, b3, b4⟩, -, -, b2⟩ := hl
  rw [eR, refresh_avl aa, refresh_avl ab, height_node ll, Int.max_eq_right (Int.le_of_lt c2)] at *
  rw [Int.max_eq_left (by omega)]
  have ⟨A, e⟩ := avl_rotateDouble (x := lv) (y := x) (z := v) all aa ab hr (by omega)
    (show height (node a x k b) = 1 + height ll by omega) b3 b4
  exact ⟨A, Or.inl (by omega)⟩

theorem rotated_leftRight (hl : AVL l) (hr : AVL (node (node a x k b) rv rh rr))
    (c1 : height (node (node a x k b) rv rh rr) - height l > 1) (c2 : height rr < height (node a x k b)) :
    Rotated (node l v h (node (node a x k b) rv rh rr)) l (node (node a x k b) rv rh rr) := by
  have e := balance_right (v := v) (h := h) hl hr c1
  have g : (!isNil (node (node a x k b) rv rh rr) && decide (hgt (node a x k b) > hgt rr)) = true := by
    rw [hgt_eq_height hr.1, hgt_eq_height hr.2.1]; simpa [isNil] using c2
  have eR : rebalance (node l v h (node (node a x k b) rv rh rr)) =
      mk (mk l v (refresh a)) x (mk (refresh b) rv rr) := (if_pos e).trans (if_pos g)
  refine ⟨((if_pos e).trans (if_pos g)).trans (congrArg Except.ok eR.symm), fun _ hd => ?_⟩
  obtain ⟨⟨aa, ab, -, b3, b4⟩, arr, -, b1, -⟩ := hr
  rw [eR, refresh_avl aa, refresh_avl ab, height_node _ rv, Int.max_eq_left (Int.le_of_lt c2)] at *
  rw [Int.max_eq_right (by omega)]
  have ⟨A, e⟩ := avl_rotateDouble (x := v) (y := x) (z := rv) hl aa ab arr (by omega)
    (show height (node a x k b) = 1 + height l by omega) b3 b4
  exact ⟨A, Or.inl (by omega)⟩

/-- a cell with AVL children that is out of balance is rotated: the heavy child, and for a double rotation its inner
child, are cells because they are higher than a sibling -/
theorem rotated (v : α) (h : Int) (hl : AVL l) (hr : AVL r)
    (hb : ¬ (height l - height r ≤ 1 ∧ height r - height l ≤ 1)) : Rotated (node l v h r) l r := by
  by_cases c1 : height l - height r > 1
  · cases l with
    | nil => rw [height_nil] at c1; have := height_ge r; omega
    | node ll lv lh lr =>
      by_cases c2 : height lr ≤ height ll
      · exact rotated_right hl hr c1 c2
      · cases lr with
        | nil => rw [height_nil] at c2; have := height_ge ll; omega
        | node a x k b => exact rotated_rightLeft hl hr c1 (Int.not_le.mp c2)
  · have c3 : height r - height l > 1 := by omega
    cases r with
    | nil => rw [height_nil] at c3; have := height_ge l; omega
    | node rl rv rh rr =>
      by_cases c2 : height rl ≤ height rr
      · exact rotated_left hl hr c3 c2
      · cases rl with
        | nil => rw [height_nil] at c2; have := height_ge rr; omega
        | node a x k b => exact rotated_leftRight hl hr c3 (Int.not_le.mp c2)

/-- The heart of C02: `rebalance` applied to a cell whose subtrees are AVL and whose heights differ by at most 2
yields an AVL tree, of height `1 + max` when nothing had to be done and `max` or `1 + max` after a rotation. -/
theorem rebalance_spec (l : Node α) (v : α) (r : Node α) (hl : AVL l) (hr : AVL r)
    (hd1 : height l - height r ≤ 2) (hd2 : height r - height l ≤ 2) :
    AVL (rebalance (mk l v r)) ∧
    (height l - height r ≤ 1 → height r - height l ≤ 1 →
      height (rebalance (mk l v r)) = 1 + max (height l) (height r)) ∧
    (height (rebalance (mk l v r)) = max (height l) (height r) ∨
      height (rebalance (mk l v r)) = 1 + max (height l) (height r)) := by
  by_cases hb : height l - height r ≤ 1 ∧ height r - height l ≤ 1
  · rw [mk, (rebalance_balanced hl hr hb.1 hb.2).2]
    exact ⟨avl_mk v hl hr hb.1 hb.2, fun _ _ => rfl, Or.inr rfl⟩
  · have ⟨A, C⟩ := (rotated v (calcHeight l r) hl hr hb).2 hd1 hd2
    exact ⟨A, fun h1 h2 => absurd ⟨h1, h2⟩ hb, C⟩

/-- `rebalance` never dereferences a nil pointer on cells whose subtrees have correct cached heights. -/
theorem rebalanceE_eq (l : Node α) (v : α) (h : Int) (r : Node α) (hl : AVL l) (hr : AVL r) :
    rebalanceE (node l v h r) = .ok (rebalance (node l v h r)) := by
  by_cases hb : height l - height r ≤ 1 ∧ height r - height l ≤ 1
  · have ⟨e1, e2⟩ := rebalance_balanced (v := v) (h := h) hl hr hb.1 hb.2
    rw [e1, e2]
  · exact (rotated v h hl hr hb).1

/-- the cell above an insertion (`d = 1`) or a deletion (`d = -1`): `p`, `q` are the children's heights before; `h` says
that the operation went into one child (left disjunct: the left one), whose height stayed or moved by `d` -/
theorem rebalance_changed {p q d : Int} (hd : d = 1 ∨ d = -1) (hl : AVL l) (hr : AVL r) (b1 : p - q ≤ 1)
    (b2 : q - p ≤ 1)
    (h : (height l = p ∨ height l = p + d) ∧ height r = q ∨ height l = p ∧ (height r = q ∨ height r = q + d)) :
    AVL (rebalance (mk l v r)) ∧ (height (rebalance (mk l v r)) = 1 + max p q ∨
      height (rebalance (mk l v r)) = 1 + max p q + d) := by
  rcases hd with rfl | rfl
  all_goals
    have ⟨A, B, C⟩ := rebalance_spec l v r hl hr (by omega) (by omega)
    refine ⟨A, ?_⟩
    rcases h with ⟨e1 | e1, e2⟩ | ⟨e1, e2 | e2⟩ <;> rw [e1, e2] at B C
    · exact Or.inl (B b1 b2)
    · omega
    · exact Or.inl (B b1 b2)
    · omega

end

/-- C02.add_avl -/
theorem add_avl (cmp : α → α → Int) (x : α) (t : Node α) (ht : AVL t) :
    AVL (add cmp x t) ∧ (height (add cmp x t) = height t ∨ height (add cmp x t) = height t + 1) := by
  induction t with
  | nil => exact ⟨avl_leaf x, Or.inr rfl⟩
  | node l v h r ihl ihr =>
    have ⟨al, ar, _, b1, b2⟩ := ht
    unfold add
    split
    · exact rebalance_changed (Or.inl rfl) (ihl al).1 ar b1 b2 (Or.inl ⟨(ihl al).2, rfl⟩)
    · exact rebalance_changed (Or.inl rfl) al (ihr ar).1 b1 b2 (Or.inr ⟨rfl, (ihr ar).2⟩)

private theorem one_add_sub_one (m : Int) : 1 + m - 1 = m := by omega

/-- C02.popLeftMost_avl -/
theorem popLeftMost_avl (l : Node α) (v : α) (r : Node α) (hl : AVL l) (hr : AVL r)
    (b1 : height l - height r ≤ 1) (b2 : height r - height l ≤ 1) :
    AVL (popLeftMost l v r).1 ∧
    (height (popLeftMost l v r).1 = 1 + max (height l) (height r) ∨
     height (popLeftMost l v r).1 = max (height l) (height r)) := by
  induction l generalizing v r with
  | nil =>
    rw [height_nil, Int.max_eq_right (height_ge r)]
    exact ⟨hr, Or.inr rfl⟩
  | node ll lv lh lr ihl _ =>
    have ⟨all, alr, _, c1, c2⟩ := hl
    have ⟨A, H⟩ := ihl lv lr all alr c1 c2
    have := rebalance_changed (v := v) (Or.inr rfl) A hr b1 b2
      (Or.inl ⟨H.imp_right (·.trans (one_add_sub_one _).symm), rfl⟩)
    rwa [← Int.sub_eq_add_neg, one_add_sub_one] at this

/-- C02.remove_avl -/
theorem remove_avl [DecidableEq α] (cmp : α → α → Int) (x : α) (t : Node α) (ht : AVL t) :
    AVL (remove cmp x t).1 ∧
    (height (remove cmp x t).1 = height t ∨ height (remove cmp x t).1 = height t - 1) := by
  induction t using search_ind cmp x with
  | nil => exact ⟨trivial, Or.inl rfl⟩
  | found l h r =>
    have ⟨al, ar, _, b1, b2⟩ := ht
    cases l with
    | nil =>
      rw [remove_found_nil_left, height_node, height_nil, Int.max_eq_right (height_ge r), one_add_sub_one]
      exact ⟨ar, Or.inr rfl⟩
    | node ll lv lh lr =>
      cases r with
      | nil =>
        rw [remove_found_nil_right, height_node _ x, height_nil, Int.max_eq_left (height_ge _), one_add_sub_one]
        exact ⟨al, Or.inr rfl⟩
      | node rl rv rh rr =>
        rw [remove_found_node]
        have ⟨A, H⟩ := popLeftMost_avl rl rv rr ar.1 ar.2.1 ar.2.2.2.1 ar.2.2.2.2
        exact rebalance_changed (Or.inr rfl) al A b1 b2 (Or.inr ⟨rfl, H.imp_right (·.trans (one_add_sub_one _).symm)⟩)
  | left l v h r e gl ih =>
    have ⟨al, ar, _, b1, b2⟩ := ht
    rw [remove_left e gl]
    split
    · exact rebalance_changed (Or.inr rfl) (ih al).1 ar b1 b2 (Or.inl ⟨(ih al).2, rfl⟩)
    · exact ⟨ht, Or.inl rfl⟩
  | right l v h r e gl gr ih =>
    have ⟨al, ar, _, b1, b2⟩ := ht
    rw [remove_right e gl gr]
    split
    · exact rebalance_changed (Or.inr rfl) al (ih ar).1 b1 b2 (Or.inr ⟨rfl, (ih ar).2⟩)
    · exact ⟨ht, Or.inl rfl⟩
  | stop l v h r e gl gr => rw [remove_stop e gl gr]; exact ⟨ht, Or.inl rfl⟩

end TypVerif.Lemmas.Avl
