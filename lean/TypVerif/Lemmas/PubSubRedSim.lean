import TypVerif.Lemmas.PubSubRedLag
/-
C10, completeness of the judge's reduction: which steps of the model are steps of `succJ`, and the step-level simulation
of the model by the judge's reduced system up to pending lag steps (`sim_step`, `sim_exec`, `red_complete`).
-/
namespace TypVerif.Lemmas.PubSubRed
open TypVerif TypVerif.Conc TypVerif.Model.PubSub TypVerif.Drv.C10

def RdShape (j z : State) (i : Nat) : Prop :=
  ∃ o it o' it', j.tasks[i]? = some (Task.asyncStart o it) ∧ z.tasks[i]? = some (Task.asyncSend o' it' false)

/-- the test `succJ` performs -/
def rdTest (j z : State) (i : Nat) : Bool :=
  match j.tasks[i]?, z.tasks[i]? with
  | some (.asyncStart _ _), some (.asyncSend _ _ false) => true
  | _, _ => false

theorem rdTest_iff (j z : State) (i : Nat) : rdTest j z i = true ↔ RdShape j z i := by
  unfold rdTest RdShape
  constructor
  · intro h
    split at h
    · rename_i o it o' it' h1 h2
      exact ⟨o, it, o', it', h1, h2⟩
    · cases h
  · rintro ⟨o, it, o', it', h1, h2⟩
    rw [h1, h2]

theorem succJ_eq (cfg : Cfg) (s : State) : succJ cfg s = (succ cfg s).flatMap (fun p =>
    match p.1 with
    | some _ => [p]
    | none =>
      match (List.range s.tasks.length).find? (rdTest s p.2) with
      | none => [p]
      | some i => (taskSteps cfg p.2 i).filter (fun q => q.1.isNone)) := rfl

theorem succJ_visible (cfg : Cfg) {j z : State} {e : Event} (h : (some e, z) ∈ succ cfg j) : (some e, z) ∈ succJ cfg j := by
  rw [succJ_eq]
  exact List.mem_flatMap.2 ⟨_, h, List.mem_singleton.2 rfl⟩

theorem succJ_plain (cfg : Cfg) {j z : State} {l : Option Event} (h : (l, z) ∈ succ cfg j)
    (hn : l = none → ∀ i, i < j.tasks.length → ¬ RdShape j z i) : (l, z) ∈ succJ cfg j := by
  cases l with
  | some e => exact succJ_visible cfg h
  | none =>
    rw [succJ_eq]
    refine List.mem_flatMap.2 ⟨_, h, ?_⟩
    have : (List.range j.tasks.length).find? (rdTest j z) = none := by
      rw [List.find?_eq_none]
      intro i hi
      have := hn rfl i (List.mem_range.1 hi)
      rw [← rdTest_iff] at this
      simpa using this
    simp only [this]
    exact List.mem_singleton.2 rfl

theorem succJ_merged (cfg : Cfg) {j m t : State} {k : Nat} (h : (none, m) ∈ succ cfg j) (hk : RdShape j m k)
    (huniq : ∀ i, i < j.tasks.length → RdShape j m i → i = k) (ht : (none, t) ∈ taskSteps cfg m k) : (none, t) ∈ succJ cfg j := by
  rw [succJ_eq]
  refine List.mem_flatMap.2 ⟨_, h, ?_⟩
  have hklt : k < j.tasks.length := by
    obtain ⟨o, it, _, _, h1, _⟩ := hk
    exact PubSubStep.lt_length_of_getElem? h1
  cases hf : (List.range j.tasks.length).find? (rdTest j m) with
  | none =>
    rw [List.find?_eq_none] at hf
    have := hf k (List.mem_range.2 hklt)
    rw [(rdTest_iff j m k).2 hk] at this
    exact absurd rfl this
  | some i =>
    have h1 := List.find?_some hf
    have h2 := List.mem_range.1 (List.mem_of_find?_eq_some hf)
    have : i = k := huniq i h2 ((rdTest_iff j m i).1 h1)
    subst this
    exact List.mem_filter.2 ⟨ht, rfl⟩

theorem ann_step (cfg : Cfg) {s s' : State} {k : Nat} {tk t1 : Task} {o : Nat} {l : Option Event} (hk : s.tasks[k]? = some tk)
    (ha : annOf tk = some (o, t1)) (ho : o < s.objs.length) (h : (l, s') ∈ taskSteps cfg s k) :
    l = none ∧ LagStep s k (.ann o tk t1) s' := by
  unfold taskSteps at h
  rw [hk] at h
  have : (l, s') = (none, lagT o RW.announce k t1 s) := by
    rcases annOf_cases ha with ⟨c', cap, rfl, rfl⟩ | ⟨u, c', rfl, rfl⟩ | ⟨u, rfl, rfl⟩ <;>
      exact List.mem_singleton.1 h
  injection this with e1 e2
  exact ⟨e1, ⟨ha, ho, hk, trivial, e2⟩⟩

theorem asyncStart_step (cfg : Cfg) {s s' : State} {k : Nat} {o : Nat} {it : Item} {l : Option Event}
    (hk : s.tasks[k]? = some (.asyncStart o it)) (ho : o < s.objs.length) (h : (l, s') ∈ taskSteps cfg s k) :
    l = none ∧ (LagStep s k (.rd o it) s' ∨ s'.tasks[k]? = some .done) := by
  have hklt : k < s.tasks.length := PubSubStep.lt_length_of_getElem? hk
  unfold taskSteps at h
  rw [hk] at h
  simp only [stepTask, stepAsyncStart] at h
  split at h
  · cases h
  · rename_i hc
    split at h
    · rename_i hm
      have := List.mem_singleton.1 h
      injection this with e1 e2
      refine ⟨e1, Or.inl ⟨trivial, ho, hk, ⟨(by simpa using hc : (s.obj o).rw.canRLock = true), hm⟩, e2⟩⟩
    · have := List.mem_singleton.1 h
      injection this with e1 e2
      refine ⟨e1, Or.inr ?_⟩
      rw [e2]
      show (s.tasks.set k .done)[k]? = _
      rw [List.getElem?_set_self hklt]

theorem asyncSend_step_internal (cfg : Cfg) {s s' : State} {k : Nat} {o : Nat} {it : Item} {l : Option Event}
    (hk : s.tasks[k]? = some (.asyncSend o it false)) (h : (l, s') ∈ taskSteps cfg s k) : l = none := by
  obtain ⟨t, ht, hst⟩ := PubSubStep.mem_taskSteps h
  cases hk.symm.trans ht
  unfold stepTask stepAsyncSend at hst
  rcases PubSubStep.stepSend_cases hst with ⟨hcb, _⟩ | ⟨_, hl, _⟩ | ⟨_, hl, _⟩ | ⟨_, hl, _⟩
  · cases hcb
  all_goals exact hl

theorem waiter_step_canLock (cfg : Cfg) {s s' : State} {k : Nat} {t1 : Task} {o : Nat} {l : Option Event}
    (hk : s.tasks[k]? = some t1) (hw : waitsOn t1 = some o) (h : (l, s') ∈ taskSteps cfg s k) :
    (s.obj o).rw.readers = 0 := by
  obtain ⟨t, ht, hst⟩ := PubSubStep.mem_taskSteps h
  cases hk.symm.trans ht
  exact PubSubStep.readers_of_canLock (taskStep_waiter_canLock (PubSubStep.taskStep_of_mem hst) hw)

theorem waitsOn_of_annOf {o : Nat} {t t1 : Task} (h : annOf t = some (o, t1)) : waitsOn t1 = some o := by
  rcases annOf_cases h with ⟨c', cap, rfl, rfl⟩ | ⟨u, c', rfl, rfl⟩ | ⟨u, rfl, rfl⟩ <;> rfl

end TypVerif.Lemmas.PubSubRed

/-
The step-level simulation.  The judge's reduced system `sysJ` (successor function `succJ`)
follows the model through the relation "the model state is the judge's state plus some lag steps" (`Lag`): read locks of `sendAsync`
goroutines that the judge will take later, together with the send, and announcements of writers that the judge will make later.
-/
namespace TypVerif.Lemmas.PubSubRed
open TypVerif TypVerif.Conc TypVerif.Model.PubSub TypVerif.Drv.C10

@[reducible] def sysJ (cfg : Cfg) : Conc.Sys where
  State := State
  Event := Event
  init := {}
  succ := succJ cfg

theorem lagStep_exit {x y : State} {g : Nat} {κ : LK} (h : LagStep x g κ y) :
    LagStep { x with exited := true } g κ { y with exited := true } := by
  refine ⟨h.wf, h.inr, h.task, h.q, ?_⟩
  rw [h.eq]; rfl

theorem lag_exit {gs : List (Nat × LK)} {j s : State} (h : Lag gs j s) : Lag gs { j with exited := true } { s with exited := true } := by
  induction h with
  | nil x => exact Lag.nil _
  | cons h1 _ ih => exact Lag.cons (lagStep_exit h1) ih

theorem lag_wf {gs : List (Nat × LK)} {j s : State} (h : Lag gs j s) {g : Nat} {κ : LK} (hm : (g, κ) ∈ gs) : κ.wf := by
  induction h with
  | nil x => cases hm
  | cons h1 _ ih =>
    rcases List.mem_cons.1 hm with e | hm'
    · injection e with e1 e2
      subst e2
      exact h1.wf
    · exact ih hm'

theorem lagObj_of_annOf {t : Task} {o : Nat} {t1 : Task} (h : annOf t = some (o, t1)) : lagObj t = some o := by
  rcases annOf_cases h with ⟨c', cap, rfl, rfl⟩ | ⟨u, c', rfl, rfl⟩ | ⟨u, rfl, rfl⟩ <;> rfl

theorem not_rdShape_of_tasks_eq {j z : State} {i : Nat} (h : z.tasks[i]? = j.tasks[i]?) : ¬ RdShape j z i := by
  rintro ⟨o, it, o', it', h1, h2⟩
  rw [h, h1] at h2
  cases h2

/-- a step of the judge's reduced system, with its justification: a step of the model in which no `sendAsync` goroutine takes its
read lock, or such a step of goroutine `k` (and of nobody else) followed by an internal step of `k` -/
inductive JStep (cfg : Cfg) (j : State) : Option Event → State → Prop
  | plain {l : Option Event} {z : State} : (l, z) ∈ succ cfg j → (l = none → ∀ i, i < j.tasks.length → ¬ RdShape j z i) → JStep cfg j l z
  | merged {m t : State} {k : Nat} : (none, m) ∈ succ cfg j → RdShape j m k → (∀ i, i < j.tasks.length → RdShape j m i → i = k) →
      (none, t) ∈ taskSteps cfg m k → JStep cfg j none t

theorem JStep.mem {cfg : Cfg} {j z : State} {l : Option Event} (h : JStep cfg j l z) : (l, z) ∈ succJ cfg j := by
  cases h with
  | plain h1 h2 => exact succJ_plain cfg h1 h2
  | merged h1 h2 h3 h4 => exact succJ_merged cfg h1 h2 h3 h4

inductive JExec (cfg : Cfg) : State → List (Option Event) → State → Prop
  | nil (s : State) : JExec cfg s [] s
  | cons {s s' s'' : State} {l : Option Event} {ls : List (Option Event)} : JStep cfg s l s' → JExec cfg s' ls s'' → JExec cfg s (l :: ls) s''

theorem JExec.exec {cfg : Cfg} {j j' : State} {ls : List (Option Event)} (h : JExec cfg j ls j') : Exec (sysJ cfg) j ls j' := by
  induction h with
  | nil s => exact Exec.nil _
  | cons h1 _ ih => exact Exec.cons (sys := sysJ cfg) h1.mem ih

theorem JExec.append {cfg : Cfg} {a b c : State} {l1 l2 : List (Option Event)} (h1 : JExec cfg a l1 b) (h2 : JExec cfg b l2 c) :
    JExec cfg a (l1 ++ l2) c := by
  induction h1 with
  | nil s => exact h2
  | cons h _ ih => exact JExec.cons h (ih h2)

theorem JExec.single (cfg : Cfg) {j z : State} {l : Option Event} (h : JStep cfg j l z) : JExec cfg j [l] z :=
  JExec.cons h (JExec.nil _)

/-- a step of the model from `src` in which the task (if it is one) does not go from `asyncStart` to `asyncSend` is a step of the judge -/
theorem JStep.of_source {cfg : Cfg} {j z : State} {l : Option Event} {src : Option Nat} (hex : j.exited = false)
    (hp : j.panicked = none) (h : (l, z) ∈ stepsOf cfg j src) (hn : ∀ k, src = some k → ¬ RdShape j z k) : JStep cfg j l z := by
  refine JStep.plain ((mem_succ_iff cfg j hex hp _).2 ⟨src, h⟩) (fun hl i hi => ?_)
  subst hl
  cases src with
  | none => exact not_rdShape_of_tasks_eq (by rw [Lemmas.ConcAcceptC10.stepsOf_none_tasks cfg h])
  | some k =>
    by_cases e : i = k
    · subst e; exact hn _ rfl
    · exact not_rdShape_of_tasks_eq (PubSubLog.taskSteps_task_ne h hi e)

/-- STEP-LEVEL SIMULATION: if the model state `s` is the judge's state `j` plus the lag steps `gs`, every step of the model from `s`
is matched by at most two steps of `succJ` from `j` with the same visible label, ending in a state that is again related -/
theorem sim_step (cfg : Cfg) (hG : ∀ x, Reachable (sys cfg) x → Good x) {gs : List (Nat × LK)} {j s s' : State} {l : Option Event}
    (hlag : Lag gs j s) (hrj : Reachable (sys cfg) j) (hrs : Reachable (sys cfg) s) (hstep : (l, s') ∈ succ cfg s) :
    ∃ ls j' gs', JExec cfg j ls j' ∧ visible ls = visible [l] ∧ ls.length ≤ 2 ∧ Lag gs' j' s' := by
  have hfl := lag_flags hlag
  have hex : s.exited = false := by
    cases h : s.exited with
    | false => rfl
    | true => unfold succ at hstep; rw [if_pos h] at hstep; cases hstep
  have hexj : j.exited = false := by rw [← hfl.1]; exact hex
  cases hp : s.panicked with
  | some m =>
    -- panicked: the only successor is the exit, on both sides
    have hpj : j.panicked = some m := by rw [← hfl.2]; exact hp
    have e : ∀ x : State, x.exited = false → x.panicked = some m →
        succ cfg x = [(some (.exit ("panic:" ++ m)), { x with exited := true })] := by
      intro x h1 h2
      unfold succ
      rw [if_neg (by simp [h1])]
      simp only [h2]
    rw [e s hex hp] at hstep
    have := List.mem_singleton.1 hstep
    injection this with e1 e2
    subst e1; subst e2
    refine ⟨[_], { j with exited := true }, gs, JExec.single cfg (JStep.plain ?_ (fun h => by cases h)), rfl, Nat.le_succ 1, lag_exit hlag⟩
    rw [e j hexj hpj]
    exact List.mem_singleton.2 rfl
  | none =>
    have hpj : j.panicked = none := by rw [← hfl.2]; exact hp
    obtain ⟨src, hsrc⟩ := (mem_succ_iff cfg s hex hp _).1 hstep
    cases src with
    | none =>
      -- environment, receiver or exit: moved left over all lag steps, the judge does the same step
      obtain ⟨j', hj', hlag'⟩ := lag_move cfg hG hlag hrj hexj hpj none (fun k hk => by cases hk) hsrc
      exact ⟨[l], j', gs, JExec.single cfg (JStep.of_source hexj hpj hj' (fun k hk => by cases hk)), rfl, Nat.le_succ 1, hlag'⟩
    | some k =>
      simp only [stepsOf] at hsrc
      by_cases hmem : k ∈ gs.map Prod.fst
      · obtain ⟨⟨k', κ⟩, hm, hk'⟩ := List.mem_map.1 hmem
        simp only at hk'
        subst hk'
        have htk := lag_task_mem hlag hm
        -- task `k` is lagging: its lag step is moved to the front (`lag_front`; side condition `hside`), the step itself over the
        -- rest; the judge does the merged step (`rd`) or the announcement and then the step (`ann`)
        have hside : ¬ κ.annOK ∨ (s.obj κ.obj).rw.readers = 0 := by
          cases κ with
          | rd o it => exact Or.inl (fun h => h)
          | ann o t t1 =>
            have hwf : annOf t = some (o, t1) := lag_wf hlag hm
            exact Or.inr (waiter_step_canLock cfg htk (waitsOn_of_annOf hwf) hsrc)
        obtain ⟨x, gs', hl, hlag', hn⟩ := lag_front hlag hm hside
        have hrx : Reachable (sys cfg) x := Reachable.step hrj (lagStep_succ cfg hl hexj hpj)
        have hflx := lagStep_flags hl
        have hxk := lagStep_task_self hl
        obtain ⟨x', hx', hlag''⟩ := lag_move cfg hG hlag' hrx (hflx.1.trans hexj) (hflx.2.trans hpj) (some k')
          (fun k1 hk1 => by
            injection hk1 with hk1; subst hk1
            refine ⟨hn, fun tk htk' => ?_⟩
            rw [hxk] at htk'; injection htk' with htk'; rw [← htk']; exact κ.annOf_tgt hl.wf) hsrc
        simp only [stepsOf] at hx'
        have hjx : (none, x) ∈ succ cfg j := lagStep_succ cfg hl hexj hpj
        cases κ with
        | rd o it =>
          have hl0 : l = none := asyncSend_step_internal cfg htk hsrc
          subst hl0
          refine ⟨[none], x', gs', JExec.single cfg (JStep.merged hjx ⟨o, it, o, it, hl.task, hxk⟩ ?_ hx'), rfl, Nat.le_succ 1, hlag''⟩
          intro i _ hi
          by_cases e : i = k'
          · exact e
          · exact absurd hi (not_rdShape_of_tasks_eq (lagStep_task_ne hl e))
        | ann o t t1 =>
          have hwf : annOf t = some (o, t1) := hl.wf
          have h1 : JStep cfg j none x := JStep.of_source hexj hpj (src := some k') (lagStep_taskSteps cfg hl)
            (fun k1 hk1 ⟨_, _, _, _, h1, _⟩ => by cases hk1; cases hl.task.symm.trans h1; cases hwf)
          have h2 : JStep cfg x l x' := JStep.of_source (hflx.1.trans hexj) (hflx.2.trans hpj) (src := some k') hx'
            (fun k1 hk1 ⟨_, _, _, _, h1, _⟩ => by
              cases hk1
              have h3 := waitsOn_of_annOf hwf
              cases hxk.symm.trans h1
              cases h3)
          refine ⟨[none, l], x', gs', JExec.cons h1 (JExec.single cfg h2), ?_, Nat.le_refl 2, hlag''⟩
          cases l <;> rfl
      -- task `k` is not lagging: an announcement or a read lock of a `sendAsync` goroutine joins the lag steps and the judge
      -- stutters; any other step is moved left over all lag steps and done by the judge
      · have hjk : s.tasks[k]? = j.tasks[k]? := lag_task_ne hlag hmem
        obtain ⟨tk, htk, _⟩ := PubSubStep.mem_taskSteps hsrc
        cases ha : annOf tk with
        | some p =>
          obtain ⟨o, t1⟩ := p
          have ho : o < s.objs.length := (hG s hrs).inr k tk o htk (lagObj_of_annOf ha)
          obtain ⟨hl0, hl⟩ := ann_step cfg htk ha ho hsrc
          subst hl0
          exact ⟨[], j, _, JExec.nil _, rfl, Nat.zero_le 2, lag_snoc hlag hl⟩
        | none =>
          have hcase : (l = none ∧ ∃ κ, LagStep s k κ s') ∨ ¬ RdShape s s' k := by
            by_cases hq : ∃ o it, tk = .asyncStart o it
            · obtain ⟨o, it, rfl⟩ := hq
              have ho : o < s.objs.length := (hG s hrs).inr k _ o htk rfl
              obtain ⟨hl0, h | h⟩ := asyncStart_step cfg htk ho hsrc
              · exact Or.inl ⟨hl0, _, h⟩
              · refine Or.inr ?_
                rintro ⟨_, _, _, _, _, h2⟩
                rw [h] at h2; cases h2
            · refine Or.inr ?_
              rintro ⟨o, it, _, _, h1, _⟩
              rw [htk] at h1
              injection h1 with h1
              exact hq ⟨o, it, h1⟩
          rcases hcase with ⟨hl0, κ, hl⟩ | hnr
          · subst hl0
            exact ⟨[], j, _, JExec.nil _, rfl, Nat.zero_le 2, lag_snoc hlag hl⟩
          · obtain ⟨j', hj', hlag'⟩ := lag_move cfg hG hlag hrj hexj hpj (some k)
              (fun k1 hk1 => by
                injection hk1 with hk1; subst hk1
                refine ⟨hmem, fun tk' htk' => ?_⟩
                rw [← hjk, htk] at htk'; injection htk' with htk'; rw [← htk']; exact ha) hsrc
            refine ⟨[l], j', gs, JExec.single cfg (JStep.of_source hexj hpj hj' ?_), rfl, Nat.le_succ 1, hlag'⟩
            rintro k1 hk1 ⟨o, it, o', it', h1, h2⟩
            cases hk1
            exact hnr ⟨o, it, o', it', by rw [hjk]; exact h1, by rw [lag_task_ne hlag' hmem]; exact h2⟩


theorem JStep.reachable {cfg : Cfg} {j z : State} {l : Option Event} (h : JStep cfg j l z) (hr : Reachable (sys cfg) j) :
    Reachable (sys cfg) z := by
  obtain ⟨ls, hex, _⟩ := Lemmas.ConcAcceptC10.succJ_exec cfg j z l h.mem
  exact Exec.reachable hex hr

theorem JExec.reachable {cfg : Cfg} {j z : State} {ls : List (Option Event)} (h : JExec cfg j ls z) (hr : Reachable (sys cfg) j) :
    Reachable (sys cfg) z := by
  induction h with
  | nil s => exact hr
  | cons h1 _ ih => exact ih (h1.reachable hr)

theorem sim_exec (cfg : Cfg) (hG : ∀ x, Reachable (sys cfg) x → Good x) {s s2 : State} {ls : List (Option Event)}
    (hex : Exec (sys cfg) s ls s2) : ∀ {gs : List (Nat × LK)} {j : State}, Lag gs j s → Reachable (sys cfg) j → Reachable (sys cfg) s →
    ∃ ls' j2 gs2, JExec cfg j ls' j2 ∧ visible ls' = visible ls ∧ Lag gs2 j2 s2 ∧ Reachable (sys cfg) j2 := by
  refine Exec.rel_induct (sys' := sys cfg) (fun (s : State) (ls : List (Option Event)) (s2 : State) =>
    ∀ {gs : List (Nat × LK)} {j : State}, Lag gs j s → Reachable (sys cfg) j → Reachable (sys cfg) s →
      ∃ ls' j2 gs2, JExec cfg j ls' j2 ∧ visible ls' = visible ls ∧ Lag gs2 j2 s2 ∧ Reachable (sys cfg) j2) ?_ ?_ hex
  · intro s gs j hl hrj _; exact ⟨[], j, gs, JExec.nil _, rfl, hl, hrj⟩
  · intro s l s1 ls s2 hm ih gs j hl hrj hrs
    obtain ⟨ls1, j1, gs1, he1, hv1, _, hl1⟩ := sim_step cfg hG hl hrj hrs hm
    have hrj1 := he1.reachable hrj
    obtain ⟨ls2, j2, gs2, he2, hv2, hl2, hrj2⟩ := ih hl1 hrj1 (Reachable.step hrs hm)
    refine ⟨ls1 ++ ls2, j2, gs2, he1.append he2, ?_, hl2, hrj2⟩
    rw [visible_append, hv1, hv2]
    cases l <;> rfl

/-- THE REDUCTION LOSES NO TRACE: every execution of the model from the initial state is matched by an execution of the judge's
reduced system with the same visible trace, ending in a state from which the model's state is reached by lag steps only -/
theorem red_complete (cfg : Cfg) (hG : ∀ x, Reachable (sys cfg) x → Good x) {s : State} {ls : List (Option Event)}
    (hex : Exec (sys cfg) (sys cfg).init ls s) :
    ∃ ls' j gs, JExec cfg {} ls' j ∧ visible ls' = visible ls ∧ Lag gs j s :=
  let ⟨ls', j, gs, h1, h2, h3, _⟩ := sim_exec cfg hG hex (Lag.nil _) Reachable.init Reachable.init
  ⟨ls', j, gs, h1, h2, h3⟩

end TypVerif.Lemmas.PubSubRed
