import TypVerif.Lemmas.SetsOps
/-
Every program over set handles (any mixture of the two implementations, self-aliased calls included)
keeps every set well-formed: in particular every concurrent set it builds satisfies `SeqInv`.
-/
namespace TypVerif.Lemmas.Sets
open TypVerif.Model.Sets
open TypVerif

set_option linter.unusedSectionVars false

variable {α : Type} [DecidableEq α]

def WorldOK (w : World α) : Prop := ∀ s ∈ w, SetOK s

theorem WorldOK.set {w : World α} (h : WorldOK w) (i : Nat) (a : AnySet α) (ha : SetOK a) : WorldOK (w.set i a) := by
  intro s hs
  rcases List.mem_or_eq_of_mem_set hs with h1 | h1
  · exact h s h1
  · rw [h1]; exact ha

theorem WorldOK.push {w : World α} (h : WorldOK w) (a : AnySet α) (ha : SetOK a) : WorldOK (w ++ [a]) := by
  intro s hs
  rcases List.mem_append.mp hs with h1 | h1
  · exact h s h1
  · simp at h1; rw [h1]; exact ha

theorem WorldOK.get {w : World α} (h : WorldOK w) {i : Nat} {a : AnySet α} (ha : w[i]? = some a) : SetOK a :=
  h a (List.mem_of_getElem? ha)

theorem WorldOK.un {w : World α} (h : WorldOK w) (i : Nat) (f : AnySet α → AnySet α)
    (hf : ∀ a, SetOK a → SetOK (f a)) : WorldOK (w.un i f) := by
  unfold World.un
  cases hi : w[i]? with
  | none => exact h
  | some a => exact h.set i (f a) (hf a (h.get hi))

theorem WorldOK.two {w : World α} (h : WorldOK w) {i j : Nat} {t : Two α} (ht : w.two i j = some t) : TwoOK t := by
  unfold World.two at ht
  cases hi : w[i]? with
  | none => rw [hi] at ht; cases ht
  | some a =>
    cases hj : w[j]? with
    | none => rw [hi, hj] at ht; cases ht
    | some b =>
      rw [hi, hj] at ht
      injection ht with ht
      subst ht
      refine ⟨h.get hi, ?_⟩
      intro b' hb'
      by_cases hij : i = j
      · simp [hij] at hb'
      · simp [hij] at hb'; subst hb'; exact h.get hj

theorem WorldOK.putTwo {w : World α} (h : WorldOK w) (i j : Nat) {t : Two α} (ht : TwoOK t) : WorldOK (w.putTwo i j t) := by
  unfold World.putTwo
  cases hta : t.arg with
  | none => exact h.set i t.recv ht.1
  | some b => exact (h.set i t.recv ht.1).set j b (ht.2 b hta)

/-- a binary method on handles `i`, `j` that writes both operands back -/
theorem worldOK_bin {w : World α} (h : WorldOK w) (i j : Nat) (f : Two α → Two α)
    (hf : ∀ t, TwoOK t → TwoOK (f t)) :
    WorldOK (match w.two i j with | some t => w.putTwo i j (f t) | none => w) := by
  cases ht : w.two i j with
  | none => exact h
  | some t => exact h.putTwo i j (hf t (h.two ht))

/-- a binary method that also returns a new set, which gets the next handle -/
theorem worldOK_binNew {w : World α} (h : WorldOK w) (i j : Nat) (f : Two α → Two α × AnySet α)
    (hf : ∀ t, TwoOK t → TwoOK (f t).1 ∧ SetOK (f t).2) :
    WorldOK (match w.two i j with | some t => w.putTwo i j (f t).1 ++ [(f t).2] | none => w) := by
  cases ht : w.two i j with
  | none => exact h
  | some t => exact (h.putTwo i j (hf t (h.two ht)).1).push _ (hf t (h.two ht)).2

theorem wstep_ok (w : World α) (h : WorldOK w) (op : WOp α) : WorldOK (wstep w op) := by
  cases op with
  | new kind => exact h.push _ (emptyOfKind_ok kind).1
  | fromSlice kind l => exact h.push _ (fromSlice_ok kind l).1
  | add i v => exact h.un i _ (fun a ha => (add_ok a ha v).1)
  | remove i v => exact h.un i _ (fun a ha => (remove_ok a ha v).1)
  | has i v => exact h.un i _ (fun a ha => (has_ok a ha v).1)
  | range i n => exact h.un i _ (fun a ha => (rangeN_ok a ha n).1)
  | len i => exact h.un i _ (fun a ha => (len_ok a ha).1)
  | clone i =>
    show WorldOK (match w[i]? with | some a => (w.set i (clone a).1) ++ [(clone a).2] | none => w)
    cases hi : w[i]? with
    | none => exact h
    | some a =>
      obtain ⟨c1, c2, _, _⟩ := clone_ok a (h.get hi)
      exact (h.set i _ c1).push _ c2
  | addSet i j => exact worldOK_bin h i j (addSet · |>.1) fun t ht => (addSet_ok t ht).1
  | removeSet i j => exact worldOK_bin h i j (removeSet · |>.1) fun t ht => (removeSet_ok t ht).1
  | product i j => exact worldOK_bin h i j (product · |>.1) fun t ht => (product_ok t ht).1
  | union i j => exact worldOK_binNew h i j union fun t ht => ⟨(union_ok t ht).ok, (union_ok t ht).res⟩
  | intersect i j => exact worldOK_binNew h i j intersect fun t ht => ⟨(intersect_ok t ht).ok, (intersect_ok t ht).res⟩
  | setDiff i j => exact worldOK_binNew h i j setDiff fun t ht => ⟨(setDiff_ok t ht).ok, (setDiff_ok t ht).res⟩
  | symDiff i j => exact worldOK_binNew h i j symDiff fun t ht => ⟨(symDiff_ok t ht).ok, (symDiff_ok t ht).res⟩

theorem wrun_ok (ops : List (WOp α)) : WorldOK (wrun ops) := by
  unfold wrun
  have : ∀ (w : World α), WorldOK w → WorldOK (ops.foldl wstep w) := by
    induction ops with
    | nil => intro w h; exact h
    | cons op rest ih => intro w h; exact ih _ (wstep_ok w h op)
  exact this [] (fun s hs => by cases hs)

end TypVerif.Lemmas.Sets
