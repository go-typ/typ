import TypVerif.Model.PubSub
/-
The transition system of the PubSub model as a relation: `Step cfg s s'` has one constructor per kind of
successor (`step_of_mem_succ`), `TaskStep` one per kind of goroutine step (`taskStep_of_mem`), each with the
guard under which the model takes it and the successor state written out.  The relations contain the successor
function, they are not equal to it: `Step.exit` has no guard, and the labels and the `exited` / `panicked` tests of
`succ` are left out.  That is what the invariants need, which are proved by cases on these relations.  What needs the
other direction goes back to the model's functions: enabledness (`PubSubLiveBlocked`), the judge's reduction
(`PubSubRed*`).  The one exact statement here is `PubSubRed.mem_succ_iff` at the end:
`succ` (not exited, not panicked) is the union of the step lists of its sources.  `ChanStep` (`taskStep_chans`) is what a step of a
goroutine can do to the channel table, for the invariants that speak of the table alone.  After `mem_succ_iff`: the lock a task stands at
(`readsOn`, `waitsOn`, `annOf`, `woOf`) and what a step does to an object as its lock sees it (`taskStep_lockView`).
-/
namespace TypVerif.Lemmas.PubSubStep
open TypVerif TypVerif.Model.PubSub

-- for taking apart membership in the step lists of the model: guards are `if`s, results are singletons
theorem mem_ite {α} {c : Prop} [Decidable c] {x : α} {a b : List α} (h : x ∈ if c then a else b) :
    (c ∧ x ∈ a) ∨ (¬ c ∧ x ∈ b) := by
  by_cases hc : c
  · rw [if_pos hc] at h; exact Or.inl ⟨hc, h⟩
  · rw [if_neg hc] at h; exact Or.inr ⟨hc, h⟩

theorem mem_ite_nil {α} {c : Prop} [Decidable c] {x : α} {b : List α} (h : x ∈ if c then [] else b) : ¬ c ∧ x ∈ b := by
  rcases mem_ite h with ⟨_, h⟩ | h
  · cases h
  · exact h

theorem lt_length_of_getElem? {α} {l : List α} {i : Nat} {t : α} (h : l[i]? = some t) : i < l.length :=
  (List.getElem?_eq_some_iff.mp h).1

theorem mem_pair_single {α β} {l l' : α} {m X : β} (h : (l, m) ∈ [(l', X)]) : m = X := by
  cases List.mem_singleton.1 h
  rfl

theorem some_of_ite_none {α} {c : Prop} [Decidable c] {x y : α} (h : (if c then none else some x) = some y) : ¬ c ∧ x = y := by
  by_cases hc : c
  · rw [if_pos hc] at h; cases h
  · rw [if_neg hc] at h; exact ⟨hc, Option.some.inj h⟩

theorem some_of_ite_some {α} {c : Prop} [Decidable c] {x y : α} (h : (if c then some x else none) = some y) : c ∧ x = y := by
  by_cases hc : c
  · rw [if_pos hc] at h; exact ⟨hc, Option.some.inj h⟩
  · rw [if_neg hc] at h; cases h

theorem obj_setObj (s : State) (o o' : Nat) (x : ObjSt) :
    (s.setObj o x).obj o' = if o = o' ∧ o < s.objs.length then x else s.obj o' := by
  simp only [State.obj, State.setObj, List.getD_eq_getElem?_getD, List.getElem?_set]
  by_cases h : o = o'
  · subst h
    by_cases hl : o < s.objs.length
    · simp [hl]
    · simp [hl]
  · simp [h]

theorem obj_setObj_self (s : State) {o : Nat} (x : ObjSt) (h : o < s.objs.length) : (s.setObj o x).obj o = x := by
  rw [obj_setObj, if_pos ⟨rfl, h⟩]

theorem obj_setObj_ne (s : State) (o o' : Nat) (x : ObjSt) (h : o' ≠ o) : (s.setObj o x).obj o' = s.obj o' := by
  rw [obj_setObj, if_neg (fun hh => h hh.1.symm)]

theorem setObj_of_length_le (s : State) {o : Nat} (x : ObjSt) (h : s.objs.length ≤ o) : s.setObj o x = s := by
  simp [State.setObj, List.set_eq_of_length_le h]

theorem obj_of_objs_set {s s' : State} {o : Nat} {A : ObjSt} (hobjs : s'.objs = s.objs.set o A) (o' : Nat) :
    s'.obj o' = if o = o' ∧ o < s.objs.length then A else s.obj o' := by
  have : s'.obj o' = (s.setObj o A).obj o' := by simp only [State.obj, State.setObj, hobjs]
  rw [this, obj_setObj]

theorem obj_of_objs_append {s s' : State} {A : ObjSt} (hobjs : s'.objs = s.objs ++ [A]) (o : Nat) (h : o < s.objs.length) :
    s'.obj o = s.obj o := by
  simp only [State.obj, hobjs, List.getD_eq_getElem?_getD, List.getElem?_append_left h]

theorem obj_congr {s s' : State} (h : s'.objs = s.objs) (o : Nat) : s'.obj o = s.obj o := by
  simp [State.obj, h]

/-- the lock operations write the `rw` field of one object: every `subs` stays -/
theorem subs_setObj_rw (s : State) (o o' : Nat) (r : RW) :
    ((s.setObj o { s.obj o with rw := r }).obj o').subs = (s.obj o').subs := by
  rw [obj_setObj]
  split
  · next h => rw [h.1]
  · rfl

theorem subs_rlock (s : State) (o o' : Nat) : ((s.rlock o).obj o').subs = (s.obj o').subs := subs_setObj_rw s o o' _
theorem subs_runlock (s : State) (o o' : Nat) : ((s.runlock o).obj o').subs = (s.obj o').subs := subs_setObj_rw s o o' _
theorem subs_announce (s : State) (o o' : Nat) : ((s.announce o).obj o').subs = (s.obj o').subs := subs_setObj_rw s o o' _

/-- a writer's critical section starts only with no reader inside -/
theorem readers_of_canLock {rw : RW} (h : rw.canLock = true) : rw.readers = 0 := by
  simp only [RW.canLock, Bool.and_eq_true, beq_iff_eq] at h
  exact h.1

/-- the two ways a value enters a channel: into the buffer, or straight to the waiting receiver -/
inductive SendUpd (v : Int) : (ChanSt → ChanSt) → Prop
  | buffer : SendUpd v (fun ch => { ch with buf := ch.buf ++ [v] })
  | handOff : SendUpd v (fun ch => { ch with holding := some v, allow := ch.allow - 1 })

theorem getChan_some_closed {cs : List ChanSt} {c : Chan} {ch : ChanSt}
    (h : getChan cs c = some ch) (hc : ch.closed = true) : isClosed cs c = true := by
  simp only [getChan] at h
  have hm := List.mem_of_find?_eq_some h
  have hp := List.find?_some h
  simp only [isClosed, List.any_eq_true]
  exact ⟨ch, hm, by simp [hc]; simpa using hp⟩

theorem sendTo_spec (s : State) (it : Item) :
    match sendTo s it with
    | .sent s1 => ∃ f, SendUpd it.ev f ∧
        s1 = { s with chans := updChan s.chans it.c f, delivered := s.delivered ++ [(it.pid, it.idx, it.c)] }
    | .panic => isClosed s.chans it.c = true
    | .blocked => ∀ ch, getChan s.chans it.c = some ch → ch.closed = false ∧ ch.cap ≤ ch.buf.length ∧
        (ch.cap == 0 && ch.allow > 0 && ch.holding.isNone && !ch.rdone) = false := by
  unfold sendTo
  generalize hg : getChan s.chans it.c = g
  cases g with
  | none => exact fun _ h => nomatch h
  | some ch =>
    dsimp only
    by_cases hc : ch.closed = true
    · rw [if_pos hc]; exact getChan_some_closed hg hc
    · rw [if_neg hc]
      by_cases hb : ch.buf.length < ch.cap
      · rw [if_pos hb]; exact ⟨_, .buffer, rfl⟩
      · rw [if_neg hb]
        by_cases hr : (ch.cap == 0 && ch.allow > 0 && ch.holding.isNone && !ch.rdone) = true
        · rw [if_pos hr]; exact ⟨_, .handOff, rfl⟩
        · rw [if_neg hr]
          exact fun _ h => Option.some.inj h ▸ ⟨eq_false_of_ne_true hc, Nat.le_of_not_lt hb, eq_false_of_ne_true hr⟩

theorem sendTo_eq_sent {s s1 : State} {it : Item} (h : sendTo s it = .sent s1) :
    ∃ f, SendUpd it.ev f ∧
      s1 = { s with chans := updChan s.chans it.c f, delivered := s.delivered ++ [(it.pid, it.idx, it.c)] } := by
  have := sendTo_spec s it
  rw [h] at this
  exact this

theorem sendTo_eq_blocked {s : State} {it : Item} {ch : ChanSt} (h : sendTo s it = .blocked)
    (hg : getChan s.chans it.c = some ch) : ch.closed = false ∧ ch.cap ≤ ch.buf.length ∧
      (ch.cap == 0 && ch.allow > 0 && ch.holding.isNone && !ch.rdone) = false := by
  have := sendTo_spec s it
  rw [h] at this
  exact this ch hg

theorem sendTo_eq_panic {s : State} {it : Item} (h : sendTo s it = .panic) : isClosed s.chans it.c = true := by
  have := sendTo_spec s it
  rw [h] at this
  exact this

/-- the outcomes of `send`: the pending callback runs; the value is handed off; the channel is closed; the timer fires -/
theorem stepSend_cases {cfg : Cfg} {s : State} {it : Item} {cb : Bool} {fin setCb : State → State}
    {l : Option Event} {s' : State} (h : (l, s') ∈ stepSend cfg s it cb fin setCb) :
    (cb = true ∧ l = some (.tmo it.ev) ∧ s' = fin s) ∨
    (cb = false ∧ l = none ∧ ∃ s1, sendTo s it = .sent s1 ∧ s' = fin s1) ∨
    (cb = false ∧ l = none ∧ sendTo s it = .panic ∧ s' = s.panic "send-on-closed") ∨
    (cb = false ∧ l = none ∧ cfg.timeout > 0 ∧ s' = setCb (s.logTimeout it)) := by
  unfold stepSend at h
  cases cb with
  | true =>
    simp only [if_true, List.mem_singleton, Prod.mk.injEq] at h
    exact Or.inl ⟨rfl, h.1, h.2⟩
  | false =>
    simp only [Bool.false_eq_true, if_false, List.mem_append] at h
    rcases h with h | h
    · cases hst : sendTo s it with
      | blocked => simp [hst] at h
      | panic =>
        simp only [hst, List.mem_singleton, Prod.mk.injEq] at h
        exact Or.inr (Or.inr (Or.inl ⟨rfl, h.1, rfl, h.2⟩))
      | sent s1 =>
        simp only [hst, List.mem_singleton, Prod.mk.injEq] at h
        exact Or.inr (Or.inl ⟨rfl, h.1, s1, rfl, h.2⟩)
    · split at h
      · rename_i htm
        simp only [List.mem_singleton, Prod.mk.injEq] at h
        exact Or.inr (Or.inr (Or.inr ⟨rfl, h.1, htm, h.2⟩))
      · cases h

/-- steps that change nothing but the task -/
inductive Plain (s : State) : Task → Task → Prop
  | pubRet (p) : Plain s (.pubRet p) .done
  | subRet (c) : Plain s (.subRet c) .done
  | unsubRet (u code) : Plain s (.unsubRet u code) .done
  | uaRet (u) : Plain s (.uaRet u) .done
  | unsubNil (u o) : Plain s (.unsubStart u o none) (.unsubRet u .notinit)
  | asyncDrop (o it) : (s.obj o).rw.canRLock = true → it.c ∉ (s.obj o).subs → Plain s (.asyncStart o it) .done
  | pubNone (p o v evs) : (s.obj o).rw.canRLock = true → v.isSync = true → mkItems p evs (s.obj o).subs = [] →
      Plain s (.pubStart p o v evs) (.pubRet p)

/-- steps that change the task and the state `r` of the RWMutex of object `o`, nothing else -/
inductive RwStep (s : State) (o : Nat) : RW → Task → Task → Prop
  | pubSync (p v evs) : (s.obj o).rw.canRLock = true → v.isSync = true → mkItems p evs (s.obj o).subs ≠ [] →
      RwStep s o (s.obj o).rw.rlock (.pubStart p o v evs) (.syncLoop p o (mkItems p evs (s.obj o).subs) false)
  | asyncGo (it) : (s.obj o).rw.canRLock = true → it.c ∈ (s.obj o).subs →
      RwStep s o (s.obj o).rw.rlock (.asyncStart o it) (.asyncSend o it false)
  | waitRet (p w) : s.wgs.getD w 0 = 0 → RwStep s o (s.obj o).rw.runlock (.waitWg p o w) (.pubRet p)
  | subLock (c cap) : RwStep s o (s.obj o).rw.announce (.subStart o c cap) (.subWait o c cap)
  | unsubLock (u c) : RwStep s o (s.obj o).rw.announce (.unsubStart u o (some c)) (.unsubWait u o c)
  | uaLock (u) : RwStep s o (s.obj o).rw.announce (.uaStart u o) (.uaWait u o)
  | unsubAbsent (u c) : (s.obj o).rw.canLock = true → c ∉ (s.obj o).subs →
      RwStep s o (s.obj o).rw.lockUnlock (.unsubWait u o c) (.unsubRet u .already)

/-- `Sender i t it cb fin tfin tcb`: task `t` (at position `i`) is inside `send` for item `it`, `cb` says whether its
timer has fired; `fin` is how the state goes on when the hand-off has ended, the task then being `tfin`; `tcb` is the
task with the callback pending -/
inductive Sender (i : Nat) : Task → Item → Bool → (State → State) → Task → Task → Prop
  | syncLast (p o it cb) : Sender i (.syncLoop p o [it] cb) it cb (fun s => (s.runlock o).setTask i (.pubRet p))
      (.pubRet p) (.syncLoop p o [it] true)
  | syncMore (p o it a rest cb) : Sender i (.syncLoop p o (it :: a :: rest) cb) it cb
      (fun s => s.setTask i (.syncLoop p o (a :: rest) false)) (.syncLoop p o (a :: rest) false)
      (.syncLoop p o (it :: a :: rest) true)
  | async (o it cb) : Sender i (.asyncSend o it cb) it cb (fun s => (s.runlock o).setTask i .done) .done
      (.asyncSend o it true)
  | wg (o w it cb) : Sender i (.wgSend o w it cb) it cb (fun s => (wgDone s w).setTask i .done) .done
      (.wgSend o w it true)

theorem wgDone_eq (s : State) (w : Nat) : ∃ ws p, wgDone s w = { s with wgs := ws, panicked := p } := by
  unfold wgDone
  split
  · exact ⟨_, _, rfl⟩
  · exact ⟨_, _, rfl⟩

theorem wgDone_tasks (s : State) (w : Nat) : (wgDone s w).tasks = s.tasks := by
  obtain ⟨ws, p, e⟩ := wgDone_eq s w
  rw [e]

theorem wgDone_chans (s : State) (w : Nat) : (wgDone s w).chans = s.chans := by
  obtain ⟨ws, p, e⟩ := wgDone_eq s w
  rw [e]

theorem Sender.fin_tasks {i : Nat} {t tfin tcb : Task} {it : Item} {cb : Bool} {fin : State → State}
    (h : Sender i t it cb fin tfin tcb) (x : State) : (fin x).tasks = x.tasks.set i tfin := by
  cases h with
  | wg o w it cb => exact congrArg (·.set i .done) (wgDone_tasks x w)
  | _ => rfl

theorem Sender.fin_chans {i : Nat} {t tfin tcb : Task} {it : Item} {cb : Bool} {fin : State → State}
    (h : Sender i t it cb fin tfin tcb) (x : State) : (fin x).chans = x.chans := by
  cases h with
  | wg o w it cb => exact wgDone_chans x w
  | _ => rfl

/-- `TaskStep cfg s i t s'`: the task `t` at position `i` can take a step from `s` to `s'` -/
inductive TaskStep (cfg : Cfg) (s : State) (i : Nat) : Task → State → Prop
  | plain {t t'} : Plain s t t' → TaskStep cfg s i t (s.setTask i t')
  | rw {t t'} (o r) : RwStep s o r t t' → TaskStep cfg s i t ((s.setObj o { s.obj o with rw := r }).setTask i t')
  | pubWait (p o v evs) : (s.obj o).rw.canRLock = true → v.isSync = false → v.isWait = true →
      TaskStep cfg s i (.pubStart p o v evs)
        (({ (s.rlock o) with wgs := s.wgs ++ [(mkItems p evs (s.obj o).subs).length] }.setTask i
            (.waitWg p o s.wgs.length)).spawn
          ((mkItems p evs (s.obj o).subs).map (fun it => .wgSend o s.wgs.length it false)))
  | pubAsync (p o v evs) : (s.obj o).rw.canRLock = true → v.isSync = false → v.isWait = false →
      TaskStep cfg s i (.pubStart p o v evs)
        ((s.setTask i (.pubRet p)).spawn ((mkItems p evs (s.obj o).subs).map (fun it => .asyncStart o it)))
  | sub (o c cap) : (s.obj o).rw.canLock = true → hasChan s.chans c = false →
      TaskStep cfg s i (.subWait o c cap)
        (({ s with chans := s.chans ++ [({ id := c, cap := cap } : ChanSt)] }.setObj o
          { s.obj o with subs := (s.obj o).subs ++ [c], rw := (s.obj o).rw.lockUnlock }).setTask i (.subRet c))
  | unsub (u o c) : (s.obj o).rw.canLock = true → c ∈ (s.obj o).subs → isClosed s.chans c = false →
      TaskStep cfg s i (.unsubWait u o c)
        (({ s with chans := closeChan s.chans c }.setObj o
          { s.obj o with subs := (s.obj o).subs.erase c, rw := (s.obj o).rw.lockUnlock }).setTask i (.unsubRet u .nil))
  | unsubClosed (u o c) : (s.obj o).rw.canLock = true → c ∈ (s.obj o).subs → isClosed s.chans c = true →
      TaskStep cfg s i (.unsubWait u o c) (s.panic "close-of-closed")
  | unsubAll (u o cs) : (s.obj o).rw.canLock = true → closeAll s.chans (s.obj o).subs = some cs →
      TaskStep cfg s i (.uaWait u o)
        (({ s with chans := cs }.setObj o { s.obj o with subs := [], rw := (s.obj o).rw.lockUnlock }).setTask i (.uaRet u))
  | unsubAllClosed (u o) : (s.obj o).rw.canLock = true → closeAll s.chans (s.obj o).subs = none →
      TaskStep cfg s i (.uaWait u o) (s.panic "close-of-closed")
  | withOnly (w o c) : (s.obj o).rw.canRLock = true →
      TaskStep cfg s i (.woStart w o c)
        ((s.setObj w { subs := (s.obj o).subs.filter (fun x => x == c), rw := {}, only := some c, ready := true }).setTask
          i .done)
  | sendCb {t it fin tfin tcb} : Sender i t it true fin tfin tcb → TaskStep cfg s i t (fin s)
  | sent {t it fin tfin tcb s1} : Sender i t it false fin tfin tcb → sendTo s it = .sent s1 → TaskStep cfg s i t (fin s1)
  | sendClosed {t it fin tfin tcb} : Sender i t it false fin tfin tcb → sendTo s it = .panic →
      TaskStep cfg s i t (s.panic "send-on-closed")
  | timeout {t it fin tfin tcb} : Sender i t it false fin tfin tcb → cfg.timeout > 0 →
      TaskStep cfg s i t ((s.logTimeout it).setTask i tcb)

theorem taskStep_of_send {cfg : Cfg} {s s' : State} {i : Nat} {t tfin tcb : Task} {it : Item} {cb : Bool}
    {fin : State → State} {l : Option Event} (hsnd : Sender i t it cb fin tfin tcb)
    (h : (l, s') ∈ stepSend cfg s it cb fin (fun s => s.setTask i tcb)) : TaskStep cfg s i t s' := by
  rcases stepSend_cases h with ⟨rfl, _, rfl⟩ | ⟨rfl, _, s1, hst, rfl⟩ | ⟨rfl, _, hp, rfl⟩ | ⟨rfl, _, htm, rfl⟩
  · exact .sendCb hsnd
  · exact .sent hsnd hst
  · exact .sendClosed hsnd hp
  · exact .timeout hsnd htm

theorem guard_passed {b : Bool} (h : ¬ (!b) = true) : b = true := by
  cases b
  · exact absurd rfl h
  · rfl

theorem taskStep_of_mem {cfg : Cfg} {s s' : State} {i : Nat} {t : Task} {l : Option Event}
    (h : (l, s') ∈ stepTask cfg s i t) : TaskStep cfg s i t s' := by
  -- `show … ∈ if _ then _ else _ from h` unfolds the step function of the case by definitional equality, without `simp`;
  -- `mem_pair_single h ▸` then puts the written-out successor in place of `s'`
  cases t with
  | pubStart p o v evs =>
    simp only [stepTask, stepPubStart] at h
    obtain ⟨hr, h⟩ := mem_ite_nil h
    have hr := guard_passed hr
    rcases mem_ite h with ⟨hv, h⟩ | ⟨hv, h⟩
    · split at h
      · rename_i hitems
        exact mem_pair_single h ▸ .plain (.pubNone p o v evs hr hv hitems)
      · rename_i a b hitems
        exact mem_pair_single h ▸ .rw o _ (.pubSync p v evs hr hv (hitems ▸ List.cons_ne_nil _ _))
    · have hv := eq_false_of_ne_true hv
      rcases mem_ite h with ⟨hw, h⟩ | ⟨hw, h⟩
      · exact mem_pair_single h ▸ .pubWait p o v evs hr hv hw
      · exact mem_pair_single h ▸ .pubAsync p o v evs hr hv (eq_false_of_ne_true hw)
  | syncLoop p o work cb =>
    match work, h with
    | [], h => cases h
    | [it], h => exact taskStep_of_send (.syncLast p o it cb) h
    | it :: a :: rest, h => exact taskStep_of_send (.syncMore p o it a rest cb) h
  | waitWg p o w =>
    rcases mem_ite (show (l, s') ∈ if _ then _ else _ from h) with ⟨hz, h⟩ | ⟨_, h⟩
    · exact mem_pair_single h ▸ .rw o _ (.waitRet p w (beq_iff_eq.mp hz))
    · cases h
  | pubRet p => exact mem_pair_single h ▸ .plain (.pubRet p)
  | asyncStart o it =>
    obtain ⟨hr, h⟩ := mem_ite_nil (show (l, s') ∈ if _ then _ else _ from h)
    have hr := guard_passed hr
    rcases mem_ite h with ⟨hm, h⟩ | ⟨hm, h⟩
    · exact mem_pair_single h ▸ .rw o _ (.asyncGo it hr hm)
    · exact mem_pair_single h ▸ .plain (.asyncDrop o it hr hm)
  | asyncSend o it cb => exact taskStep_of_send (.async o it cb) h
  | wgSend o w it cb => exact taskStep_of_send (.wg o w it cb) h
  | subStart o c cap => exact mem_pair_single h ▸ .rw o _ (.subLock c cap)
  | subWait o c cap =>
    obtain ⟨hg, h⟩ := mem_ite_nil (show (l, s') ∈ if _ then _ else _ from h)
    simp only [Bool.or_eq_true, not_or, Bool.not_eq_true, Bool.not_eq_false'] at hg
    exact mem_pair_single h ▸ .sub o c cap hg.1 hg.2
  | subRet c => exact mem_pair_single h ▸ .plain (.subRet c)
  | unsubStart u o c =>
    cases c with
    | none => exact mem_pair_single h ▸ .plain (.unsubNil u o)
    | some c => exact mem_pair_single h ▸ .rw o _ (.unsubLock u c)
  | unsubWait u o c =>
    obtain ⟨hk, h⟩ := mem_ite_nil (show (l, s') ∈ if _ then _ else _ from h)
    have hk := guard_passed hk
    rcases mem_ite h with ⟨hm, h⟩ | ⟨hm, h⟩
    · rcases mem_ite h with ⟨hc, h⟩ | ⟨hc, h⟩
      · exact mem_pair_single h ▸ .unsubClosed u o c hk hm hc
      · exact mem_pair_single h ▸ .unsub u o c hk hm (eq_false_of_ne_true hc)
    · exact mem_pair_single h ▸ .rw o _ (.unsubAbsent u c hk hm)
  | unsubRet u code => exact mem_pair_single h ▸ .plain (.unsubRet u code)
  | uaStart u o => exact mem_pair_single h ▸ .rw o _ (.uaLock u)
  | uaWait u o =>
    obtain ⟨hk, h⟩ := mem_ite_nil (show (l, s') ∈ if _ then _ else _ from h)
    have hk := guard_passed hk
    split at h
    · rename_i hc
      exact mem_pair_single h ▸ .unsubAllClosed u o hk hc
    · rename_i cs hc
      exact mem_pair_single h ▸ .unsubAll u o cs hk hc
  | uaRet u => exact mem_pair_single h ▸ .plain (.uaRet u)
  | woStart w o c =>
    obtain ⟨hr, h⟩ := mem_ite_nil (show (l, s') ∈ if _ then _ else _ from h)
    exact mem_pair_single h ▸ .withOnly w o c (guard_passed hr)
  | done => cases h

theorem mem_taskSteps {cfg : Cfg} {s s' : State} {i : Nat} {l : Option Event} (h : (l, s') ∈ taskSteps cfg s i) :
    ∃ t, s.tasks[i]? = some t ∧ (l, s') ∈ stepTask cfg s i t := by
  unfold taskSteps at h
  split at h
  · cases h
  · rename_i t ht
    exact ⟨t, ht, h⟩

theorem taskSteps_nil_of_ge {cfg : Cfg} {s : State} {i : Nat} (h : s.tasks.length ≤ i) : taskSteps cfg s i = [] := by
  unfold taskSteps
  rw [List.getElem?_eq_none h]

/-- what the receiver of `ch` can do to the entries with its id: stamp `recv` for the value it holds, take the next
buffered value, observe the close -/
inductive RecvUpd (ch : ChanSt) : (ChanSt → ChanSt) → Prop
  | stamp (v) : ch.rdone = false → ch.holding = some v → RecvUpd ch (fun x => { x with holding := none })
  | take (v rest) : ch.rdone = false → ch.holding = none → ch.allow ≠ 0 → ch.buf = v :: rest →
      RecvUpd ch (fun x => { x with buf := rest, holding := some v, allow := x.allow - 1 })
  | seeClose : ch.rdone = false → ch.holding = none → ch.allow ≠ 0 → ch.buf = [] → ch.closed = true →
      RecvUpd ch (fun x => { x with rdone := true })

theorem mem_recvSteps {s s' : State} {ch : ChanSt} {l : Option Event} (h : (l, s') ∈ recvSteps s ch) :
    ∃ f, RecvUpd ch f ∧ s' = { s with chans := updChan s.chans ch.id f } := by
  unfold recvSteps at h
  obtain ⟨hrd, h⟩ := mem_ite_nil h
  have hrd := eq_false_of_ne_true hrd
  split at h
  · rename_i v hv
    exact ⟨_, .stamp v hrd hv, mem_pair_single h⟩
  · rename_i hv
    obtain ⟨ha, h⟩ := mem_ite_nil h
    have ha : ch.allow ≠ 0 := fun h0 => ha (beq_iff_eq.mpr h0)
    split at h
    · rename_i v rest hb
      exact ⟨_, .take v rest hrd hv ha hb, mem_pair_single h⟩
    · rename_i hb
      rcases mem_ite h with ⟨hc, h⟩ | ⟨_, h⟩
      · exact ⟨_, .seeClose hrd hv ha hb hc, mem_pair_single h⟩
      · cases h

theorem RecvUpd.keeps {ch : ChanSt} {f : ChanSt → ChanSt} (h : RecvUpd ch f) (x : ChanSt) :
    (f x).id = x.id ∧ (f x).closed = x.closed := by
  cases h <;> exact ⟨rfl, rfl⟩

theorem SendUpd.keeps {v : Int} {f : ChanSt → ChanSt} (h : SendUpd v f) (x : ChanSt) :
    (f x).id = x.id ∧ (f x).closed = x.closed ∧ (f x).rdone = x.rdone ∧ x.allow ≤ (f x).allow + 1 := by
  cases h with
  | buffer => exact ⟨rfl, rfl, rfl, Nat.le_succ _⟩
  | handOff => exact ⟨rfl, rfl, rfl, by show x.allow ≤ x.allow - 1 + 1; omega⟩

/-- what a step of a goroutine does to the channel table: nothing; an update of the entries of one id that keeps the id and `rdone`, does not reopen and spends at most one unit of the
receiver's allowance (a send, the close of `Unsub`); the closes of `UnsubAll`; the new channel of a `Sub`, whose name is free -/
inductive ChanStep (s : State) : Task → List ChanSt → Prop
  | same {t} : ChanStep s t s.chans
  | upd {t} (c f) : (∀ x : ChanSt, (f x).id = x.id ∧ (f x).rdone = x.rdone ∧ (x.closed = true → (f x).closed = true) ∧
      x.allow ≤ (f x).allow + 1) →
      ChanStep s t (updChan s.chans c f)
  | closeAll {t l cs} : closeAll s.chans l = some cs → ChanStep s t cs
  | sub (o c cap) : hasChan s.chans c = false → ChanStep s (.subWait o c cap) (s.chans ++ [{ id := c, cap := cap }])

theorem taskStep_chans {cfg : Cfg} {s s' : State} {i : Nat} {t : Task} (h : TaskStep cfg s i t s') : ChanStep s t s'.chans := by
  cases h with
  | sub o c cap _ hnew => exact .sub o c cap hnew
  | unsub u o c => exact .upd c _ (fun _ => ⟨rfl, rfl, fun _ => rfl, Nat.le_succ _⟩)
  | unsubAll u o cs _ hc => exact .closeAll hc
  | sendCb hsnd => rw [hsnd.fin_chans]; exact .same
  | sent hsnd hst =>
    obtain ⟨f, hf, rfl⟩ := sendTo_eq_sent hst
    rw [hsnd.fin_chans]
    exact .upd _ f (fun x => ⟨(hf.keeps x).1, (hf.keeps x).2.2.1, fun hc => (hf.keeps x).2.1 ▸ hc, (hf.keeps x).2.2.2⟩)
  | _ => exact .same

/-- `EnvStep cfg s e s'`: the environment may issue the invocation `e` in `s`, which leads to `s'` -/
inductive EnvStep (cfg : Cfg) (s : State) : Event → State → Prop
  | sub (c cap) : nameTaken s c = false →
      EnvStep cfg s (.sub c cap) (s.spawn [.subStart 0 c (if cap < 0 then cfg.defBuf else cap.toNat)])
  | mkchan (c) : nameTaken s c = false →
      EnvStep cfg s (.mkchan c) { s with chans := s.chans ++ [({ id := c, cap := 0 } : ChanSt)] }
  | withonly (via c) : cfg.allowClone = true → s.validObj via = true →
      EnvStep cfg s (.withonly s.objs.length via c)
        ({ s with objs := s.objs ++ [({ only := some c, ready := false } : ObjSt)] }.spawn
          [.woStart s.objs.length via c])
  | pubinv (p via v evs) : s.pids.contains p = false → s.validObj via = true →
      EnvStep cfg s (.pubinv p via v evs) ({ s with pids := s.pids ++ [p] }.spawn [.pubStart p via v evs])
  | allow (c n) : hasChan s.chans c = true →
      EnvStep cfg s (.allow c n) { s with chans := updChan s.chans c (fun ch => { ch with allow := ch.allow + n }) }
  | unsubinv (u via c) : s.validObj via = true →
      EnvStep cfg s (.unsubinv u via c) (s.spawn [.unsubStart u via (if c < 0 then none else some c.toNat)])
  | unsuballinv (u via) : s.validObj via = true → EnvStep cfg s (.unsuballinv u via) (s.spawn [.uaStart u via])

theorem envStep_of_eq {cfg : Cfg} {s s' : State} {e : Event} (h : envStep cfg s e = some s') : EnvStep cfg s e s' := by
  cases e with
  | sub c cap =>
    obtain ⟨hn, rfl⟩ := some_of_ite_none h
    exact .sub c cap (eq_false_of_ne_true hn)
  | mkchan c =>
    obtain ⟨hn, rfl⟩ := some_of_ite_none h
    exact .mkchan c (eq_false_of_ne_true hn)
  | withonly w via c =>
    obtain ⟨hg, rfl⟩ := some_of_ite_some h
    simp only [Bool.and_eq_true, beq_iff_eq] at hg
    obtain ⟨⟨h1, rfl⟩, h3⟩ := hg
    exact .withonly via c h1 h3
  | pubinv p via v evs =>
    obtain ⟨hg, rfl⟩ := some_of_ite_none h
    simp only [Bool.or_eq_true, not_or, Bool.not_eq_true, Bool.not_eq_false'] at hg
    exact .pubinv p via v evs hg.1 hg.2
  | allow c n =>
    obtain ⟨hc, rfl⟩ := some_of_ite_some h
    exact .allow c n hc
  | unsubinv u via c =>
    obtain ⟨hv, rfl⟩ := some_of_ite_some h
    exact .unsubinv u via c hv
  | unsuballinv u via =>
    obtain ⟨hv, rfl⟩ := some_of_ite_some h
    exact .unsuballinv u via hv
  | _ => cases h

theorem mem_envSteps {cfg : Cfg} {s s' : State} {l : Option Event} :
    (l, s') ∈ envSteps cfg s ↔ ∃ e ∈ cfg.env, l = some e ∧ envStep cfg s e = some s' := by
  simp only [envSteps, List.mem_filterMap, Option.map_eq_some_iff, Prod.mk.injEq]
  exact ⟨fun ⟨e, he, _, h1, h2, h3⟩ => ⟨e, he, h2.symm, h3 ▸ h1⟩, fun ⟨e, he, h2, h1⟩ => ⟨e, he, s', h1, h2.symm, rfl⟩⟩

theorem envStep_objs {cfg : Cfg} {s s' : State} {e : Event} (h : EnvStep cfg s e s') {o : Nat} (ho : o < s.objs.length) :
    o < s'.objs.length ∧ s'.obj o = s.obj o := by
  cases h with
  | withonly =>
    exact ⟨by simp only [State.spawn, List.length_append]; omega, obj_of_objs_append (s := s) rfl o ho⟩
  | _ => exact ⟨ho, rfl⟩

inductive Work (cfg : Cfg) (s : State) : State → Prop
  | task {i t s'} : s.tasks[i]? = some t → TaskStep cfg s i t s' → Work cfg s s'
  | recv {ch f} : ch ∈ s.chans → RecvUpd ch f → Work cfg s { s with chans := updChan s.chans ch.id f }

inductive Step (cfg : Cfg) (s : State) : State → Prop
  | exit : Step cfg s { s with exited := true }
  | env {e s'} : EnvStep cfg s e s' → Step cfg s s'
  | work {s'} : Work cfg s s' → Step cfg s s'

theorem work_of_mem {cfg : Cfg} {s s' : State} {l : Option Event}
    (h : (∃ i, (l, s') ∈ taskSteps cfg s i) ∨ (∃ ch ∈ s.chans, (l, s') ∈ recvSteps s ch)) : Work cfg s s' := by
  rcases h with ⟨i, hi⟩ | ⟨ch, hm, hch⟩
  · obtain ⟨t, ht, hstep⟩ := mem_taskSteps hi
    exact .task ht (taskStep_of_mem hstep)
  · obtain ⟨f, hf, rfl⟩ := mem_recvSteps hch
    exact .recv hm hf

theorem step_of_mem_succ {cfg : Cfg} {s s' : State} {l : Option Event} (h : (l, s') ∈ succ cfg s) : Step cfg s s' := by
  unfold succ at h
  split at h
  · cases h
  · split at h
    · simp only [List.mem_singleton, Prod.mk.injEq] at h
      exact h.2 ▸ .exit
    · simp only [List.mem_append] at h
      rcases h with ((h | h) | h) | h
      · obtain ⟨e, _, _, he⟩ := mem_envSteps.1 h
        exact .env (envStep_of_eq he)
      · obtain ⟨i, _, hi⟩ := List.mem_flatMap.mp h
        exact .work (work_of_mem (Or.inl ⟨i, hi⟩))
      · obtain ⟨ch, hm, hch⟩ := List.mem_flatMap.mp h
        exact .work (work_of_mem (Or.inr ⟨ch, hm, hch⟩))
      · simp only [exitSteps, List.mem_map, Prod.mk.injEq] at h
        obtain ⟨_, _, _, rfl⟩ := h
        exact .exit

end TypVerif.Lemmas.PubSubStep

/-! ### the successor list by source of the step -/

-- in the namespace of the judge's reduction (`PubSubRed*`), the main user of what follows; `PubSubCount` and `PubSubLive` read it too
namespace TypVerif.Lemmas.PubSubRed
open TypVerif TypVerif.Model.PubSub

/-- the steps of task `k` / of the surroundings (environment, receivers, exit) -/
def stepsOf (cfg : Cfg) (x : State) : Option Nat → Steps
  | some k => taskSteps cfg x k
  | none => envSteps cfg x ++ x.chans.flatMap (recvSteps x) ++ exitSteps x

theorem mem_succ_iff (cfg : Cfg) (x : State) (hex : x.exited = false) (hp : x.panicked = none) (p : Option Event × State) :
    p ∈ succ cfg x ↔ ∃ src, p ∈ stepsOf cfg x src := by
  unfold succ
  rw [if_neg (by simp [hex])]
  split
  · rename_i m hm; rw [hp] at hm; cases hm
  · constructor
    · intro h
      rcases List.mem_append.1 h with h | h
      · rcases List.mem_append.1 h with h | h
        · rcases List.mem_append.1 h with h | h
          · exact ⟨none, List.mem_append_left _ (List.mem_append_left _ h)⟩
          · obtain ⟨k, _, hk⟩ := List.mem_flatMap.1 h
            exact ⟨some k, hk⟩
        · exact ⟨none, List.mem_append_left _ (List.mem_append_right _ h)⟩
      · exact ⟨none, List.mem_append_right _ h⟩
    · rintro ⟨src, h⟩
      cases src with
      | none =>
        rcases List.mem_append.1 h with h | h
        · rcases List.mem_append.1 h with h | h
          · exact List.mem_append_left _ (List.mem_append_left _ (List.mem_append_left _ h))
          · exact List.mem_append_left _ (List.mem_append_right _ h)
        · exact List.mem_append_right _ h
      | some k =>
        have hk : k < x.tasks.length := by
          rcases Nat.lt_or_ge k x.tasks.length with hlt | hge
          · exact hlt
          · have : taskSteps cfg x k = [] := PubSubStep.taskSteps_nil_of_ge hge
            simp only [stepsOf] at h
            rw [this] at h; cases h
        exact List.mem_append_left _ (List.mem_append_left _ (List.mem_append_right _
          (List.mem_flatMap.2 ⟨k, List.mem_range.2 hk, h⟩)))


-- the lock a task stands at: `annOf` it is about to announce `Lock()` on the object (and becomes the given task), `readsOn` it holds
-- the read lock, `waitsOn` it is inside `Lock()`, `woOf` it is about to construct the object (a `WithOnly` clone)
def annOf : Task → Option (Nat × Task)
  | .subStart o c cap => some (o, .subWait o c cap)
  | .unsubStart u o (some c) => some (o, .unsubWait u o c)
  | .uaStart u o => some (o, .uaWait u o)
  | _ => none

def readsOn : Task → Option Nat
  | .syncLoop _ o _ _ => some o
  | .waitWg _ o _ => some o
  | .asyncSend o _ _ => some o
  | _ => none

def waitsOn : Task → Option Nat
  | .subWait o _ _ => some o
  | .unsubWait _ o _ => some o
  | .uaWait _ o => some o
  | _ => none

def woOf : Task → Option Nat
  | .woStart w _ _ => some w
  | _ => none

theorem woOf_eq {t : Task} {w : Nat} (h : woOf t = some w) : ∃ o c, t = .woStart w o c := by
  cases t with
  | woStart w' o c => simp only [woOf, Option.some.injEq] at h; subst h; exact ⟨_, _, rfl⟩
  | _ => cases h

open PubSubStep (TaskStep Sender sendTo_eq_sent wgDone_eq obj_of_objs_set)

theorem taskStep_waiter_canLock {cfg : Cfg} {s s' : State} {i o : Nat} {t : Task} (h : TaskStep cfg s i t s')
    (hw : waitsOn t = some o) : (s.obj o).rw.canLock = true := by
  cases h with
  | sub _ _ _ hk | unsub _ _ _ hk | unsubClosed _ _ _ hk | unsubAll _ _ _ hk | unsubAllClosed _ _ hk => cases hw; exact hk
  | rw _ _ hr =>
    cases hr with
    | unsubAbsent _ _ hk => cases hw; exact hk
    | _ => cases hw
  | plain hp => cases hp <;> cases hw
  | sendCb hsnd | sent hsnd | sendClosed hsnd | timeout hsnd => cases hsnd <;> cases hw
  | pubWait | pubAsync | withOnly => cases hw

/-- `ob` is object `o` after a step of task `t` from `s`, as a reader's `RLock` on `o` sees it: `subs` and `canRLock` are those of `s`
(`canRLock` may change if `t` announces on `o`), or `t` is a writer that could acquire `o`, or `t` constructs `o` -/
def LockView (s : State) (t : Task) (o : Nat) (ob : ObjSt) : Prop :=
  (ob.subs = (s.obj o).subs ∧ (ob.rw.canRLock = (s.obj o).rw.canRLock ∨ (annOf t).map (·.1) = some o)) ∨
    (waitsOn t = some o ∧ (s.obj o).rw.canLock = true) ∨ woOf t = some o

section
variable {s s' : State} {t : Task}

theorem lockView_same (h : s'.objs = s.objs) (o : Nat) :
    s'.objs.length = s.objs.length ∧ LockView s t o (s'.obj o) := by
  have : s'.obj o = s.obj o := by unfold State.obj; rw [h]
  rw [h, this]; exact ⟨rfl, .inl ⟨rfl, .inl rfl⟩⟩

theorem lockView_set {o' : Nat} {A : ObjSt} (h : s'.objs = s.objs.set o' A) (o : Nat) (hA : o' = o → LockView s t o A) :
    s'.objs.length = s.objs.length ∧ LockView s t o (s'.obj o) := by
  refine ⟨by rw [h, List.length_set], ?_⟩
  rw [obj_of_objs_set h]
  split
  · next e => exact hA e.1
  · exact .inl ⟨rfl, .inl rfl⟩
end

theorem taskStep_lockView {cfg : Cfg} {s s' : State} {i : Nat} {t : Task} (h : TaskStep cfg s i t s') (o : Nat) :
    s'.objs.length = s.objs.length ∧ LockView s t o (s'.obj o) := by
  have fin : ∀ {t it cb fin tfin tcb}, Sender i t it cb fin tfin tcb → ∀ x : State, x.objs = s.objs →
      (fin x).objs.length = s.objs.length ∧ LockView s t o ((fin x).obj o) := by
    intro t it cb fin tfin tcb hsnd x hx
    have hobj : ∀ o', x.obj o' = s.obj o' := fun o' => by unfold State.obj; rw [hx]
    cases hsnd with
    | syncLast p o' | async o' =>
      exact lockView_set (A := { s.obj o' with rw := (s.obj o').rw.runlock }) (by rw [← hx, ← hobj]; rfl) o
        (fun e => by subst e; exact .inl ⟨rfl, .inl rfl⟩)
    | syncMore => exact lockView_same hx o
    | wg o' w =>
      obtain ⟨ws, p, e⟩ := wgDone_eq x w
      exact lockView_same (s' := (wgDone x w).setTask i .done) (by rw [← hx]; show (wgDone x w).objs = _; rw [e]) o
  cases h with
  | plain | pubAsync | unsubClosed | unsubAllClosed | sendClosed | timeout => exact lockView_same rfl o
  | rw o' r hr =>
    refine lockView_set rfl o (fun e => ?_)
    subst e
    cases hr with
    | pubSync | asyncGo | waitRet => exact .inl ⟨rfl, .inl rfl⟩
    | subLock | unsubLock | uaLock => exact .inl ⟨rfl, .inr rfl⟩
    | unsubAbsent _ _ hk => exact .inr (.inl ⟨rfl, hk⟩)
  | pubWait p o' =>
    exact lockView_set (A := { s.obj o' with rw := (s.obj o').rw.rlock }) rfl o (fun e => by subst e; exact .inl ⟨rfl, .inl rfl⟩)
  | sub o' _ _ hk | unsub _ o' _ hk | unsubAll _ o' _ hk =>
    exact lockView_set rfl o (fun e => by subst e; exact .inr (.inl ⟨rfl, hk⟩))
  | withOnly w => exact lockView_set rfl o (fun e => by subst e; exact .inr (.inr rfl))
  | sendCb hsnd => exact fin hsnd s rfl
  | sent hsnd hst =>
    obtain ⟨f, _, rfl⟩ := sendTo_eq_sent hst
    exact fin hsnd _ rfl

end TypVerif.Lemmas.PubSubRed
