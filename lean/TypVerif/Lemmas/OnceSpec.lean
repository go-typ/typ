import TypVerif.Lemmas.Once
import TypVerif.Spec.Once
namespace TypVerif.Lemmas.Once
open TypVerif TypVerif.Conc TypVerif.Model.Once TypVerif.Spec.Once

/-- simulation relation between the model's ghost state and the monitor -/
structure Sim (s : State) (m : Mon) : Prop where
  fres : m.fres = s.fres
  started : m.started = s.invoked
  called : ∀ t, s.pc t ≠ .idle → t ∈ m.called

theorem sim_init (n a : Nat) : Sim (init n a) Mon.init :=
  ⟨rfl, rfl, fun t h => absurd (init_pc n a t) h⟩

theorem Mon.step_fstart {m : Mon} {t : Nat} (h1 : m.started = []) (h2 : t ∈ m.called) :
    m.step (.fstart t) = .ok { m with started := [t] } := by
  simp only [Mon.step, h1, h2, ne_eq, not_true_eq_false, if_false]

theorem Mon.step_fend {m : Mon} {t : Nat} {r : List Int} (h1 : m.started = [t]) (h2 : m.fres = none) :
    m.step (.fend t r) = .ok { m with fres := some r } := by
  simp only [Mon.step, h1, h2, ne_eq, not_true_eq_false, if_false]

theorem Mon.step_ret {m : Mon} {t : Nat} {r : List Int} (h1 : t ∈ m.called) (h2 : m.fres = some r) :
    m.step (.ret t r) = .ok m := by
  simp only [Mon.step, h1, h2, not_true_eq_false, if_false, if_true]

/-- the goroutines that have left `idle` stay covered by a list that grows and contains the stepping goroutine -/
theorem Step.called {res : Nat → List Int} {s s' : State} {t : Nat} {l : Option Event} (h : Step res s t l s')
    (ht : t < s.pcs.length) {c c' : List Nat} (hc : ∀ u, s.pc u ≠ .idle → u ∈ c)
    (hsub : ∀ x, x ∈ c → x ∈ c') (htc : t ∈ c') : ∀ u, s'.pc u ≠ .idle → u ∈ c' := by
  intro u hu
  by_cases e : u = t
  · exact e ▸ htc
  · exact hsub u (hc u (h.pc_ne ht e ▸ hu))

theorem sim_step {res : Nat → List Int} {s s' : State} {l : Option Event} {m : Mon}
    (hg : Good s) (hs : Sim s m) (hmem : (l, s') ∈ succ res s) :
    match l with
    | none => Sim s' m
    | some e => ∃ m', m.step e = .ok m' ∧ Sim s' m' := by
  obtain ⟨t, ht, h⟩ := step_of_succ hmem
  have hT := hg.thread t
  unfold ThreadOk at hT
  have hc := fun c' => h.called ht (c' := c') hs.called
  have hin : ∀ {p}, s.pc t = p → p ≠ .idle → t ∈ m.called := fun hpc hp => hs.called t (hpc ▸ hp)
  have same := hc m.called (fun _ => id)
  cases h with
  | call => exact ⟨_, rfl, hs.fres, hs.started, hc _ (fun _ => List.mem_cons_of_mem _) List.mem_cons_self⟩
  | fast hpc | lock _ hpc | check hpc | assign hpc | store hpc | unlock hpc =>
    exact ⟨hs.fres, hs.started, same (hin hpc (fun e => nomatch e))⟩
  | fstart hpc =>
    rw [hpc] at hT
    have hmc := hin hpc (fun e => nomatch e)
    exact ⟨_, Mon.step_fstart (hs.started.trans hT.2.2.1) hmc, hs.fres, congrArg (t :: ·) hT.2.2.1.symm, same hmc⟩
  | fend hpc =>
    rw [hpc] at hT
    exact ⟨_, Mon.step_fend (hs.started.trans hT.2.2.1) (hs.fres.trans hT.2.2.2), rfl, hs.started,
      same (hin hpc (fun e => nomatch e))⟩
  | ret hpc =>
    rw [hpc] at hT
    have hmc := hin hpc (fun e => nomatch e)
    exact ⟨m, Mon.step_ret hmc (hs.fres.trans (hg.doneT hT).2), hs.fres, hs.started, same hmc⟩

theorem run_ok {n a : Nat} {res : Nat → List Int} {ls : List (Option Event)}
    {s s' : (sys n a res).State} (he : Exec (sys n a res) s ls s') :
    ∀ (m : Mon), Reachable (sys n a res) s → Sim s m →
      ∃ m', m.run (visible ls) = .ok m' ∧ Sim s' m' := by
  induction he with
  | nil s => intro m _ hs; exact ⟨m, rfl, hs⟩
  | @cons s s1 s2 l ls hmem _ ih =>
    intro m hr hs
    have hg := good_reachable n a res s hr
    have hr1 : Reachable (sys n a res) s1 := Reachable.step hr hmem
    have h1 := sim_step (res := res) hg hs hmem
    cases l with
    | none =>
      simp only at h1
      exact ih m hr1 h1
    | some e =>
      simp only at h1
      obtain ⟨m1, hm1, hs1⟩ := h1
      obtain ⟨m', hm', hs'⟩ := ih m1 hr1 hs1
      refine ⟨m', ?_, hs'⟩
      show Mon.run m (e :: visible ls) = _
      simp only [Mon.run, hm1]
      exact hm'

end TypVerif.Lemmas.Once
