import TypVerif.Spec.RingSeq
/-
The abstract ring world alone, no heap.  `link_cycles` is one case analysis of `link` on a well-formed world, generic in
a predicate `P` on rings: it gives `WorldWF` of the result and, with `P := Good nx pv`, the heap invariant (`RingLinkStep`).
-/
namespace TypVerif.Lemmas.Ring
open TypVerif.Spec.RingOp TypVerif.Spec.RingSeq

theorem split_of_mem {r : RingId} {c : List RingId} (h : r ∈ c) : c = before r c ++ r :: after r c := by
  induction c with
  | nil => cases h
  | cons x xs ih =>
    unfold before after
    by_cases e : x = r
    · simp [e]
    · simp only [e, if_false, List.cons_append]
      have : r ∈ xs := by
        cases h with
        | head => exact absurd rfl e
        | tail _ h => exact h
      rw [← ih this]

theorem not_mem_before (r : RingId) (c : List RingId) : r ∉ before r c := by
  induction c with
  | nil => simp [before]
  | cons x xs ih =>
    unfold before
    by_cases e : x = r
    · simp [e]
    · simp only [e, if_false, List.mem_cons, not_or]
      exact ⟨fun e' => e e'.symm, ih⟩

theorem before_of_not_mem {r : RingId} {c : List RingId} (h : r ∉ c) : before r c = c := by
  induction c with
  | nil => rfl
  | cons x xs ih =>
    unfold before
    rw [List.mem_cons, not_or] at h
    have e : ¬ x = r := fun e => h.1 e.symm
    simp only [e, if_false]
    rw [ih h.2]

theorem after_of_not_mem {r : RingId} {c : List RingId} (h : r ∉ c) : after r c = [] := by
  induction c with
  | nil => rfl
  | cons x xs ih =>
    unfold after
    rw [List.mem_cons, not_or] at h
    have e : ¬ x = r := fun e => h.1 e.symm
    simp only [e, if_false]
    exact ih h.2

theorem rotTo_perm {r : RingId} {c : List RingId} (h : r ∈ c) : (rotTo r c).Perm c := by
  have e := split_of_mem h
  unfold rotTo
  have : (r :: after r c ++ before r c).Perm (before r c ++ r :: after r c) := by
    have := @List.perm_append_comm _ (r :: after r c) (before r c)
    simpa using this
  rw [← e] at this
  exact this

structure WorldWF (w : RWorld) : Prop where
  nodup : w.cycles.flatten.Nodup
  mem_iff : ∀ i : Nat, i ∈ w.cycles.flatten ↔ i < w.size
  length_eq : w.cycles.flatten.length = w.size
  nonempty : ∀ c ∈ w.cycles, c ≠ []

theorem WorldWF.of_perm {w w' : RWorld} (wf : WorldWF w) (hs : w'.size = w.size)
    (hp : w'.cycles.flatten.Perm w.cycles.flatten) (hne : ∀ c ∈ w'.cycles, c ≠ []) : WorldWF w' where
  nodup := hp.nodup_iff.2 wf.nodup
  mem_iff := fun i => by rw [hp.mem_iff, hs]; exact wf.mem_iff i
  length_eq := by rw [hp.length_eq, hs]; exact wf.length_eq
  nonempty := hne

theorem find_cycle {cs : List (List RingId)} (nd : cs.flatten.Nodup) {c : List RingId} (hc : c ∈ cs)
    {r : RingId} (hr : r ∈ c) : cs.find? (fun c => c.contains r) = some c := by
  induction cs with
  | nil => cases hc
  | cons d cs' ih =>
    rw [List.flatten_cons, List.nodup_append] at nd
    rw [List.find?_cons]
    rcases List.mem_cons.1 hc with rfl | hc'
    · have : c.contains r = true := by simp [hr]
      rw [this]
    · have hrf : r ∈ cs'.flatten := List.mem_flatten.2 ⟨c, hc', hr⟩
      have : d.contains r = false := by
        simp only [List.contains_eq_mem, decide_eq_false_iff_not]
        exact fun hd => nd.2.2 r hd r hrf rfl
      rw [this]
      exact ih nd.2.1 hc'

theorem mem_others {cs : List (List RingId)} {r : RingId} {d : List RingId} :
    d ∈ others cs r ↔ d ∈ cs ∧ r ∉ d := by
  simp [others]

theorem others_perm {cs : List (List RingId)} (nd : cs.flatten.Nodup) {c : List RingId} (hc : c ∈ cs)
    {r : RingId} (hr : r ∈ c) : cs.flatten.Perm (c ++ (others cs r).flatten) := by
  induction cs with
  | nil => cases hc
  | cons d cs' ih =>
    have nd' := nd
    rw [List.flatten_cons, List.nodup_append] at nd'
    unfold others
    rw [List.filter_cons]
    rcases List.mem_cons.1 hc with rfl | hc'
    · have : (!c.contains r) = false := by simp [hr]
      rw [this]
      have hall : List.filter (fun c => !c.contains r) cs' = cs' := by
        rw [List.filter_eq_self]
        intro e he
        simp only [List.contains_eq_mem, Bool.not_eq_eq_eq_not, Bool.not_true, decide_eq_false_iff_not]
        exact fun hre => nd'.2.2 r hr r (List.mem_flatten.2 ⟨e, he, hre⟩) rfl
      simp only [Bool.false_eq_true, if_false]
      rw [hall, List.flatten_cons]
    · have hrf : r ∈ cs'.flatten := List.mem_flatten.2 ⟨c, hc', hr⟩
      have : (!d.contains r) = true := by
        simp only [List.contains_eq_mem, Bool.not_eq_eq_eq_not, Bool.not_true, decide_eq_false_iff_not]
        exact fun hd => nd'.2.2 r hd r hrf rfl
      rw [this]
      simp only [if_true, List.flatten_cons]
      have ih' := ih nd'.2.1 hc'
      unfold others at ih'
      exact (ih'.append_left d).trans (List.perm_append_comm_assoc _ _ _)

theorem others_disjoint {cs : List (List RingId)} (nd : cs.flatten.Nodup) {c : List RingId} (hc : c ∈ cs)
    {r : RingId} (hr : r ∈ c) {d : List RingId} (hd : d ∈ others cs r) {x : RingId} (hx : x ∈ c) : x ∉ d := by
  have hp := others_perm nd hc hr
  have nd2 := hp.nodup_iff.1 nd
  rw [List.nodup_append] at nd2
  exact fun hxd => nd2.2.2 x hx x (List.mem_flatten.2 ⟨d, hd, hxd⟩) rfl

theorem others_nodup {cs : List (List RingId)} (nd : cs.flatten.Nodup) {c : List RingId} (hc : c ∈ cs)
    {r : RingId} (hr : r ∈ c) : (others cs r).flatten.Nodup := by
  have nd2 := (others_perm nd hc hr).nodup_iff.1 nd
  rw [List.nodup_append] at nd2
  exact nd2.2.1

theorem cycle_nodup {cs : List (List RingId)} (nd : cs.flatten.Nodup) {c : List RingId} (hc : c ∈ cs) : c.Nodup :=
  (List.sublist_flatten_of_mem hc).nodup nd

theorem exists_cycle {w : RWorld} (wf : WorldWF w) {r : RingId} (hr : r < w.size) :
    ∃ c, c ∈ w.cycles ∧ r ∈ c := by
  have := (wf.mem_iff r).2 hr
  obtain ⟨c, hc, hrc⟩ := List.mem_flatten.1 this
  exact ⟨c, hc, hrc⟩

theorem cycOf_eq {w : RWorld} (wf : WorldWF w) {c : List RingId} (hc : c ∈ w.cycles) {r : RingId} (hr : r ∈ c) :
    cycOf w r = r :: (after r c ++ before r c) := by
  unfold cycOf
  rw [find_cycle wf.nodup hc hr]
  simp [rotTo]

theorem mem_lt {w : RWorld} (wf : WorldWF w) {c : List RingId} (hc : c ∈ w.cycles) {x : Nat} (hx : x ∈ c) :
    x < w.size := (wf.mem_iff x).1 (List.mem_flatten.2 ⟨c, hc, hx⟩)

/-- the fuel bound of `Len`/`Do`; it is one line because `WorldWF` carries `length_eq` (which `nodup` and `mem_iff` would give
only by counting) -/
theorem cycle_length_le {w : RWorld} (wf : WorldWF w) {c : List RingId} (hc : c ∈ w.cycles) :
    c.length ≤ w.size := by
  rw [← wf.length_eq]; exact (List.sublist_flatten_of_mem hc).length_le

/-- the ring a same-ring `link` cuts off, or none when that part is empty -/
def optRing (A : List RingId) : List (List RingId) := if A = [] then [] else [A]

theorem flatten_optRing (A : List RingId) : (optRing A).flatten = A := by
  unfold optRing
  split
  · next h => rw [h]; rfl
  · simp

theorem mem_optRing {A c : List RingId} (h : c ∈ optRing A) : c = A ∧ A ≠ [] := by
  unfold optRing at h
  split at h
  · cases h
  · next hA => exact ⟨List.mem_singleton.1 h, hA⟩

theorem splitRing_eq (r s : RingId) (t : List RingId) :
    splitRing r s t = (if s = r then [r] else r :: s :: after s t) :: optRing (before s t) := rfl

theorem cycle_unique {cs : List (List RingId)} (nd : cs.flatten.Nodup) {c d : List RingId}
    (hc : c ∈ cs) (hd : d ∈ cs) {x : RingId} (hxc : x ∈ c) (hxd : x ∈ d) : c = d := by
  have e1 := find_cycle nd hc hxc
  have e2 := find_cycle nd hd hxd
  rw [e1] at e2
  exact Option.some.inj e2

theorem link_snd (w : RWorld) (r : RingId) (s : Option RingId) : (link w r s).2 = nextOf w r := by
  unfold link
  cases s with
  | none => rfl
  | some s => dsimp only; split <;> rfl

theorem link_size (w : RWorld) (r : RingId) (s : Option RingId) : (link w r s).1.size = w.size := by
  unfold link
  cases s with
  | none => rfl
  | some s => dsimp only; split <;> rfl

/-- `link`, `s ≠ nil`, on a well-formed world by what becomes of the rings.  A ring that holds neither `r` nor `s` stays.  `s` in the
ring `r :: R` of `r`: `R` is cut in `A ++ Y`, where `Y` begins with `s` or, for `s = r`, is empty; `r :: Y` is a ring and
`A`, unless empty, another.  Otherwise the ring `s :: S` of `s` is spliced in after `r`. -/
theorem link_cycles {w : RWorld} (wf : WorldWF w) {r s : RingId} {cr cs R S : List RingId}
    (hcr : cr ∈ w.cycles) (hcs : cs ∈ w.cycles) (hR : cycOf w r = r :: R) (hS : cycOf w s = s :: S)
    (pR : (r :: R).Perm cr) (pS : (s :: S).Perm cs) {P : List RingId → Prop}
    (old : ∀ c ∈ w.cycles, (∀ x ∈ cr, x ∉ c) → (∀ x ∈ cs, x ∉ c) → P c)
    (same : ∀ A Y, R = A ++ Y → (Y ++ [r]).head? = some s → P (r :: Y) ∧ (A ≠ [] → P A))
    (diff : (∀ x ∈ cr, x ∉ cs) → P (r :: (s :: S) ++ R)) :
    WorldWF (link w r (some s)).1 ∧ ∀ c ∈ (link w r (some s)).1.cycles, P c := by
  have nd := wf.nodup
  have hrcr : r ∈ cr := pR.mem_iff.1 List.mem_cons_self
  have hscs : s ∈ cs := pS.mem_iff.1 List.mem_cons_self
  have P1 := others_perm nd hcr hrcr
  have oldR : ∀ c ∈ others w.cycles r, c ∈ w.cycles ∧ ∀ x ∈ cr, x ∉ c := fun c hc =>
    ⟨(mem_others.1 hc).1, fun x hx => others_disjoint nd hcr hrcr hc hx⟩
  by_cases hsame : s ∈ cycOf w r
  · have smem : s ∈ r :: R := hR ▸ hsame
    cases cycle_unique nd hcs hcr hscs (pR.mem_iff.1 smem)
    have e : (link w r (some s)).1 = { w with cycles := splitRing r s R ++ others w.cycles r } := by
      simp only [link, hR, List.tail_cons, smem, if_true]
    have key : ∀ A Y, R = A ++ Y → (Y ++ [r]).head? = some s → splitRing r s R = (r :: Y) :: optRing A →
        WorldWF (link w r (some s)).1 ∧ ∀ c ∈ (link w r (some s)).1.cycles, P c := by
      intro A Y hAY hY e2
      rw [e, e2]
      have all : ∀ c ∈ (r :: Y) :: optRing A ++ others w.cycles r, c ≠ [] ∧ P c := by
        intro c hc
        rcases List.mem_cons.1 hc with rfl | hc
        · exact ⟨List.cons_ne_nil _ _, (same A Y hAY hY).1⟩
        · rcases List.mem_append.1 hc with hc | hc
          · exact (mem_optRing hc).1 ▸ ⟨(mem_optRing hc).2, (same A Y hAY hY).2 (mem_optRing hc).2⟩
          · exact ⟨wf.nonempty c (oldR c hc).1, old c (oldR c hc).1 (oldR c hc).2 (oldR c hc).2⟩
      refine ⟨wf.of_perm rfl ?_ fun c hc => (all c hc).1, fun c hc => (all c hc).2⟩
      rw [List.flatten_append, List.flatten_cons, flatten_optRing]
      exact (((hAY ▸ List.perm_append_comm.cons r : (r :: Y ++ A).Perm (r :: R)).trans pR).append_right _).trans P1.symm
    have rR : r ∉ R := (List.nodup_cons.1 (pR.nodup_iff.2 (cycle_nodup nd hcr))).1
    by_cases hsr : s = r
    · subst hsr
      exact key R [] (List.append_nil R).symm rfl (by rw [splitRing_eq, if_pos rfl, before_of_not_mem rR])
    · exact key _ (s :: after s R) (split_of_mem ((List.mem_cons.1 smem).resolve_left hsr)) rfl
        (by rw [splitRing_eq, if_neg hsr])
  · have dj : ∀ x ∈ cr, x ∉ cs := fun x h1 h2 => by
      cases cycle_unique nd hcr hcs h1 h2
      exact hsame (hR ▸ pR.mem_iff.2 hscs)
    have hcsO : cs ∈ others w.cycles r := mem_others.2 ⟨hcs, dj r hrcr⟩
    have ndO := others_nodup nd hcr hrcr
    have P2 := others_perm ndO hcsO hscs
    have e : (link w r (some s)).1 = { w with cycles := (r :: (s :: S) ++ R) :: others (others w.cycles r) s } := by
      have hsame' : ¬ s ∈ r :: R := hR ▸ hsame
      simp only [link, hS, hR, List.tail_cons, hsame', if_false]
    rw [e]
    have all : ∀ c ∈ (r :: (s :: S) ++ R) :: others (others w.cycles r) s, c ≠ [] ∧ P c := by
      intro c hc
      rcases List.mem_cons.1 hc with rfl | hc
      · exact ⟨List.cons_ne_nil _ _, diff dj⟩
      · have hc' := oldR c (mem_others.1 hc).1
        exact ⟨wf.nonempty c hc'.1, old c hc'.1 hc'.2 fun x hx => others_disjoint ndO hcsO hscs hc hx⟩
    refine ⟨wf.of_perm rfl ?_ fun c hc => (all c hc).1, fun c hc => (all c hc).2⟩
    rw [List.flatten_cons]
    refine ((((List.perm_append_comm (l₁ := s :: S)).cons r).trans (pR.append pS)).append_right _).trans ?_
    rw [List.append_assoc]
    exact (P2.symm.append_left cr).trans P1.symm

end TypVerif.Lemmas.Ring
