import TypVerif.Lemmas.OncePanicTrace
/-
The Once system with panicking functions refines `Model.Once`: reading `fpanic t` as `fend t [0,…,0]` (the
judge's translation, `Model.OncePanic.glue`) turns every execution into an execution of `Model.Once` (for a
`res'` that differs from `res` only at the goroutine that panicked) through the same `Model.Once` states, in
which the goroutine that panicked never takes its `ret` step.
Also: schedules as data (`runSched`), to exhibit executions in non-vacuity examples.
-/
namespace TypVerif.Lemmas.OncePanic
open TypVerif TypVerif.Conc TypVerif.Model TypVerif.Model.OncePanic

theorem refine_exec {n a : Nat} {res : Nat → List Int} {s s' : (sys n a res).State}
    {ls : List (Option Event)} (he : Exec (sys n a res) s ls s') :
    Inv a s → ∀ res' : Nat → List Int,
      (∀ u, u ∈ s'.panicked → res' u = List.replicate a 0) →
      (∀ u, u ∉ s'.panicked → res' u = res u) →
      ∃ ls' : List (Option Once.Event),
        Exec (Once.sys n a res') s.base ls' s'.base ∧ visible ls' = (visible ls).map (glue a) := by
  induction he with
  | nil s => exact fun _ _ _ _ => ⟨[], Exec.nil _, rfl⟩
  | @cons s s1 s2 l ls hm htail ih =>
    intro hi res' h1 h2
    obtain ⟨ls1, he1, hv1⟩ := ih (inv_step hi hm) res' h1 h2
    cases mem_succ_iff.mp hm with
    | @base t0 lb sb ht0 hu hb =>
      have hres : s.base.pc t0 = .inF → res' t0 = res t0 := by
        intro hpc
        apply h2
        intro hin
        -- after the step `t0` is at `assign`, where the invocation has ended: nobody panics afterwards
        have hT := (inv_step hi hm).base.good.thread t0
        unfold Once.ThreadOk at hT
        rw [hb.pc_self ht0, hpc] at hT
        have hc := exec_end_count htail (inv_step hi hm)
        rw [hT.2.2.2] at hc
        rcases (exec_panicked_iff htail t0).mp hin with hin | hin
        · rcases (hi.pan t0 hin).2 with e | e | e <;> exact nomatch e.symm.trans hpc
        · have := List.countP_pos_iff.2 ⟨_, mem_visible.2 hin, (rfl : (Event.fpanic t0).isEnd = true)⟩
          have := Bool.toNat_le s2.base.fres.isSome
          have hc : _ + 1 = _ := hc
          omega
      have hbm : (lb, sb) ∈ (Once.sys n a res').succ s.base :=
        Once.mem_succ.mpr ⟨t0, ht0, Once.stepT_res res res' _ _ hres ▸ Once.mem_stepT.mpr hb⟩
      refine ⟨lb :: ls1, Exec.cons hbm he1, ?_⟩
      rw [visible_cons lb, visible_cons (lb.map _), List.map_append, hv1]
      congr 1
      cases lb with
      | none => rfl
      | some e => simp [glue_ofBase]
    | @fpanic t0 ht0 hpc =>
      have hf := inF_facts hi hpc
      have hin : t0 ∈ s2.panicked := (exec_panicked_iff htail t0).mpr (.inl (by simp [afterPanic]))
      have hr : res' t0 = s.base.fields := (h1 t0 hin).trans hf.2.1.symm
      obtain ⟨p1, p2⟩ := panic_as_two_steps (res := res') ht0 hpc hr
      refine ⟨some (Once.Event.fend t0 s.base.fields) :: none :: ls1,
        Exec.cons (sys := Once.sys n a res') (p1.mem_succ ht0)
          (Exec.cons (sys := Once.sys n a res') (p2.mem_succ (p1.length_eq ▸ ht0)) he1), ?_⟩
      simp [hv1, glue, hf.2.1]

/-- the refinement, from the initial state: `res'` is `res` except that the goroutine that panicked "returns zeros" -/
theorem refines {n a : Nat} {res : Nat → List Int} {s : (sys n a res).State}
    {ls : List (Option Event)} (he : Exec (sys n a res) (sys n a res).init ls s) :
    ∃ (res' : Nat → List Int) (ls' : List (Option Once.Event)),
      Exec (Once.sys n a res') (Once.sys n a res').init ls' s.base ∧
      visible ls' = (visible ls).map (glue a) ∧
      (∀ u, Event.fpanic u ∉ visible ls → res' u = res u) ∧
      (∀ t, Event.fpanic t ∈ visible ls → res' t = List.replicate a 0 ∧
        s.base.pc t ≠ .returned ∧ ∀ r, Once.Event.ret t r ∉ visible ls') := by
  have hi0 := inv_init n a
  have hiff := exec_panicked_iff he
  have hpi : ∀ t, t ∈ s.panicked ↔ Event.fpanic t ∈ visible ls := by
    intro t
    rw [hiff t, mem_visible]
    simp [init]
  let res' : Nat → List Int := fun u => if u ∈ s.panicked then List.replicate a 0 else res u
  obtain ⟨ls', he', hv⟩ := refine_exec he hi0 res' (fun u hu => by simp [res', hu]) (fun u hu => by simp [res', hu])
  refine ⟨res', ls', he', hv, ?_, ?_⟩
  · intro u hu
    have : u ∉ s.panicked := fun h => hu ((hpi u).mp h)
    simp [res', this]
  · intro t ht
    have htp := (hpi t).mpr ht
    have hpc := ((inv_exec he hi0).pan t htp).2
    refine ⟨by simp [res', htp], ?_, ?_⟩
    · intro e; rw [e] at hpc; simp at hpc
    · intro r hr
      rw [hv, List.mem_map] at hr
      obtain ⟨e, hein, hge⟩ := hr
      have : e = Event.ret t r := by
        cases e <;> simp [glue] at hge ⊢
        exact hge
      subst this
      have := (exec_ret he hi0 t r (mem_visible.mp hein)).2
      rw [this] at hpc
      simp at hpc

/-- run a schedule: `(t, i)` = goroutine `t` takes its `i`-th alternative (`0`: the step of `Model.Once`,
`1` at `inF`: panic); stops at the first impossible pick -/
def runSched (res : Nat → List Int) : State → List (Nat × Nat) → List (Option Event) × State
  | s, [] => ([], s)
  | s, (t, i) :: rest =>
    if t < s.base.pcs.length then
      match (stepT res s t)[i]? with
      | some p => ((p.1 :: (runSched res p.2 rest).1), (runSched res p.2 rest).2)
      | none => ([], s)
    else ([], s)

theorem runSched_exec (n a : Nat) (res : Nat → List Int) (sched : List (Nat × Nat)) :
    ∀ s : (sys n a res).State, Exec (sys n a res) s (runSched res s sched).1 (runSched res s sched).2 := by
  induction sched with
  | nil => intro s; exact Exec.nil s
  | cons x rest ih =>
    intro s
    obtain ⟨t, i⟩ := x
    unfold runSched
    by_cases ht : t < s.base.pcs.length
    · simp only [ht, if_true]
      cases hp : (stepT res s t)[i]? with
      | none => exact Exec.nil s
      | some p =>
        simp only
        have hmem : p ∈ stepT res s t := List.mem_of_getElem? hp
        exact Exec.cons (sys := sys n a res) (mem_succ.mpr ⟨t, ht, hmem⟩) (ih p.2)
    · simp only [ht, if_false]
      exact Exec.nil s

end TypVerif.Lemmas.OncePanic
