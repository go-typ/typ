import TypVerif.Lemmas.KeyedMutexInv
/-
Converse invariants of the KeyedMutex system: whatever is recorded in the automaton of a mapped mutex
belongs to a goroutine that holds the key or is inside a call on the key.  `C09.try_alone` uses them to derive the
automaton-level condition of `C09.try` ("free and uncontended") from a condition on goroutines.

In the `map` cases below a key may be bound to the freshly allocated cell: that cell is `Mu.free` (`mu_free_of_ge`), the
default of `State.mu`, so it records nothing and the invariant holds for it vacuously.
-/
namespace TypVerif.Lemmas.KeyedMutex
open TypVerif TypVerif.Conc TypVerif.Model.KeyedMutex

/-- the members of the queue `q` of a mapped mutex stand at program counters of class `b` that name it -/
def InQ (b : Pc → Bool) (q : Mu → List Nat) (s : State) : Prop :=
  ∀ k m t', Model.KeyedMutex.get s.map k = some m → t' ∈ q (s.mu m) → b (s.pc t') = true ∧ loc (s.pc t') = some (k, m)

/-- `pd`: who stands in `pending` of the cell of `k` is at `.wait k m`; `wq`: who stands in `wq` is at `.ann k m` or `.rel k m`
(the program counters of class `inPending` / `inWq`) -/
structure Conv (s : State) : Prop where
  wr : ∀ k m t', Model.KeyedMutex.get s.map k = some m → (s.mu m).writer = some t' → (t', k) ∈ s.wh
  rd : ∀ k m t', Model.KeyedMutex.get s.map k = some m → t' ∈ (s.mu m).readers → (t', k) ∈ s.rh
  rdNd : ∀ k m, Model.KeyedMutex.get s.map k = some m → (s.mu m).readers.Nodup
  pd : InQ inPending (·.pending) s
  wq : InQ inWq (·.wq) s

theorem conv_init (n : Nat) : Conv (init n) := by
  refine ⟨?_, ?_, ?_, ?_, ?_⟩ <;> intro k m <;> simp [init, Model.KeyedMutex.get]

section step
variable {s s' : State} {t : Nat}

theorem wr_step (hg : Good s) (hc : Conv s) (he : Eff s t s') :
    ∀ k' m' t', Model.KeyedMutex.get s'.map k' = some m' → (s'.mu m').writer = some t' → (t', k') ∈ s'.wh := by
  intro k' m' t' h1 h2
  cases he with
  | map p' pcs mu wh rh md offP offQ thr =>
    rw [mu] at h2
    rw [wh]
    rcases md.back h1 with h0 | hge
    · exact hc.wr _ _ _ h0 h2
    · rw [mu_free_of_ge s hge] at h2; cases h2
  | cell p' k m x pcs own map len mu pend wq wr rd thr =>
    have hk := loc_get hg own
    rw [map] at h1
    rw [mu] at h2
    have old := hc.wr k' m' t' h1
    cases wr with
    | same hx e =>
      rw [e]
      apply old
      split at h2
      · next em => rw [em, ← hx]; exact h2
      · exact h2
    | acq hw hx hr e =>
      rw [e]
      split at h2
      · next em =>
        rw [hx] at h2; cases h2
        rw [hg.mapInj _ _ _ h1 (em ▸ hk)]
        exact List.mem_cons_self
      · exact List.mem_cons_of_mem _ (old h2)
    | rel hw hx e =>
      rw [e]
      split at h2
      · rw [hx] at h2; cases h2
      · next em =>
        refine (List.mem_erase_of_ne ?_).mpr (old h2)
        intro e; cases e
        rw [hk] at h1; cases h1; exact em rfl

theorem rd_step (hg : Good s) (hc : Conv s) (he : Eff s t s') :
    ∀ k' m' t', Model.KeyedMutex.get s'.map k' = some m' → t' ∈ (s'.mu m').readers → (t', k') ∈ s'.rh := by
  intro k' m' t' h1 h2
  cases he with
  | map p' pcs mu wh rh md offP offQ thr =>
    rw [mu] at h2
    rw [rh]
    rcases md.back h1 with h0 | hge
    · exact hc.rd _ _ _ h0 h2
    · rw [mu_free_of_ge s hge] at h2; cases h2
  | cell p' k m x pcs own map len mu pend wq wr rd thr =>
    have hk := loc_get hg own
    rw [map] at h1
    rw [mu] at h2
    have old := hc.rd k' m' t' h1
    cases rd with
    | same hx e =>
      rw [e]
      apply old
      split at h2
      · next em => rw [em, ← hx]; exact h2
      · exact h2
    | acq hnot hxw hx e =>
      rw [e]
      split at h2
      · next em =>
        rw [hx] at h2
        rcases List.mem_cons.mp h2 with e | h2
        · rw [e, hg.mapInj _ _ _ h1 (em ▸ hk)]; exact List.mem_cons_self
        · exact List.mem_cons_of_mem _ (old (em ▸ h2))
      · exact List.mem_cons_of_mem _ (old h2)
    | rel hx e =>
      rw [e]
      split at h2
      · next em =>
        rw [hx] at h2
        obtain ⟨hne, h2⟩ := ((hc.rdNd _ _ hk).mem_erase_iff).mp h2
        exact (List.mem_erase_of_ne (pair_ne hne)).mpr (old (em ▸ h2))
      · next em =>
        refine (List.mem_erase_of_ne ?_).mpr (old h2)
        intro e; cases e
        rw [hk] at h1; cases h1; exact em rfl

theorem rdNd_step (hg : Good s) (hc : Conv s) (he : Eff s t s') :
    ∀ k' m', Model.KeyedMutex.get s'.map k' = some m' → (s'.mu m').readers.Nodup := by
  intro k' m' h1
  cases he with
  | map p' pcs mu wh rh md offP offQ thr =>
    rw [mu]
    rcases md.back h1 with h0 | hge
    · exact hc.rdNd _ _ h0
    · rw [mu_free_of_ge s hge]; exact List.nodup_nil
  | cell p' k m x pcs own map len mu pend wq wr rd thr =>
    have hk := loc_get hg own
    rw [map] at h1
    rw [mu]
    split
    · cases rd with
      | same hx _ => rw [hx]; exact hc.rdNd _ _ hk
      | acq hnot _ hx _ =>
        rw [hx]
        exact List.nodup_cons.mpr ⟨fun hmem => hnot (hc.rd _ _ _ hk hmem), hc.rdNd _ _ hk⟩
      | rel hx _ => rw [hx]; exact (hc.rdNd _ _ hk).erase _
    · exact hc.rdNd _ _ h1

theorem inQ_map {b : Pc → Bool} {q : Mu → List Nat} (hfree : q Mu.free = []) (h : InQ b q s) {p' : Pc}
    (pc : ∀ t', s'.pc t' = if t' = t then p' else s.pc t') (mu : ∀ m, s'.mu m = s.mu m)
    (md : MDelta s s')
    (off : b (s.pc t) = false) : InQ b q s' := by
  intro k m t' hk hmem
  rw [mu] at hmem
  rcases md.back hk with h0 | hge
  · have ho := h k m t' h0 hmem
    have hne : t' ≠ t := fun e => by rw [e, off] at ho; cases ho.1
    rw [pc, if_neg hne]; exact ho
  · rw [mu_free_of_ge s hge, hfree] at hmem; cases hmem

theorem inQ_cell {b : Pc → Bool} {q : Mu → List Nat} (hg : Good s) (h : InQ b q s) {p' : Pc} {k m : Nat} {x : Mu}
    (pc : ∀ t', s'.pc t' = if t' = t then p' else s.pc t') (own : loc (s.pc t) = some (k, m))
    (map : s'.map = s.map) (mu : ∀ m', s'.mu m' = if m' = m then x else s.mu m')
    (d : QDelta b t (s.pc t) p' (q (s.mu m)) (q x)) : InQ b q s' := by
  intro k' m' t' hk hmem
  rw [map] at hk
  -- a member of an old queue other than `t` is where it was
  have old : t' ∈ q (s.mu m') → t' ≠ t → b (s'.pc t') = true ∧ loc (s'.pc t') = some (k', m') := by
    intro hmem hne; rw [pc, if_neg hne]; exact h k' m' t' hk hmem
  rw [mu] at hmem
  split at hmem
  · next em =>
    subst em
    cases d with
    | same hb e =>
      rw [e] at hmem
      exact old hmem (fun e => by have := (h k' m' t' hk hmem).1; rw [e, hb] at this; cases this)
    | join hb hb' hc e =>
      rw [e] at hmem
      rcases List.mem_cons.mp hmem with e | hmem
      · rw [pc, if_pos e, hc, own, hg.mapInj _ _ _ hk (loc_get hg own)]; exact ⟨hb', rfl⟩
      · exact old hmem (fun e => by have := (h k' m' t' hk hmem).1; rw [e, hb] at this; cases this)
    | leave e =>
      rw [e] at hmem
      obtain ⟨hmem, hne⟩ := List.mem_filter.mp hmem
      exact old hmem (of_decide_eq_true hne)
  · next em =>
    -- `t` names the cell `m`, so it stands in no queue of another cell
    refine old hmem (fun e => em ?_)
    have := (h k' m' t' hk hmem).2
    rw [e, own] at this
    cases this; rfl

theorem pd_step (hg : Good s) (hc : Conv s) (ht : t < s.pcs.length) (he : Eff s t s') :
    InQ inPending (·.pending) s' := by
  cases he with
  | map p' pcs mu wh rh md offP offQ thr => exact inQ_map rfl hc.pd (pc_of_set ht pcs) mu md offP
  | cell p' k m x pcs own map len mu pend wq wr rd thr => exact inQ_cell hg hc.pd (pc_of_set ht pcs) own map mu pend

theorem wq_step (hg : Good s) (hc : Conv s) (ht : t < s.pcs.length) (he : Eff s t s') :
    InQ inWq (·.wq) s' := by
  cases he with
  | map p' pcs mu wh rh md offP offQ thr => exact inQ_map rfl hc.wq (pc_of_set ht pcs) mu md offQ
  | cell p' k m x pcs own map len mu pend wq wr rd thr => exact inQ_cell hg hc.wq (pc_of_set ht pcs) own map mu wq

theorem conv_step (hg : Good s) (hc : Conv s) (ht : t < s.pcs.length) (he : Eff s t s') : Conv s' :=
  ⟨wr_step hg hc he, rd_step hg hc he, rdNd_step hg hc he, pd_step hg hc ht he, wq_step hg hc ht he⟩

end step

theorem good_conv_reachable (rw : Bool) (n : Nat) (ops : List Op) :
    ∀ s, Reachable (sys rw n ops) s → Good s ∧ Conv s :=
  Conc.invariant (sys rw n ops) (fun s => Good s ∧ Conv s) ⟨good_init n, conv_init n⟩
    (fun s l s' h hm => by
      obtain ⟨t, ht, hs⟩ := step_of_succ (rw := rw) (g := true) (ops := ops) hm
      have he := step_eff h.1 ht hs
      exact ⟨good_step h.1 ht he, conv_step h.1 h.2 ht he⟩)

theorem writer_none_of_unheld {s : State} (hc : Conv s) {k m : Nat} (hk : Model.KeyedMutex.get s.map k = some m)
    (hold : ∀ t', ¬ s.holdsW t' k) : (s.mu m).writer = none := by
  cases hw : (s.mu m).writer with
  | none => rfl
  | some t' => exact absurd (hc.wr _ _ _ hk hw) (hold t')

/-- a queue of the cell of `k` is empty when its class excludes the program counter of `t` and the others are not on the key -/
theorem inQ_nil_of_alone {b : Pc → Bool} {q : Mu → List Nat} {s : State} (h : InQ b q s) {t k m : Nat}
    (off : b (s.pc t) = false) (hk : Model.KeyedMutex.get s.map k = some m)
    (alone : ∀ t', t' ≠ t → onKey k (s.pc t') = false) : q (s.mu m) = [] := by
  cases hq : q (s.mu m) with
  | nil => rfl
  | cons t' r =>
    have h := h k m t' hk (by rw [hq]; exact List.mem_cons_self)
    have hne : t' ≠ t := fun e => by rw [e, off] at h; cases h.1
    exact Bool.noConfusion ((onKey_iff_loc.mpr ⟨m, h.2⟩).symm.trans (alone t' hne))

theorem free_of_alone {s : State} (hg : Good s) (hc : Conv s) {t k m : Nat} {kd : Kind}
    (hpc : s.pc t = .act kd k m)
    (hold : ∀ t', ¬ s.holdsW t' k ∧ ¬ s.holdsR t' k)
    (alone : ∀ t', t' ≠ t → onKey k (s.pc t') = false) : Mu.isFree (s.mu m) := by
  have hk := (act_ok (hg.thread t) hpc).1
  refine ⟨writer_none_of_unheld hc hk (fun t' => (hold t').1), ?_, inQ_nil_of_alone hc.pd (congrArg inPending hpc) hk alone,
    inQ_nil_of_alone hc.wq (congrArg inWq hpc) hk alone⟩
  cases hr : (s.mu m).readers with
  | nil => rfl
  | cons t' r => exact absurd (hc.rd _ _ t' hk (by rw [hr]; exact List.mem_cons_self)) (hold t').2

theorem readable_of_alone {s : State} (hg : Good s) (hc : Conv s) {t k m : Nat} {kd : Kind}
    (hpc : s.pc t = .act kd k m)
    (hold : ∀ t', ¬ s.holdsW t' k)
    (alone : ∀ t', t' ≠ t → onKey k (s.pc t') = false) : Mu.readable (s.mu m) :=
  have hk := (act_ok (hg.thread t) hpc).1
  ⟨writer_none_of_unheld hc hk hold, inQ_nil_of_alone hc.pd (congrArg inPending hpc) hk alone⟩

end TypVerif.Lemmas.KeyedMutex
