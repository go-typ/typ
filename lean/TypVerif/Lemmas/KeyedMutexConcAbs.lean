import TypVerif.Lemmas.SmcAbs
/-
C09 on the step-level map, layer 1: the ABSTRACT side.

The composed invariant (`Lemmas/KeyedMutexConcInv.lean`) carries the simulation relation `R mapState a` of the C04 proof.  Here:
an invariant `AbsKey k offers a` of the abstract state `a` (a state of the relaxed atomic map) that every `witness` step preserves
as long as the invoked operations are the ones `keyedmutex.go` issues (`OkOp`: `LoadOrStore(k', fresh)` with a mutex identity
offered for `k'`, and `Delete(k')` for `k' ≠ k`):

* every result — taken effect (`done`) or seen (`pending … seen`) — of a `LoadOrStore(k', _)` is a pair `(w, _)` with `w` an
  identity offered for `k'`, and for `k' = k` it is the abstract map's value `a.obj k = some w`;
* every value of the abstract map at `k'` is an identity offered for `k'`;
* `a.obj k = some m` is stable (`Stable`): nothing deletes or overwrites `k` (`LoadOrStore` leaves a present key untouched).
-/
namespace TypVerif.Lemmas.KeyedMutexConc
open TypVerif.Model TypVerif.Model.SyncMapConc TypVerif.Model.RelObj TypVerif.Lemmas.Smc

set_option linter.unusedSectionVars false

variable {K : Type} [DecidableEq K]

def opOf : APc K Nat → Option (Op K Nat)
  | .idle => none
  | .pending op _ => some op
  | .done op _ => some op

/-- the map operations of `keyedmutex.go`, with `ClearKey` never applied to `k` -/
def OkOp (k : K) (offers : List (Nat × K)) : Op K Nat → Prop
  | .loadOrStore k' v => (v, k') ∈ offers
  | .delete k' => k' ≠ k
  | _ => False

def OkRes (k : K) (offers : List (Nat × K)) (obj : K → Option Nat) (k' : K) (r : Res K Nat) : Prop :=
  ∃ w b, r = .pair w b ∧ (w, k') ∈ offers ∧ (k' = k → obj k = some w)

structure AbsKey (k : K) (offers : List (Nat × K)) (a : AState K Nat) : Prop where
  ops : ∀ t op, opOf (a.pcs t) = some op → OkOp k offers op
  seen : ∀ t k' v seen, a.pcs t = .pending (.loadOrStore k' v) seen → ∀ r ∈ seen, OkRes k offers a.obj k' r
  done : ∀ t k' v r, a.pcs t = .done (.loadOrStore k' v) r → OkRes k offers a.obj k' r
  vals : ∀ k' m, a.obj k' = some m → (m, k') ∈ offers

def Stable (k : K) (a a' : AState K Nat) : Prop := ∀ m, a.obj k = some m → a'.obj k = some m

theorem OkOp.mono {k : K} {offers offers' : List (Nat × K)} (hsub : ∀ p ∈ offers, p ∈ offers') {op : Op K Nat}
    (h : OkOp k offers op) : OkOp k offers' op := by
  cases op with
  | loadOrStore k' v => exact hsub _ h
  | delete k' => exact h
  | load _ => exact h
  | store _ _ => exact h
  | loadAndDelete _ => exact h
  | range => exact h

theorem OkRes.mono {k : K} {offers offers' : List (Nat × K)} (hsub : ∀ p ∈ offers, p ∈ offers')
    {obj obj' : K → Option Nat} (hobj : ∀ m, obj k = some m → obj' k = some m) {k' : K} {r : Res K Nat}
    (h : OkRes k offers obj k' r) : OkRes k offers' obj' k' r := by
  obtain ⟨w, b, h1, h2, h3⟩ := h
  exact ⟨w, b, h1, hsub _ h2, fun hk => hobj _ (h3 hk)⟩

theorem AbsKey.mono {k : K} {offers offers' : List (Nat × K)} (hsub : ∀ p ∈ offers, p ∈ offers') {a : AState K Nat}
    (h : AbsKey k offers a) : AbsKey k offers' a :=
  ⟨fun t op ho => (h.ops t op ho).mono hsub,
   fun t k' v seen hp r hr => (h.seen t k' v seen hp r hr).mono hsub (fun _ x => x),
   fun t k' v r hp => (h.done t k' v r hp).mono hsub (fun _ x => x),
   fun k' m hm => hsub _ (h.vals k' m hm)⟩

theorem opOf_observePc (obj : K → Option Nat) (p : APc K Nat) : opOf (observePc obj p) = opOf p := by
  cases p with
  | idle => rfl
  | done op r => rfl
  | pending op seen =>
    obtain ⟨seen', h, _⟩ := observePc_pending_spec obj op seen
    rw [h]; rfl

theorem opOf_eq_none {p : APc K Nat} : opOf p = none ↔ p = .idle := by
  cases p <;> simp [opOf]

theorem opOf_of_pend {p : APc K Nat} {op : Op K Nat} (h : Pend p op) : opOf p = some op := by
  cases p with
  | pending o seen => exact congrArg some h
  | idle => exact h.elim
  | done o r => exact h.elim

theorem opOf_linPc (obj : K → Option Nat) (p : APc K Nat) : opOf (linPc obj p).2 = opOf p := by
  rcases linPc_cases obj p with h | ⟨op, seen, σ', r, hp, _, h⟩
  · rw [h]
  · rw [h, hp]; rfl

theorem absKey_observeAll {k : K} {offers : List (Nat × K)} {a : AState K Nat} (h : AbsKey k offers a) :
    AbsKey k offers (observeAll a) := by
  refine ⟨?_, ?_, ?_, ?_⟩
  · intro t op ho
    rw [observeAll_pcs, opOf_observePc] at ho
    exact h.ops t op ho
  · intro t k' v seen' hp r hr
    rw [observeAll_pcs] at hp
    obtain ⟨seen, hp0, _, _, h5⟩ := observePc_eq_pending hp
    rcases h5 r hr with h6 | h6
    · exact h.seen t k' v seen hp0 r h6
    · rw [pureRes_loadOrStore] at h6
      cases hm : a.obj k' with
      | none => rw [hm] at h6; cases h6
      | some w =>
        rw [hm] at h6
        cases h6
        exact ⟨w, true, rfl, h.vals k' w hm, fun hk => by rw [← hk]; exact hm⟩
  · intro t k' v r hp
    rw [observeAll_pcs] at hp
    exact h.done t k' v r (observePc_eq_done.mp hp)
  · intro k' m hm
    exact h.vals k' m hm

/-- goroutine `t` moves to `p'` while the object moves to `obj'`, which keeps the value of `k` and has offered values only -/
theorem absKey_update {k : K} {offers : List (Nat × K)} {a : AState K Nat} (h : AbsKey k offers a) (t : Nat)
    (p' : APc K Nat) (obj' : K → Option Nat) (hist' : List (AtomicObj.Event (Op K Nat) (Res K Nat)))
    (hst : ∀ m, a.obj k = some m → obj' k = some m) (hvals : ∀ k' m, obj' k' = some m → (m, k') ∈ offers)
    (h1 : ∀ op, opOf p' = some op → OkOp k offers op)
    (h2 : ∀ k' v seen, p' = .pending (.loadOrStore k' v) seen → ∀ r ∈ seen, OkRes k offers obj' k' r)
    (h3 : ∀ k' v r, p' = .done (.loadOrStore k' v) r → OkRes k offers obj' k' r) :
    AbsKey k offers { pcs := update a.pcs t p', obj := obj', hist := hist' } := by
  refine ⟨?_, ?_, ?_, hvals⟩
  · intro u op ho
    show OkOp k offers op
    by_cases hu : u = t
    · subst hu
      simp only [update_same] at ho
      exact h1 op ho
    · simp only [update_other _ _ _ hu] at ho
      exact h.ops u op ho
  · intro u k' v seen hp r hr
    by_cases hu : u = t
    · subst hu
      simp only [update_same] at hp
      exact h2 k' v seen hp r hr
    · simp only [update_other _ _ _ hu] at hp
      exact (h.seen u k' v seen hp r hr).mono (fun _ x => x) hst
  · intro u k' v r hp
    by_cases hu : u = t
    · subst hu
      simp only [update_same] at hp
      exact h3 k' v r hp
    · simp only [update_other _ _ _ hu] at hp
      exact (h.done u k' v r hp).mono (fun _ x => x) hst

theorem applyOp_ok {k : K} {offers : List (Nat × K)} {obj σ' : K → Option Nat} {op : Op K Nat} {r : Res K Nat}
    (hvals : ∀ k' m, obj k' = some m → (m, k') ∈ offers) (hop : OkOp k offers op) (happ : (σ', r) ∈ applyOp obj op) :
    (∀ m, obj k = some m → σ' k = some m) ∧ (∀ k' m, σ' k' = some m → (m, k') ∈ offers) ∧
    (∀ k' v, op = .loadOrStore k' v → OkRes k offers σ' k' r) := by
  cases op with
  | loadOrStore k' v =>
    have hv : (v, k') ∈ offers := hop
    rw [applyOp_loadOrStore] at happ
    cases hm : obj k' with
    | some w =>
      rw [hm] at happ
      have := List.mem_singleton.mp happ
      cases this
      refine ⟨fun _ x => x, hvals, ?_⟩
      intro k'' v' heq
      cases heq
      exact ⟨w, true, rfl, hvals _ _ hm, fun hk => by rw [← hk]; exact hm⟩
    | none =>
      rw [hm] at happ
      have := List.mem_singleton.mp happ
      cases this
      refine ⟨?_, ?_, ?_⟩
      · intro m hk
        by_cases hkk : k = k'
        · rw [hkk, hm] at hk; cases hk
        · rw [put_other _ _ _ hkk]; exact hk
      · intro k'' m hk
        by_cases hkk : k'' = k'
        · rw [hkk, put_same] at hk
          cases hk
          rw [hkk]; exact hv
        · rw [put_other _ _ _ hkk] at hk
          exact hvals _ _ hk
      · intro k'' v' heq
        cases heq
        exact ⟨v, false, rfl, hv, fun hk => by rw [← hk]; exact put_same _ _ _⟩
  | delete k' =>
    have hk' : k' ≠ k := hop
    rw [applyOp_delete] at happ
    have := List.mem_singleton.mp happ
    cases this
    refine ⟨?_, ?_, ?_⟩
    · intro m hk
      rw [del_other _ _ (Ne.symm hk')]; exact hk
    · intro k'' m hk
      by_cases hkk : k'' = k'
      · rw [hkk, del_same] at hk; cases hk
      · rw [del_other _ _ hkk] at hk; exact hvals _ _ hk
    · intro k'' v' heq; cases heq
  | load _ => exact absurd hop id
  | store _ _ => exact absurd hop id
  | loadAndDelete _ => exact absurd hop id
  | range => exact absurd hop id

theorem absKey_lin {k : K} {offers : List (Nat × K)} {a : AState K Nat} (h : AbsKey k offers a) (t : Nat) :
    AbsKey k offers { a with pcs := update a.pcs t (linPc a.obj (a.pcs t)).2, obj := (linPc a.obj (a.pcs t)).1 } ∧
    ∀ m, a.obj k = some m → (linPc a.obj (a.pcs t)).1 k = some m := by
  rcases linPc_cases a.obj (a.pcs t) with hl | ⟨op, seen, σ', r, hp, happ, hl⟩
  · rw [hl]
    refine ⟨?_, fun _ x => x⟩
    show AbsKey k offers { a with pcs := update a.pcs t (a.pcs t) }
    rw [update_self]
    exact h
  · rw [hl]
    have hop : OkOp k offers op := h.ops t op (by rw [hp]; rfl)
    obtain ⟨hst, hvals, hres⟩ := applyOp_ok h.vals hop happ
    refine ⟨absKey_update h t _ σ' _ hst hvals ?_ nofun ?_, hst⟩
    · intro op' ho
      cases ho
      exact hop
    · intro k' v r' hp'
      cases hp'
      exact hres k' v rfl

/-- **`AbsKey` is preserved by every simulation step** whose invocation (if it is one) is legal; the value of `k` is stable -/
theorem absKey_witness {k : K} {offers : List (Nat × K)} {a : AState K Nat} (h : AbsKey k offers a)
    (s : SyncMapConc.State K Nat) (t : Tid) (l : Option (SyncMapConc.Event K Nat))
    (hl : ∀ t' op, l = some (.inv t' op) → OkOp k offers op) :
    AbsKey k offers (witness s t l a) ∧ Stable k a (witness s t l a) := by
  cases l with
  | none =>
    cases hlin : isLin s.sh (s.pc t) (a.pcs t) with
    | true =>
      rw [witness_none_lin s t a hlin]
      obtain ⟨h1, h2⟩ := absKey_lin h t
      exact ⟨absKey_observeAll h1, h2⟩
    | false =>
      rw [witness_none_tau s t a hlin]
      exact ⟨absKey_observeAll h, fun _ x => x⟩
  | some e =>
    cases e with
    | inv t' op =>
      have hop := hl t' op rfl
      have hne : op ≠ .range := by intro he; rw [he] at hop; exact hop
      rw [witness_inv s t t' a hne]
      refine ⟨absKey_observeAll (absKey_update h t _ a.obj _ (fun _ x => x) h.vals ?_ ?_ ?_), fun _ x => x⟩
      · intro op' ho
        simp only [opOf] at ho
        cases ho
        exact hop
      · intro k' v seen hp r hr
        cases hp
        cases hr
      · intro k' v r hp; cases hp
    | res t' r =>
      by_cases hr : ∀ l, r ≠ .pairs l
      · rw [witness_res s t t' a hr]
        refine ⟨absKey_observeAll (absKey_update h t _ a.obj _ (fun _ x => x) h.vals ?_ ?_ ?_), fun _ x => x⟩
        · intro op' ho; cases ho
        · intro k' v seen hp; cases hp
        · intro k' v r hp; cases hp
      · cases r with
        | pairs l => exact ⟨absKey_observeAll h, fun _ x => x⟩
        | done => exact absurd (fun l h => by cases h) hr
        | val o => exact absurd (fun l h => by cases h) hr
        | pair w b => exact absurd (fun l h => by cases h) hr

theorem opOf_witness_none (s : SyncMapConc.State K Nat) (t : Tid) (a : AState K Nat) (u : Tid) :
    opOf ((witness s t none a).pcs u) = opOf (a.pcs u) := by
  cases hlin : isLin s.sh (s.pc t) (a.pcs t) with
  | true =>
    rw [witness_none_lin s t a hlin, observeAll_pcs, opOf_observePc]
    show opOf (update a.pcs t (linPc a.obj (a.pcs t)).2 u) = _
    by_cases hu : u = t
    · subst hu; rw [update_same, opOf_linPc]
    · rw [update_other _ _ _ hu]
  | false =>
    rw [witness_none_tau s t a hlin, observeAll_pcs, opOf_observePc]

theorem opOf_witness_other (s : SyncMapConc.State K Nat) (t : Tid) (l : Option (SyncMapConc.Event K Nat))
    (a : AState K Nat) {u : Tid} (hu : u ≠ t) :
    opOf ((witness s t l a).pcs u) = opOf (a.pcs u) := by
  rw [witness_pcs_other s t l a hu, opOf_observePc]

theorem opOf_witness_inv (s : SyncMapConc.State K Nat) (t t' : Tid) {op : Op K Nat} (a : AState K Nat)
    (hop : op ≠ .range) : opOf ((witness s t (some (.inv t' op)) a).pcs t) = some op := by
  rw [witness_pcs_inv_self s t t' a hop, opOf_observePc]; rfl

theorem retOk_okRes {k : K} {offers : List (Nat × K)} {a : AState K Nat} (h : AbsKey k offers a) {t : Tid}
    {k' : K} {v : Nat} {r : Res K Nat} (hop : opOf (a.pcs t) = some (.loadOrStore k' v)) (hr : RetOk (a.pcs t) r) :
    OkRes k offers a.obj k' r := by
  cases hp : a.pcs t with
  | idle => rw [hp] at hr; exact absurd hr id
  | pending op seen =>
    rw [hp] at hop hr
    simp only [opOf] at hop
    cases hop
    exact h.seen t k' v seen hp r hr
  | done op r' =>
    rw [hp] at hop hr
    simp only [opOf] at hop
    cases hop
    have : r' = r := hr
    subst this
    exact h.done t k' v r' hp

end TypVerif.Lemmas.KeyedMutexConc
