import TypVerif.Lemmas.C09AcceptSim1
import TypVerif.Lemmas.ConcAccept
/-
Acceptance soundness for the judge `Drv/C09.lean`: padding with idle goroutines and enlarging the alphabet of operations are
simulations; the number of goroutines `n` of `Model.KeyedMutex.sys rw n ops` matters only for the initial state.
-/
namespace TypVerif.Lemmas.C09Accept
open TypVerif TypVerif.Conc TypVerif.Model.KeyedMutex TypVerif.Drv.C09
open TypVerif.Lemmas.KeyedMutex

/-- the padding is `idle`, which is also what `State.pc` answers beyond the table: no bound on `t` is needed -/
theorem padBy_pc (k : Nat) (s : State) (t : Nat) : (padBy k s).pc t = s.pc t :=
  Lemmas.KeyedMutex.getD_append_replicate s.pcs k t Pc.idle

theorem padBy_clearOk (k : Nat) (s : State) (k' : Nat) : clearOk (padBy k s) k' = clearOk s k' := by
  have h : (List.replicate k Pc.idle).all (fun p => !onKey k' p) = true :=
    List.all_eq_true.mpr (fun p hp => by rw [(List.mem_replicate.mp hp).2]; rfl)
  unfold clearOk padBy
  rw [List.all_append, h, Bool.and_true]

theorem padBy_length (k : Nat) (s : State) : (padBy k s).pcs.length = s.pcs.length + k := by
  unfold padBy
  rw [List.length_append, List.length_replicate]

theorem lt_pad_length (t : Nat) (s : State) : t < (pad t s).pcs.length := by
  rw [pad_eq_padBy, padBy_length]
  omega

theorem padBy_padBy (j k : Nat) (s : State) : padBy j (padBy k s) = padBy (k + j) s := by
  unfold padBy
  simp

theorem padBy_zero (s : State) : padBy 0 s = s := by
  unfold padBy
  simp

theorem padBy_init (k n : Nat) : padBy k (init n) = init (n + k) := by
  unfold padBy init
  simp

theorem padBy_mk (k : Nat) {s : State} {t : Nat} (ht : t < s.pcs.length) (p : Pc) (mp : List (Nat × Nat)) (hp : List Mu)
    (wh rh : List (Nat × Nat)) :
    padBy k ⟨s.pcs.set t p, mp, hp, wh, rh⟩ = ⟨(padBy k s).pcs.set t p, mp, hp, wh, rh⟩ := by
  unfold padBy
  rw [List.set_append_left _ _ ht]

theorem stepT_padBy (rw g : Bool) (ops : List Op) (k : Nat) (s : State) (t : Nat) (ht : t < s.pcs.length) :
    stepT rw g ops (padBy k s) t = (stepT rw g ops s t).map (fun p => (p.1, padBy k p.2)) := by
  have hpc := padBy_pc k s t
  have hacqW : ∀ k' m r, padBy k (acqW s t k' m r) = acqW (padBy k s) t k' m r := fun _ _ _ => padBy_mk k ht ..
  have hacqR : ∀ k' m r, padBy k (acqR s t k' m r) = acqR (padBy k s) t k' m r := fun _ _ _ => padBy_mk k ht ..
  have hq : ∀ m p P Q, padBy k (queueStep s t m p P Q) = queueStep (padBy k s) t m p P Q := fun _ _ _ _ => padBy_mk k ht ..
  have hrelW : ∀ k' m p Q, padBy k (relW s t k' m p Q) = relW (padBy k s) t k' m p Q := fun _ _ _ _ => padBy_mk k ht ..
  have hset : ∀ p, padBy k (s.setPc t p) = (padBy k s).setPc t p := fun _ => padBy_mk k ht ..
  have hmu : ∀ m, (padBy k s).mu m = s.mu m := fun _ => rfl
  cases h : s.pc t with
  | idle =>
    rw [h] at hpc
    rw [stepT_idle h, stepT_idle hpc, List.map_map]
    exact List.map_congr_left (fun op _ => congrArg (Prod.mk _) (hset _).symm)
  | los kd k' =>
    rw [h] at hpc
    rw [stepT_los h, stepT_los hpc]
    by_cases hkd : kd = .clear
    · subst hkd
      rw [losStep_clear, losStep_clear, padBy_clearOk, apply_ite (List.map _), List.map_cons, padBy_mk k ht]
      rfl
    · cases hget : get s.map k' with
      | none =>
        rw [losStep_miss g s t hkd hget, losStep_miss g (padBy k s) t hkd hget]
        exact congrArg (fun z => [(none, z)]) (padBy_mk k ht ..).symm
      | some m =>
        rw [losStep_hit g s t hkd hget, losStep_hit g (padBy k s) t hkd hget]
        exact congrArg (fun z => [(none, z)]) (padBy_mk k ht ..).symm
  | act kd k' m =>
    rw [h] at hpc
    rw [stepT_act h, stepT_act hpc]
    cases kd <;> simp only [actStep, hmu, apply_ite (List.map _), List.map_cons, List.map_nil, hacqW, hacqR, hq, hrelW, hset]
    -- left: `runlock`, whose successor is written as a record update and not through one of the helpers above
    exact congrArg (fun z => [(none, z)]) (padBy_mk k ht ..).symm
  | ann k' m =>
    rw [h] at hpc
    rw [stepT_ann h, stepT_ann hpc]
    exact congrArg (fun z => [(none, z)]) (hq ..).symm
  | wait k' m =>
    rw [h] at hpc
    rw [stepT_wait h, stepT_wait hpc, apply_ite (List.map _), List.map_cons, hacqW]
    rfl
  | rel k' m =>
    rw [h] at hpc
    rw [stepT_rel h, stepT_rel hpc]
    exact congrArg (fun z => [(none, z)]) (hq ..).symm
  | ret r =>
    rw [h] at hpc
    rw [stepT_ret h, stepT_ret hpc]
    exact congrArg (fun z => [(_, z)]) (hset _).symm
theorem succ_padBy {rw g : Bool} {ops : List Op} {s s' : State} {l : Option Event} (k : Nat)
    (h : (l, s') ∈ succ rw g ops s) : (l, padBy k s') ∈ succ rw g ops (padBy k s) := by
  obtain ⟨t, ht, hs⟩ := KeyedMutex.mem_succ.mp h
  refine KeyedMutex.mem_succ.mpr ⟨t, ?_, ?_⟩
  · rw [padBy_length]
    exact Nat.lt_add_right k ht
  · rw [stepT_padBy rw g ops k s t ht]
    exact List.mem_map.2 ⟨(l, s'), hs, rfl⟩

theorem stepT_ops_mono {rw g : Bool} {ops ops' : List Op} (hm : ∀ op ∈ ops, op ∈ ops') {s : State} {t : Nat}
    {p : Option Event × State} (h : p ∈ stepT rw g ops s t) : p ∈ stepT rw g ops' s t := by
  by_cases hpc : s.pc t = .idle
  · rw [stepT_idle hpc] at h ⊢
    obtain ⟨op, hop, he⟩ := List.mem_map.mp h
    obtain ⟨hop, hok⟩ := List.mem_filter.mp hop
    exact List.mem_map.mpr ⟨op, List.mem_filter.mpr ⟨hm op hop, hok⟩, he⟩
  · rw [stepT_ops ops' hpc] at h
    exact h

theorem succ_ops_mono {rw g : Bool} {ops ops' : List Op} (hm : ∀ op ∈ ops, op ∈ ops') {s : State}
    {p : Option Event × State} (h : p ∈ succ rw g ops s) : p ∈ succ rw g ops' s := by
  obtain ⟨t, ht, hs⟩ := KeyedMutex.mem_succ.mp h
  exact KeyedMutex.mem_succ.mpr ⟨t, ht, stepT_ops_mono hm hs⟩

/-- executions of `sys rw n ops` only depend on `rw` and `ops`, through `succ` -/
inductive Ex (rw : Bool) (ops : List Op) : State → List (Option Event) → State → Prop where
  | nil (s) : Ex rw ops s [] s
  | cons {s s' s'' l ls} : (l, s') ∈ succ rw true ops s → Ex rw ops s' ls s'' → Ex rw ops s (l :: ls) s''

theorem ex_of_exec {rw : Bool} {n : Nat} {ops : List Op} {a b : (sys rw n ops).State}
    {ls : List (Option (sys rw n ops).Event)} (h : Exec (sys rw n ops) a ls b) : Ex rw ops a ls b := by
  induction h with
  | nil s => exact .nil s
  | cons hm _ ih => exact .cons hm ih

theorem exec_of_ex {rw : Bool} (n : Nat) {ops : List Op} {a b : State} {ls : List (Option Event)}
    (h : Ex rw ops a ls b) : Exec (sys rw n ops) a ls b := by
  induction h with
  | nil s => exact Exec.nil (sys := sys rw n ops) s
  | cons hm _ ih => exact Exec.cons (sys := sys rw n ops) hm ih

theorem Ex.append {rw : Bool} {ops : List Op} {a b c : State} {l1 l2 : List (Option Event)}
    (h1 : Ex rw ops a l1 b) (h2 : Ex rw ops b l2 c) : Ex rw ops a (l1 ++ l2) c :=
  -- any `n` will do: it occurs in the initial state of `sys rw n ops` only
  ex_of_exec (Exec.append (exec_of_ex 0 h1) (exec_of_ex 0 h2))

theorem Ex.padBy {rw : Bool} {ops : List Op} {a b : State} {ls : List (Option Event)} (k : Nat)
    (h : Ex rw ops a ls b) : Ex rw ops (padBy k a) ls (padBy k b) := by
  induction h with
  | nil s => exact .nil _
  | cons hm _ ih => exact .cons (succ_padBy k hm) ih

theorem Ex.ops_mono {rw : Bool} {ops ops' : List Op} (hm : ∀ op ∈ ops, op ∈ ops') {a b : State}
    {ls : List (Option Event)} (h : Ex rw ops a ls b) : Ex rw ops' a ls b := by
  induction h with
  | nil s => exact .nil _
  | cons hs _ ih => exact .cons (succ_ops_mono hm hs) ih

theorem live_of_padBy {k : Nat} {s : State} {m : Nat} (h : Live (padBy k s) m) : Live s m := by
  rcases h with h | ⟨p, hp, hl⟩
  · exact .inl h
  · rcases List.mem_append.1 hp with hp | hp
    · exact .inr ⟨p, hp, hl⟩
    · rw [(List.mem_replicate.1 hp).2] at hl
      cases hl

theorem wf_init (n : Nat) : WF (init n) := by
  refine ⟨List.nodup_nil, ?_⟩
  rintro m (⟨k, hk⟩ | ⟨p, hp, hl⟩)
  · cases hk
  · unfold init at hp
    rw [(List.mem_replicate.1 hp).2] at hl
    cases hl

theorem R_padBy {a x : State} (k : Nat) (h : R a x) : R (padBy k a) (padBy k x) := by
  obtain ⟨hw, f, hf⟩ := h
  refine sim_R_frame hw hf hw.keysNd (Nat.le_refl _) (fun _ => live_of_padBy) ?_ hf.map (Nat.le_refl _) hf.mu
    hf.wh hf.rh
  show x.pcs ++ List.replicate k Pc.idle = (a.pcs ++ List.replicate k Pc.idle).map (renPc f)
  rw [List.map_append, hf.pcs, List.map_replicate]
  rfl

theorem R_pad {a x : State} (t : Nat) (h : R a x) : R (pad t a) (pad t x) := by
  obtain ⟨hw, f, hf⟩ := h
  rw [pad_eq_padBy, pad_eq_padBy, sim_len hf]
  exact R_padBy _ ⟨hw, f, hf⟩

end TypVerif.Lemmas.C09Accept
