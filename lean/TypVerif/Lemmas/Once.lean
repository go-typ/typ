import TypVerif.Model.Once
/-
The invariant `Good` of the Once system: `ThreadOk` is what a goroutine knows at its program counter because it holds `mu`; while `done = 0`
either nothing is invoked or some goroutine is inside `inF`/`assign`/`store` (`doneF`), whence one invocation.  Inductive by mutual
exclusion: a step leaves the shared state alone while another goroutine holds `mu` (`Step.shared`, `threadOk_stable`).
-/
namespace TypVerif.Lemmas.Once
open TypVerif TypVerif.Conc TypVerif.Model.Once

theorem pc_setPc (s : State) (t t' : Nat) (p : Pc) (ht : t < s.pcs.length) :
    (s.setPc t p).pc t' = if t' = t then p else s.pc t' := by
  unfold State.pc State.setPc
  simp only [List.getD_eq_getElem?_getD, List.getElem?_set]
  by_cases h : t' = t
  · subst h; simp [ht]
  · have h' : ¬ t = t' := fun e => h e.symm
    simp [h, h']

/-- `stepT` builds its successors as record literals: only `pcs` matters to `pc`, the other five fields are arbitrary -/
theorem pc_mk_self {s : State} {t : Nat} (ht : t < s.pcs.length) (p : Pc) d m f i r :
    State.pc ⟨s.pcs.set t p, d, m, f, i, r⟩ t = p :=
  (pc_setPc s t t p ht).trans (if_pos rfl)

theorem pc_mk_ne {s : State} {t u : Nat} (ht : t < s.pcs.length) (hu : u ≠ t) (p : Pc) d m f i r :
    State.pc ⟨s.pcs.set t p, d, m, f, i, r⟩ u = s.pc u :=
  (pc_setPc s t u p ht).trans (if_neg hu)

theorem init_pc (n a t : Nat) : (init n a).pc t = .idle := by
  unfold State.pc init
  simp only [List.getD_eq_getElem?_getD, List.getElem?_replicate]
  split <;> rfl

theorem pc_ge (s : State) (u : Nat) (h : s.pcs.length ≤ u) : s.pc u = .idle := by
  unfold State.pc
  rw [List.getD_eq_getElem?_getD, List.getElem?_eq_none h]
  rfl

theorem lt_of_pc_ne_idle {s : State} {t : Nat} (h : s.pc t ≠ .idle) : t < s.pcs.length :=
  Nat.lt_of_not_le fun hle => h (pc_ge s t hle)

/-- `stepT` as a relation: goroutine `t` steps from `s` to `s'` with label `l`.
(`Step.tid`, `Step.not_urgent`: `Lemmas/ConcAcceptC17.lean`.) -/
inductive Step (res : Nat → List Int) (s : State) (t : Nat) : Option Event → State → Prop
  | call : s.pc t = .idle → Step res s t (some (.call t)) (s.setPc t .fast)
  | fast : s.pc t = .fast → Step res s t none (s.setPc t (if s.done then .read else .lock))
  | lock : s.mu = none → s.pc t = .lock → Step res s t none { s.setPc t .check with mu := some t }
  | check : s.pc t = .check → Step res s t none (s.setPc t (if s.done then .unlock else .callF))
  | fstart : s.pc t = .callF →
      Step res s t (some (.fstart t)) { s.setPc t .inF with invoked := t :: s.invoked }
  | fend : s.pc t = .inF →
      Step res s t (some (.fend t (res t))) { s.setPc t (.assign (res t)) with fres := some (res t) }
  | assign {r} : s.pc t = .assign r → Step res s t none { s.setPc t .store with fields := r }
  | store : s.pc t = .store → Step res s t none { s.setPc t .unlock with done := true }
  | unlock : s.pc t = .unlock → Step res s t none { s.setPc t .read with mu := none }
  | ret : s.pc t = .read → Step res s t (some (.ret t s.fields)) (s.setPc t .returned)

theorem mem_stepT {res : Nat → List Int} {s s' : State} {t : Nat} {l : Option Event} :
    (l, s') ∈ stepT res s t ↔ Step res s t l s' := by
  constructor
  · intro h
    cases hpc : s.pc t <;> simp only [stepT, hpc] at h
    case lock =>
      split at h
      · cases List.mem_singleton.mp h; exact .lock ‹_› hpc
      · cases h
    case returned => cases h
    all_goals cases List.mem_singleton.mp h; constructor; exact hpc
  · intro h
    cases h <;> simp only [stepT, *, if_true, List.mem_singleton]

/-- `stepT` consults the result function only at `inF` -/
theorem stepT_res (ρ R : Nat → List Int) (s : State) (u : Nat) (h : s.pc u = .inF → R u = ρ u) :
    stepT ρ s u = stepT R s u := by
  unfold stepT
  cases hpc : s.pc u
  case inF => rw [h hpc]
  all_goals rfl

theorem mem_succ {res : Nat → List Int} {s : State} {p : Option Event × State} :
    p ∈ succ res s ↔ ∃ t, t < s.pcs.length ∧ p ∈ stepT res s t := by
  unfold succ
  simp [List.mem_flatMap, List.mem_range]

theorem step_of_succ {res : Nat → List Int} {s s' : State} {l : Option Event}
    (h : (l, s') ∈ succ res s) : ∃ t, t < s.pcs.length ∧ Step res s t l s' :=
  let ⟨t, ht, h⟩ := mem_succ.mp h
  ⟨t, ht, mem_stepT.mp h⟩

theorem Step.mem_succ {res : Nat → List Int} {s s' : State} {t : Nat} {l : Option Event}
    (h : Step res s t l s') (ht : t < s.pcs.length) : (l, s') ∈ succ res s :=
  Once.mem_succ.mpr ⟨t, ht, mem_stepT.mpr h⟩

section
variable {res : Nat → List Int} {s s' : State} {t : Nat} {l : Option Event}

/-- control flow of `Do`: the program counter after the step at `p` -/
def nextPc (done : Bool) (r : List Int) : Pc → Pc
  | .idle => .fast
  | .fast => if done then .read else .lock
  | .lock => .check
  | .check => if done then .unlock else .callF
  | .callF => .inF
  | .inF => .assign r
  | .assign _ => .store
  | .store => .unlock
  | .unlock => .read
  | .read | .returned => .returned

theorem Step.pcs (h : Step res s t l s') : s'.pcs = s.pcs.set t (nextPc s.done (res t) (s.pc t)) := by
  cases h <;> rename_i hpc <;> rw [hpc] <;> rfl

/-- a pending result is the result of the function that has just run -/
theorem nextPc_eq_assign {d : Bool} {r r' : List Int} {p : Pc} (h : nextPc d r p = .assign r') : r' = r := by
  cases p
  case inF =>
    cases h
    rfl
  case fast | check => cases d <;> cases h
  all_goals cases h

theorem Step.length_eq (h : Step res s t l s') : s'.pcs.length = s.pcs.length := by
  rw [h.pcs, List.length_set]

theorem Step.pc_self (h : Step res s t l s') (ht : t < s.pcs.length) :
    s'.pc t = nextPc s.done (res t) (s.pc t) :=
  (congrArg (·.getD t .idle) h.pcs).trans (pc_mk_self ht _ s.done s.mu s.fields s.invoked s.fres)

theorem Step.pc_ne (h : Step res s t l s') (ht : t < s.pcs.length) {u : Nat} (hu : u ≠ t) :
    s'.pc u = s.pc u :=
  (congrArg (·.getD u .idle) h.pcs).trans (pc_mk_ne ht hu _ s.done s.mu s.fields s.invoked s.fres)

theorem Step.enabled (res : Nat → List Int) (hr : s.pc t ≠ .returned) (hl : s.pc t = .lock → s.mu = none) :
    ∃ l s', Step res s t l s' := by
  cases hpc : s.pc t with
  | idle => exact ⟨_, _, .call hpc⟩
  | fast => exact ⟨_, _, .fast hpc⟩
  | lock => exact ⟨_, _, .lock (hl hpc) hpc⟩
  | check => exact ⟨_, _, .check hpc⟩
  | callF => exact ⟨_, _, .fstart hpc⟩
  | inF => exact ⟨_, _, .fend hpc⟩
  | assign => exact ⟨_, _, .assign hpc⟩
  | store => exact ⟨_, _, .store hpc⟩
  | unlock => exact ⟨_, _, .unlock hpc⟩
  | read => exact ⟨_, _, .ret hpc⟩
  | returned => exact absurd hpc hr

theorem Step.not_returned (h : Step res s t l s') : s.pc t ≠ .returned := by
  cases h <;> rename_i hpc <;> exact fun e => nomatch hpc.symm.trans e

theorem Step.mu (h : Step res s t l s') :
    (s.pc t = .lock ∧ s.mu = none ∧ s'.mu = some t) ∨ (s.pc t = .unlock ∧ s'.mu = none) ∨
    (s.pc t ≠ .lock ∧ s.pc t ≠ .unlock ∧ s'.mu = s.mu) := by
  cases h with
  | lock hm hpc => exact .inl ⟨hpc, hm, rfl⟩
  | unlock hpc => exact .inr (.inl ⟨hpc, rfl⟩)
  | _ =>
    rename_i hpc
    exact .inr (.inr ⟨fun e => (nomatch hpc.symm.trans e), fun e => (nomatch hpc.symm.trans e), rfl⟩)

end

/-- what goroutine `t` knows at its program counter -/
def ThreadOk (s : State) (t : Nat) : Prop :=
  match s.pc t with
  | .idle | .fast | .lock => True
  | .check => s.mu = some t
  | .callF => s.mu = some t ∧ s.done = false ∧ s.invoked = [] ∧ s.fres = none
  | .inF => s.mu = some t ∧ s.done = false ∧ s.invoked = [t] ∧ s.fres = none
  | .assign r => s.mu = some t ∧ s.done = false ∧ s.invoked = [t] ∧ s.fres = some r
  | .store => s.mu = some t ∧ s.done = false ∧ s.invoked = [t] ∧ s.fres = some s.fields
  | .unlock => s.mu = some t ∧ s.done = true
  | .read | .returned => s.done = true

def isRun : Pc → Bool
  | .inF | .assign _ | .store => true
  | _ => false

structure Good (s : State) : Prop where
  thread : ∀ t, ThreadOk s t
  doneT : s.done = true → s.invoked.length = 1 ∧ s.fres = some s.fields
  doneF : s.done = false → (s.invoked = [] ∧ s.fres = none) ∨ ∃ t, isRun (s.pc t) = true

theorem good_init (n a : Nat) : Good (init n a) := by
  refine ⟨fun t => ?_, (fun h => nomatch h), fun _ => .inl ⟨rfl, rfl⟩⟩
  unfold ThreadOk
  rw [init_pc]
  trivial

theorem run_facts {s : State} (hg : Good s) {t : Nat} (h : isRun (s.pc t) = true) :
    s.mu = some t ∧ s.done = false ∧ s.invoked = [t] := by
  have h' := hg.thread t
  unfold ThreadOk at h'
  cases hpc : s.pc t <;> rw [hpc] at h
  case inF | assign | store =>
    rw [hpc] at h'
    exact ⟨h'.1, h'.2.1, h'.2.2.1⟩
  all_goals cases h

/-- under the mutex with `done = 0` nothing has been invoked -/
theorem check_fresh {s : State} (hg : Good s) {t : Nat} (hpc : s.pc t = .check) (hd : s.done = false) :
    s.invoked = [] ∧ s.fres = none := by
  refine (hg.doneF hd).resolve_right fun ⟨t0, h0⟩ => ?_
  have h2 := hg.thread t
  unfold ThreadOk at h2
  rw [hpc] at h2
  cases Option.some.inj ((run_facts hg h0).1.symm.trans h2)
  rw [hpc] at h0
  cases h0

section
variable {res : Nat → List Int} {s s' : State} {t : Nat} {l : Option Event}

/-- mutual exclusion: a step never resets `done`, and it leaves the whole shared state alone while another
goroutine holds the mutex -/
theorem Step.shared (hT : ThreadOk s t) (h : Step res s t l s') :
    (s.done = true → s'.done = true) ∧
    ∀ u, u ≠ t → s.mu = some u → s'.mu = s.mu ∧ s'.done = s.done ∧ s'.invoked = s.invoked ∧
      s'.fres = s.fres ∧ s'.fields = s.fields := by
  unfold ThreadOk at hT
  have other : ∀ {P : Prop}, s.mu = some t → ∀ u, u ≠ t → s.mu = some u → P :=
    fun ht u hu hm => absurd (Option.some.inj (hm.symm.trans ht)) hu
  cases h with
  | call | fast | check | ret => exact ⟨id, fun _ _ _ => ⟨rfl, rfl, rfl, rfl, rfl⟩⟩
  | lock hm => exact ⟨id, fun u _ hu => nomatch hm.symm.trans hu⟩
  | fstart hpc | fend hpc | assign hpc | unlock hpc => rw [hpc] at hT; exact ⟨id, other hT.1⟩
  | store hpc => rw [hpc] at hT; exact ⟨fun _ => rfl, other hT.1⟩

/-- what goroutine `u` knows survives a step that leaves its program counter alone, never resets `done`, and
leaves the shared state alone while `u` holds the mutex -/
theorem threadOk_stable {u : Nat} (hpc : s'.pc u = s.pc u) (h : ThreadOk s u)
    (hd : s.done = true → s'.done = true)
    (hm : s.mu = some u → s'.mu = s.mu ∧ s'.done = s.done ∧ s'.invoked = s.invoked ∧
      s'.fres = s.fres ∧ s'.fields = s.fields) : ThreadOk s' u := by
  unfold ThreadOk at h ⊢
  rw [hpc]
  cases hp : s.pc u <;> rw [hp] at h
  case idle | fast | lock => trivial
  case read | returned => exact hd h
  case check => exact (hm h).1.trans h
  all_goals
    obtain ⟨e1, e2, e3, e4, e5⟩ := hm h.1
    simp only [e1, e2, e3, e4, e5]
    exact h

theorem Step.threadOk_self (hg : Good s) (ht : t < s.pcs.length) (h : Step res s t l s') : ThreadOk s' t := by
  have hT := hg.thread t
  unfold ThreadOk at hT ⊢
  rw [h.pc_self ht]
  cases h with
  | call hpc | lock _ hpc => rw [hpc]; trivial
  | fast hpc =>
    rw [hpc]
    cases hd : s.done
    · trivial
    · exact hd
  | check hpc =>
    rw [hpc] at hT ⊢
    cases hd : s.done
    · exact ⟨hT, hd, check_fresh (s := s) hg hpc hd⟩
    · exact ⟨hT, hd⟩
  | fstart hpc => rw [hpc] at hT ⊢; exact ⟨hT.1, hT.2.1, congrArg (t :: ·) hT.2.2.1, hT.2.2.2⟩
  | fend hpc => rw [hpc] at hT ⊢; exact ⟨hT.1, hT.2.1, hT.2.2.1, rfl⟩
  | assign hpc => rw [hpc] at hT ⊢; exact hT
  | store hpc => rw [hpc] at hT ⊢; exact ⟨hT.1, rfl⟩
  | unlock hpc => rw [hpc] at hT ⊢; exact hT.2
  | ret hpc => rw [hpc] at hT ⊢; exact hT

theorem Step.thread (hg : Good s) (ht : t < s.pcs.length) (h : Step res s t l s') (u : Nat) : ThreadOk s' u := by
  by_cases e : u = t
  · exact e ▸ h.threadOk_self hg ht
  · have hs := h.shared (hg.thread t)
    exact threadOk_stable (h.pc_ne ht e) (hg.thread u) hs.1 (hs.2 u e)

theorem Step.doneT (hg : Good s) (h : Step res s t l s') :
    s'.done = true → s'.invoked.length = 1 ∧ s'.fres = some s'.fields := by
  have hT := hg.thread t
  unfold ThreadOk at hT
  cases h with
  | call | fast | lock | check | unlock | ret => exact hg.doneT
  | fstart hpc | fend hpc | assign hpc => rw [hpc] at hT; exact fun hd => nomatch hT.2.1.symm.trans hd
  | store hpc => rw [hpc] at hT; exact fun _ => ⟨congrArg List.length hT.2.2.1, hT.2.2.2⟩

theorem Step.doneF (hg : Good s) (ht : t < s.pcs.length) (h : Step res s t l s') :
    s'.done = false → (s'.invoked = [] ∧ s'.fres = none) ∨ ∃ u, isRun (s'.pc u) = true := by
  -- a step by a goroutine that is not running `f` and that leaves `done`, `invoked`, `fres` alone
  have keep : s'.done = s.done → s'.invoked = s.invoked → s'.fres = s.fres → isRun (s.pc t) = false →
      s'.done = false → (s'.invoked = [] ∧ s'.fres = none) ∨ ∃ u, isRun (s'.pc u) = true := by
    intro e1 e2 e3 hr hd
    rw [e2, e3]
    refine (hg.doneF (e1.symm.trans hd)).imp_right fun ⟨u, hu⟩ => ⟨u, ?_⟩
    have hne : u ≠ t := fun e => by rw [e, hr] at hu; cases hu
    rwa [h.pc_ne ht hne]
  have hself := h.pc_self ht
  cases h with
  | call hpc | fast hpc | lock _ hpc | check hpc | unlock hpc | ret hpc =>
    exact keep rfl rfl rfl (by rw [hpc]; rfl)
  | fstart hpc | fend hpc | assign hpc => exact fun _ => .inr ⟨t, by rw [hself, hpc]; rfl⟩
  | store => exact fun hd => nomatch hd

end

theorem Step.good {res : Nat → List Int} {s s' : State} {t : Nat} {l : Option Event}
    (hg : Good s) (ht : t < s.pcs.length) (h : Step res s t l s') : Good s' :=
  ⟨h.thread hg ht, h.doneT hg, h.doneF hg ht⟩

theorem good_step (res : Nat → List Int) (s : State) (l : Option Event) (s' : State)
    (hg : Good s) (hmem : (l, s') ∈ succ res s) : Good s' :=
  let ⟨_, ht, h⟩ := step_of_succ hmem
  h.good hg ht

theorem good_reachable (n a : Nat) (res : Nat → List Int) :
    ∀ s, Reachable (sys n a res) s → Good s :=
  Conc.invariant (sys n a res) Good (good_init n a) (fun s l s' h hm => good_step res s l s' h hm)

theorem invocations_le_one {s : State} (hg : Good s) : s.invocations ≤ 1 := by
  unfold State.invocations
  cases hd : s.done
  · rcases hg.doneF hd with h | ⟨t, ht⟩
    · rw [h.1]; exact Nat.zero_le 1
    · rw [(run_facts hg ht).2.2]; exact Nat.le_refl 1
  · exact Nat.le_of_eq (hg.doneT hd).1

section
variable {res : Nat → List Int} {s s' : State} {t : Nat} {l : Option Event} {r : List Int}

theorem Step.invoked (h : Step res s t l s') :
    s'.invoked = match (generalizing := false) l with
      | some (.fstart u) => u :: s.invoked
      | _ => s.invoked := by
  cases h <;> rfl

theorem Step.fres (h : Step res s t l s') :
    s'.fres = match (generalizing := false) l with
      | some (.fend _ r) => some r
      | _ => s.fres := by
  cases h <;> rfl

theorem Step.fields (h : Step res s t l s') : s'.fields = s.fields ∨ ∃ r, s.pc t = .assign r ∧ s'.fields = r := by
  cases h with
  | assign hpc => exact .inr ⟨_, hpc, rfl⟩
  | _ => exact .inl rfl

theorem ret_step (h : (some (Event.ret t r), s') ∈ succ res s) :
    s.pc t = .read ∧ r = s.fields ∧ s'.pc t = .returned := by
  obtain ⟨_, ht, h⟩ := step_of_succ h
  have hself := h.pc_self ht
  cases h with
  | ret hpc => exact ⟨hpc, rfl, hself.trans (hpc ▸ rfl)⟩

/-- a `fend` is shown by its own goroutine at `inF`, carries and records the result of the function -/
theorem Step.fend_inv {u : Nat} (h : Step res s u (some (.fend t r)) s') :
    u = t ∧ s.pc t = .inF ∧ r = res t ∧ s'.fres = some r := by
  cases h
  exact ⟨rfl, ‹_›, rfl, rfl⟩

theorem fend_step (h : (some (Event.fend t r), s') ∈ succ res s) :
    s.pc t = .inF ∧ r = res t ∧ s'.fres = some r :=
  let ⟨_, _, h⟩ := step_of_succ h
  h.fend_inv.2

theorem Step.fres_stable (hg : Good s) (hr : s.fres = some r) (h : Step res s t l s') : s'.fres = some r := by
  have hT := hg.thread t
  unfold ThreadOk at hT
  cases h with
  | fend hpc => rw [hpc] at hT; exact nomatch hT.2.2.2.symm.trans hr
  | _ => exact hr

def isFend : Event → Bool
  | .fend _ _ => true
  | _ => false

/-- the `fend` events are counted by the record `fres`: it is empty before the one step that shows one and filled after
it, and no other step touches it -/
theorem Step.fend_count (hg : Good s) (h : Step res s t l s') :
    (visible [l]).countP isFend + s.fres.isSome.toNat = s'.fres.isSome.toNat := by
  have hT := hg.thread t
  unfold ThreadOk at hT
  cases h with
  | fend hpc => rw [hpc] at hT; rw [hT.2.2.2]; rfl
  | _ => exact Nat.zero_add _

end

theorem exec_fend_count {n a : Nat} {res : Nat → List Int} {s s' : (sys n a res).State}
    {ls : List (Option Event)} (h : Exec (sys n a res) s ls s') (hg : Good s) :
    (visible ls).countP isFend + s.fres.isSome.toNat = s'.fres.isSome.toNat := by
  induction h with
  | nil s => exact Nat.zero_add _
  | @cons s s1 s2 l ls hm _ ih =>
    obtain ⟨t, ht, hs⟩ := step_of_succ hm
    rw [← ih (hs.good hg ht), ← hs.fend_count hg]
    cases l with
    | none => exact congrArg _ (Nat.zero_add _).symm
    | some e =>
      show (e :: visible ls).countP isFend + _ = _ + ([e].countP isFend + _)
      rw [List.countP_cons, List.countP_cons, List.countP_nil]
      omega

end TypVerif.Lemmas.Once
