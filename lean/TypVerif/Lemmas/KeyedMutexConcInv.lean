import TypVerif.Lemmas.KeyedMutexConcBasic
import TypVerif.Lemmas.KeyedMutexConcAbs
import TypVerif.Lemmas.SmcStep
/-
C09 on the step-level map, layer 2: the composed invariant `Inv k s a` (for a key `k` that `ClearKey` is never applied to) and its
building blocks.

`Inv k s a` relates a state `s` of the composed system (`Model/KeyedMutexConc.lean`) to a state `a` of the relaxed atomic map:
* `len`  : the map component and the phase list have the same number of goroutines;
* `r`    : `R s.map a` — the simulation relation of the C04 proof (`Lemmas/SmcDefs.lean`), re-established by `sim_step`;
* `ak`   : `AbsKey k s.offers a` (`Lemmas/KeyedMutexConcAbs.lean`);
* `off`  : identities are offered for one key only, and are `< s.next`;
* `link` : per goroutine, how its phase relates to the map component and to `a`: idle / at a hook / returning ⇒ the map
           goroutine is idle; inside the map call ⇒ the abstract goroutine runs the method's map operation; at the hook with
           mutex `m` for key `k` ⇒ `a.obj k = some m`; inside `UnlockKey(k)` ⇒ it holds `k`;
* `mu`   : the mutex bookkeeping of key `k`: whoever holds `k` holds it in the mutex `a.obj k`; the ghost holder lists and the
           mutex automaton of `a.obj k` agree (with multiplicity); a mutex never has a writer and readers; an identity offered
           for `k` only that is not (yet) the map's value is free; no unlock fault on `k`.
-/
namespace TypVerif.Lemmas.KeyedMutexConc
open TypVerif TypVerif.Model TypVerif.Model.SyncMapConc TypVerif.Model.RelObj TypVerif.Lemmas.Smc
open TypVerif.Model.KeyedMutexConc (Phase Kind Mu MId mapOp invOk invStep afterMap retOf valOf finish mapSteps contMap
  acqW acqR hookStep getMu putMu)

-- `[DecidableEq K]` is a section variable; the lemmas that do not need it take it all the same
set_option linter.unusedSectionVars false

variable {K : Type} [DecidableEq K]

abbrev KState (K : Type) := KeyedMutexConc.State K

structure OffersOk (s : KState K) : Prop where
  lt : ∀ p ∈ s.offers, p.1 < s.next
  func : ∀ m k1 k2, (m, k1) ∈ s.offers → (m, k2) ∈ s.offers → k1 = k2

def Link (k : K) (s : KState K) (a : AState K Nat) (t : Tid) : Prop :=
  match s.phase t with
  | .idle => s.map.pc t = .idle
  | .inMap kind k' =>
    (∃ v, opOf (a.pcs t) = some (mapOp kind k' v)) ∧
    (kind = .unlock → k' = k → ∃ m, (t, k, m) ∈ s.wh) ∧ (kind = .runlock → k' = k → ∃ m, (t, k, m) ∈ s.rh)
  | .atHook _ k' m => s.map.pc t = .idle ∧ (m, k') ∈ s.offers ∧ (k' = k → a.obj k = some m)
  | .ret _ => s.map.pc t = .idle

/-- the mutex bookkeeping of key `k`.  `free` is for the moment `a.obj k` goes from `none` to `some m`: `m` was offered for `k`
only and was not the map's value, hence is free, hence the counts `wcount`/`rcount` for the new value are `0 = 0`
(`MuInv.abs_step`). -/
structure MuInv (k : K) (s : KState K) (a : AState K Nat) : Prop where
  wkey : ∀ t m, (t, k, m) ∈ s.wh → a.obj k = some m
  rkey : ∀ t m, (t, k, m) ∈ s.rh → a.obj k = some m
  wcount : ∀ t m, a.obj k = some m → s.wh.count (t, k, m) = if (s.mu m).writer = some t then 1 else 0
  rcount : ∀ t m, a.obj k = some m → s.rh.count (t, k, m) = (s.mu m).readers.count t
  wr : ∀ m, (s.mu m).writer ≠ none → (s.mu m).readers = []
  free : ∀ m, a.obj k ≠ some m → (∀ k', (m, k') ∈ s.offers → k' = k) → (s.mu m).free
  nofault : k ∉ s.faults

structure Inv (k : K) (s : KState K) (a : AState K Nat) : Prop where
  len : s.map.pcs.length = s.phases.length
  r : R s.map a
  ak : AbsKey k s.offers a
  off : OffersOk s
  link : ∀ t, Link k s a t
  mu : MuInv k s a

theorem Inv.lt_map {k : K} {s : KState K} {a : AState K Nat} (h : Inv k s a) {t : Tid} (ht : t < s.phases.length) :
    t < s.map.pcs.length := by rw [h.len]; exact ht

def LinkAt (k : K) (s : KState K) (a : AState K Nat) (t : Tid) : Phase K → Prop
  | .idle | .ret _ => s.map.pc t = .idle
  | .inMap kind k' =>
    (∃ v, opOf (a.pcs t) = some (mapOp kind k' v)) ∧
    (kind = .unlock → k' = k → ∃ m, (t, k, m) ∈ s.wh) ∧ (kind = .runlock → k' = k → ∃ m, (t, k, m) ∈ s.rh)
  | .atHook _ k' m => s.map.pc t = .idle ∧ (m, k') ∈ s.offers ∧ (k' = k → a.obj k = some m)

theorem link_at {k : K} {s : KState K} {a : AState K Nat} {t : Tid} {p : Phase K} (h : s.phase t = p) :
    Link k s a t ↔ LinkAt k s a t p := by
  unfold Link
  rw [h]
  cases p <;> exact Iff.rfl

theorem Inv.linkAt {k : K} {s : KState K} {a : AState K Nat} (h : Inv k s a) {t : Tid} {p : Phase K}
    (hph : s.phase t = p) : LinkAt k s a t p :=
  (link_at hph).mp (h.link t)

theorem Link.other {k : K} {s s' : KState K} {a a' : AState K Nat} {u : Tid} (h : Link k s a u)
    (hph : s'.phase u = s.phase u) (hpc : s'.map.pc u = s.map.pc u) (hop : opOf (a'.pcs u) = opOf (a.pcs u))
    (hst : Stable k a a') (hoff : ∀ p ∈ s.offers, p ∈ s'.offers)
    (hwh : ∀ m, (u, k, m) ∈ s.wh → (u, k, m) ∈ s'.wh) (hrh : ∀ m, (u, k, m) ∈ s.rh → (u, k, m) ∈ s'.rh) :
    Link k s' a' u := by
  rw [link_at rfl] at h
  rw [link_at hph]
  generalize s.phase u = p at h
  cases p with
  | idle | ret _ => exact hpc.trans h
  | atHook kind k' m => exact ⟨hpc.trans h.1, hoff _ h.2.1, fun hk => hst _ (h.2.2 hk)⟩
  | inMap kind k' =>
    refine ⟨hop ▸ h.1, fun h1 h2 => ?_, fun h1 h2 => ?_⟩
    · obtain ⟨m, hm⟩ := h.2.1 h1 h2
      exact ⟨m, hwh m hm⟩
    · obtain ⟨m, hm⟩ := h.2.2 h1 h2
      exact ⟨m, hrh m hm⟩

/-! ### `MuInv`: the abstract state moves, the mutexes do not

With `a' = a` this is also the frame lemma for a step that changes neither (phases or map component only). -/

theorem MuInv.abs_step {k : K} {s s' : KState K} {a a' : AState K Nat} (h : MuInv k s a)
    (hmus : s'.mus = s.mus) (hwh : s'.wh = s.wh) (hrh : s'.rh = s.rh) (hf : s'.faults = s.faults)
    (hoff : ∀ p ∈ s.offers, p ∈ s'.offers) (hfunc : OffersOk s') (hak : AbsKey k s'.offers a') (hst : Stable k a a') :
    MuInv k s' a' := by
  -- the value of `k` is the one before the step, or `k` was unbound and the new value is a free mutex (field `free`)
  have key : ∀ m, a'.obj k = some m → a.obj k = some m ∨
      (a.obj k = none ∧ (s.mu m).free) := by
    intro m hm
    cases ha : a.obj k with
    | none =>
      right
      refine ⟨rfl, h.free m (by rw [ha]; intro hc; cases hc) ?_⟩
      intro k' hk'
      exact hfunc.func m k' k (hoff _ hk') (hak.vals k m hm)
    | some m1 =>
      left
      have := hst m1 ha
      rw [hm] at this
      rw [Option.some.inj this]
  have nomem : a.obj k = none → (∀ y : Tid × K × MId, y.2.1 = k → y ∉ s.wh) ∧ (∀ y : Tid × K × MId, y.2.1 = k → y ∉ s.rh) := by
    intro ha
    refine ⟨?_, ?_⟩
    · rintro ⟨t, k1, m⟩ hk hy
      simp only at hk; subst hk
      have := h.wkey t m hy
      rw [ha] at this; cases this
    · rintro ⟨t, k1, m⟩ hk hy
      simp only at hk; subst hk
      have := h.rkey t m hy
      rw [ha] at this; cases this
  refine ⟨?_, ?_, ?_, ?_, ?_, ?_, ?_⟩
  · intro t m hm
    rw [hwh] at hm
    exact hst m (h.wkey t m hm)
  · intro t m hm
    rw [hrh] at hm
    exact hst m (h.rkey t m hm)
  · intro t m hm
    rw [hwh, mu_of_mus hmus]
    rcases key m hm with h1 | ⟨h1, h2⟩
    · exact h.wcount t m h1
    · rw [List.count_eq_zero.mpr ((nomem h1).1 (t, k, m) rfl), h2.1]
      simp
  · intro t m hm
    rw [hrh, mu_of_mus hmus]
    rcases key m hm with h1 | ⟨h1, h2⟩
    · exact h.rcount t m h1
    · rw [List.count_eq_zero.mpr ((nomem h1).2 (t, k, m) rfl), h2.2]
      simp
  · intro m
    rw [mu_of_mus hmus]
    exact h.wr m
  · intro m hm hk
    rw [mu_of_mus hmus]
    refine h.free m ?_ (fun k' hk' => hk k' (hoff _ hk'))
    intro hc
    exact hm (hst m hc)
  · rw [hf]; exact h.nofault

theorem MuInv.foreign {k : K} {s s' : KState K} {a : AState K Nat} (h : MuInv k s a) {m : MId} {x : Mu} {k' : K}
    (hk' : k' ≠ k) (hm : (m, k') ∈ s.offers) (hoffok : OffersOk s) (hak : AbsKey k s.offers a)
    (hmus : s'.mus = putMu s.mus m x) (hx : x.writer ≠ none → x.readers = [])
    (hwh : ∀ y : Tid × K × MId, y.2.1 = k → s'.wh.count y = s.wh.count y)
    (hrh : ∀ y : Tid × K × MId, y.2.1 = k → s'.rh.count y = s.rh.count y)
    (hf : k ∉ s'.faults) (hoff : s'.offers = s.offers) : MuInv k s' a := by
  have hne : ∀ m0, a.obj k = some m0 → m0 ≠ m := by
    intro m0 h0 he
    subst he
    exact hk' (hoffok.func m0 k' k hm (hak.vals k m0 h0))
  refine ⟨?_, ?_, ?_, ?_, ?_, ?_, hf⟩
  · intro t m1 h1
    have := List.count_pos_iff.mpr h1
    rw [hwh _ rfl] at this
    exact h.wkey t m1 (List.count_pos_iff.mp this)
  · intro t m1 h1
    have := List.count_pos_iff.mpr h1
    rw [hrh _ rfl] at this
    exact h.rkey t m1 (List.count_pos_iff.mp this)
  · intro t m0 h0
    rw [hwh _ rfl, mu_of_putMu_ne hmus (hne m0 h0)]
    exact h.wcount t m0 h0
  · intro t m0 h0
    rw [hrh _ rfl, mu_of_putMu_ne hmus (hne m0 h0)]
    exact h.rcount t m0 h0
  · intro m1
    by_cases h1 : m1 = m
    · subst h1; rw [mu_of_putMu_self hmus]; exact hx
    · rw [mu_of_putMu_ne hmus h1]; exact h.wr m1
  · intro m1 h1 h2
    by_cases h3 : m1 = m
    · subst h3
      rw [hoff] at h2
      exact absurd (h2 k' hm) hk'
    · rw [mu_of_putMu_ne hmus h3]
      rw [hoff] at h2
      exact h.free m1 h1 h2

theorem MuInv.writer_of_mem {k : K} {s : KState K} {a : AState K Nat} (h : MuInv k s a) {m : MId} {t : Tid}
    (hmem : (t, k, m) ∈ s.wh) : a.obj k = some m ∧ (s.mu m).writer = some t := by
  have hobj := h.wkey t m hmem
  refine ⟨hobj, ?_⟩
  have h1 := h.wcount t m hobj
  have h2 := List.count_pos_iff.mpr hmem
  by_cases hw : (s.mu m).writer = some t
  · exact hw
  · rw [h1, if_neg hw] at h2; exact absurd h2 (Nat.lt_irrefl 0)

theorem MuInv.reader_of_mem {k : K} {s : KState K} {a : AState K Nat} (h : MuInv k s a) {m : MId} {t : Tid}
    (hmem : (t, k, m) ∈ s.rh) : a.obj k = some m ∧ t ∈ (s.mu m).readers := by
  have hobj := h.rkey t m hmem
  refine ⟨hobj, ?_⟩
  have h1 := h.rcount t m hobj
  have h2 := List.count_pos_iff.mpr hmem
  rw [h1] at h2
  exact List.count_pos_iff.mp h2

/-- the map's mutex `m` for `k` becomes `x`: the bookkeeping is kept if the holder lists of `(k, m)` move with it -/
theorem MuInv.key_step {k : K} {s s' : KState K} {a : AState K Nat} (h : MuInv k s a) {m : MId} {x : Mu}
    (hobj : a.obj k = some m) (hmus : s'.mus = putMu s.mus m x)
    (hwk : ∀ t y, (t, k, y) ∈ s'.wh → (t, k, y) ∈ s.wh ∨ y = m) (hrk : ∀ t y, (t, k, y) ∈ s'.rh → (t, k, y) ∈ s.rh ∨ y = m)
    (hwc : ∀ t, s'.wh.count (t, k, m) = if x.writer = some t then 1 else 0)
    (hrc : ∀ t, s'.rh.count (t, k, m) = x.readers.count t) (hx : x.writer ≠ none → x.readers = [])
    (hf : k ∉ s'.faults) (hoff : s'.offers = s.offers) : MuInv k s' a := by
  have huniq : ∀ m0, a.obj k = some m0 → m0 = m := fun m0 h0 => Option.some.inj (h0.symm.trans hobj)
  refine ⟨?_, ?_, ?_, ?_, ?_, ?_, hf⟩
  · intro t y hy
    rcases hwk t y hy with h1 | h1
    · exact h.wkey t y h1
    · rw [h1]; exact hobj
  · intro t y hy
    rcases hrk t y hy with h1 | h1
    · exact h.rkey t y h1
    · rw [h1]; exact hobj
  · intro t m0 h0
    cases huniq m0 h0
    rw [mu_of_putMu_self hmus]; exact hwc t
  · intro t m0 h0
    cases huniq m0 h0
    rw [mu_of_putMu_self hmus]; exact hrc t
  · intro m1
    by_cases h1 : m1 = m
    · subst h1; rw [mu_of_putMu_self hmus]; exact hx
    · rw [mu_of_putMu_ne hmus h1]; exact h.wr m1
  · intro m1 h1 h2
    have h3 : m1 ≠ m := by intro e; subst e; exact h1 hobj
    rw [mu_of_putMu_ne hmus h3]
    rw [hoff] at h2
    exact h.free m1 h1 h2

theorem MuInv.acqW_key {k : K} {s s' : KState K} {a : AState K Nat} (h : MuInv k s a) {m : MId} {t : Tid}
    (hobj : a.obj k = some m) (hfree : (s.mu m).free)
    (hmus : s'.mus = putMu s.mus m { s.mu m with writer := some t }) (hwh : s'.wh = (t, k, m) :: s.wh)
    (hrh : s'.rh = s.rh) (hf : s'.faults = s.faults) (hoff : s'.offers = s.offers) : MuInv k s' a := by
  refine h.key_step hobj hmus ?_ (fun _ _ hy => .inl (hrh ▸ hy)) ?_ (fun t' => hrh ▸ h.rcount t' m hobj)
    (fun _ => hfree.2) (hf ▸ h.nofault) hoff
  · intro t' y hy
    rw [hwh] at hy
    rcases List.mem_cons.mp hy with e | hy
    · cases e; exact .inr rfl
    · exact .inl hy
  · intro t'
    rw [hwh, List.count_cons, h.wcount t' m hobj, hfree.1]
    by_cases htt : t = t'
    · subst htt; simp
    · have : ¬ (some t = some t') := fun e => htt (Option.some.inj e)
      simp [htt, this]

theorem MuInv.acqR_key {k : K} {s s' : KState K} {a : AState K Nat} (h : MuInv k s a) {m : MId} {t : Tid}
    (hobj : a.obj k = some m) (hfree : (s.mu m).readable)
    (hmus : s'.mus = putMu s.mus m { s.mu m with readers := t :: (s.mu m).readers }) (hrh : s'.rh = (t, k, m) :: s.rh)
    (hwh : s'.wh = s.wh) (hf : s'.faults = s.faults) (hoff : s'.offers = s.offers) : MuInv k s' a := by
  refine h.key_step hobj hmus (fun _ _ hy => .inl (hwh ▸ hy)) ?_ (fun t' => hwh ▸ h.wcount t' m hobj) ?_
    (fun hc => absurd hfree hc) (hf ▸ h.nofault) hoff
  · intro t' y hy
    rw [hrh] at hy
    rcases List.mem_cons.mp hy with e | hy
    · cases e; exact .inr rfl
    · exact .inl hy
  · intro t'
    rw [hrh, List.count_cons, h.rcount t' m hobj]
    show _ = List.count t' (t :: (s.mu m).readers)
    rw [List.count_cons]
    by_cases htt : t = t'
    · subst htt; simp
    · simp [htt]

theorem MuInv.relW_key {k : K} {s s' : KState K} {a : AState K Nat} (h : MuInv k s a) {m : MId} {t : Tid}
    (hmem : (t, k, m) ∈ s.wh)
    (hmus : s'.mus = putMu s.mus m { s.mu m with writer := none }) (hwh : s'.wh = s.wh.erase (t, k, m))
    (hrh : s'.rh = s.rh) (hf : s'.faults = if (s.mu m).writer = some t then s.faults else k :: s.faults)
    (hoff : s'.offers = s.offers) : MuInv k s' a := by
  obtain ⟨hobj, hw⟩ := h.writer_of_mem hmem
  refine h.key_step hobj hmus (fun _ _ hy => .inl (List.mem_of_mem_erase (hwh ▸ hy))) (fun _ _ hy => .inl (hrh ▸ hy)) ?_
    (fun t' => hrh ▸ h.rcount t' m hobj) (fun hc => absurd rfl hc) (by rw [hf, if_pos hw]; exact h.nofault) hoff
  intro t'
  rw [hwh, List.count_erase, h.wcount t' m hobj, hw]
  by_cases htt : t = t'
  · subst htt; simp
  · have : ¬ (some t = some t') := fun e => htt (Option.some.inj e)
    simp [htt, this]

theorem MuInv.relR_key {k : K} {s s' : KState K} {a : AState K Nat} (h : MuInv k s a) {m : MId} {t : Tid}
    (hmem : (t, k, m) ∈ s.rh)
    (hmus : s'.mus = putMu s.mus m { s.mu m with readers := (s.mu m).readers.erase t }) (hrh : s'.rh = s.rh.erase (t, k, m))
    (hwh : s'.wh = s.wh) (hf : s'.faults = if t ∈ (s.mu m).readers then s.faults else k :: s.faults)
    (hoff : s'.offers = s.offers) : MuInv k s' a := by
  obtain ⟨hobj, hr⟩ := h.reader_of_mem hmem
  refine h.key_step hobj hmus (fun _ _ hy => .inl (hwh ▸ hy)) (fun _ _ hy => .inl (List.mem_of_mem_erase (hrh ▸ hy)))
    (fun t' => hwh ▸ h.wcount t' m hobj) ?_ ?_ (by rw [hf, if_pos hr]; exact h.nofault) hoff
  · intro t'
    rw [hrh, List.count_erase, h.rcount t' m hobj]
    show _ = List.count t' ((s.mu m).readers.erase t)
    rw [List.count_erase]
    by_cases htt : t = t'
    · subst htt; simp
    · simp [htt]
  · intro hc
    show (s.mu m).readers.erase t = []
    rw [h.wr m hc]; rfl

/-! ### assembling `Inv` after a step of goroutine `t` that leaves its map goroutine idle -/

/-- the phases a goroutine can be in when its map goroutine is idle, with what `Link` asks of them -/
def RestOk (k : K) (s : KState K) (a' : AState K Nat) : Phase K → Prop
  | .atHook _ k'' w => (w, k'') ∈ s.offers ∧ (k'' = k → a'.obj k = some w)
  | .inMap _ _ => False
  | _ => True

/-- `s3` is the state after the step, known only through the hypotheses: the map component (`hlen`, `hR`), the
abstract state (`hak`, `hst`, `hop`), the map goroutines (`hpcs`, `hpct`), the phases and the untouched fields (`hphases`, `hnext`,
`hoffers`, `hp`), the holders of `k` among the other goroutines (`hwh`, `hrh`), the mutex bookkeeping (`hmu`). -/
theorem Inv.frame {k : K} {s s3 : KState K} {a a' : AState K Nat} {t : Tid} {p : Phase K} (h : Inv k s a)
    (ht : t < s.phases.length)
    (hlen : s3.map.pcs.length = s.map.pcs.length)
    (hR : R s3.map a') (hak : AbsKey k s.offers a') (hst : Stable k a a')
    (hop : ∀ u, u ≠ t → opOf (a'.pcs u) = opOf (a.pcs u))
    (hpcs : ∀ u, u ≠ t → s3.map.pc u = s.map.pc u) (hpct : s3.map.pc t = .idle)
    (hphases : s3.phases = s.phases.set t p) (hnext : s3.next = s.next) (hoffers : s3.offers = s.offers)
    (hp : RestOk k s a' p)
    (hwh : ∀ u, u ≠ t → ∀ m, (u, k, m) ∈ s.wh → (u, k, m) ∈ s3.wh)
    (hrh : ∀ u, u ≠ t → ∀ m, (u, k, m) ∈ s.rh → (u, k, m) ∈ s3.rh)
    (hmu : MuInv k s3 a') : Inv k s3 a' := by
  refine ⟨?_, hR, by rw [hoffers]; exact hak, ⟨by rw [hoffers, hnext]; exact h.off.lt, by rw [hoffers]; exact h.off.func⟩,
    ?_, hmu⟩
  · rw [hlen, hphases, List.length_set]; exact h.len
  · intro u
    by_cases hu : u = t
    · subst hu
      have hph := phase_of_set_self hphases ht
      cases p with
      | idle | ret _ => exact (link_at hph).mpr hpct
      | inMap _ _ => exact absurd hp id
      | atHook kind k'' w => exact (link_at hph).mpr ⟨hpct, hoffers ▸ hp.1, hp.2⟩
    · exact (h.link u).other (phase_of_set_ne hphases hu) (hpcs u hu) (hop u hu) hst
        (by rw [hoffers]; exact fun _ x => x) (hwh u hu) (hrh u hu)

end TypVerif.Lemmas.KeyedMutexConc
