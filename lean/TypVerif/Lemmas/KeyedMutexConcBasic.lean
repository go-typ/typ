import TypVerif.Model.KeyedMutexConc
import TypVerif.Lemmas.SmcBasic
/-
C09 on the step-level map, layer 0: elementary facts about the composed model `Model/KeyedMutexConc.lean`.  Each is stated against
a field equation (`s'.mus = putMu …`, `s'.phases = s.phases.set …`), so that a caller with a record update closes it by `rfl`.
-/
namespace TypVerif.Lemmas.KeyedMutexConc
open TypVerif.Model TypVerif.Model.SyncMapConc TypVerif.Model.KeyedMutexConc
open TypVerif.Lemmas.Smc (pc_setPc_self pc_setPc_ne mem_stepT_iff mem_stepT_none_iff)

set_option linter.unusedSectionVars false

variable {K : Type} [DecidableEq K]

theorem getMu_putMu (l : List (MId × Mu)) (m : MId) (x : Mu) (m' : MId) :
    getMu (putMu l m x) m' = if m' = m then x else getMu l m' := by
  induction l with
  | nil =>
    simp only [putMu, getMu]
    by_cases h : m = m'
    · simp [h]
    · have : ¬ m' = m := fun e => h e.symm
      simp [h, this]
  | cons p r ih =>
    obtain ⟨i, y⟩ := p
    simp only [putMu]
    by_cases hi : i = m
    · subst hi
      simp only [if_true, getMu]
      by_cases h : i = m'
      · simp [h]
      · have : ¬ m' = i := fun e => h e.symm
        simp [h, this]
    · simp only [hi, if_false, getMu, ih]
      by_cases h : i = m'
      · have : ¬ m' = m := fun e => hi (h.trans e)
        simp [h, this]
      · simp [h]

theorem mu_of_mus {s s' : KeyedMutexConc.State K} (h : s'.mus = s.mus) (m : MId) : s'.mu m = s.mu m := by
  unfold KeyedMutexConc.State.mu; rw [h]

theorem mu_of_putMu {s s' : KeyedMutexConc.State K} {m : MId} {x : Mu} (h : s'.mus = putMu s.mus m x) (m' : MId) :
    s'.mu m' = if m' = m then x else s.mu m' := by
  unfold KeyedMutexConc.State.mu; rw [h, getMu_putMu]

theorem mu_of_putMu_self {s s' : KeyedMutexConc.State K} {m : MId} {x : Mu} (h : s'.mus = putMu s.mus m x) :
    s'.mu m = x := by
  rw [mu_of_putMu h]; simp

theorem mu_of_putMu_ne {s s' : KeyedMutexConc.State K} {m m' : MId} {x : Mu} (h : s'.mus = putMu s.mus m x)
    (hne : m' ≠ m) : s'.mu m' = s.mu m' := by
  rw [mu_of_putMu h]; simp [hne]

theorem phase_of_set {s s' : KeyedMutexConc.State K} {t : Tid} {p : Phase K} (h : s'.phases = s.phases.set t p) (u : Tid) :
    s'.phase u = if u = t ∧ t < s.phases.length then p else s.phase u := by
  simp only [KeyedMutexConc.State.phase, h, List.getD_eq_getElem?_getD, List.getElem?_set]
  by_cases h1 : t = u
  · subst h1
    by_cases h2 : t < s.phases.length
    · simp [h2]
    · simp [h2]
  · have : ¬ u = t := fun e => h1 e.symm
    simp [h1, this]

theorem phase_of_set_self {s s' : KeyedMutexConc.State K} {t : Tid} {p : Phase K} (h : s'.phases = s.phases.set t p)
    (ht : t < s.phases.length) : s'.phase t = p := by
  rw [phase_of_set h]; simp [ht]

theorem phase_of_set_ne {s s' : KeyedMutexConc.State K} {t u : Tid} {p : Phase K} (h : s'.phases = s.phases.set t p)
    (hu : u ≠ t) : s'.phase u = s.phase u := by
  rw [phase_of_set h]; simp [hu]

theorem phase_of_phases {s s' : KeyedMutexConc.State K} (h : s'.phases = s.phases) (u : Tid) : s'.phase u = s.phase u := by
  unfold KeyedMutexConc.State.phase; rw [h]

theorem stepT_idle (menu : List (KeyedMutexConc.Op K)) {s : KeyedMutexConc.State K} {t : Tid} (h : s.phase t = .idle) :
    KeyedMutexConc.stepT menu s t = (menu.filter (invOk s t)).map (fun op => (some (.inv t op), invStep s t op)) := by
  unfold KeyedMutexConc.stepT
  rw [h]

theorem stepT_inMap (menu : List (KeyedMutexConc.Op K)) {s : KeyedMutexConc.State K} {t : Tid} {kind : Kind} {k : K}
    (h : s.phase t = .inMap kind k) :
    KeyedMutexConc.stepT menu s t = (mapSteps s.map t).map (fun ms' => (none, contMap s t kind k ms')) := by
  unfold KeyedMutexConc.stepT
  rw [h]

theorem stepT_atHook (menu : List (KeyedMutexConc.Op K)) {s : KeyedMutexConc.State K} {t : Tid} {kind : Kind} {k : K}
    {m : MId} (h : s.phase t = .atHook kind k m) :
    KeyedMutexConc.stepT menu s t = (hookStep s t kind k m).toList.map (fun s' => (none, s')) := by
  unfold KeyedMutexConc.stepT
  rw [h]
  dsimp only
  cases hookStep s t kind k m <;> rfl

theorem stepT_ret (menu : List (KeyedMutexConc.Op K)) {s : KeyedMutexConc.State K} {t : Tid} {r : KeyedMutexConc.Res}
    (h : s.phase t = .ret r) : KeyedMutexConc.stepT menu s t = [(some (.res t r), s.setPhase t .idle)] := by
  unfold KeyedMutexConc.stepT
  rw [h]

theorem mem_succ {menu : List (KeyedMutexConc.Op K)} {s : KeyedMutexConc.State K}
    {x : Option (KeyedMutexConc.Event K) × KeyedMutexConc.State K} :
    x ∈ KeyedMutexConc.succ menu s ↔ ∃ t, t < s.phases.length ∧ x ∈ KeyedMutexConc.stepT menu s t := by
  unfold KeyedMutexConc.succ
  simp only [List.mem_flatMap, List.mem_range]

theorem mem_mapSteps_iff (menu : List (SyncMapConc.Op K MId)) {ms ms' : SyncMapConc.State K MId} {t : Tid} :
    ms' ∈ mapSteps ms t ↔ (none, ms') ∈ SyncMapConc.stepT menu ms t := by
  rw [mem_stepT_none_iff, mapSteps, List.mem_append, List.mem_map]
  refine or_congr ?_ ⟨fun ⟨c, hc, h⟩ => ⟨c, hc, h.symm⟩, fun ⟨c, hc, h⟩ => ⟨c, hc, h.symm⟩⟩
  cases exec ms.sh t (ms.pc t) with
  | none => exact ⟨fun h => (nomatch h), fun ⟨_, _, h, _⟩ => (nomatch h)⟩
  | some p => exact ⟨fun h => ⟨p.1, p.2, rfl, List.mem_singleton.mp h⟩, fun ⟨_, _, h, h'⟩ =>
      Option.some.inj h ▸ List.mem_singleton.mpr h'⟩

theorem map_stepT_inv {ms : SyncMapConc.State K MId} {t : Tid} (op : SyncMapConc.Op K MId) (h : ms.pc t = .idle) :
    (some (.inv t op), setPc ms t ms.sh (.start op)) ∈ SyncMapConc.stepT [op] ms t :=
  mem_stepT_iff.mpr (.inl ⟨h, op, List.mem_singleton.mpr rfl, rfl, rfl⟩)

theorem map_stepT_res {ms : SyncMapConc.State K MId} {t : Tid} {r : SyncMapConc.Res K MId} (h : ms.pc t = .ret r) :
    (some (.res t r), setPc ms t ms.sh .idle) ∈ SyncMapConc.stepT [] ms t :=
  mem_stepT_iff.mpr (.inr (.inl ⟨r, h, rfl, rfl⟩))

theorem mapOp_of_ne_clear {kind : Kind} (h : kind ≠ .clear) (k' : K) (v : MId) : mapOp kind k' v = .loadOrStore k' v := by
  cases kind <;> first | rfl | exact absurd rfl h

theorem mapOp_clear (k' : K) (v : MId) : mapOp .clear k' v = .delete k' := rfl

theorem finish_clear (s : KeyedMutexConc.State K) (t : Tid) (k' : K) (o : Option MId) :
    finish s t .clear k' o = s.setPhase t (.ret .done) := by
  cases o <;> rfl

theorem retOf_eq_some {V : Type} {pc : Pc K V} {r : SyncMapConc.Res K V} (h : retOf pc = some r) : pc = .ret r := by
  unfold retOf at h
  split at h
  · exact congrArg Pc.ret (Option.some.inj h)
  · cases h

theorem count_cons_other {t : Tid} {k k' : K} {m : MId} (hk : k' ≠ k) (l : List (Tid × K × MId))
    (y : Tid × K × MId) (hy : y.2.1 = k) : ((t, k', m) :: l).count y = l.count y := by
  have hne : ((t, k', m) == y) = false := beq_false_of_ne fun e => hk (by rw [← hy, ← e])
  rw [List.count_cons, hne]
  rfl

theorem count_erase_other {t : Tid} {k k' : K} {m : MId} (hk : k' ≠ k) (l : List (Tid × K × MId))
    (y : Tid × K × MId) (hy : y.2.1 = k) : (l.erase (t, k', m)).count y = l.count y := by
  have hne : ((t, k', m) == y) = false := beq_false_of_ne fun e => hk (by rw [← hy, ← e])
  rw [List.count_erase, hne]
  rfl

theorem any_holder_iff {l : List (Tid × K × MId)} {t : Tid} {k : K} :
    l.any (fun p => decide (p.1 = t ∧ p.2.1 = k)) = true ↔ ∃ m, (t, k, m) ∈ l := by
  rw [List.any_eq_true]
  constructor
  · rintro ⟨⟨t', k', m⟩, hp, hd⟩
    obtain ⟨h1, h2⟩ := of_decide_eq_true hd
    cases h1; cases h2
    exact ⟨m, hp⟩
  · rintro ⟨m, hp⟩
    exact ⟨(t, k, m), hp, decide_eq_true ⟨rfl, rfl⟩⟩

theorem holdsW_iff {s : KeyedMutexConc.State K} {t : Tid} {k : K} : s.holdsW t k = true ↔ ∃ m, (t, k, m) ∈ s.wh :=
  any_holder_iff

theorem holdsR_iff {s : KeyedMutexConc.State K} {t : Tid} {k : K} : s.holdsR t k = true ↔ ∃ m, (t, k, m) ∈ s.rh :=
  any_holder_iff

end TypVerif.Lemmas.KeyedMutexConc
