import TypVerif.Lemmas.ConcAccept
/-
What the generic acceptor of `Conc/Sys.lean` does reach (its soundness is in `ConcAccept.lean`), over any `Conc.Sys`.

* `tauClosure_complete`, `stepEvent_complete`: for a decidable state equality and a duplicate-free state list, as produced by
  `dedup`, every state reachable by at most `fuel` internal steps (`TauN`) from a member is a member.  (The early exit
  `all.length == ss.length` is a fixpoint test only for duplicate-free `ss`.)
* `Conc.Covers J ss b x`, the completeness invariant of a judge that keeps a state list `ss`: it holds everything `J` reaches
  from `x` within `b` internal steps.  It is advanced by `Covers.tau` and `Covers.stepEvent` and moved to another system by
  `Covers.sim`; `after_complete_of_sim` is the resulting theorem for a judge that steps one fixed system that simulates the model.
* a system whose every step is internal and lowers a measure: the closure with that much fuel is the reachable set
  (`exec_bound`, `closure_complete`, `outcomes_complete`).
`TauN` and the two closure lemmas are generic too, whatever their namespace `Lemmas.OnceRed` (the C17 judge) suggests.
-/
namespace TypVerif.Lemmas.OnceRed
open TypVerif TypVerif.Conc

inductive TauN (sys : Sys) : Nat → sys.State → sys.State → Prop where
  | refl (k s) : TauN sys k s s
  | step {k s s1 s2} : (none, s1) ∈ sys.succ s → TauN sys k s1 s2 → TauN sys (k + 1) s s2

theorem TauN.mono {sys : Sys} {k k' : Nat} {a b : sys.State} (h : TauN sys k a b) (hk : k ≤ k') : TauN sys k' a b := by
  induction h generalizing k' with
  | refl k s => exact TauN.refl _ _
  | step hm _ ih =>
    cases k' with
    | zero => omega
    | succ k' => exact TauN.step hm (ih (by omega))

theorem TauN.trans {sys : Sys} {k1 k2 : Nat} {a b c : sys.State} (h1 : TauN sys k1 a b) (h2 : TauN sys k2 b c) :
    TauN sys (k1 + k2) a c := by
  induction h1 with
  | refl k s => exact h2.mono (by omega)
  | step hm _ ih =>
    have := TauN.step hm (ih h2)
    exact this.mono (by omega)

theorem TauN.of_exec {sys : Sys} {a b : sys.State} {ls : List (Option sys.Event)} (h : Exec sys a ls b)
    (hv : visible ls = []) : TauN sys ls.length a b := by
  induction h with
  | nil s => exact TauN.refl _ _
  | @cons s s' s'' l ls hm _ ih =>
    cases l with
    | some e => simp at hv
    | none => exact TauN.step hm (ih (by simpa using hv))

/-- internal reachability along a simulation of internal steps -/
theorem TauN.sim {J J' : Sys} (R : J.State → J'.State → Prop)
    (hstep : ∀ s s' x, R s x → (none, s') ∈ J.succ s → ∃ x', (none, x') ∈ J'.succ x ∧ R s' x')
    {k : Nat} {s s' : J.State} (h : TauN J k s s') : ∀ x, R s x → ∃ x', TauN J' k x x' ∧ R s' x' := by
  induction h with
  | refl k s => exact fun x hx => ⟨x, TauN.refl _ _, hx⟩
  | step hm _ ih =>
    intro x hx
    obtain ⟨x1, hm1, hx1⟩ := hstep _ _ x hx hm
    obtain ⟨x', ht, hx'⟩ := ih x1 hx1
    exact ⟨x', TauN.step hm1 ht, hx'⟩

section Closure
variable (sys : Sys) [DecidableEq sys.State]

theorem tauClosure_complete (fuel : Nat) : ∀ (ss : List sys.State), ss.Nodup →
    ∀ (k : Nat) (s s' : sys.State), k ≤ fuel → s ∈ ss → TauN sys k s s' → s' ∈ tauClosure sys fuel ss := by
  induction fuel with
  | zero =>
    intro ss _ k s s' hk hs ht
    cases ht with
    | refl => exact hs
    | step _ _ => omega
  | succ fuel ih =>
    intro ss hn k s s' hk hs ht
    unfold tauClosure
    simp only
    split
    · rename_i hlen
      have hclosed := dedup_len_eq ss _ hn (beq_iff_eq.1 hlen)
      clear hk
      induction ht with
      | refl => exact hs
      | step hm _ ih2 => exact ih2 (hclosed _ (List.mem_flatMap.2 ⟨_, hs, List.mem_filterMap.2 ⟨(none, _), hm, rfl⟩⟩))
    · have hn' := nodup_dedup (ss ++ ss.flatMap fun s => (sys.succ s).filterMap fun p =>
        match p.1 with | none => some p.2 | some _ => none)
      cases ht with
      | refl =>
        exact ih _ hn' 0 s s (Nat.zero_le _) (mem_dedup (List.mem_append_left _ hs)) (TauN.refl _ _)
      | step hm ht' =>
        exact ih _ hn' _ _ s' (by omega) (mem_dedup (List.mem_append_right _
          (List.mem_flatMap.2 ⟨s, hs, List.mem_filterMap.2 ⟨(none, _), hm, rfl⟩⟩))) ht'

theorem stepEvent_complete [DecidableEq sys.Event] (fuel : Nat) (ss : List sys.State) (e : sys.Event)
    (s r1 x : sys.State) (k : Nat) (hs : s ∈ ss) (hm : (some e, r1) ∈ sys.succ s) (ht : TauN sys k r1 x)
    (hk : k ≤ fuel) : x ∈ stepEvent sys fuel ss e := by
  unfold stepEvent
  refine tauClosure_complete sys fuel _ (nodup_dedup _) k r1 x hk (mem_dedup ?_) ht
  refine List.mem_flatMap.2 ⟨s, hs, List.mem_filterMap.2 ⟨(some e, r1), hm, ?_⟩⟩
  simp

end Closure

end TypVerif.Lemmas.OnceRed

namespace TypVerif.Conc
open TypVerif.Lemmas.OnceRed

section Covers
variable (J : Sys)

/-- `ss` holds everything `J` reaches from `x` by at most `b` internal steps -/
def Covers (ss : List J.State) (b : Nat) (x : J.State) : Prop :=
  ∀ y k, k ≤ b → TauN J k x y → y ∈ ss

variable {J} {ss : List J.State} {b b' k : Nat} {x x' : J.State}

theorem Covers.self (h : Covers J ss b x) : x ∈ ss := h x 0 (Nat.zero_le _) (TauN.refl _ _)

theorem Covers.tau (h : Covers J ss b x) (ht : TauN J k x x') (hk : k + b' ≤ b) : Covers J ss b' x' :=
  fun y k' hk' ht' => h y (k + k') (by omega) (ht.trans ht')

/-- moving `Covers` to a system `J'` whose internal steps `J` matches through `R` (a padded state set, a system that differs
in what internal steps do not depend on) -/
theorem Covers.sim {J' : Sys} (R : J'.State → J.State → Prop)
    (hstep : ∀ s s' x, R s x → (none, s') ∈ J'.succ s → ∃ x', (none, x') ∈ J.succ x ∧ R s' x')
    (h : Covers J ss b x) {z : J'.State} (hz : R z x) {y' : J'.State} (hk : k ≤ b) (ht : TauN J' k z y') :
    ∃ y ∈ ss, R y' y :=
  let ⟨y, hty, hy⟩ := ht.sim R hstep x hz
  ⟨y, h y k hk hty, hy⟩

variable [DecidableEq J.State]

theorem Covers.stepEvent [DecidableEq J.Event] (h : Covers J ss b x) {fuel : Nat} {e : J.Event} {r : J.State}
    (hm : (some e, r) ∈ J.succ x) (ht : TauN J k r x') (hk : k + b' ≤ fuel) :
    Covers J (stepEvent J fuel ss e) b' x' :=
  fun y k' hk' ht' => stepEvent_complete J fuel ss e x r y (k + k') h.self hm (ht.trans ht') (by omega)

end Covers

/-- A judge that steps one system `J` accepts every trace of a model that `J` simulates through `α` with a budget: an
internal step of the model is matched by internal steps of `J` paid from the budget `bud`, a visible step by the same event
and internal steps, after which the budget is anything up to `fuel`.  (`G` is an invariant of the model the matching needs.) -/
theorem after_complete_of_sim (J : Sys) [DecidableEq J.State] [DecidableEq J.Event] {S : Type} {i : S}
    {succ : S → List (Option J.Event × S)} (G : S → Prop) (α : S → J.State) (bud : S → Nat) (fuel : Nat)
    (hG : ∀ s l s', G s → (l, s') ∈ succ s → G s')
    (htau : ∀ s s', G s → (none, s') ∈ succ s → ∃ k, TauN J k (α s) (α s') ∧ k + bud s' ≤ bud s)
    (hvis : ∀ s e s', G s → (some e, s') ∈ succ s →
      ∃ r k, (some e, r) ∈ J.succ (α s) ∧ TauN J k r (α s') ∧ k + bud s' ≤ fuel)
    (hi : G i) (hαi : α i = J.init) (hbi : bud i ≤ fuel)
    {s : S} {ls : List (Option J.Event)} (h : Exec ⟨S, J.Event, i, succ⟩ i ls s) :
    α s ∈ after J fuel (visible ls) := by
  refine (Exec.fold_inv (sys := ⟨S, J.Event, i, succ⟩) (fun ss s => G s ∧ Covers J ss (bud s) (α s))
    (stepEvent J fuel) ?_ ?_ h _
    ⟨hi, hαi ▸ fun y k hk ht => tauClosure_complete J fuel _ (List.pairwise_singleton _ _) k _ y (Nat.le_trans hk hbi)
      (List.mem_singleton.2 rfl) ht⟩).2.self
  · intro ss s s1 ⟨hg, hc⟩ hm
    obtain ⟨k, ht, hk⟩ := htau s s1 hg hm
    exact ⟨hG s _ s1 hg hm, hc.tau ht hk⟩
  · intro ss s e s1 ⟨hg, hc⟩ hm
    obtain ⟨r, k, hr, ht, hk⟩ := hvis s e s1 hg hm
    exact ⟨hG s _ s1 hg hm, hc.stepEvent hr ht hk⟩

/-! ### a system whose every step is internal and lowers a measure

Its executions are internal and no longer than the measure of their first state, so the closure with that much fuel
contains every state an execution from the initial state reaches. -/
section Measure
variable {sys : Sys} (m : sys.State → Nat) (hdec : ∀ s s' l, (l, s') ∈ sys.succ s → l = none ∧ m s' < m s)
include hdec

theorem exec_bound {a b : sys.State} {ls : List (Option sys.Event)} (h : Exec sys a ls b) :
    visible ls = [] ∧ ls.length + m b ≤ m a := by
  induction h with
  | nil s => exact ⟨rfl, Nat.le_of_eq (Nat.zero_add _)⟩
  | @cons s s' s'' l ls hm _ ih =>
    obtain ⟨rfl, hd⟩ := hdec s s' l hm
    exact ⟨ih.1, by rw [List.length_cons]; omega⟩

theorem closure_complete [DecidableEq sys.State] (fuel : Nat) (hb : m sys.init ≤ fuel) {s : sys.State}
    {ls : List (Option sys.Event)} (h : Exec sys sys.init ls s) : s ∈ tauClosure sys fuel [sys.init] := by
  obtain ⟨hv, hl⟩ := exec_bound m hdec h
  exact tauClosure_complete sys fuel [sys.init] (List.pairwise_singleton _ _) ls.length sys.init s (by omega)
    (List.mem_singleton.2 rfl) (TauN.of_exec h hv)

/-- so the enumeration with that much fuel loses no outcome -/
theorem outcomes_complete [DecidableEq sys.State] {β : Type} [BEq β] [LawfulBEq β] (f : sys.State → Option β)
    (fuel : Nat) (hb : m sys.init ≤ fuel) {s : sys.State} {ls : List (Option sys.Event)} {o : β}
    (h : Exec sys sys.init ls s) (hf : f s = some o) : o ∈ dedup ((tauClosure sys fuel [sys.init]).filterMap f) :=
  mem_dedup (List.mem_filterMap.2 ⟨s, closure_complete m hdec fuel hb h, hf⟩)

end Measure

end TypVerif.Conc
