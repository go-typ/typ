import TypVerif.Lemmas.ListLinked
/-
Facts about the sequence functions of `Spec/Seq.lean` (`insertAfterL`, `insertBeforeL`, `succOf`, `predOf`,
`List.erase`) on duplicate-free lists, and how the pointers of a linked cycle name neighbours.
-/
namespace TypVerif.Lemmas.LinkedList
open TypVerif.Spec.ListOp
open TypVerif.Spec.Seq

def ptrOr (l : ListId) : Option ElemId → Ptr
  | none => .root l
  | some e => .elem e

theorem nodup_middle {A B : List ElemId} {a : ElemId} (hnd : (A ++ a :: B).Nodup) : a ∉ A ∧ a ∉ B :=
  have h1 := List.nodup_append.1 hnd
  ⟨fun h => h1.2.2 a h a List.mem_cons_self rfl, (List.nodup_cons.1 h1.2.1).1⟩

theorem nodup_split {xs : List ElemId} {a : ElemId} (hnd : xs.Nodup) (ha : a ∈ xs) :
    ∃ A B, xs = A ++ a :: B ∧ a ∉ A ∧ a ∉ B := by
  obtain ⟨A, B, rfl⟩ := List.append_of_mem ha
  exact ⟨A, B, rfl, nodup_middle hnd⟩

theorem insertAfterL_append {a e : ElemId} {P Q : List ElemId} (h : a ∉ P) :
    insertAfterL a e (P ++ a :: Q) = P ++ a :: e :: Q := by
  induction P with
  | nil => simp [insertAfterL]
  | cons x P ih =>
    have hx : x ≠ a := fun hh => h (by simp [hh])
    have hP : a ∉ P := fun hh => h (List.mem_cons_of_mem _ hh)
    simp [insertAfterL, hx, ih hP]

theorem insertBeforeL_append {a e : ElemId} {P Q : List ElemId} (h : a ∉ P) :
    insertBeforeL a e (P ++ a :: Q) = P ++ e :: a :: Q := by
  induction P with
  | nil => simp [insertBeforeL]
  | cons x P ih =>
    have hx : x ≠ a := fun hh => h (by simp [hh])
    have hP : a ∉ P := fun hh => h (List.mem_cons_of_mem _ hh)
    simp [insertBeforeL, hx, ih hP]

theorem succOf_append {a : ElemId} {P Q : List ElemId} (h : a ∉ P) :
    succOf a (P ++ a :: Q) = Q.head? := by
  induction P with
  | nil => simp [succOf]
  | cons x P ih =>
    have hx : x ≠ a := fun hh => h (by simp [hh])
    have hP : a ∉ P := fun hh => h (List.mem_cons_of_mem _ hh)
    simp [succOf, hx, ih hP]

theorem succOf_eq_some {a e : ElemId} : ∀ {R : List ElemId}, succOf a R = some e →
    ∃ P Q, R = P ++ a :: e :: Q ∧ a ∉ P
  | [], h => by simp [succOf] at h
  | x :: R, h => by
    unfold succOf at h
    by_cases hx : x = a
    · rw [if_pos hx] at h
      cases R with
      | nil => simp at h
      | cons y R =>
        simp only [List.head?_cons, Option.some.injEq] at h
        subst h; subst hx
        exact ⟨[], R, rfl, by simp⟩
    · rw [if_neg hx] at h
      obtain ⟨P, Q, rfl, hP⟩ := succOf_eq_some h
      refine ⟨x :: P, Q, rfl, ?_⟩
      intro hh
      rcases List.mem_cons.1 hh with h1 | h1
      · exact hx h1.symm
      · exact hP h1

theorem predOf_split {m : ElemId} {A B : List ElemId} (hB : m ∉ B) :
    predOf m (A ++ m :: B) = A.getLast? := by
  unfold predOf
  have : (A ++ m :: B).reverse = B.reverse ++ m :: A.reverse := by simp
  rw [this, succOf_append (by simpa using hB)]
  simp

theorem predOf_mem {xs : List ElemId} {m y : ElemId} (h : predOf m xs = some y) : y ∈ xs := by
  obtain ⟨P, Q, hR, _⟩ := succOf_eq_some h
  have : y ∈ xs.reverse := by rw [hR]; simp
  simpa using this

/-! ### insAfter -/

theorem insAfter_root (l : ListId) (e : ElemId) (xs : List ElemId) : insAfter (.root l) e xs = e :: xs := rfl

/-- `insAfter` through a cut of the sequence: the pointer that ends the front part names the place -/
theorem insAfter_split {l : ListId} {A B : List ElemId} (e : ElemId) (hnd : (A ++ B).Nodup) :
    insAfter (ptrOr l A.getLast?) e (A ++ B) = A ++ e :: B := by
  cases hl : A.getLast? with
  | none => rw [List.getLast?_eq_none_iff.1 hl]; rfl
  | some p =>
    obtain ⟨A', rfl⟩ := List.getLast?_eq_some_iff.1 hl
    show insertAfterL p e (A' ++ [p] ++ B) = _
    rw [List.append_assoc] at hnd
    rw [List.append_assoc, List.append_assoc]
    exact insertAfterL_append (nodup_middle hnd).1

/-- every pointer of the cycle but the closing root ends the front part of some cut -/
theorem split_of_mem_dropLast {l : ListId} {xs : List ElemId} {at' : Ptr} (hat : at' ∈ (cyc l xs).dropLast) :
    ∃ A B, xs = A ++ B ∧ at' = ptrOr l A.getLast? := by
  rcases mem_cyc_dropLast.1 hat with rfl | ⟨a, ha, rfl⟩
  · exact ⟨[], xs, rfl, rfl⟩
  · obtain ⟨A, B, rfl⟩ := List.append_of_mem ha
    exact ⟨A ++ [a], B, by simp, by simp [ptrOr]⟩

/-- linking after a pointer of the cycle puts `e` somewhere into the sequence -/
theorem insAfter_perm {l : ListId} {xs : List ElemId} {at' : Ptr} (e : ElemId) (hnd : xs.Nodup)
    (hat : at' ∈ (cyc l xs).dropLast) : (insAfter at' e xs).Perm (e :: xs) := by
  obtain ⟨A, B, rfl, rfl⟩ := split_of_mem_dropLast hat
  rw [insAfter_split e hnd]
  exact List.perm_middle

theorem insAfter_last {l : ListId} {xs : List ElemId} (e : ElemId) (hnd : xs.Nodup) :
    insAfter (ptrOr l xs.getLast?) e xs = xs ++ [e] := by
  have := insAfter_split (l := l) (A := xs) (B := []) e (by rwa [List.append_nil])
  rwa [List.append_nil] at this

theorem insAfter_pred {l : ListId} {xs : List ElemId} {m : ElemId} (e : ElemId) (hnd : xs.Nodup) (hm : m ∈ xs) :
    insAfter (ptrOr l (predOf m xs)) e xs = insertBeforeL m e xs := by
  obtain ⟨A, B, rfl, hA, hB⟩ := nodup_split hnd hm
  rw [predOf_split hB, insertBeforeL_append hA]
  exact insAfter_split e hnd

theorem length_erase_add_one {xs : List ElemId} {e : ElemId} (he : e ∈ xs) : (xs.erase e).length + 1 = xs.length := by
  rw [List.length_erase_of_mem he, Nat.sub_add_cancel (List.length_pos_of_mem he)]

/-! ### no-op moves -/

theorem move_front_noop {xs : List ElemId} {e : ElemId} (h : xs.head? = some e) : e :: xs.erase e = xs := by
  cases xs with
  | nil => simp at h
  | cons x xs => simp at h; subst h; simp

theorem move_back_noop {xs : List ElemId} {e : ElemId} (hnd : xs.Nodup) (h : xs.getLast? = some e) :
    xs.erase e ++ [e] = xs := by
  obtain ⟨A, rfl⟩ := List.getLast?_eq_some_iff.1 h
  rw [List.erase_append_right _ (nodup_middle hnd).1]; simp

theorem move_before_noop {xs : List ElemId} {e m : ElemId} (hnd : xs.Nodup)
    (h : predOf m xs = some e) : insertBeforeL m e (xs.erase e) = xs := by
  obtain ⟨P, Q, hR, hP⟩ := succOf_eq_some h
  have hx : xs = Q.reverse ++ e :: m :: P.reverse := by
    have := congrArg List.reverse hR
    simpa using this
  subst hx
  have h1 := List.nodup_append.1 hnd
  have heQ : e ∉ Q.reverse := fun hh => h1.2.2 e hh e (by simp) rfl
  have hmQ : m ∉ Q.reverse := fun hh => h1.2.2 m hh m (by simp) rfl
  rw [List.erase_append_right _ heQ]
  simp only [List.erase_cons_head]
  rw [insertBeforeL_append hmQ]

/-! ### neighbours in a linked cycle -/

theorem Linked.next_elem {nx pv : Ptr → Ptr} {l : ListId} {m : ElemId} :
    ∀ {xs : List ElemId} {p : Ptr}, Linked nx pv (p :: (xs.map Ptr.elem ++ [Ptr.root l])) → m ∈ xs →
      nx (.elem m) = ptrOr l (succOf m xs) := by
  intro xs
  induction xs with
  | nil => intro _ _ hm; cases hm
  | cons x xs ih =>
    intro p h hm
    have h' : Linked nx pv (p :: .elem x :: (xs.map Ptr.elem ++ [Ptr.root l])) := h
    unfold succOf
    by_cases hx : x = m
    · rw [if_pos hx, ← hx]
      cases xs with
      | nil => exact h'.2.2.1
      | cons y ys => exact h'.2.2.1
    · rw [if_neg hx]
      exact ih h'.2.2 ((List.mem_cons.1 hm).resolve_left fun h1 => hx h1.symm)

theorem cyc_reverse (l : ListId) (xs : List ElemId) : (cyc l xs).reverse = cyc l xs.reverse := by
  simp [cyc]

theorem Linked.next_root {nx pv : Ptr → Ptr} {l : ListId} {xs : List ElemId} (h : Linked nx pv (cyc l xs)) :
    nx (.root l) = ptrOr l xs.head? := by
  cases xs with
  | nil => exact h.1
  | cons x xs => exact h.1

theorem Linked.prev_root {nx pv : Ptr → Ptr} {l : ListId} {xs : List ElemId} (h : Linked nx pv (cyc l xs)) :
    pv (.root l) = ptrOr l xs.getLast? := by
  have h2 := Linked.reverse h
  rw [cyc_reverse] at h2
  have := Linked.next_root h2
  simpa using this

theorem Linked.next_elem_cyc {nx pv : Ptr → Ptr} {l : ListId} {xs : List ElemId} {m : ElemId}
    (h : Linked nx pv (cyc l xs)) (hm : m ∈ xs) : nx (.elem m) = ptrOr l (succOf m xs) :=
  Linked.next_elem (p := .root l) h hm

theorem Linked.prev_elem_cyc {nx pv : Ptr → Ptr} {l : ListId} {xs : List ElemId} {m : ElemId}
    (h : Linked nx pv (cyc l xs)) (hm : m ∈ xs) : pv (.elem m) = ptrOr l (predOf m xs) := by
  have h2 := Linked.reverse h
  rw [cyc_reverse] at h2
  exact Linked.next_elem_cyc h2 (by simpa using hm)

theorem Linked.prev_next {nx pv : Ptr → Ptr} : ∀ {c : List Ptr} {p : Ptr}, Linked nx pv c →
    p ∈ c.dropLast → pv (nx p) = p := by
  intro c
  induction c with
  | nil => intro _ _ hp; cases hp
  | cons a t ih =>
    cases t with
    | nil => intro _ _ hp; cases hp
    | cons b rest =>
      intro p h hp
      rcases List.mem_cons.1 hp with rfl | hp
      · rw [h.1]; exact h.2.1
      · exact ih h.2.2 hp

theorem Linked.next_prev {nx pv : Ptr → Ptr} {c : List Ptr} {p : Ptr} (h : Linked nx pv c) (hp : p ∈ c.tail) :
    nx (pv p) = p :=
  Linked.prev_next (Linked.reverse h) (by rw [List.dropLast_reverse]; exact List.mem_reverse.2 hp)

theorem ptrOr_ne_null (l : ListId) (o : Option ElemId) : ptrOr l o ≠ .null := by
  cases o <;> simp [ptrOr]

theorem optPtr_of_ptrOr (l : ListId) (o : Option ElemId) :
    (if ptrOr l o ≠ .root l then ptrOr l o else .null) = optPtr o := by
  cases o <;> simp [ptrOr, optPtr]

end TypVerif.Lemmas.LinkedList
