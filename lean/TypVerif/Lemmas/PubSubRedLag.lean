import TypVerif.Lemmas.PubSubRedStep
import TypVerif.Lemmas.PubSubLogStep
import TypVerif.Lemmas.PubSubCount
/-
C10, completeness of the judge's reduction: lag steps (`LagStep`), the invariant `Good` the commutation needs (it holds in
every reachable state: `good_reachable`), the KEY COMMUTATION LEMMA `stepsOf_lag` (a lag step of task `g` right-commutes with every step
of every other source), and sequences of lag steps (`Lag`, `lag_move`, `lag_front`).  The commutation has two independent halves.
STATE: what the other source does after the lag step it can do before it, same label, and the lag transformer then leads to the same
state (`Sub'`, by the structure of the step functions: `stepTask_lag` of `PubSubRedStep`; `Good` makes the
truncated subtractions of `RUnlock` / `Unlock` exact and keeps `WithOnly` off the lag object).  ENABLED: the lag
step can still be taken after that step (`lagStep_kept`); this needs only the step BEFORE the lag step, so it goes by cases on the
relation `PubSubStep.TaskStep`: a step changes what a reader's lock on an object depends on only if its task is a writer of
that object or constructs it (`taskStep_lockView`, in `PubSubStep`), and `Good` excludes both while the read lock can be taken.
-/
namespace TypVerif.Lemmas.PubSubRed
open TypVerif TypVerif.Conc TypVerif.Model.PubSub TypVerif.Drv.C10
open PubSubStep (EnvStep envStep_objs lt_length_of_getElem?)

/-- kinds of lag steps: a `sendAsync` goroutine takes the read lock / a writer announces -/
inductive LK where
  | rd (o : Nat) (it : Item)
  | ann (o : Nat) (t t1 : Task)

/- What a lag step of kind `κ` consists of: it applies `f` to the RWMutex of object `obj` and turns the task `src` into `tgt`;
`wf` says that the kind is well formed, `Q` is the enabling condition on the object, and `annOK` says whether an announcement of
ANOTHER task on the same object may be moved in front of it (not in front of a read lock: the waiting writer would keep the reader out). -/
def LK.obj : LK → Nat
  | .rd o _ => o
  | .ann o _ _ => o
def LK.f : LK → RW → RW
  | .rd .. => RW.rlock
  | .ann .. => RW.announce
def LK.src : LK → Task
  | .rd o it => .asyncStart o it
  | .ann _ t _ => t
def LK.tgt : LK → Task
  | .rd o it => .asyncSend o it false
  | .ann _ _ t1 => t1
def LK.wf : LK → Prop
  | .rd .. => True
  | .ann o t t1 => annOf t = some (o, t1)
def LK.Q : LK → ObjSt → Prop
  | .rd _ it => fun ob => ob.rw.canRLock = true ∧ it.c ∈ ob.subs
  | .ann .. => fun _ => True
def LK.annOK : LK → Prop
  | .rd .. => False
  | .ann .. => True

/-- `y` is reached from `x` by the lag step of kind `κ` of task `g` -/
structure LagStep (x : State) (g : Nat) (κ : LK) (y : State) : Prop where
  wf : κ.wf
  inr : κ.obj < x.objs.length
  task : x.tasks[g]? = some κ.src
  q : κ.Q (x.obj κ.obj)
  eq : y = lagT κ.obj κ.f g κ.tgt x

theorem LK.fok (κ : LK) : FOK κ.f := by
  cases κ
  · exact fok_rlock
  · exact fok_announce

theorem annOf_cases {t : Task} {o : Nat} {t1 : Task} (h : annOf t = some (o, t1)) :
    (∃ c cap, t = .subStart o c cap ∧ t1 = .subWait o c cap) ∨
    (∃ u c, t = .unsubStart u o (some c) ∧ t1 = .unsubWait u o c) ∨
    (∃ u, t = .uaStart u o ∧ t1 = .uaWait u o) := by
  cases t with
  | subStart o' c cap => simp only [annOf, Option.some.injEq, Prod.mk.injEq] at h; obtain ⟨rfl, rfl⟩ := h; exact Or.inl ⟨_, _, rfl, rfl⟩
  | unsubStart u o' c =>
    cases c with
    | none => simp [annOf] at h
    | some c => simp only [annOf, Option.some.injEq, Prod.mk.injEq] at h; obtain ⟨rfl, rfl⟩ := h; exact Or.inr (Or.inl ⟨_, _, rfl, rfl⟩)
  | uaStart u o' => simp only [annOf, Option.some.injEq, Prod.mk.injEq] at h; obtain ⟨rfl, rfl⟩ := h; exact Or.inr (Or.inr ⟨_, rfl, rfl⟩)
  | _ => simp [annOf] at h

theorem LK.subName_eq (κ : LK) (h : κ.wf) (c : Chan) : subName c κ.tgt = subName c κ.src := by
  cases κ with
  | rd o it => rfl
  | ann o t t1 =>
    rcases annOf_cases h with ⟨c', cap, rfl, rfl⟩ | ⟨u, c', rfl, rfl⟩ | ⟨u, rfl, rfl⟩ <;> rfl

/-- the object of a task that can make a lag step -/
def lagObj : Task → Option Nat
  | .asyncStart o _ => some o
  | t => (annOf t).map (·.1)

/-- a holder of a read lock is counted in `readers`, a writer inside `Lock()` in `waiting`; no task that can lag is on an object that
`WithOnly` is still constructing; the objects of the tasks that can lag exist -/
structure Good (x : State) : Prop where
  rd : ∀ (k : Nat) (tk : Task) (o : Nat), x.tasks[k]? = some tk → readsOn tk = some o → 0 < (x.obj o).rw.readers
  wt : ∀ (k : Nat) (tk : Task) (o : Nat), x.tasks[k]? = some tk → waitsOn tk = some o → 0 < (x.obj o).rw.waiting
  wo : ∀ (k w o : Nat) (c : Chan) (g : Nat) (t : Task), x.tasks[k]? = some (.woStart w o c) → x.tasks[g]? = some t → lagObj t ≠ some w
  inr : ∀ (g : Nat) (t : Task) (o : Nat), x.tasks[g]? = some t → lagObj t = some o → o < x.objs.length

theorem LK.lagObj_src (κ : LK) (h : κ.wf) : lagObj κ.src = some κ.obj := by
  cases κ with
  | rd o it => rfl
  | ann o t t1 =>
    rcases annOf_cases h with ⟨c', cap, rfl, rfl⟩ | ⟨u, c', rfl, rfl⟩ | ⟨u, rfl, rfl⟩ <;> rfl

/-- THE LAG STEP STAYS ENABLED over a step of another source from `x`.  For a read lock: while it can be taken (`waiting = 0`) no writer
is inside `Lock()` (`Good.wt`), so no critical section on that object can run; an announcement on it is excluded by `hna`; `WithOnly`
does not construct it (`Good.wo`). -/
theorem lagStep_kept (cfg : Cfg) {x y y' : State} {g : Nat} {κ : LK} {l : Option Event} (hG : Good x) (hl : LagStep x g κ y)
    (src : Option Nat) (hsrc : src ≠ some g)
    (hna : ∀ k tk, src = some k → x.tasks[k]? = some tk → ¬ κ.annOK → annOf tk = none)
    (h : (l, y') ∈ stepsOf cfg x src) : LagStep y' g κ (lagT κ.obj κ.f g κ.tgt y') := by
  have hgl := lt_length_of_getElem? hl.task
  cases src with
  | some k =>
    have hk : g ≠ k := fun e => hsrc (e ▸ rfl)
    obtain ⟨t, ht, hst⟩ := PubSubStep.mem_taskSteps h
    obtain ⟨hlen, hv⟩ := taskStep_lockView (PubSubStep.taskStep_of_mem hst) κ.obj
    refine ⟨hl.wf, hlen ▸ hl.inr, (PubSubLog.taskSteps_task_ne h hgl hk).trans hl.task, ?_, rfl⟩
    have hq := hl.q
    cases κ with
    | ann => trivial
    | rd o it =>
      rcases hv with ⟨e1, e2 | hv⟩ | ⟨hv, _⟩ | hv
      · exact ⟨e2.trans hq.1, by rw [e1]; exact hq.2⟩
      · rw [hna k t rfl ht id] at hv; cases hv
      · have := hG.wt k t o ht hv
        have hc : (x.obj o).rw.canRLock = true := hq.1
        simp only [RW.canRLock, Bool.and_eq_true, beq_iff_eq] at hc
        omega
      · obtain ⟨o1, c, rfl⟩ := woOf_eq hv
        exact absurd rfl (hG.wo k o o1 c g _ ht hl.task)
  | none =>
    simp only [stepsOf] at h
    have same : ∀ {z : State}, z.objs = x.objs → z.tasks = x.tasks → LagStep z g κ (lagT κ.obj κ.f g κ.tgt z) := fun ho ht =>
      ⟨hl.wf, by rw [ho]; exact hl.inr, by rw [ht]; exact hl.task, by unfold State.obj; rw [ho]; exact hl.q, rfl⟩
    rcases List.mem_append.1 h with h | h
    · rcases List.mem_append.1 h with h | h
      · obtain ⟨e, _, _, he⟩ := PubSubStep.mem_envSteps.1 h
        have hE := PubSubStep.envStep_of_eq he
        obtain ⟨h1, h2⟩ := envStep_objs hE hl.inr
        refine ⟨hl.wf, h1, ?_, by rw [h2]; exact hl.q, rfl⟩
        cases hE <;> first | exact hl.task | exact (List.getElem?_append_left hgl).trans hl.task
      · obtain ⟨ch, _, hc⟩ := List.mem_flatMap.1 h
        obtain ⟨f, _, rfl⟩ := PubSubStep.mem_recvSteps hc
        exact same rfl rfl
    · simp only [exitSteps, List.mem_map, Prod.mk.injEq] at h
      obtain ⟨_, _, _, rfl⟩ := h
      exact same rfl rfl

/-- KEY COMMUTATION LEMMA.  After the lag step of task `g` (kind `κ`: it took the read lock for a `sendAsync`, or announced as a writer),
whatever any OTHER source (another task, a receiver, the environment, exit) can do, it can do BEFORE that lag step, with the same
label, and the lag step is still possible afterwards and leads to the same state.  Excluded: an announcement (of a writer on the same
object) after a read lock — such an announcement is itself a lag step. -/
theorem stepsOf_lag (cfg : Cfg) {x y z : State} {g : Nat} {κ : LK} {l : Option Event} (hG : Good x) (hl : LagStep x g κ y)
    (src : Option Nat) (hsrc : src ≠ some g)
    (hna : ∀ k tk, src = some k → x.tasks[k]? = some tk → ¬ κ.annOK → annOf tk = none)
    (h : (l, z) ∈ stepsOf cfg y src) : ∃ y', (l, y') ∈ stepsOf cfg x src ∧ LagStep y' g κ z := by
  have hy := hl.eq
  subst hy
  have key : Sub' (lagT κ.obj κ.f g κ.tgt) (stepsOf cfg (lagT κ.obj κ.f g κ.tgt x) src) (stepsOf cfg x src) := by
    cases src with
    | some k =>
      have hk : k ≠ g := fun e => hsrc (by rw [e])
      show Sub' _ (taskSteps cfg _ k) (taskSteps cfg x k)
      unfold taskSteps
      rw [lagT_task_ne _ _ _ _ _ _ hk]
      cases htk : x.tasks[k]? with
      | none => exact sub_nil _ _
      | some tk =>
        refine stepTask_lag κ.fok hl.inr (lt_length_of_getElem? hl.task) hk cfg tk (hG.rd k tk _ htk) (hG.wt k tk _ htk) (fun e => ?_)
        obtain ⟨o1, c, rfl⟩ := woOf_eq e
        exact hG.wo k _ o1 c g _ htk hl.task (κ.lagObj_src hl.wf)
    | none =>
      rw [stepsOf_none_lag cfg hl.inr (lt_length_of_getElem? hl.task) hl.task (κ.subName_eq hl.wf)]
      exact sub_map _ _ _ (fun _ _ => trivial)
  obtain ⟨q, hq, he, _⟩ := key _ h
  simp only [Prod.mk.injEq] at he
  obtain ⟨rfl, rfl⟩ := he
  exact ⟨q.2, hq, lagStep_kept cfg hG hl src hsrc hna hq⟩

theorem lagStep_taskSteps (cfg : Cfg) {x y : State} {g : Nat} {κ : LK} (hl : LagStep x g κ y) : (none, y) ∈ taskSteps cfg x g := by
  have hy := hl.eq
  subst hy
  unfold taskSteps
  rw [hl.task]
  cases κ with
  | rd o it =>
    have hq := hl.q
    simp only [LK.Q, LK.obj] at hq
    simp only [LK.src, stepTask, stepAsyncStart, hq.1, Bool.not_true, Bool.false_eq_true, ↓reduceIte, hq.2]
    exact List.mem_singleton.2 rfl
  | ann o t t1 =>
    rcases annOf_cases hl.wf with ⟨c', cap, rfl, rfl⟩ | ⟨u, c', rfl, rfl⟩ | ⟨u, rfl, rfl⟩ <;>
      exact List.mem_singleton.2 rfl

end TypVerif.Lemmas.PubSubRed

/-
The invariant `Good` holds in every reachable state of the PubSub system for EVERY configuration (clones allowed).  `Good` is not inductive; it follows from the lock accounting `GInv` (`PubSubCount`).
-/
namespace TypVerif.Lemmas.PubSubRed
open TypVerif TypVerif.Conc TypVerif.Model.PubSub TypVerif.Drv.C10

theorem lagObj_refOf {t : Task} {o : Nat} (h : lagObj t = some o) : refOf t = some o := by
  cases t with
  | asyncStart o' it => exact h
  | subStart o' c cap => exact h
  | unsubStart u o' c =>
    cases c with
    | none => cases h
    | some c => exact h
  | uaStart u o' => exact h
  | _ => cases h

theorem good_of_ginv {x : State} (hG : GInv x) : Good x := by
  constructor
  · intro k tk o hk hr; rw [hG.rw o]; exact count_pos readsOn hk hr
  · intro k tk o hk hr; rw [hG.rw o]; exact count_pos waitsOn hk hr
  · intro k w o c g t hk hg hl
    have hm : Task.woStart w o c ∈ x.tasks := List.mem_of_getElem? hk
    have := (hG.ref t (List.mem_of_getElem? hg) w (lagObj_refOf hl)).2
    rw [(unready_of_woStart hG hm).2] at this; cases this
  · intro g t o hg hl
    exact (hG.ref t (List.mem_of_getElem? hg) o (lagObj_refOf hl)).1

theorem good_reachable (cfg : Cfg) : ∀ x, Reachable (sys cfg) x → Good x :=
  fun x hr => good_of_ginv (ginv_reachable cfg x hr)

end TypVerif.Lemmas.PubSubRed

#print axioms TypVerif.Lemmas.PubSubRed.good_reachable

namespace TypVerif.Lemmas.PubSubRed
open TypVerif TypVerif.Conc TypVerif.Model.PubSub TypVerif.Drv.C10

/-- `s` is reached from `x` by the lag steps listed (task, kind), in this order -/
inductive Lag : List (Nat × LK) → State → State → Prop
  | nil (x : State) : Lag [] x x
  | cons {x y s : State} {g : Nat} {κ : LK} {gs : List (Nat × LK)} : LagStep x g κ y → Lag gs y s → Lag ((g, κ) :: gs) x s

theorem lag_snoc {gs : List (Nat × LK)} {j s s' : State} {g : Nat} {κ : LK} (h : Lag gs j s) (hl : LagStep s g κ s') :
    Lag (gs ++ [(g, κ)]) j s' := by
  induction h with
  | nil x => exact Lag.cons hl (Lag.nil _)
  | cons h1 _ ih => exact Lag.cons h1 (ih hl)

theorem lagStep_flags {x y : State} {g : Nat} {κ : LK} (h : LagStep x g κ y) : y.exited = x.exited ∧ y.panicked = x.panicked := by
  rw [h.eq]; exact ⟨rfl, rfl⟩

theorem lag_flags {gs : List (Nat × LK)} {j s : State} (h : Lag gs j s) : s.exited = j.exited ∧ s.panicked = j.panicked := by
  induction h with
  | nil x => exact ⟨rfl, rfl⟩
  | cons h1 _ ih => exact ⟨ih.1.trans (lagStep_flags h1).1, ih.2.trans (lagStep_flags h1).2⟩

theorem lagStep_task_ne {x y : State} {g : Nat} {κ : LK} (h : LagStep x g κ y) {k : Nat} (hk : k ≠ g) : y.tasks[k]? = x.tasks[k]? := by
  rw [h.eq]; exact lagT_task_ne _ _ _ _ _ _ hk

theorem lagStep_task_self {x y : State} {g : Nat} {κ : LK} (h : LagStep x g κ y) : y.tasks[g]? = some κ.tgt := by
  rw [h.eq]; exact lagT_task_self _ _ _ _ _ (PubSubStep.lt_length_of_getElem? h.task)

theorem lag_task_ne {gs : List (Nat × LK)} {j s : State} (h : Lag gs j s) {k : Nat} (hk : k ∉ gs.map Prod.fst) : s.tasks[k]? = j.tasks[k]? := by
  induction h with
  | nil x => rfl
  | cons h1 _ ih =>
    simp only [List.map_cons, List.mem_cons, not_or] at hk
    rw [ih hk.2, lagStep_task_ne h1 hk.1]

theorem LK.lagObj_tgt (κ : LK) (h : κ.wf) : lagObj κ.tgt = none := by
  cases κ with
  | rd o it => rfl
  | ann o t t1 =>
    rcases annOf_cases h with ⟨c', cap, rfl, rfl⟩ | ⟨u, c', rfl, rfl⟩ | ⟨u, rfl, rfl⟩ <;> rfl

theorem LK.annOf_tgt (κ : LK) (h : κ.wf) : annOf κ.tgt = none := by
  cases κ with
  | rd o it => rfl
  | ann o t t1 =>
    rcases annOf_cases h with ⟨c', cap, rfl, rfl⟩ | ⟨u, c', rfl, rfl⟩ | ⟨u, rfl, rfl⟩ <;> rfl

theorem lag_not_mem {gs : List (Nat × LK)} {y s : State} (h : Lag gs y s) {g : Nat} {t : Task} (ht : y.tasks[g]? = some t)
    (hn : lagObj t = none) : g ∉ gs.map Prod.fst := by
  induction h with
  | nil x => simp
  | @cons x y s g1 κ1 gs h1 _ ih =>
    simp only [List.map_cons, List.mem_cons, not_or]
    have hne : g ≠ g1 := by
      intro e
      subst e
      rw [h1.task] at ht
      injection ht with ht
      rw [← ht, κ1.lagObj_src h1.wf] at hn
      cases hn
    exact ⟨hne, ih (by rw [lagStep_task_ne h1 hne]; exact ht)⟩

theorem lag_task_mem {gs : List (Nat × LK)} {j s : State} (h : Lag gs j s) {k : Nat} {κ : LK} (hk : (k, κ) ∈ gs) :
    s.tasks[k]? = some κ.tgt := by
  induction h with
  | nil x => cases hk
  | cons h1 h2 ih =>
    rcases List.mem_cons.1 hk with e | hk'
    · injection e with e1 e2
      subst e1; subst e2
      have := lag_not_mem h2 (lagStep_task_self h1) (κ.lagObj_tgt h1.wf)
      rw [lag_task_ne h2 this]
      exact lagStep_task_self h1
    · exact ih hk'

theorem lagStep_readers_le {x y : State} {g : Nat} {κ : LK} (h : LagStep x g κ y) (o : Nat) :
    (x.obj o).rw.readers ≤ (y.obj o).rw.readers := by
  rw [h.eq, lagT_obj _ _ _ _ _ h.inr]
  split
  · rename_i e; subst e
    cases κ <;> simp [LK.f, rwMap, RW.rlock, RW.announce]
  · exact Nat.le_refl _

theorem lagStep_readers_rd {x y : State} {g : Nat} {κ : LK} (h : LagStep x g κ y) (hk : ¬ κ.annOK) :
    0 < (y.obj κ.obj).rw.readers := by
  rw [h.eq, lagT_obj_self _ _ _ _ _ h.inr]
  cases κ with
  | rd o it => simp [LK.f, rwMap, RW.rlock]
  | ann o t t1 => exact absurd trivial hk

theorem lag_readers_le {gs : List (Nat × LK)} {j s : State} (h : Lag gs j s) (o : Nat) :
    (j.obj o).rw.readers ≤ (s.obj o).rw.readers := by
  induction h with
  | nil x => exact Nat.le_refl _
  | cons h1 _ ih => exact Nat.le_trans (lagStep_readers_le h1 o) ih

theorem lagStep_succ (cfg : Cfg) {x y : State} {g : Nat} {κ : LK} (h : LagStep x g κ y) (hex : x.exited = false) (hp : x.panicked = none) :
    (none, y) ∈ succ cfg x :=
  (mem_succ_iff cfg x hex hp _).2 ⟨some g, lagStep_taskSteps cfg h⟩

/-- moving a step of a source that is not among the lagging tasks (and is not a writer about to announce) to the left of a whole
lag sequence (`hG`, here and in `PubSubRedSim`, is what `good_reachable cfg` proves) -/
theorem lag_move (cfg : Cfg) (hG : ∀ x, Reachable (sys cfg) x → Good x) {gs : List (Nat × LK)} {j s z : State} {l : Option Event}
    (h : Lag gs j s) (hr : Reachable (sys cfg) j) (hex : j.exited = false) (hp : j.panicked = none)
    (src : Option Nat) (hsrc : ∀ k, src = some k → k ∉ gs.map Prod.fst ∧ ∀ tk, j.tasks[k]? = some tk → annOf tk = none)
    (hz : (l, z) ∈ stepsOf cfg s src) : ∃ j', (l, j') ∈ stepsOf cfg j src ∧ Lag gs j' z := by
  induction h with
  | nil x => exact ⟨z, hz, Lag.nil _⟩
  | @cons x y s g κ gs h1 h2 ih =>
    have hry : Reachable (sys cfg) y := Reachable.step hr (lagStep_succ cfg h1 hex hp)
    have hfl := lagStep_flags h1
    have hsrc' : ∀ k, src = some k → k ∉ gs.map Prod.fst ∧ ∀ tk, y.tasks[k]? = some tk → annOf tk = none := by
      intro k hk
      have := hsrc k hk
      simp only [List.map_cons, List.mem_cons, not_or] at this
      refine ⟨this.1.2, ?_⟩
      rw [lagStep_task_ne h1 this.1.1]; exact this.2
    obtain ⟨y', hy', hlag⟩ := ih hry (hfl.1.trans hex) (hfl.2.trans hp) hsrc' hz
    have hne : src ≠ some g := by
      intro e
      have := (hsrc g e).1
      simp at this
    obtain ⟨x', hx', hl'⟩ := stepsOf_lag cfg (hG x hr) h1 src hne (fun k tk hk htk _ => (hsrc k hk).2 tk htk) hy'
    exact ⟨x', hx', Lag.cons hl' hlag⟩

/-- two lag steps of different tasks commute, except that a read lock cannot be taken after an announcement on the same object -/
theorem lag_swap {x y z : State} {g g' : Nat} {κ κ' : LK} (h1 : LagStep x g κ y) (h2 : LagStep y g' κ' z) (hne : g ≠ g')
    (hside : κ.annOK ∨ ¬ κ'.annOK ∨ κ.obj ≠ κ'.obj) :
    ∃ y', LagStep x g' κ' y' ∧ LagStep y' g κ z := by
  have hy := h1.eq
  subst hy
  have hinr' : κ'.obj < x.objs.length := by simpa using h2.inr
  have hstep' : LagStep x g' κ' (lagT κ'.obj κ'.f g' κ'.tgt x) := by
    refine ⟨h2.wf, hinr', ?_, ?_, rfl⟩
    · rw [← lagT_task_ne _ _ _ _ _ _ (Ne.symm hne)]; exact h2.task
    · have hq := h2.q
      rw [lagT_obj _ _ _ _ _ h1.inr] at hq
      split at hq
      · rename_i e
        rw [e]
        cases κ' with
        | rd o' it' => exact ⟨κ.fok.crl _ hq.1, hq.2⟩
        | ann o' t t1 => trivial
      · exact hq
  refine ⟨_, hstep', ?_⟩
  refine ⟨h1.wf, by simpa using h1.inr, ?_, ?_, ?_⟩
  · rw [lagT_task_ne _ _ _ _ _ _ hne]; exact h1.task
  · have hq := h1.q
    rw [lagT_obj _ _ _ _ _ hinr']
    split
    · rename_i e
      cases κ with
      | ann o t t1 => trivial
      | rd o it =>
        cases κ' with
        | rd o' it' =>
          simp only [LK.obj] at e
          subst e
          exact hq
        | ann o' t t1 =>
          rcases hside with h | h | h
          · exact h.elim
          · exact absurd trivial h
          · exact absurd e h
    · exact hq
  · rw [h2.eq]
    show (updObj κ'.obj (rwMap κ'.f) (lagT κ.obj κ.f g κ.tgt x)).setTask g' κ'.tgt = _
    rw [lagT_updObj _ _ _ _ _ _ _ h1.inr, lagT_setTask _ _ _ _ _ _ _ (Ne.symm hne)]
    · rfl
    · intro _
      cases κ <;> cases κ' <;> rfl

/-- the lag step of one of the lagging tasks can be moved to the front (for an announcement: if no read lock is held at the end) -/
theorem lag_front {gs : List (Nat × LK)} {j s : State} (h : Lag gs j s) {g : Nat} {κ : LK} (hm : (g, κ) ∈ gs)
    (hside : ¬ κ.annOK ∨ (s.obj κ.obj).rw.readers = 0) :
    ∃ x gs', LagStep j g κ x ∧ Lag gs' x s ∧ g ∉ gs'.map Prod.fst := by
  induction h with
  | nil x => cases hm
  | @cons x y s g1 κ1 gs h1 h2 ih =>
    have hg1 : g1 ∉ gs.map Prod.fst := lag_not_mem h2 (lagStep_task_self h1) (κ1.lagObj_tgt h1.wf)
    rcases List.mem_cons.1 hm with e | hm'
    · injection e with e1 e2
      subst e1; subst e2
      exact ⟨y, gs, h1, h2, hg1⟩
    · obtain ⟨x1, gs1, hl1, hlag1, hn1⟩ := ih hm' hside
      have hne : g1 ≠ g := by
        intro e
        subst e
        exact hg1 (List.mem_map.2 ⟨(g1, κ), hm', rfl⟩)
      have hs : κ1.annOK ∨ ¬ κ.annOK ∨ κ1.obj ≠ κ.obj := by
        by_cases ha1 : κ1.annOK
        · exact Or.inl ha1
        · by_cases ha : κ.annOK
          · refine Or.inr (Or.inr ?_)
            intro e
            rcases hside with h | h
            · exact h ha
            · have h3 := lagStep_readers_rd h1 ha1
              have h4 := lag_readers_le h2 κ1.obj
              rw [e] at h3 h4
              omega
          · exact Or.inr (Or.inl ha)
      obtain ⟨y', ha, hb⟩ := lag_swap h1 hl1 hne hs
      refine ⟨y', (g1, κ1) :: gs1, ha, Lag.cons hb hlag1, ?_⟩
      simp only [List.map_cons, List.mem_cons, not_or]
      exact ⟨Ne.symm hne, hn1⟩

end TypVerif.Lemmas.PubSubRed
