import TypVerif.Lemmas.C09AcceptOcc
namespace TypVerif.Lemmas.C09Accept
open TypVerif TypVerif.Conc TypVerif.Model.KeyedMutex TypVerif.Lemmas.KeyedMutex

/-- `Occ.pendOf` on the bare list -/
def occ_find (l : List (Nat × Op)) (t : Nat) : Option Op := (l.find? (fun p => p.1 == t)).map (·.2)

theorem occ_pendOf_eq (o : Occ) (t : Nat) : o.pendOf t = occ_find o.pend t := rfl

theorem occ_find_cons (p : Nat × Op) (l : List (Nat × Op)) (t : Nat) :
    occ_find (p :: l) t = if p.1 = t then some p.2 else occ_find l t := by
  unfold occ_find
  by_cases h : p.1 = t
  · simp [h]
  · simp [h]

theorem occ_find_filter_self (l : List (Nat × Op)) (t : Nat) :
    occ_find (l.filter (fun p => p.1 != t)) t = none := by
  induction l with
  | nil => rfl
  | cons p r ih =>
    by_cases h : p.1 = t
    · have : (p.1 != t) = false := by simp [h]
      rw [List.filter_cons, this]
      exact ih
    · have : (p.1 != t) = true := by simp [h]
      rw [List.filter_cons, this, if_pos rfl, occ_find_cons, if_neg h]
      exact ih

theorem occ_find_filter_ne (l : List (Nat × Op)) {t t' : Nat} (hne : t' ≠ t) :
    occ_find (l.filter (fun p => p.1 != t)) t' = occ_find l t' := by
  induction l with
  | nil => rfl
  | cons p r ih =>
    by_cases h : p.1 = t
    · have : (p.1 != t) = false := by simp [h]
      have h' : ¬ p.1 = t' := by rw [h]; exact fun e => hne e.symm
      rw [List.filter_cons, this, occ_find_cons, if_neg h']
      simpa using ih
    · have : (p.1 != t) = true := by simp [h]
      rw [List.filter_cons, this, if_pos rfl, occ_find_cons, occ_find_cons, ih]

theorem occ_mem_filter_ne {l : List (Nat × Nat)} {p q : Nat × Nat} (h : p ∈ l.filter (fun x => x != q)) : p ∈ l ∧ p ≠ q := by
  have := List.mem_filter.mp h
  exact ⟨this.1, by simpa using this.2⟩

def occ_ThreadJ (o : Occ) (s : State) (t : Nat) : Prop :=
  match s.pc t with
  | .idle => o.pendOf t = none
  | .los kd k => o.pendOf t = some ⟨kd, k⟩
  | .act kd k _ => o.pendOf t = some ⟨kd, k⟩
  | .ann k _ => o.pendOf t = some ⟨.lock, k⟩
  | .wait k _ => o.pendOf t = some ⟨.lock, k⟩
  | .rel k _ => o.pendOf t = some ⟨.unlock, k⟩
  | .ret r => ∃ op, o.pendOf t = some op ∧
      (writeAcq op.kind r = true → (t, op.key) ∈ s.wh ∧ (t, op.key) ∉ o.w) ∧
      (readAcq op.kind r = true → (t, op.key) ∈ s.rh)

/-- The model's ghost sets `s.wh`/`s.rh` change at the internal acquisition and release steps, the event-level sets `o.w`/`o.r` at
`res` of a Lock and at `inv` of an Unlock.  So between acquisition and `res` the model is ahead (`w`, `r` are inclusions, and the
`.ret` clause of `occ_ThreadJ` records "held in the model, not yet in `o`"), and between `inv unlock` and the release it lags
(`unl`, `runl`: the pair has already left `o`). -/
structure occ_J (o : Occ) (s : State) : Prop where
  thread : ∀ t, occ_ThreadJ o s t
  w : ∀ p ∈ o.w, p ∈ s.wh
  r : ∀ p ∈ o.r, p ∈ s.rh
  unl : ∀ t k, o.pendOf t = some ⟨.unlock, k⟩ → (t, k) ∉ o.w
  runl : ∀ t k, o.pendOf t = some ⟨.runlock, k⟩ → (t, k) ∉ o.r

/-- `occ_ThreadJ` as a function of the program counter -/
def occ_TJ (o : Occ) (s : State) (t : Nat) : Pc → Prop
  | .idle => o.pendOf t = none
  | .los kd k => o.pendOf t = some ⟨kd, k⟩
  | .act kd k _ => o.pendOf t = some ⟨kd, k⟩
  | .ann k _ => o.pendOf t = some ⟨.lock, k⟩
  | .wait k _ => o.pendOf t = some ⟨.lock, k⟩
  | .rel k _ => o.pendOf t = some ⟨.unlock, k⟩
  | .ret r => ∃ op, o.pendOf t = some op ∧
      (writeAcq op.kind r = true → (t, op.key) ∈ s.wh ∧ (t, op.key) ∉ o.w) ∧
      (readAcq op.kind r = true → (t, op.key) ∈ s.rh)

theorem occ_tj_at {o : Occ} {s : State} {t : Nat} {p : Pc} (h : s.pc t = p) : occ_ThreadJ o s t ↔ occ_TJ o s t p := by
  subst h
  unfold occ_ThreadJ
  cases s.pc t <;> exact Iff.rfl

theorem occ_tj_mk {o : Occ} {s : State} {t : Nat} (p : Pc) (h : s.pc t = p) (hp : occ_TJ o s t p) : occ_ThreadJ o s t :=
  (occ_tj_at h).mpr hp

theorem occ_el_idle {o : Occ} {s : State} {t : Nat} (hT : occ_ThreadJ o s t) (h : s.pc t = .idle) :
    o.pendOf t = none := (occ_tj_at h).mp hT

/-- frame rule for the goroutines that do not move -/
theorem occ_tj_frame {o o' : Occ} {s s' : State} {t' : Nat} (hpc : s'.pc t' = s.pc t')
    (hp : o'.pendOf t' = o.pendOf t')
    (hwh : ∀ k, (t', k) ∈ s.wh → (t', k) ∈ s'.wh) (hrh : ∀ k, (t', k) ∈ s.rh → (t', k) ∈ s'.rh)
    (hw : ∀ k, (t', k) ∈ o'.w → (t', k) ∈ o.w)
    (h : occ_ThreadJ o s t') : occ_ThreadJ o' s' t' := by
  unfold occ_ThreadJ at *
  rw [hpc, hp]
  split at h
  · exact h
  · exact h
  · exact h
  · exact h
  · exact h
  · exact h
  · obtain ⟨op, h1, h2, h3⟩ := h
    exact ⟨op, h1, fun e => ⟨hwh _ (h2 e).1, fun hm => (h2 e).2 (hw _ hm)⟩, fun e => hrh _ (h3 e)⟩

theorem occ_pendOf_init (t : Nat) : Occ.pendOf ⟨[], [], [], true⟩ t = none := rfl

theorem occ_J_init (N : Nat) : occ_J ⟨[], [], [], true⟩ (init N) := by
  refine ⟨?_, ?_, ?_, ?_, ?_⟩
  · intro t
    refine occ_tj_mk .idle ?_ rfl
    unfold State.pc init
    simp only [List.getD_eq_getElem?_getD, List.getElem?_replicate]
    split <;> rfl
  · intro p hp; cases hp
  · intro p hp; cases hp
  · intro t k h; cases h
  · intro t k h; cases h

/-- an internal step of goroutine `t`: the bookkeeping is unchanged -/
theorem occ_J_internal {o : Occ} {s s' : State} {t : Nat} (hJ : occ_J o s)
    (hother : ∀ t', t' ≠ t → s'.pc t' = s.pc t')
    (hwh : ∀ p ∈ s.wh, (p.1 ≠ t ∨ p ∈ o.w) → p ∈ s'.wh)
    (hrh : ∀ p ∈ s.rh, (p.1 ≠ t ∨ p ∈ o.r) → p ∈ s'.rh)
    (ht : occ_ThreadJ o s' t) : occ_J o s' := by
  refine ⟨?_, ?_, ?_, hJ.unl, hJ.runl⟩
  · intro t'
    by_cases e : t' = t
    · subst e; exact ht
    · exact occ_tj_frame (hother t' e) rfl (fun k h => hwh _ h (.inl e)) (fun k h => hrh _ h (.inl e))
        (fun _ h => h) (hJ.thread t')
  · intro p hp; exact hwh p (hJ.w p hp) (.inr hp)
  · intro p hp; exact hrh p (hJ.r p hp) (.inr hp)

theorem occ_writeAcq_ff (kd : Kind) : writeAcq kd .ff = false := by cases kd <;> rfl
theorem occ_readAcq_ff (kd : Kind) : readAcq kd .ff = false := by cases kd <;> rfl
theorem occ_readAcq_lock (r : Res) : readAcq .lock r = false := by cases r <;> rfl
theorem occ_readAcq_trylock (r : Res) : readAcq .trylock r = false := by cases r <;> rfl
theorem occ_writeAcq_rlock (r : Res) : writeAcq .rlock r = false := by cases r <;> rfl
theorem occ_writeAcq_tryrlock (r : Res) : writeAcq .tryrlock r = false := by cases r <;> rfl

theorem occ_tj_ret_noacq {o : Occ} {s : State} {t : Nat} {r} (h : s.pc t = .ret r) (op : Op)
    (hp : o.pendOf t = some op) (hw : writeAcq op.kind r = false) (hr : readAcq op.kind r = false) :
    occ_ThreadJ o s t :=
  (occ_tj_at h).mpr ⟨op, hp, fun e => (by rw [hw] at e; cases e), fun e => (by rw [hr] at e; cases e)⟩

theorem occ_step_internal {rw : Bool} {ops : List Op} {o : Occ} {s s' : State} {t : Nat}
    (hJ : occ_J o s) (hg : Good s) (ht : t < s.pcs.length) (hs : Step rw true ops s t none s') : occ_J o s' := by
  have hTJ := hJ.thread t
  have hT := hg.thread t
  have hother : ∀ t', t' ≠ t → s'.pc t' = s.pc t' := by
    obtain ⟨p', hp'⟩ : ∃ p', s'.pcs = s.pcs.set t p' := by cases hs <;> exact ⟨_, rfl⟩
    exact fun t' e => (pc_of_set ht hp' t').trans (if_neg e)
  cases hs with
  | tryFail kd k m hpc hkd =>
    refine occ_J_internal hJ hother (fun _ h _ => h) (fun _ h _ => h) ?_
    exact occ_tj_ret_noacq (pc_set_self ht rfl) ⟨kd, k⟩ ((occ_tj_at hpc).mp hTJ)
      (occ_writeAcq_ff _) (occ_readAcq_ff _)
  | hit kd k m hpc hkd hm =>
    refine occ_J_internal hJ hother (fun _ h _ => h) (fun _ h _ => h) ?_
    exact occ_tj_mk (.act kd k _) (pc_set_self ht rfl) ((occ_tj_at hpc).mp hTJ)
  | miss kd k hpc hkd hm =>
    refine occ_J_internal hJ hother (fun _ h _ => h) (fun _ h _ => h) ?_
    exact occ_tj_mk (.act kd k _) (pc_set_self ht rfl) ((occ_tj_at hpc).mp hTJ)
  | clear k hpc hok =>
    refine occ_J_internal hJ hother (fun _ h _ => h) (fun _ h _ => h) ?_
    exact occ_tj_ret_noacq (pc_set_self ht rfl) ⟨.clear, k⟩ ((occ_tj_at hpc).mp hTJ) rfl rfl
  | queue k m p' P Q hq =>
    have hpc' : (queueStep s t m p' P Q).pc t = p' := pc_set_self ht rfl
    refine occ_J_internal hJ hother
      (fun _ h _ => h) (fun _ h _ => h) ?_
    rcases hq with ⟨h1, rfl, _, _⟩ | ⟨h1, rfl, _, _⟩ | ⟨h1, rfl, _, _⟩
    · exact (occ_tj_at hpc').mpr ((occ_tj_at h1).mp hTJ)
    · exact (occ_tj_at hpc').mpr ((occ_tj_at h1).mp hTJ)
    · exact occ_tj_ret_noacq hpc' ⟨.unlock, k⟩ ((occ_tj_at h1).mp hTJ) rfl rfl
  | acqW k m r hpc hw hr =>
    have hpc' : (acqW s t k m r).pc t = .ret r := pc_set_self ht rfl
    refine occ_J_internal hJ hother
      (fun _ h _ => List.mem_cons_of_mem _ h) (fun _ h _ => h) ?_
    -- `o.w ⊆ s.wh`, and a pair in `s.wh` has a writer on its mutex, which `hw` excludes
    have hnot : (t, k) ∉ o.w := fun hmem => nomatch hw.symm.trans (hg.writer_at (acq_get hT hpc) (hJ.w _ hmem))
    have hin : (t, k) ∈ (acqW s t k m r).wh := List.mem_cons_self
    rcases hpc with h | h | h
    · exact (occ_tj_at hpc').mpr ⟨⟨.lock, k⟩, (occ_tj_at h).mp hTJ, fun _ => ⟨hin, hnot⟩,
        fun e => (by rw [occ_readAcq_lock] at e; cases e)⟩
    · exact (occ_tj_at hpc').mpr ⟨⟨.trylock, k⟩, (occ_tj_at h).mp hTJ, fun _ => ⟨hin, hnot⟩,
        fun e => (by rw [occ_readAcq_trylock] at e; cases e)⟩
    · exact (occ_tj_at hpc').mpr ⟨⟨.lock, k⟩, (occ_tj_at h).mp hTJ, fun _ => ⟨hin, hnot⟩,
        fun e => (by rw [occ_readAcq_lock] at e; cases e)⟩
  | unlock k m p' Q hpc hq =>
    have hpc' : (relW s t k m p' Q).pc t = p' := pc_set_self ht rfl
    have hpend := (occ_tj_at hpc).mp hTJ
    refine occ_J_internal hJ hother ?_ (fun _ h _ => h) ?_
    · intro p hp hor
      have hne : p ≠ (t, k) := by
        rcases hor with h | h
        · intro e; subst e; exact h rfl
        · intro e; subst e; exact hJ.unl t k hpend h
      exact (List.mem_erase_of_ne hne).mpr hp
    · rcases hq with ⟨rfl, _⟩ | ⟨rfl, _⟩
      · exact (occ_tj_at hpc').mpr hpend
      · exact occ_tj_ret_noacq hpc' ⟨.unlock, k⟩ hpend rfl rfl
  | acqR kd k m r hpc hkd hw =>
    have hpc' : (acqR s t k m r).pc t = .ret r := pc_set_self ht rfl
    refine occ_J_internal hJ hother
      (fun _ h _ => h) (fun _ h _ => List.mem_cons_of_mem _ h) ?_
    have hin : (t, k) ∈ (acqR s t k m r).rh := List.mem_cons_self
    refine (occ_tj_at hpc').mpr ⟨⟨kd, k⟩, (occ_tj_at hpc).mp hTJ, fun e => ?_, fun _ => hin⟩
    rcases hkd with rfl | rfl
    · rw [occ_writeAcq_rlock] at e; cases e
    · rw [occ_writeAcq_tryrlock] at e; cases e
  | runlock k m hpc =>
    have hpend := (occ_tj_at hpc).mp hTJ
    refine occ_J_internal hJ hother (fun _ h _ => h) ?_ ?_
    · intro p hp hor
      have hne : p ≠ (t, k) := by
        rcases hor with h | h
        · intro e; subst e; exact h rfl
        · intro e; subst e; exact hJ.runl t k hpend h
      exact (List.mem_erase_of_ne hne).mpr hp
    · exact occ_tj_ret_noacq (pc_set_self ht rfl) ⟨.runlock, k⟩ hpend rfl rfl

theorem occ_inv_pend_self (o : Occ) (t : Nat) (op : Op) : (occStep o (.inv t op)).pendOf t = some op := by
  show occ_find ((t, op) :: o.pend.filter (fun p => p.1 != t)) t = some op
  rw [occ_find_cons, if_pos rfl]

theorem occ_inv_pend_ne (o : Occ) {t t' : Nat} (op : Op) (hne : t' ≠ t) :
    (occStep o (.inv t op)).pendOf t' = o.pendOf t' := by
  show occ_find ((t, op) :: o.pend.filter (fun p => p.1 != t)) t' = occ_find o.pend t'
  rw [occ_find_cons, if_neg (fun e : t = t' => hne e.symm), occ_find_filter_ne _ hne]

theorem occ_inv_w_sub {o : Occ} {t : Nat} {op : Op} {p : Nat × Nat} (h : p ∈ (occStep o (.inv t op)).w) :
    p ∈ o.w ∧ (op.kind = .unlock → p ≠ (t, op.key)) := by
  change p ∈ (if op.kind = .unlock then o.w.filter (fun p => p != (t, op.key)) else o.w) at h
  split at h
  · exact ⟨(occ_mem_filter_ne h).1, fun _ => (occ_mem_filter_ne h).2⟩
  · next hk => exact ⟨h, fun e => absurd e hk⟩

theorem occ_inv_r_sub {o : Occ} {t : Nat} {op : Op} {p : Nat × Nat} (h : p ∈ (occStep o (.inv t op)).r) :
    p ∈ o.r ∧ (op.kind = .runlock → p ≠ (t, op.key)) := by
  change p ∈ (if op.kind = .runlock then o.r.filter (fun p => p != (t, op.key)) else o.r) at h
  split at h
  · exact ⟨(occ_mem_filter_ne h).1, fun _ => (occ_mem_filter_ne h).2⟩
  · next hk => exact ⟨h, fun e => absurd e hk⟩

theorem occ_step_inv {o : Occ} {s : State} {t : Nat} (op : Op) (hJ : occ_J o s) (ht : t < s.pcs.length) :
    occ_J (occStep o (.inv t op)) (s.setPc t (.los op.kind op.key)) := by
  refine ⟨?_, ?_, ?_, ?_, ?_⟩
  · intro t'
    by_cases e : t' = t
    · subst e
      exact occ_tj_mk (.los op.kind op.key) (pc_set_self ht rfl) (occ_inv_pend_self o t' op)
    · exact occ_tj_frame (s := s) (by rw [pc_setPc _ _ _ _ ht, if_neg e]) (occ_inv_pend_ne o op e) (fun _ h => h)
        (fun _ h => h) (fun _ h => (occ_inv_w_sub h).1) (hJ.thread t')
  · intro p hp; exact hJ.w p (occ_inv_w_sub hp).1
  · intro p hp; exact hJ.r p (occ_inv_r_sub hp).1
  · intro t' k hp hm
    by_cases e : t' = t
    · subst e
      rw [occ_inv_pend_self] at hp
      cases hp
      exact (occ_inv_w_sub hm).2 rfl rfl
    · rw [occ_inv_pend_ne o op e] at hp
      exact hJ.unl t' k hp (occ_inv_w_sub hm).1
  · intro t' k hp hm
    by_cases e : t' = t
    · subst e
      rw [occ_inv_pend_self] at hp
      cases hp
      exact (occ_inv_r_sub hm).2 rfl rfl
    · rw [occ_inv_pend_ne o op e] at hp
      exact hJ.runl t' k hp (occ_inv_r_sub hm).1

theorem occ_J_res {o : Occ} {s : State} {t : Nat} {w' r' : List (Nat × Nat)} {ok' : Bool} (hJ : occ_J o s)
    (ht : t < s.pcs.length)
    (hw' : ∀ p ∈ w', p ∈ o.w ∨ (p.1 = t ∧ p ∈ s.wh))
    (hr' : ∀ p ∈ r', p ∈ o.r ∨ (p.1 = t ∧ p ∈ s.rh)) :
    occ_J ⟨o.pend.filter (fun p => p.1 != t), w', r', ok'⟩ (s.setPc t .idle) := by
  have hself : Occ.pendOf ⟨o.pend.filter (fun p => p.1 != t), w', r', ok'⟩ t = none := occ_find_filter_self _ _
  have hne : ∀ t', t' ≠ t → Occ.pendOf ⟨o.pend.filter (fun p => p.1 != t), w', r', ok'⟩ t' = o.pendOf t' :=
    fun t' e => occ_find_filter_ne _ e
  refine ⟨?_, ?_, ?_, ?_, ?_⟩
  · intro t'
    by_cases e : t' = t
    · subst e
      exact occ_tj_mk .idle (pc_set_self ht rfl) hself
    · refine occ_tj_frame (s := s) (by rw [pc_setPc _ _ _ _ ht, if_neg e]) (hne t' e) (fun _ h => h)
        (fun _ h => h) (fun k h => ?_) (hJ.thread t')
      rcases hw' _ h with h1 | ⟨h1, _⟩
      · exact h1
      · exact absurd h1 e
  · intro p hp
    rcases hw' p hp with h | ⟨_, h⟩
    · exact hJ.w p h
    · exact h
  · intro p hp
    rcases hr' p hp with h | ⟨_, h⟩
    · exact hJ.r p h
    · exact h
  · intro t' k hp hm
    have e : t' ≠ t := by intro e; subst e; rw [hself] at hp; cases hp
    rw [hne t' e] at hp
    rcases hw' _ hm with h1 | ⟨h1, _⟩
    · exact hJ.unl t' k hp h1
    · exact e h1
  · intro t' k hp hm
    have e : t' ≠ t := by intro e; subst e; rw [hself] at hp; cases hp
    rw [hne t' e] at hp
    rcases hr' _ hm with h1 | ⟨h1, _⟩
    · exact hJ.runl t' k hp h1
    · exact e h1

theorem occ_any_false {l : List (Nat × Nat)} {k : Nat} (h : ∀ t', (t', k) ∉ l) : l.any (fun p => p.2 == k) = false := by
  rw [List.any_eq_false]
  rintro ⟨t', k'⟩ hm hk
  have : k' = k := by simpa using hk
  subst this
  exact h t' hm

theorem occ_step_res {o : Occ} {s : State} {t : Nat} {r : Res} (hJ : occ_J o s) (hg : Good s)
    (ht : t < s.pcs.length) (hpc : s.pc t = .ret r) :
    occ_J (occStep o (.res t r)) (s.setPc t .idle) ∧ (o.ok = true → (occStep o (.res t r)).ok = true) := by
  obtain ⟨op, hp, hw, hr⟩ := (occ_tj_at hpc).mp (hJ.thread t)
  by_cases hW : writeAcq op.kind r = true
  · have heq : occStep o (.res t r) = ⟨o.pend.filter (fun p => p.1 != t), (t, op.key) :: o.w, o.r,
        o.ok && !(o.w.any (fun p => p.2 == op.key)) && !(o.r.any (fun p => p.2 == op.key))⟩ := by
      simp only [occStep, hp, hW, if_true]
    rw [heq]
    obtain ⟨hin, hnot⟩ := hw hW
    refine ⟨occ_J_res hJ ht ?_ (fun p hp => .inl hp), ?_⟩
    · intro p hp
      rcases List.mem_cons.mp hp with rfl | h
      · exact .inr ⟨rfl, hin⟩
      · exact .inl h
    · intro hok
      have h1 : o.w.any (fun p => p.2 == op.key) = false := by
        apply occ_any_false
        intro t' hm
        have hh : s.holdsW t' op.key := hJ.w _ hm
        have : t = t' := mutex_of_good hg (show s.holdsW t op.key from hin) hh
        subst this
        exact hnot hm
      have h2 : o.r.any (fun p => p.2 == op.key) = false := by
        apply occ_any_false
        intro t' hm
        exact rw_of_good hg (show s.holdsW t op.key from hin) (show s.holdsR t' op.key from hJ.r _ hm)
      show (o.ok && !(o.w.any (fun p => p.2 == op.key)) && !(o.r.any (fun p => p.2 == op.key))) = true
      rw [hok, h1, h2]; rfl
  · have hW : writeAcq op.kind r = false := by simpa using hW
    by_cases hR : readAcq op.kind r = true
    · have heq : occStep o (.res t r) = ⟨o.pend.filter (fun p => p.1 != t), o.w, (t, op.key) :: o.r,
          o.ok && !(o.w.any (fun p => p.2 == op.key))⟩ := by
        simp only [occStep, hp, hW, hR, Bool.false_eq_true, if_true, if_false]
      rw [heq]
      have hin := hr hR
      refine ⟨occ_J_res hJ ht (fun p hp => .inl hp) ?_, ?_⟩
      · intro p hp
        rcases List.mem_cons.mp hp with rfl | h
        · exact .inr ⟨rfl, hin⟩
        · exact .inl h
      · intro hok
        have h1 : o.w.any (fun p => p.2 == op.key) = false := by
          apply occ_any_false
          intro t' hm
          exact rw_of_good hg (show s.holdsW t' op.key from hJ.w _ hm) (show s.holdsR t op.key from hin)
        show (o.ok && !(o.w.any (fun p => p.2 == op.key))) = true
        rw [hok, h1]; rfl
    · have hR : readAcq op.kind r = false := by simpa using hR
      have heq : occStep o (.res t r) = ⟨o.pend.filter (fun p => p.1 != t), o.w, o.r, o.ok⟩ := by
        simp only [occStep, hp, hW, hR, Bool.false_eq_true, if_false]
      rw [heq]
      exact ⟨occ_J_res hJ ht (fun p hp => .inl hp) (fun p hp => .inl hp), id⟩

theorem occ_step {rw : Bool} {ops : List Op} {o : Occ} {s s' : State} {e : Event}
    (hJ : occ_J o s) (hg : Good s) (h : (some e, s') ∈ succ rw true ops s) :
    occ_J (occStep o e) s' ∧ (o.ok = true → (occStep o e).ok = true) := by
  obtain ⟨t, ht, hs⟩ := step_of_succ h
  cases hs with
  | inv op hpc hop hok => exact ⟨occ_step_inv op hJ ht, id⟩
  | ret r hpc => exact occ_step_res hJ hg ht hpc

theorem occupancy_of_ex {rw : Bool} {N : Nat} {ops : List Op} {ls : List (Option Event)} {s : State}
    (h : Ex rw ops (init N) ls s) : OccupancyOk (visible ls) :=
  (Exec.fold_inv (sys := sys rw 0 ops) (fun o s => occ_J o s ∧ Good s ∧ o.ok = true) occStep
    (fun _ _ _ hI hm => let ⟨_, ht, hs⟩ := step_of_succ hm; ⟨occ_step_internal hI.1 hI.2.1 ht hs, good_succ hI.2.1 hm, hI.2.2⟩)
    (fun _ _ _ _ hI hm => ⟨(occ_step hI.1 hI.2.1 hm).1, good_succ hI.2.1 hm, (occ_step hI.1 hI.2.1 hm).2 hI.2.2⟩)
    (exec_of_ex 0 h) _ ⟨occ_J_init N, good_init N, rfl⟩).2.2

end TypVerif.Lemmas.C09Accept
