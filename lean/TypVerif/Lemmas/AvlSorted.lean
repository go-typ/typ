import TypVerif.Lemmas.AvlBasic
/-
C01, one step.  Under `CmpOK` a `BST` is a tree whose in-order walk is `Sorted` (`bst_iff_sorted`); on the walk `add` is
`sinsert`, `find` is membership, and `remove`, which cuts out some occurrence (`remove_cases`), is `List.erase` because
the sorted arrangement of a multiset is unique (`sorted_unique`).
-/
set_option linter.unusedSectionVars false
namespace TypVerif.Lemmas.Avl
open TypVerif.Model.Avl TypVerif.Model.Avl.Node TypVerif.Spec.Avl

variable {α : Type} {cmp : α → α → Int}

theorem _root_.TypVerif.Spec.Avl.CmpOK.refl (ok : CmpOK cmp) (a : α) : cmp a a ≤ 0 := by
  have := (ok.eq0 a a).mpr rfl; omega

theorem _root_.TypVerif.Spec.Avl.CmpOK.not_lt (ok : CmpOK cmp) {a b : α} : ¬ cmp a b < 0 ↔ cmp b a ≤ 0 := by
  have := ok.antisym a b; omega

theorem _root_.TypVerif.Spec.Avl.CmpOK.lt_iff (ok : CmpOK cmp) {a b : α} : cmp a b < 0 ↔ ¬ cmp b a ≤ 0 := by
  have := ok.antisym a b; omega

theorem _root_.TypVerif.Spec.Avl.CmpOK.antisymm (ok : CmpOK cmp) {a b : α} (h1 : cmp a b ≤ 0) (h2 : cmp b a ≤ 0) : a = b := by
  apply (ok.eq0 a b).mp
  have := ok.antisym a b; omega

theorem _root_.TypVerif.Spec.Avl.CmpOK.total (ok : CmpOK cmp) (a b : α) : cmp a b ≤ 0 ∨ cmp b a ≤ 0 := by
  have := ok.antisym b a; omega

/-- the comparators of the correspondence are total orders consistent with `==`: case analysis on the comparisons -/
theorem natCmp_ok : CmpOK natCmp := by
  refine ⟨fun a b => ?_, fun a b => ?_, fun a b c => ?_⟩ <;> unfold natCmp <;> omega

theorem revCmp_ok : CmpOK revCmp :=
  ⟨fun a b => (natCmp_ok.eq0 b a).trans eq_comm, fun a b => natCmp_ok.antisym b a,
    fun a b c h1 h2 => natCmp_ok.trans c b a h2 h1⟩

theorem lexCmp_ok (f : Int → Int) : CmpOK (lexCmp f) := by
  refine ⟨fun a b => ⟨?_, ?_⟩, fun a b => ?_, fun a b c => ?_⟩
  · unfold lexCmp natCmp; omega
  · rintro rfl; unfold lexCmp natCmp; omega
  · unfold lexCmp natCmp; omega
  · unfold lexCmp natCmp; omega

theorem mod7Cmp_ok : CmpOK mod7Cmp := lexCmp_ok _

theorem cmpOfId_ok (c : Int) : CmpOK (cmpOfId c) := by
  unfold cmpOfId; split
  · exact revCmp_ok
  · split
    · exact mod7Cmp_ok
    · exact natCmp_ok

theorem sorted_nil : Sorted cmp ([] : List α) := List.Pairwise.nil

theorem sorted_cons {a : α} {l : List α} :
    Sorted cmp (a :: l) ↔ (∀ b ∈ l, cmp a b ≤ 0) ∧ Sorted cmp l := List.pairwise_cons

theorem sorted_append {l1 l2 : List α} :
    Sorted cmp (l1 ++ l2) ↔ Sorted cmp l1 ∧ Sorted cmp l2 ∧ ∀ a ∈ l1, ∀ b ∈ l2, cmp a b ≤ 0 :=
  List.pairwise_append

theorem perm_sinsert (x : α) (l : List α) : (sinsert cmp x l).Perm (x :: l) := by
  induction l with
  | nil => exact List.Perm.refl _
  | cons a l ih =>
    simp only [sinsert]; split
    · exact List.Perm.refl _
    · exact (List.Perm.cons a ih).trans (List.Perm.swap x a l)

theorem mem_sinsert {x y : α} {l : List α} : y ∈ sinsert cmp x l ↔ y = x ∨ y ∈ l :=
  (perm_sinsert x l).mem_iff.trans List.mem_cons

theorem length_sinsert (x : α) (l : List α) : (sinsert cmp x l).length = l.length + 1 := by
  simpa using (perm_sinsert (cmp := cmp) x l).length_eq

theorem sorted_sinsert (ok : CmpOK cmp) (x : α) {l : List α} (h : Sorted cmp l) : Sorted cmp (sinsert cmp x l) := by
  induction l with
  | nil => simp [sinsert, Sorted]
  | cons a l ih =>
    rw [sorted_cons] at h
    simp only [sinsert]; split
    · rename_i hlt
      have hxa : cmp x a ≤ 0 := by omega
      rw [sorted_cons]
      refine ⟨?_, sorted_cons.mpr h⟩
      intro b hb
      rcases List.mem_cons.mp hb with rfl | hb
      · exact hxa
      · exact ok.trans _ _ _ hxa (h.1 b hb)
    · rename_i hnlt
      have hax : cmp a x ≤ 0 := ok.not_lt.mp hnlt
      rw [sorted_cons]
      refine ⟨?_, ih h.2⟩
      intro b hb
      rcases mem_sinsert.mp hb with rfl | hb
      · exact hax
      · exact h.1 b hb

theorem sinsert_append_lt (x b : α) (A B : List α) (h : cmp x b < 0) :
    sinsert cmp x (A ++ b :: B) = sinsert cmp x A ++ b :: B := by
  induction A with
  | nil => simp [sinsert, h]
  | cons a A ih => simp only [List.cons_append, sinsert]; split <;> simp [ih]

theorem sinsert_append_ge (ok : CmpOK cmp) (x : α) (A B : List α) (h : ∀ a ∈ A, cmp a x ≤ 0) :
    sinsert cmp x (A ++ B) = A ++ sinsert cmp x B := by
  induction A with
  | nil => rfl
  | cons a A ih =>
    have h1 : ¬ cmp x a < 0 := ok.not_lt.mpr (h a (by simp))
    simp only [List.cons_append, sinsert, h1, if_false]
    rw [ih (fun a' ha' => h a' (by simp [ha']))]

/-- C01.sorted_unique -/
theorem sorted_unique (ok : CmpOK cmp) {l1 l2 : List α} (s1 : Sorted cmp l1) (s2 : Sorted cmp l2)
    (p : l1.Perm l2) : l1 = l2 :=
  List.Perm.eq_of_pairwise (fun _ _ _ _ => ok.antisymm) s1 s2 p

theorem bst_iff_sorted (ok : CmpOK cmp) (t : Node α) : BST cmp t ↔ Sorted cmp (inorder t) := by
  induction t with
  | nil => simp [BST, Sorted]
  | node l v h r ihl ihr =>
    simp only [BST, inorder_node, sorted_append, sorted_cons, ihl, ihr]
    constructor
    · rintro ⟨h1, h2, h3, h4⟩
      refine ⟨h1, ⟨h4, h2⟩, ?_⟩
      intro a ha b hb
      rcases List.mem_cons.mp hb with rfl | hb
      · exact h3 a ha
      · exact ok.trans _ _ _ (h3 a ha) (h4 b hb)
    · rintro ⟨h1, ⟨h4, h2⟩, h5⟩
      exact ⟨h1, h2, fun x hx => h5 x hx v (by simp), h4⟩

section
variable [DecidableEq α]

/-- C01.inorder_add (multiset part; no hypothesis needed) -/
theorem inorder_add_perm (cmp : α → α → Int) (x : α) (t : Node α) : (inorder (add cmp x t)).Perm (x :: inorder t) := by
  induction t with
  | nil => exact List.Perm.refl _
  | node l v h r ihl ihr =>
    simp only [add]; split
    · simp only [inorder_rebalance, inorder_mk, inorder_node]
      exact (List.Perm.append_right _ ihl)
    · simp only [inorder_rebalance, inorder_mk, inorder_node]
      refine (List.Perm.append_left _ (List.Perm.cons v ihr)).trans ?_
      refine (List.Perm.append_left _ (List.Perm.swap x v _)).trans ?_
      exact List.perm_middle

theorem inorder_add_eq (ok : CmpOK cmp) (x : α) (t : Node α) (ht : BST cmp t) :
    inorder (add cmp x t) = sinsert cmp x (inorder t) := by
  induction t with
  | nil => rfl
  | node l v h r ihl ihr =>
    simp only [BST] at ht
    obtain ⟨bl, br, hl, hr⟩ := ht
    simp only [add]; split
    · rename_i hlt
      simp only [inorder_rebalance, inorder_mk, inorder_node, ihl bl]
      rw [sinsert_append_lt x v _ _ hlt]
    · rename_i hnlt
      have hvx : cmp v x ≤ 0 := ok.not_lt.mp hnlt
      simp only [inorder_rebalance, inorder_mk, inorder_node, ihr br]
      rw [sinsert_append_ge ok x _ _ (fun a ha => ok.trans _ _ _ (hl a ha) hvx)]
      simp only [sinsert, hnlt, if_false]

/-- C01.sorted_add -/
theorem bst_add (ok : CmpOK cmp) (x : α) (t : Node α) (ht : BST cmp t) : BST cmp (add cmp x t) := by
  rw [bst_iff_sorted ok, inorder_add_eq ok x t ht]
  exact sorted_sinsert ok x ((bst_iff_sorted ok t).mp ht)

/-- `x` in the left subtree would make `x ≤ v`, hence `x < v` as `x ≠ v`, and the search would have gone left -/
theorem not_mem_left (ok : CmpOK cmp) {x v : α} {l : Node α} (hl : ∀ y ∈ inorder l, cmp y v ≤ 0) (e : ¬ v = x)
    (gl : ¬ goLeft cmp x l v) : x ∉ inorder l := by
  intro hx
  have h1 := hl x hx
  have h2 : cmp x v ≠ 0 := fun h0 => e ((ok.eq0 x v).mp h0).symm
  exact gl (goLeft_iff.mpr ⟨fun hn => (by rw [hn] at hx; cases hx), by omega⟩)

/-- C01.find_iff -/
theorem contains_iff (ok : CmpOK cmp) (x : α) (t : Node α) (ht : BST cmp t) :
    contains cmp x t = true ↔ x ∈ inorder t := by
  unfold contains
  induction t using search_ind cmp x with
  | nil => simp [find]
  | found l h r => simp [find_found]
  | left l v h r e gl ih =>
    rw [find_left e gl, ih ht.1, inorder_node, List.mem_append, List.mem_cons]
    refine ⟨Or.inl, fun h => h.elim id (fun h => h.elim (fun e' => absurd e'.symm e) fun hr => ?_)⟩
    have := ht.2.2.2 x hr
    have := ok.antisym x v
    have := (goLeft_iff.mp gl).2
    omega
  | right l v h r e gl gr ih =>
    rw [find_right e gl gr, ih ht.2.1, inorder_node, List.mem_append, List.mem_cons]
    exact ⟨fun h => Or.inr (Or.inr h), fun h => h.elim (fun hl => absurd hl (not_mem_left ok ht.2.2.1 e gl))
      (fun h => h.elim (fun e' => absurd e'.symm e) id)⟩
  | stop l v h r e gl gr =>
    rw [find_stop e gl gr, inorder_node, List.mem_append, List.mem_cons,
      isNil_eq_true.mp (by simpa using gr : r.isNil = true)]
    exact ⟨fun h => (by cases h), fun h => h.elim (fun hl => absurd hl (not_mem_left ok ht.2.2.1 e gl))
      (fun h => h.elim (fun e' => absurd e'.symm e) (fun h => by cases h))⟩

theorem contains_eq_decide (ok : CmpOK cmp) (x : α) (t : Node α) (ht : BST cmp t) :
    contains cmp x t = decide (x ∈ inorder t) := by
  rw [Bool.eq_iff_iff, decide_eq_true_iff]; exact contains_iff ok x t ht

theorem inorder_popLeftMost (l : Node α) (v : α) (r : Node α) :
    (popLeftMost l v r).2 :: inorder (popLeftMost l v r).1 = inorder l ++ v :: inorder r := by
  induction l generalizing v r with
  | nil => rfl
  | node ll lv lh lr ihl _ =>
    simp only [popLeftMost, inorder_rebalance, inorder_mk, inorder_node]
    rw [← ihl lv lr]; simp

/-- `remove` follows the search path of `find`: where `find` fails it returns the very same tree, where `find` succeeds
it cuts one occurrence of `x` out of the in-order walk -/
theorem remove_cases (cmp : α → α → Int) (x : α) (t : Node α) :
    contains cmp x t = false ∧ remove cmp x t = (t, false) ∨
    contains cmp x t = true ∧ (remove cmp x t).2 = true ∧
      ∃ A B, inorder t = A ++ x :: B ∧ inorder (remove cmp x t).1 = A ++ B := by
  unfold contains
  induction t using search_ind cmp x with
  | nil => exact Or.inl ⟨rfl, rfl⟩
  | found l h r =>
    refine Or.inr ⟨by rw [find_found]; rfl, remove_found_snd, inorder l, inorder r, rfl, ?_⟩
    cases l with
    | nil => rw [remove_found_nil_left]; rfl
    | node ll lv lh lr =>
      cases r with
      | nil => rw [remove_found_nil_right]; simp
      | node rl rv rh rr => rw [remove_found_node, inorder_rebalance, inorder_mk, inorder_popLeftMost]; rfl
  | left l v h r e gl ih =>
    rw [find_left e gl, remove_left e gl]
    rcases ih with ⟨c, e'⟩ | ⟨c, e', A, B, e1, e2⟩
    · exact Or.inl ⟨c, if_neg (by rw [e']; exact Bool.false_ne_true)⟩
    · rw [if_pos e']
      exact Or.inr ⟨c, rfl, A, B ++ v :: inorder r, by simp [e1], by simp [e2]⟩
  | right l v h r e gl gr ih =>
    rw [find_right e gl gr, remove_right e gl gr]
    rcases ih with ⟨c, e'⟩ | ⟨c, e', A, B, e1, e2⟩
    · exact Or.inl ⟨c, if_neg (by rw [e']; exact Bool.false_ne_true)⟩
    · rw [if_pos e']
      exact Or.inr ⟨c, rfl, inorder l ++ v :: A, B, by simp [e1], by simp [e2]⟩
  | stop l v h r e gl gr => exact Or.inl ⟨by rw [find_stop e gl gr]; rfl, remove_stop e gl gr⟩

end

/-- `remove_cases` cuts out some occurrence, `List.erase` the first: both results are sorted with the same multiset, hence
equal (`sorted_unique`) -/
theorem remove_spec [DecidableEq α] (ok : CmpOK cmp) (x : α) (t : Node α) (ht : BST cmp t) :
    (remove cmp x t).2 = decide (x ∈ inorder t) ∧ inorder (remove cmp x t).1 = (inorder t).erase x ∧
      BST cmp (remove cmp x t).1 := by
  have hs := (bst_iff_sorted ok t).mp ht
  rcases remove_cases cmp x t with ⟨c, e⟩ | ⟨c, e, A, B, e1, e2⟩
  · have hx : x ∉ inorder t := fun hx => Bool.false_ne_true (c.symm.trans ((contains_iff ok x t ht).mpr hx))
    rw [e]
    exact ⟨(decide_eq_false hx).symm, (List.erase_of_not_mem hx).symm, ht⟩
  · have hx := (contains_iff ok x t ht).mp c
    have key : inorder (remove cmp x t).1 = (inorder t).erase x := by
      rw [e2]
      apply sorted_unique ok (List.Pairwise.sublist ?_ hs) (List.Pairwise.sublist List.erase_sublist hs)
      · refine List.Perm.cons_inv (List.perm_middle.symm.trans ?_ : (x :: (A ++ B)).Perm _)
        rw [← e1]; exact List.perm_cons_erase hx
      · rw [e1]; exact List.Sublist.append_left (List.sublist_cons_self x B) A
    refine ⟨e.trans (decide_eq_true hx).symm, key, ?_⟩
    rw [bst_iff_sorted ok, key]; exact List.Pairwise.sublist List.erase_sublist hs

end TypVerif.Lemmas.Avl
