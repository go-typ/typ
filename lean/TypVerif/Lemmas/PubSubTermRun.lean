import TypVerif.Lemmas.PubSubTermStep
import TypVerif.Lemmas.PubSubLogSubs
/-
Internal runs of the PubSub model (only steps of PubSub goroutines and of receivers, no invocation by the
environment): they are bounded by `measure`, they preserve the invariants, and they tell how a sender ends.
-/
namespace TypVerif.Lemmas.PubSubTerm
open TypVerif TypVerif.Model.PubSub TypVerif.Lemmas.PubSubStep TypVerif.Lemmas.PubSubSafe TypVerif.Lemmas.PubSubLive
  TypVerif.Lemmas.PubSubLog

def IStep (cfg : Cfg) (s s' : State) : Prop :=
  ∃ l, (∃ i, (l, s') ∈ taskSteps cfg s i) ∨ (∃ ch ∈ s.chans, (l, s') ∈ recvSteps s ch)

/-- `InternalRun cfg s n s'`: `s'` is reached from `s` by exactly `n` internal steps -/
inductive InternalRun (cfg : Cfg) : State → Nat → State → Prop
  | nil (s : State) : InternalRun cfg s 0 s
  | cons {s s1 s' : State} {n : Nat} : IStep cfg s s1 → InternalRun cfg s1 n s' → InternalRun cfg s (n + 1) s'

def Quiescent (cfg : Cfg) (s : State) : Prop :=
  (∀ i, taskSteps cfg s i = []) ∧ (∀ ch ∈ s.chans, recvSteps s ch = [])

theorem IStep.work {cfg : Cfg} {s s' : State} (h : IStep cfg s s') : Work cfg s s' :=
  h.elim fun _ hl => work_of_mem hl

theorem run_measure {cfg : Cfg} {s s' : State} {n : Nat} (h : InternalRun cfg s n s') :
    Safe s → ChanIdsOk s → n + measure cfg s' ≤ measure cfg s := by
  induction h with
  | nil s => intro _ _; omega
  | cons hstep _ ih =>
    intro hs hu
    have hd := dec_work hs hu hstep.work
    have := ih (safe_work hs hstep.work) (chanIds_work hu hstep.work)
    have := hd.lt
    omega

theorem run_safe {cfg : Cfg} {s s' : State} {n : Nat} (h : InternalRun cfg s n s') :
    Safe s → ChanIdsOk s → Safe s' ∧ ChanIdsOk s' := by
  induction h with
  | nil s => intro hs hu; exact ⟨hs, hu⟩
  | cons hstep _ ih => intro hs hu; exact ih (safe_work hs hstep.work) (chanIds_work hu hstep.work)

theorem run_append {cfg : Cfg} {s s1 s2 : State} {n m : Nat} (h1 : InternalRun cfg s n s1)
    (h2 : InternalRun cfg s1 m s2) : InternalRun cfg s (n + m) s2 := by
  induction h1 with
  | nil s => simpa using h2
  | cons hstep _ ih =>
    have := InternalRun.cons hstep (ih h2)
    rw [show ∀ a b : Nat, a + 1 + b = a + b + 1 from fun a b => by omega]
    exact this

/-- the internal steps as a list: `IStep` is membership in it (`istep_of_mem`), `Quiescent` its emptiness (`quiescent_iff`) -/
def isteps (cfg : Cfg) (s : State) : Steps :=
  (List.range s.tasks.length).flatMap (taskSteps cfg s) ++ s.chans.flatMap (recvSteps s)

theorem istep_of_mem {cfg : Cfg} {s : State} {p : Option Event × State} (h : p ∈ isteps cfg s) : IStep cfg s p.2 := by
  simp only [isteps, List.mem_append, List.mem_flatMap, List.mem_range] at h
  rcases h with ⟨i, _, hi⟩ | ⟨ch, hm, hc⟩
  · exact ⟨p.1, Or.inl ⟨i, hi⟩⟩
  · exact ⟨p.1, Or.inr ⟨ch, hm, hc⟩⟩

theorem quiescent_iff {cfg : Cfg} {s : State} : Quiescent cfg s ↔ isteps cfg s = [] := by
  unfold Quiescent isteps
  rw [List.append_eq_nil_iff, taskSteps_all_nil_iff, List.flatMap_eq_nil_iff]

/-- a maximal run exists from every state (of the system without clones): keep taking enabled internal steps -/
theorem run_exists (cfg : Cfg) : ∀ (k : Nat) (s : State), measure cfg s ≤ k → Safe s → ChanIdsOk s →
    ∃ n s', InternalRun cfg s n s' ∧ Quiescent cfg s'
  | k, s, hk, hs, hu => by
    by_cases hq : Quiescent cfg s
    · exact ⟨0, s, .nil s, hq⟩
    · obtain ⟨q, hq⟩ := List.exists_mem_of_ne_nil _ (mt quiescent_iff.mpr hq)
      have h1 := istep_of_mem hq
      have hd := (dec_work hs hu h1.work).lt
      match k, hk with
      | 0, hk => omega
      | k + 1, hk =>
        obtain ⟨n, s', hrun, hq'⟩ := run_exists cfg k q.2 (by omega) (safe_work hs h1.work) (chanIds_work hu h1.work)
        exact ⟨n + 1, s', .cons h1 hrun, hq'⟩

/-- the item whose timer has fired and whose `OnPubTimeout` callback is pending -/
def cbItem : Task → Option Item
  | .syncLoop _ _ (it :: _) true => some it
  | .asyncSend _ it true => some it
  | .wgSend _ _ it true => some it
  | _ => none

/-- a pending timeout callback has its entry in `timedOut` (the step that sets `cb` is the one that logs: `tstep_cb`) -/
def CbLogged (s : State) : Prop := ∀ t ∈ s.tasks, ∀ it, cbItem t = some it → key it ∈ s.timedOut

theorem cbItem_ctl {t : Task} (h : isCtl t = true) : cbItem t = none := by
  cases t <;> first | rfl | simp [isCtl] at h

theorem cbItem_syncNext (p o : Nat) (w : List Item) : cbItem (syncNext p o w) = none := by
  cases w <;> rfl

/-- a callback is pending after a transition only if the task did not move, or the transition is the one that logged
the timeout -/
theorem tstep_cb {cfg : Cfg} {s : State} {t t' : Task} {new : List Task} {dl tl : List Key}
    (h : TStep cfg s t t' new dl tl) :
    (∀ it, cbItem t' = some it → t' = t ∨ tl = [key it]) ∧ ∀ x ∈ new, cbItem x = none := by
  have nil : ∀ x ∈ ([] : List Task), cbItem x = none := fun _ hx => nomatch hx
  cases h with
  | stuck => exact ⟨fun _ _ => .inl rfl, nil⟩
  | ctl _ h2 => exact ⟨fun _ e => (by rw [cbItem_ctl h2] at e; cases e), nil⟩
  | pubSync | syncCb | syncSent => exact ⟨fun _ e => (by rw [cbItem_syncNext] at e; cases e), nil⟩
  | pubWait | pubAsync =>
    exact ⟨fun _ e => (nomatch e), fun x hx => by obtain ⟨_, _, rfl⟩ := List.mem_map.mp hx; rfl⟩
  | syncTmo | asyncTmo | wgTmo => exact ⟨fun _ e => .inr (by cases e; rfl), nil⟩
  | _ => exact ⟨fun _ e => (nomatch e), nil⟩

theorem cbLogged_bstep {cfg : Cfg} {s s' : State} (hc : CbLogged s) (h : BStep cfg s s') : CbLogged s' := by
  intro t ht it hcb
  rcases h with ⟨ts, hs⟩ | ⟨i, t0, hi, t', new, dl, tl, hT, h1, _, h3, _⟩
  · rw [hs.tasks] at ht; rw [hs.timedOut]
    rcases List.mem_append.mp ht with ht | ht
    · exact hc t ht it hcb
    · rcases hs.pids with ⟨_, hctl⟩ | ⟨_, _, _, _, _, _, rfl⟩
      · rw [cbItem_ctl (hctl t ht)] at hcb; cases hcb
      · cases List.mem_singleton.mp ht; cases hcb
  · obtain ⟨g1, g2⟩ := tstep_cb hT
    rw [h1] at ht; rw [h3]
    rcases mem_set_append ht with rfl | ht | ht
    · rcases g1 it hcb with rfl | rfl
      · exact List.mem_append_left _ (hc _ (List.mem_of_getElem? hi) it hcb)
      · exact List.mem_append_right _ List.mem_cons_self
    · exact List.mem_append_left _ (hc t ht it hcb)
    · rw [g2 t ht] at hcb; cases hcb

theorem cbLogged_reachable (cfg : Cfg) : ∀ s, Conc.Reachable (sys cfg) s → CbLogged s :=
  Conc.invariant (sys cfg) CbLogged (show CbLogged ({} : State) from fun t ht => by cases ht)
    (fun _ _ _ hc h => cbLogged_bstep hc (succ_bstep h))

/-- task `t` is the `sendAsync` goroutine of item `it` on object `o` -/
def asyncOf (o : Nat) (it : Item) (t : Task) : Prop := t = .asyncStart o it ∨ ∃ cb, t = .asyncSend o it cb

/-- an asynchronous sender (Pub / PubSlice) whose step ends it: delivered, or timed out, or not subscribed when it
took the read lock -/
theorem async_end_tstep {cfg : Cfg} {s : State} {t : Task} {new : List Task} {dl tl : List Key} {o : Nat} {it : Item}
    (hc : ∀ it', cbItem t = some it' → key it' ∈ s.timedOut)
    (h : TStep cfg s t .done new dl tl) (ht : asyncOf o it t) :
    key it ∈ s.delivered ++ dl ∨ key it ∈ s.timedOut ++ tl ∨ it.c ∉ (s.obj o).subs := by
  rcases ht with rfl | ⟨cb, rfl⟩
  · cases h with
    | ctl h1 _ => simp [isCtl] at h1
    | asyncDrop _ _ hm => exact Or.inr (Or.inr hm)
  · cases h with
    | ctl h1 _ => simp [isCtl] at h1
    | asyncCb _ _ => exact Or.inr (Or.inl (by simpa using hc it rfl))
    | asyncSent _ _ => exact Or.inl (by simp)

theorem wg_end_tstep {cfg : Cfg} {s : State} {new : List Task} {dl tl : List Key} {o w : Nat} {it : Item} {cb : Bool}
    (hc : ∀ it', cbItem (.wgSend o w it cb) = some it' → key it' ∈ s.timedOut)
    (h : TStep cfg s (.wgSend o w it cb) .done new dl tl) :
    key it ∈ s.delivered ++ dl ∨ key it ∈ s.timedOut ++ tl := by
  cases h with
  | ctl h1 _ => simp [isCtl] at h1
  | wgCb _ _ _ => exact Or.inr (by simpa using hc it rfl)
  | wgSent _ _ _ => exact Or.inl (by simp)

theorem tstep_asyncOf {cfg : Cfg} {s : State} {t t' : Task} {new : List Task} {dl tl : List Key} {o : Nat} {it : Item}
    (h : TStep cfg s t t' new dl tl) (ht : asyncOf o it t) : asyncOf o it t' ∨ t' = .done := by
  rcases ht with rfl | ⟨cb, rfl⟩
  · cases h with
    | stuck _ _ => exact Or.inl (Or.inl rfl)
    | ctl h1 _ => simp [isCtl] at h1
    | asyncGo _ _ _ => exact Or.inl (Or.inr ⟨false, rfl⟩)
    | asyncDrop _ _ _ => exact Or.inr rfl
  · cases h with
    | stuck _ _ => exact Or.inl (Or.inr ⟨cb, rfl⟩)
    | ctl h1 _ => simp [isCtl] at h1
    | asyncCb _ _ => exact Or.inr rfl
    | asyncSent _ _ => exact Or.inr rfl
    | asyncTmo _ _ _ => exact Or.inl (Or.inr ⟨true, rfl⟩)

theorem bstep_logs_mono {cfg : Cfg} {s s' : State} (h : BStep cfg s s') :
    (∀ k, k ∈ s.delivered → k ∈ s'.delivered) ∧ (∀ k, k ∈ s.timedOut → k ∈ s'.timedOut) := by
  rcases h with ⟨ts, hs⟩ | ⟨_, _, _, _, _, _, _, _, _, h2, h3, _⟩
  · rw [hs.delivered, hs.timedOut]; exact ⟨fun _ h => h, fun _ h => h⟩
  · rw [h2, h3]; exact ⟨fun _ h => List.mem_append_left _ h, fun _ h => List.mem_append_left _ h⟩

theorem run_logs_mono {cfg : Cfg} {s s' : State} {n : Nat} (h : InternalRun cfg s n s') :
    (∀ k, k ∈ s.delivered → k ∈ s'.delivered) ∧ (∀ k, k ∈ s.timedOut → k ∈ s'.timedOut) := by
  induction h with
  | nil s => exact ⟨fun _ h => h, fun _ h => h⟩
  | cons hstep _ ih =>
    have := bstep_logs_mono (work_bstep hstep.work)
    exact ⟨fun k h => ih.1 k (this.1 k h), fun k h => ih.2 k (this.2 k h)⟩

theorem run_cbLogged {cfg : Cfg} {s s' : State} {n : Nat} (h : InternalRun cfg s n s') : CbLogged s → CbLogged s' := by
  induction h with
  | nil s => exact id
  | cons hstep _ ih => exact fun hc => ih (cbLogged_bstep hc (work_bstep hstep.work))

/-- Along an internal run, a `sendAsync` goroutine that is finished at the end of the run has handed its item over
(`delivered`), or its timer fired (`timedOut`), or at some state of the run — the one in which it took the read lock —
its channel was not subscribed. -/
theorem async_fate_run {cfg : Cfg} {s s' : State} {n : Nat} (h : InternalRun cfg s n s') :
    ∀ {i o : Nat} {it : Item} {t : Task}, CbLogged s → s.tasks[i]? = some t → asyncOf o it t →
      s'.tasks[i]? = some .done →
      key it ∈ s'.delivered ∨ key it ∈ s'.timedOut ∨
        ∃ m sm, m < n ∧ InternalRun cfg s m sm ∧ it.c ∉ (sm.obj o).subs := by
  induction h with
  | nil s =>
    intro i o it t _ hi ht hdone
    rw [hi] at hdone
    rcases ht with rfl | ⟨cb, rfl⟩ <;> cases hdone
  | @cons s s1 s' n hstep hrun ih =>
    intro i o it t hc hi ht hdone
    have hb := work_bstep hstep.work
    have hc1 := cbLogged_bstep hc hb
    have lift : (key it ∈ s'.delivered ∨ key it ∈ s'.timedOut ∨
        ∃ m sm, m < n ∧ InternalRun cfg s1 m sm ∧ it.c ∉ (sm.obj o).subs) →
        key it ∈ s'.delivered ∨ key it ∈ s'.timedOut ∨
        ∃ m sm, m < n + 1 ∧ InternalRun cfg s m sm ∧ it.c ∉ (sm.obj o).subs := by
      rintro (h | h | ⟨m, sm, hm, hr, hs⟩)
      · exact Or.inl h
      · exact Or.inr (Or.inl h)
      · exact Or.inr (Or.inr ⟨m + 1, sm, by omega, .cons hstep hr, hs⟩)
    rcases bstep_at hb hi with h1 | ⟨t', new, dl, tl, hT, h1', h2, h3⟩
    · exact lift (ih hc1 h1 ht hdone)
    · rcases tstep_asyncOf hT ht with ht' | rfl
      · exact lift (ih hc1 h1' ht' hdone)
      · have hmono := run_logs_mono hrun
        rcases async_end_tstep (hc t (List.mem_of_getElem? hi)) hT ht with h | h | h
        · exact Or.inl (hmono.1 _ (h2 ▸ h))
        · exact Or.inr (Or.inl (hmono.2 _ (h3 ▸ h)))
        · exact Or.inr (Or.inr ⟨0, s, by omega, .nil s, h⟩)

theorem chanW_le_chansW {cs : List ChanSt} {ch : ChanSt} (h : ch ∈ cs) : chanW ch ≤ chansW cs := by
  induction cs with
  | nil => cases h
  | cons a cs ih =>
    rcases List.mem_cons.mp h with rfl | h
    · simp only [chansW]; omega
    · have := ih h; simp only [chansW]; omega

/-- every receiver that has not seen its channel closed may still take as many values as there is work left -/
def Lasting (cfg : Cfg) (s : State) : Prop := ∀ ch ∈ s.chans, ch.rdone = false → measure cfg s ≤ ch.allow

theorem lasting_pos {cfg : Cfg} {s : State} (h : Lasting cfg s) : ∀ ch ∈ s.chans, ch.rdone = false → 0 < ch.allow := by
  intro ch hm hr
  have h1 := h ch hm hr
  have h2 := chanW_le_chansW hm
  have h3 : 1 ≤ chanW ch := by unfold chanW; rw [hr]; simp
  have h4 : chansW s.chans ≤ measure cfg s := by unfold measure; omega
  omega

def NoPendingSub (s : State) : Prop := ∀ t ∈ s.tasks, pendingSub t = false

theorem noPendingSub_iff {s : State} : NoPendingSub s ↔ s.tasks.countP pendingSub = 0 := by
  unfold NoPendingSub
  rw [List.countP_eq_zero]
  constructor
  · intro h t ht; simp [h t ht]
  · intro h t ht; simpa using h t ht

theorem istep_lasting {cfg : Cfg} {s s' : State} (hs : Safe s) (hu : ChanIdsOk s) (hn : NoPendingSub s)
    (hl : Lasting cfg s) (h : IStep cfg s s') : NoPendingSub s' ∧ Lasting cfg s' := by
  have hd := dec_work hs hu h.work
  refine ⟨?_, ?_⟩
  · rw [noPendingSub_iff] at hn ⊢
    have := hd.pend; omega
  · intro ch' hm' hr'
    rcases crel_work h.work with hc | ⟨t, ht, hp⟩
    · obtain ⟨ch, hm, _, hr, ha⟩ := hc ch' hm'
      have := hl ch hm (hr hr')
      have := hd.lt
      omega
    · rw [hn t ht] at hp; cases hp

theorem run_lasting {cfg : Cfg} {s s' : State} {n : Nat} (h : InternalRun cfg s n s') :
    Safe s → ChanIdsOk s → NoPendingSub s → Lasting cfg s → NoPendingSub s' ∧ Lasting cfg s' := by
  induction h with
  | nil s => intro _ _ hn hl; exact ⟨hn, hl⟩
  | cons hstep _ ih =>
    intro hs hu hn hl
    obtain ⟨hn1, hl1⟩ := istep_lasting hs hu hn hl hstep
    exact ih (safe_work hs hstep.work) (chanIds_work hu hstep.work) hn1 hl1

/-- internal steps are steps of the system as long as it has not exited -/
theorem run_reachable {cfg : Cfg} (hc : cfg.allowClone = false) {s s' : State} {n : Nat} (h : InternalRun cfg s n s') :
    Conc.Reachable (sys cfg) s → s.exited = false → Conc.Reachable (sys cfg) s' ∧ s'.exited = false := by
  induction h with
  | nil s => intro hr hx; exact ⟨hr, hx⟩
  | @cons s s1 s' n hstep _ ih =>
    intro hr hx
    have hs := no_panic_noClone cfg hc s hr
    have hd := dec_work hs (chanIds_reachable cfg s hr) hstep.work
    obtain ⟨l, hl⟩ := hstep
    have hm : (l, s1) ∈ (sys cfg).succ s := mem_succ_of_task_or_recv hx hs.nopanic hl
    exact ih (Conc.Reachable.step hr hm) (hd.exited.trans hx)

/-- positions are stable: a task never disappears -/
theorem run_task_some {cfg : Cfg} {s s' : State} {n : Nat} (h : InternalRun cfg s n s') :
    ∀ {i : Nat} {t : Task}, s.tasks[i]? = some t → ∃ t', s'.tasks[i]? = some t' := by
  induction h with
  | nil s => intro i t hi; exact ⟨t, hi⟩
  | cons hstep _ ih =>
    intro i t hi
    rcases bstep_at (work_bstep hstep.work) hi with h1 | ⟨t', _, _, _, _, h1, _⟩
    · exact ih h1
    · exact ih h1

instance (cfg : Cfg) (s : State) : Decidable (Quiescent cfg s) := decidable_of_iff _ quiescent_iff.symm

/-- follow the path `ks` (k-th enabled internal step at each state) -/
def runInternal (cfg : Cfg) : State → List Nat → Option State
  | s, [] => some s
  | s, k :: ks =>
    match (isteps cfg s)[k]? with
    | none => none
    | some p => runInternal cfg p.2 ks

theorem runInternal_run (cfg : Cfg) : ∀ (ks : List Nat) (s s' : State),
    runInternal cfg s ks = some s' → InternalRun cfg s ks.length s'
  | [], s, s', h => by
    simp [runInternal] at h; subst h; exact .nil s
  | k :: ks, s, s', h => by
    simp only [runInternal] at h
    cases hk : (isteps cfg s)[k]? with
    | none => simp [hk] at h
    | some p =>
      simp only [hk] at h
      exact .cons (istep_of_mem (List.mem_of_getElem? hk)) (runInternal_run cfg ks p.2 s' h)

instance (cfg : Cfg) (s : State) : Decidable (Lasting cfg s) := by unfold Lasting; infer_instance
instance (s : State) : Decidable (NoPendingSub s) := by unfold NoPendingSub; infer_instance

end TypVerif.Lemmas.PubSubTerm
