import TypVerif.Lemmas.C09AcceptRel
import TypVerif.Lemmas.KeyedMutexBasic
/-
Acceptance soundness for the judge `Drv/C09.lean`: the half of the simulation that does not depend on the step — `get`/`del` under
a renaming and a permutation, and how `R` survives an update of one program counter and one heap cell (`sim_R_frame`, `sim_R_update`).
-/
namespace TypVerif.Lemmas.C09Accept
open TypVerif TypVerif.Conc TypVerif.Model.KeyedMutex TypVerif.Drv.C09
open TypVerif.Lemmas.KeyedMutex

theorem sim_get_some_mem {l : List (Nat × Nat)} {k v : Nat} (h : get l k = some v) : (k, v) ∈ l := by
  induction l with
  | nil => cases h
  | cons p r ih =>
    obtain ⟨k', v'⟩ := p
    rw [get_cons] at h
    by_cases e : k' = k
    · rw [if_pos e] at h
      cases h; subst e
      exact List.mem_cons_self
    · rw [if_neg e] at h
      exact List.mem_cons_of_mem _ (ih h)

theorem sim_get_none_iff {l : List (Nat × Nat)} {k : Nat} : get l k = none ↔ ∀ v, (k, v) ∉ l := by
  induction l with
  | nil => exact ⟨fun _ v h => (nomatch h), fun _ => rfl⟩
  | cons p r ih =>
    obtain ⟨k', v'⟩ := p
    rw [get_cons]
    by_cases e : k' = k
    · subst e
      simp only [if_true]
      constructor
      · intro h; cases h
      · intro h; exact absurd List.mem_cons_self (h v')
    · rw [if_neg e, ih]
      constructor
      · intro h v hm
        rcases List.mem_cons.mp hm with hm | hm
        · cases hm; exact e rfl
        · exact h v hm
      · intro h v hm
        exact h v (List.mem_cons_of_mem _ hm)

theorem sim_get_none_keys {l : List (Nat × Nat)} {k : Nat} (h : get l k = none) : k ∉ l.map (·.1) := by
  intro hm
  obtain ⟨⟨k', v⟩, hp, e⟩ := List.mem_map.mp hm
  simp only at e
  subst e
  exact sim_get_none_iff.mp h v hp

theorem sim_mem_get {l : List (Nat × Nat)} {k v : Nat} (hn : (l.map (·.1)).Nodup) (h : (k, v) ∈ l) :
    get l k = some v := by
  induction l with
  | nil => cases h
  | cons p r ih =>
    obtain ⟨k', v'⟩ := p
    rw [List.map_cons, List.nodup_cons] at hn
    rw [get_cons]
    rcases List.mem_cons.mp h with hm | hm
    · cases hm; simp
    · by_cases e : k' = k
      · subst e
        exact absurd (List.mem_map.mpr ⟨(k', v), hm, rfl⟩) hn.1
      · rw [if_neg e]
        exact ih hn.2 hm

theorem sim_get_perm {l1 l2 : List (Nat × Nat)} (hp : l1.Perm l2) (hn : (l2.map (·.1)).Nodup) (k : Nat) :
    get l1 k = get l2 k := by
  cases h : get l1 k with
  | none =>
    symm
    rw [sim_get_none_iff] at h ⊢
    intro v hm
    exact h v (hp.mem_iff.mpr hm)
  | some v =>
    symm
    exact sim_mem_get hn (hp.mem_iff.mp (sim_get_some_mem h))

theorem sim_keys_map (f : Nat → Nat) (l : List (Nat × Nat)) :
    (l.map (fun p => (p.1, f p.2))).map (·.1) = l.map (·.1) := by
  rw [List.map_map]
  rfl

theorem sim_get_map (f : Nat → Nat) (l : List (Nat × Nat)) (k : Nat) :
    get (l.map (fun p => (p.1, f p.2))) k = (get l k).map f := by
  induction l with
  | nil => rfl
  | cons p r ih =>
    obtain ⟨k', v'⟩ := p
    rw [List.map_cons, get_cons, get_cons]
    by_cases e : k' = k
    · simp [e]
    · simp only [if_neg e]
      exact ih

theorem sim_del_eq_filter (l : List (Nat × Nat)) (k : Nat) : del l k = l.filter (fun p => decide (p.1 ≠ k)) := by
  induction l with
  | nil => rfl
  | cons p r ih =>
    obtain ⟨k', v'⟩ := p
    rw [del_cons]
    by_cases e : k' = k
    · simp [e, ih]
    · simp [e, ih]

theorem sim_del_map (f : Nat → Nat) (l : List (Nat × Nat)) (k : Nat) :
    del (l.map (fun p => (p.1, f p.2))) k = (del l k).map (fun p => (p.1, f p.2)) := by
  rw [sim_del_eq_filter, sim_del_eq_filter, List.filter_map]
  rfl

theorem sim_del_perm {l1 l2 : List (Nat × Nat)} (hp : l1.Perm l2) (k : Nat) : (del l1 k).Perm (del l2 k) := by
  rw [sim_del_eq_filter, sim_del_eq_filter]
  exact hp.filter _

theorem sim_mem_del {l : List (Nat × Nat)} {k : Nat} {p : Nat × Nat} (h : p ∈ del l k) : p ∈ l := by
  rw [sim_del_eq_filter] at h
  exact (List.mem_filter.mp h).1

theorem sim_del_keys_nodup {l : List (Nat × Nat)} (k : Nat) (hn : (l.map (·.1)).Nodup) :
    ((del l k).map (·.1)).Nodup := by
  rw [sim_del_eq_filter]
  exact List.Nodup.sublist (List.filter_sublist.map _) hn

theorem sim_muEq_refl (μ : Mu) : MuEq μ μ := ⟨rfl, List.Perm.refl _, List.Perm.refl _, List.Perm.refl _⟩

theorem sim_perm_nil_iff {l1 l2 : List Nat} (h : l1.Perm l2) : l1 = [] ↔ l2 = [] := by
  constructor
  · intro e; subst e; exact (h.nil_eq).symm
  · intro e; subst e; exact h.eq_nil

theorem sim_muEq_acq {ν μ : Mu} (h : MuEq ν μ) :
    (ν.writer = none ∧ ν.readers = []) ↔ (μ.writer = none ∧ μ.readers = []) := by
  rw [h.1, sim_perm_nil_iff h.2.1]

theorem sim_muEq_try {ν μ : Mu} (h : MuEq ν μ) :
    (ν.writer = none ∧ ν.readers = [] ∧ ν.pending = [] ∧ ν.wq = []) ↔
      (μ.writer = none ∧ μ.readers = [] ∧ μ.pending = [] ∧ μ.wq = []) := by
  rw [h.1, sim_perm_nil_iff h.2.1, sim_perm_nil_iff h.2.2.1, sim_perm_nil_iff h.2.2.2]

theorem sim_muEq_rd {ν μ : Mu} (h : MuEq ν μ) :
    (ν.writer = none ∧ ν.pending = []) ↔ (μ.writer = none ∧ μ.pending = []) := by
  rw [h.1, sim_perm_nil_iff h.2.2.1]

theorem sim_renPc_congr {f f' : Nat → Nat} {p : Pc} (h : ∀ m, pcLocal p = some m → f' m = f m) :
    renPc f' p = renPc f p := by
  cases p <;> simp only [renPc] <;> rw [h _ rfl]

theorem sim_onKey_renPc (f : Nat → Nat) (k : Nat) (p : Pc) : onKey k (renPc f p) = onKey k p := by
  cases p <;> rfl

theorem sim_pc_mem {s : State} {t : Nat} (ht : t < s.pcs.length) : s.pc t ∈ s.pcs := by
  unfold State.pc
  rw [List.getD_eq_getElem?_getD, List.getElem?_eq_getElem ht]
  exact List.getElem_mem ht

theorem sim_live_pc {s : State} {t m : Nat} (ht : t < s.pcs.length) (h : pcLocal (s.pc t) = some m) : Live s m :=
  .inr ⟨_, sim_pc_mem ht, h⟩

theorem sim_live_map {s : State} {k m : Nat} (h : get s.map k = some m) : Live s m :=
  .inl ⟨k, sim_get_some_mem h⟩

theorem sim_live_set {a : State} {t : Nat} {p' : Pc} {mp : List (Nat × Nat)} {hp : List Mu} {wh rh : List (Nat × Nat)}
    {m : Nat} (h : Live ⟨a.pcs.set t p', mp, hp, wh, rh⟩ m) :
    (∃ k, (k, m) ∈ mp) ∨ (∃ p ∈ a.pcs, pcLocal p = some m) ∨ pcLocal p' = some m := by
  rcases h with h | ⟨p, hm, hl⟩
  · exact .inl h
  · rcases List.mem_or_eq_of_mem_set hm with hm | rfl
    · exact .inr (.inl ⟨p, hm, hl⟩)
    · exact .inr (.inr hl)

theorem sim_live_set_same {a : State} {t : Nat} {p' : Pc} {hp : List Mu} {wh rh : List (Nat × Nat)}
    (hp' : ∀ m, pcLocal p' = some m → Live a m) {m : Nat} (h : Live ⟨a.pcs.set t p', a.map, hp, wh, rh⟩ m) :
    Live a m := by
  rcases sim_live_set h with h | h | h
  · exact .inl h
  · exact .inr h
  · exact hp' m h

theorem sim_pc_ren {f : Nat → Nat} {a x : State} (hr : Rel f a x) (t : Nat) : x.pc t = renPc f (a.pc t) := by
  unfold State.pc
  rw [hr.pcs, List.getD_eq_getElem?_getD, List.getD_eq_getElem?_getD, List.getElem?_map]
  cases a.pcs[t]? <;> rfl

theorem sim_len {f : Nat → Nat} {a x : State} (hr : Rel f a x) : x.pcs.length = a.pcs.length := by
  rw [hr.pcs, List.length_map]

/-- `R` for a pair of states whose live ids were live before: the componentwise facts suffice, and one analysis of `Live a'`
serves both `WF a'` and `Rel f a' x'` -/
theorem sim_R_frame {f : Nat → Nat} {a x a' x' : State} (hw : WF a) (hr : Rel f a x)
    (hkeys : (a'.map.map (·.1)).Nodup) (hlenA : a.heap.length ≤ a'.heap.length) (hl : ∀ m, Live a' m → Live a m)
    (hpcs : x'.pcs = a'.pcs.map (renPc f)) (hmap : x'.map.Perm (a'.map.map (fun p => (p.1, f p.2))))
    (hlen : x.heap.length ≤ x'.heap.length) (hmu : ∀ m, Live a m → MuEq (x'.mu (f m)) (a'.mu m))
    (hwh : x'.wh.Perm a'.wh) (hrh : x'.rh.Perm a'.rh) : R a' x' :=
  ⟨⟨hkeys, fun m h => Nat.lt_of_lt_of_le (hw.liveLt m (hl m h)) hlenA⟩, f, hpcs, hmap,
    fun m m' h h' => hr.inj m m' (hl m h) (hl m' h'), fun m h => Nat.lt_of_lt_of_le (hr.ltX m (hl m h)) hlen,
    fun m h => hmu m (hl m h), hwh, hrh⟩

theorem sim_pcs_set {f : Nat → Nat} {a x : State} (hr : Rel f a x) (t : Nat) (p' : Pc) :
    x.pcs.set t (renPc f p') = (a.pcs.set t p').map (renPc f) := by
  rw [List.map_set, hr.pcs]

/-- the pc of `t` and the cell of a live `m` change -/
theorem sim_R_update {f : Nat → Nat} {a x : State} (hw : WF a) (hr : Rel f a x) (t m : Nat) (p' : Pc) (μ' ν' : Mu)
    (wh' rh' xwh' xrh' : List (Nat × Nat)) (hm : Live a m)
    (hp' : ∀ m', pcLocal p' = some m' → Live a m') (hμ : MuEq ν' μ') (hwh : xwh'.Perm wh') (hrh : xrh'.Perm rh') :
    R ⟨a.pcs.set t p', a.map, a.heap.set m μ', wh', rh'⟩
      ⟨x.pcs.set t (renPc f p'), x.map, x.heap.set (f m) ν', xwh', xrh'⟩ := by
  refine sim_R_frame hw hr hw.keysNd (Nat.le_of_eq List.length_set.symm) (fun _ h => sim_live_set_same hp' h)
    (sim_pcs_set hr t p') hr.map (Nat.le_of_eq List.length_set.symm) (fun m1 h1 => ?_) hwh hrh
  rw [mu_mk_set x _ _ _ (hr.ltX m hm), mu_mk_set a _ _ _ (hw.liveLt m hm)]
  by_cases e : m1 = m
  · rw [if_pos e, if_pos (congrArg f e)]
    exact hμ
  · rw [if_neg e, if_neg (fun h => e (hr.inj _ _ h1 hm h))]
    exact hr.mu m1 h1

theorem sim_R_setPc {f : Nat → Nat} {a x : State} (hw : WF a) (hr : Rel f a x) (t : Nat) (p' : Pc)
    (hp' : ∀ m', pcLocal p' = some m' → Live a m') :
    R (a.setPc t p') (x.setPc t (renPc f p')) :=
  sim_R_frame hw hr hw.keysNd (Nat.le_refl _) (fun _ h => sim_live_set_same hp' h) (sim_pcs_set hr t p') hr.map
    (Nat.le_refl _) hr.mu hr.wh hr.rh

theorem renPc_id (p : Pc) : renPc (fun m => m) p = p := by
  cases p <;> rfl

theorem R_refl {a : State} (hw : WF a) : R a a := by
  refine ⟨hw, fun m => m, ?_, ?_, fun _ _ _ _ h => h, hw.liveLt, ?_, List.Perm.refl _, List.Perm.refl _⟩
  · show a.pcs = a.pcs.map (renPc fun m => m)
    rw [show (renPc fun m => m) = id from funext renPc_id, List.map_id]
  · show a.map.Perm (a.map.map (fun p => (p.1, p.2)))
    rw [show (fun p : Nat × Nat => (p.1, p.2)) = id from rfl, List.map_id]
  · exact fun m _ => sim_muEq_refl _

end TypVerif.Lemmas.C09Accept
