import TypVerif.Model.SyncMapConc
/-
C04, the label-level control-flow graph of the step-level model of `sync2.Map` (`Model/SyncMapConc.lean`), written out as the
table `modelFlow`: (operation, hook label a, hook label b) = "in a call of that operation the model can go, in one step (`exec`)
or one choice of a loop head (`picks`), from a program counter labelled a to one labelled b".  `Pc.kind` (the operation of a
program counter) is defined here, not beside `Pc.label` in the model.

What this is about: control flow between hook labels, per operation, over ALL paths.  What it is not about: data, and the
conditions under which an edge is taken (that is the dynamic tie: real step traces replayed in the model, judge `C04conc`).
-/
namespace TypVerif.Model.SyncMapConc

def NewCtx.kind : NewCtx → String
  | .store => "store"
  | .los => "loadorstore"

/-- `LoadAndDelete` (`d = false`) / `Delete` (`d = true`) -/
def ladKind : Bool → String
  | true => "delete"
  | false => "loadanddelete"

def Op.kind {K V : Type} : Op K V → String
  | .load _ => "load"
  | .store _ _ => "store"
  | .loadOrStore _ _ => "loadorstore"
  | .loadAndDelete _ => "loadanddelete"
  | .delete _ => "delete"
  | .range => "range"

/-- the operation (name as in the hook `op:<name>`) a program counter belongs to; `""` for `idle` and for `ret _` (a
returned call: no operation — an edge INTO `ret` is attributed to the operation of its source).  The program counters of
the new-key tail (`dirtyLocked` and the `X.readStore1` after it) are shared between `Store` and `LoadOrStore` through
their `NewCtx`, those of `LoadAndDelete`/`Delete` through their `Bool`; `LosCtx` only distinguishes call sites inside
`LoadOrStore`. -/
def Pc.kind {K V : Type} : Pc K V → String
  | .idle => ""
  | .ret _ => ""
  | .start op => op.kind
  | .loadRead1 _ => "load"
  | .loadLock _ => "load"
  | .loadRead2 _ => "load"
  | .loadMiss _ _ => "load"
  | .loadPtr _ _ => "load"
  | .storeRead1 _ _ => "store"
  | .tryStoreLoad _ _ _ => "store"
  | .tryStoreCas _ _ _ _ => "store"
  | .storeLock _ _ => "store"
  | .storeRead2 _ _ => "store"
  | .storeUnexp _ _ _ => "store"
  | .storeLocked _ _ _ => "store"
  | .dirtyRead c _ _ _ => c.kind
  | .dirtyPick c _ _ _ _ => c.kind
  | .expLoad c _ _ _ _ _ _ => c.kind
  | .expCas c _ _ _ _ _ _ => c.kind
  | .expLoad2 c _ _ _ _ _ _ => c.kind
  | .readStore c _ _ _ => c.kind
  | .losRead1 _ _ => "loadorstore"
  | .losLoad _ _ _ _ => "loadorstore"
  | .losCas _ _ _ _ => "loadorstore"
  | .losLoad2 _ _ _ _ => "loadorstore"
  | .losLock _ _ => "loadorstore"
  | .losRead2 _ _ => "loadorstore"
  | .losUnexp _ _ _ => "loadorstore"
  | .losMiss _ _ => "loadorstore"
  | .ladRead1 d _ => ladKind d
  | .ladLock d _ => ladKind d
  | .ladRead2 d _ => ladKind d
  | .ladMiss d _ _ => ladKind d
  | .delLoad d _ _ => ladKind d
  | .delCas d _ _ _ => ladKind d
  | .rangeRead1 => "range"
  | .rangeLock => "range"
  | .rangeRead2 => "range"
  | .rangeStore _ => "range"
  | .rangePick _ _ => "range"
  | .rangeLoad _ _ _ _ => "range"

end TypVerif.Model.SyncMapConc

namespace TypVerif.Lemmas.Smc
open TypVerif.Model.SyncMapConc

set_option linter.unusedSectionVars false

abbrev FlowEdge := String × String × String

/-- the label-level control-flow graph of the model, per operation; sorted like `Gen.MapFlow.edges` (operations in the order
load, store, loadorstore, loadanddelete, delete, range; inside an operation lexicographically, bytewise) -/
def modelFlow : List FlowEdge := [
  ("load", "Load.readLoad1", "load.loadPtr1"),
  ("load", "Load.readLoad1", "lock"),
  ("load", "Load.readLoad1", "ret"),
  ("load", "Load.readLoad2", "load.loadPtr1"),
  ("load", "Load.readLoad2", "missLocked.readStore1"),
  ("load", "Load.readLoad2", "ret"),
  ("load", "load.loadPtr1", "ret"),
  ("load", "lock", "Load.readLoad2"),
  ("load", "missLocked.readStore1", "load.loadPtr1"),
  ("load", "missLocked.readStore1", "ret"),
  ("load", "op:load", "Load.readLoad1"),
  ("store", "Store.readLoad1", "lock"),
  ("store", "Store.readLoad1", "tryStore.loadPtr1"),
  ("store", "Store.readLoad2", "Store.readStore1"),
  ("store", "Store.readLoad2", "dirtyLocked.readLoad1"),
  ("store", "Store.readLoad2", "ret"),
  ("store", "Store.readLoad2", "storeLocked.storePtr1"),
  ("store", "Store.readLoad2", "unexpungeLocked.casPtr1"),
  ("store", "Store.readStore1", "ret"),
  ("store", "dirtyLocked.readLoad1", "Store.readStore1"),
  ("store", "dirtyLocked.readLoad1", "pick"),
  ("store", "lock", "Store.readLoad2"),
  ("store", "op:store", "Store.readLoad1"),
  ("store", "pick", "tryExpungeLocked.loadPtr1"),
  ("store", "storeLocked.storePtr1", "ret"),
  ("store", "tryExpungeLocked.casPtr1", "Store.readStore1"),
  ("store", "tryExpungeLocked.casPtr1", "pick"),
  ("store", "tryExpungeLocked.casPtr1", "tryExpungeLocked.loadPtr2"),
  ("store", "tryExpungeLocked.loadPtr1", "Store.readStore1"),
  ("store", "tryExpungeLocked.loadPtr1", "pick"),
  ("store", "tryExpungeLocked.loadPtr1", "tryExpungeLocked.casPtr1"),
  ("store", "tryExpungeLocked.loadPtr2", "Store.readStore1"),
  ("store", "tryExpungeLocked.loadPtr2", "pick"),
  ("store", "tryExpungeLocked.loadPtr2", "tryExpungeLocked.casPtr1"),
  ("store", "tryStore.casPtr1", "ret"),
  ("store", "tryStore.casPtr1", "tryStore.loadPtr1"),
  ("store", "tryStore.loadPtr1", "lock"),
  ("store", "tryStore.loadPtr1", "tryStore.casPtr1"),
  ("store", "unexpungeLocked.casPtr1", "storeLocked.storePtr1"),
  ("loadorstore", "LoadOrStore.readLoad1", "lock"),
  ("loadorstore", "LoadOrStore.readLoad1", "tryLoadOrStore.loadPtr1"),
  ("loadorstore", "LoadOrStore.readLoad2", "LoadOrStore.readStore1"),
  ("loadorstore", "LoadOrStore.readLoad2", "dirtyLocked.readLoad1"),
  ("loadorstore", "LoadOrStore.readLoad2", "ret"),
  ("loadorstore", "LoadOrStore.readLoad2", "tryLoadOrStore.loadPtr1"),
  ("loadorstore", "LoadOrStore.readLoad2", "unexpungeLocked.casPtr1"),
  ("loadorstore", "LoadOrStore.readStore1", "ret"),
  ("loadorstore", "dirtyLocked.readLoad1", "LoadOrStore.readStore1"),
  ("loadorstore", "dirtyLocked.readLoad1", "pick"),
  ("loadorstore", "lock", "LoadOrStore.readLoad2"),
  ("loadorstore", "missLocked.readStore1", "ret"),
  ("loadorstore", "op:loadorstore", "LoadOrStore.readLoad1"),
  ("loadorstore", "pick", "tryExpungeLocked.loadPtr1"),
  ("loadorstore", "tryExpungeLocked.casPtr1", "LoadOrStore.readStore1"),
  ("loadorstore", "tryExpungeLocked.casPtr1", "pick"),
  ("loadorstore", "tryExpungeLocked.casPtr1", "tryExpungeLocked.loadPtr2"),
  ("loadorstore", "tryExpungeLocked.loadPtr1", "LoadOrStore.readStore1"),
  ("loadorstore", "tryExpungeLocked.loadPtr1", "pick"),
  ("loadorstore", "tryExpungeLocked.loadPtr1", "tryExpungeLocked.casPtr1"),
  ("loadorstore", "tryExpungeLocked.loadPtr2", "LoadOrStore.readStore1"),
  ("loadorstore", "tryExpungeLocked.loadPtr2", "pick"),
  ("loadorstore", "tryExpungeLocked.loadPtr2", "tryExpungeLocked.casPtr1"),
  ("loadorstore", "tryLoadOrStore.casPtr1", "missLocked.readStore1"),
  ("loadorstore", "tryLoadOrStore.casPtr1", "ret"),
  ("loadorstore", "tryLoadOrStore.casPtr1", "tryLoadOrStore.loadPtr2"),
  ("loadorstore", "tryLoadOrStore.loadPtr1", "lock"),
  ("loadorstore", "tryLoadOrStore.loadPtr1", "missLocked.readStore1"),
  ("loadorstore", "tryLoadOrStore.loadPtr1", "ret"),
  ("loadorstore", "tryLoadOrStore.loadPtr1", "tryLoadOrStore.casPtr1"),
  ("loadorstore", "tryLoadOrStore.loadPtr2", "lock"),
  ("loadorstore", "tryLoadOrStore.loadPtr2", "missLocked.readStore1"),
  ("loadorstore", "tryLoadOrStore.loadPtr2", "ret"),
  ("loadorstore", "tryLoadOrStore.loadPtr2", "tryLoadOrStore.casPtr1"),
  ("loadorstore", "unexpungeLocked.casPtr1", "tryLoadOrStore.loadPtr1"),
  ("loadanddelete", "LoadAndDelete.readLoad1", "delete.loadPtr1"),
  ("loadanddelete", "LoadAndDelete.readLoad1", "lock"),
  ("loadanddelete", "LoadAndDelete.readLoad1", "ret"),
  ("loadanddelete", "LoadAndDelete.readLoad2", "delete.loadPtr1"),
  ("loadanddelete", "LoadAndDelete.readLoad2", "missLocked.readStore1"),
  ("loadanddelete", "LoadAndDelete.readLoad2", "ret"),
  ("loadanddelete", "delete.casPtr1", "delete.loadPtr1"),
  ("loadanddelete", "delete.casPtr1", "ret"),
  ("loadanddelete", "delete.loadPtr1", "delete.casPtr1"),
  ("loadanddelete", "delete.loadPtr1", "ret"),
  ("loadanddelete", "lock", "LoadAndDelete.readLoad2"),
  ("loadanddelete", "missLocked.readStore1", "delete.loadPtr1"),
  ("loadanddelete", "missLocked.readStore1", "ret"),
  ("loadanddelete", "op:loadanddelete", "LoadAndDelete.readLoad1"),
  ("delete", "LoadAndDelete.readLoad1", "delete.loadPtr1"),
  ("delete", "LoadAndDelete.readLoad1", "lock"),
  ("delete", "LoadAndDelete.readLoad1", "ret"),
  ("delete", "LoadAndDelete.readLoad2", "delete.loadPtr1"),
  ("delete", "LoadAndDelete.readLoad2", "missLocked.readStore1"),
  ("delete", "LoadAndDelete.readLoad2", "ret"),
  ("delete", "delete.casPtr1", "delete.loadPtr1"),
  ("delete", "delete.casPtr1", "ret"),
  ("delete", "delete.loadPtr1", "delete.casPtr1"),
  ("delete", "delete.loadPtr1", "ret"),
  ("delete", "lock", "LoadAndDelete.readLoad2"),
  ("delete", "missLocked.readStore1", "delete.loadPtr1"),
  ("delete", "missLocked.readStore1", "ret"),
  ("delete", "op:delete", "LoadAndDelete.readLoad1"),
  ("range", "Range.readLoad1", "lock"),
  ("range", "Range.readLoad1", "pick"),
  ("range", "Range.readLoad1", "ret"),
  ("range", "Range.readLoad2", "Range.readStore1"),
  ("range", "Range.readLoad2", "pick"),
  ("range", "Range.readLoad2", "ret"),
  ("range", "Range.readStore1", "pick"),
  ("range", "Range.readStore1", "ret"),
  ("range", "load.loadPtr1", "pick"),
  ("range", "load.loadPtr1", "ret"),
  ("range", "lock", "Range.readLoad2"),
  ("range", "op:range", "Range.readLoad1"),
  ("range", "pick", "load.loadPtr1")]

section sound
variable {K V : Type} [DecidableEq K] [Inhabited V]

/-- Unfolds one step of the model from a known program counter down to its leaves, substitutes the successor and
evaluates the two labels against the table.  (`exec` and its helpers branch on data only; the labels do not.) -/
local macro "flow_step" h:ident : tactic => `(tactic| (
  simp only [exec, lockStep, newTail, finishNew, missTail, losFail, losOk, losLoaded, expLoaded, dirtyNext, rangeNext,
    loadAfter, ladAfter] at $h:ident
  repeat' split at $h:ident
  all_goals cases $h:ident
  all_goals simp only [Pc.kind, Pc.label, NewCtx.kind, ladKind, Op.kind]
  all_goals decide))

theorem flow_sound (sh : Shared K V) (t : Tid) (pc : Pc K V) (sh' : Shared K V) (pc' : Pc K V)
    (h : exec sh t pc = some (sh', pc')) :
    (pc.kind, pc.label, pc'.label) ∈ modelFlow ∧ (pc'.label = "ret" ∨ pc'.kind = pc.kind) := by
  cases pc
  -- the operation of these program counters is a parameter: one case per value
  case start op => cases op <;> flow_step h
  case dirtyRead c _ _ _ | dirtyPick c _ _ _ _ | expLoad c _ _ _ _ _ _ | expCas c _ _ _ _ _ _ | expLoad2 c _ _ _ _ _ _
      | readStore c _ _ _ => cases c <;> flow_step h
  case losLoad c _ _ _ | losCas c _ _ _ | losLoad2 c _ _ _ => cases c <;> flow_step h
  case ladRead1 d _ | ladLock d _ | ladRead2 d _ | ladMiss d _ _ | delLoad d _ _ | delCas d _ _ _ => cases d <;> flow_step h
  all_goals flow_step h

theorem flow_sound_picks (pc : Pc K V) (c : K × Pc K V) (h : c ∈ picks pc) :
    (pc.kind, pc.label, c.2.label) ∈ modelFlow ∧ c.2.kind = pc.kind := by
  cases pc with
  | dirtyPick x k v rm todo =>
    simp only [picks, List.mem_map] at h
    obtain ⟨p, _, hc⟩ := h
    subst hc
    cases x <;> simp only [Pc.kind, Pc.label, NewCtx.kind] <;> decide
  | rangePick todo acc =>
    simp only [picks, List.mem_map] at h
    obtain ⟨p, _, hc⟩ := h
    subst hc
    simp only [Pc.kind, Pc.label]
    decide
  | _ => simp [picks] at h

end sound

/-! ### completeness: every edge is realised (`K = V = Nat`) -/

/-- the edge `e` is a step (`exec`) or a choice at a loop head (`picks`) of the model over `Nat` keys and values, from SOME
shared state (not necessarily a reachable one) -/
def Realises (e : FlowEdge) : Prop :=
  ∃ (sh : Shared Nat Nat) (t : Tid) (pc : Pc Nat Nat),
    (∃ sh' pc', exec sh t pc = some (sh', pc') ∧ e = (pc.kind, pc.label, pc'.label)) ∨
    (∃ c ∈ picks pc, e = (pc.kind, pc.label, c.2.label))

/-- the edges realised from the shared state `w.1` at the program counter `w.2` (goroutine 0) -/
def realisedBy (w : Shared Nat Nat × Pc Nat Nat) : List FlowEdge :=
  (match exec w.1 0 w.2 with
   | some r => [(w.2.kind, w.2.label, r.2.label)]
   | none => []) ++
  (picks w.2).map (fun c => (w.2.kind, w.2.label, c.2.label))

/-! shared states: key 1 lives in `read.m` (entry 0), keys 2.. only in `dirty` -/

/-- the zero map -/
def sh0 : Shared Nat Nat := {}
/-- `read.m = {1 ↦ e0}`, `e0.p = p`, not amended, `dirty = nil` -/
def shR (p : Ptr Nat) : Shared Nat Nat := { entries := [p], readM := [(1, 0)] }
/-- as `shR`, with an (empty) dirty map allocated -/
def shRd (p : Ptr Nat) : Shared Nat Nat := { entries := [p], readM := [(1, 0)], dirty := some [] }
/-- `read.m = {}`, amended, `dirty = {2 ↦ e0}`, `e0.p = p`: one more miss promotes -/
def shA (p : Ptr Nat) : Shared Nat Nat := { entries := [p], amended := true, dirty := some [(2, 0)] }
/-- `read.m = {}`, not amended, but `dirty` allocated -/
def shD : Shared Nat Nat := { dirty := some [] }

/-- the witnesses of one run through the new-key tail (`dirtyLocked` loop, `X.readStore1`) -/
def tailWitnesses (c : NewCtx) : List (Shared Nat Nat × Pc Nat Nat) :=
  [(shD, .readStore c 2 5 []),
   (sh0, .dirtyRead c 2 5 []), (shR (.val 0 7), .dirtyRead c 2 5 [(1, 0)]),
   (sh0, .dirtyPick c 2 5 [(1, 0)] [(1, 0)]),
   (shRd (.val 0 7), .expLoad c 2 5 [(1, 0)] [] 1 0), (shRd (.val 0 7), .expLoad c 2 5 [(1, 0)] [(3, 1)] 1 0),
   (shRd .nil, .expLoad c 2 5 [(1, 0)] [] 1 0),
   (shRd .nil, .expCas c 2 5 [(1, 0)] [] 1 0), (shRd .nil, .expCas c 2 5 [(1, 0)] [(3, 1)] 1 0),
   (shRd (.val 0 7), .expCas c 2 5 [(1, 0)] [] 1 0),
   (shRd (.val 0 7), .expLoad2 c 2 5 [(1, 0)] [] 1 0), (shRd (.val 0 7), .expLoad2 c 2 5 [(1, 0)] [(3, 1)] 1 0),
   (shRd .nil, .expLoad2 c 2 5 [(1, 0)] [] 1 0)]

/-- the witnesses of `LoadAndDelete` (`d = false`) / `Delete` (`d = true`) -/
def ladWitnesses (d : Bool) : List (Shared Nat Nat × Pc Nat Nat) :=
  [(shR (.val 0 7), .ladRead1 d 1), (shA (.val 0 7), .ladRead1 d 1), (sh0, .ladRead1 d 1),
   (sh0, .ladLock d 1),
   (shR (.val 0 7), .ladRead2 d 1), (shA (.val 0 7), .ladRead2 d 2), (sh0, .ladRead2 d 1),
   (shA (.val 0 7), .ladMiss d 2 (some 0)), (shA (.val 0 7), .ladMiss d 2 none),
   (shR (.val 0 7), .delLoad d 1 0), (shR .nil, .delLoad d 1 0),
   (shR (.val 0 7), .delCas d 1 0 (.val 0 7)), (shR (.val 0 7), .delCas d 1 0 (.val 9 7))]

/-- (shared state, program counter) pairs whose steps and picks realise every edge of `modelFlow` -/
def flowWitnesses : List (Shared Nat Nat × Pc Nat Nat) :=
  -- Load
  [(sh0, .start (.load 1)),
   (shR (.val 0 7), .loadRead1 1), (shA (.val 0 7), .loadRead1 1), (sh0, .loadRead1 1),
   (sh0, .loadLock 1),
   (shR (.val 0 7), .loadRead2 1), (shA (.val 0 7), .loadRead2 2), (sh0, .loadRead2 1),
   (shA (.val 0 7), .loadMiss 2 (some 0)), (shA (.val 0 7), .loadMiss 2 none),
   (shR (.val 0 7), .loadPtr 1 0),
  -- Store
   (sh0, .start (.store 1 5)),
   (sh0, .storeRead1 1 5), (shR (.val 0 7), .storeRead1 1 5),
   (shR .expunged, .tryStoreLoad 1 5 0), (shR (.val 0 7), .tryStoreLoad 1 5 0),
   (shR (.val 0 7), .tryStoreCas 1 5 0 (.val 0 7)), (shR (.val 0 7), .tryStoreCas 1 5 0 .nil),
   (sh0, .storeLock 1 5),
   (shD, .storeRead2 1 5), (sh0, .storeRead2 1 5), (shA (.val 0 7), .storeRead2 1 5), (shA (.val 0 7), .storeRead2 2 5),
   (shR (.val 0 7), .storeRead2 1 5),
   (shR (.val 0 7), .storeUnexp 1 5 0), (shR (.val 0 7), .storeLocked 1 5 0)] ++
  tailWitnesses .store ++
  -- LoadOrStore
  [(sh0, .start (.loadOrStore 1 5)),
   (sh0, .losRead1 1 5), (shR (.val 0 7), .losRead1 1 5),
   (sh0, .losLock 1 5),
   (shD, .losRead2 1 5), (sh0, .losRead2 1 5), (shA (.val 0 7), .losRead2 1 5), (shA (.val 0 7), .losRead2 2 5),
   (shR (.val 0 7), .losRead2 1 5),
   (shR (.val 0 7), .losUnexp 1 5 0),
   (shA (.val 0 7), .losMiss 2 (.pair 7 true)),
   (shR .expunged, .losLoad .fast 1 5 0), (shA (.val 0 7), .losLoad .slowDirty 2 5 0), (shR (.val 0 7), .losLoad .fast 1 5 0),
   (shR .nil, .losLoad .fast 1 5 0),
   (shA .nil, .losCas .slowDirty 2 5 0), (shR .nil, .losCas .fast 1 5 0), (shR (.val 0 7), .losCas .fast 1 5 0),
   (shR .expunged, .losLoad2 .fast 1 5 0), (shA (.val 0 7), .losLoad2 .slowDirty 2 5 0), (shR (.val 0 7), .losLoad2 .fast 1 5 0),
   (shR .nil, .losLoad2 .fast 1 5 0)] ++
  tailWitnesses .los ++
  -- LoadAndDelete, Delete
  [(sh0, .start (.loadAndDelete 1))] ++ ladWitnesses false ++
  [(sh0, .start (.delete 1))] ++ ladWitnesses true ++
  -- Range
  [(sh0, .start .range),
   (shA (.val 0 7), .rangeRead1), (shR (.val 0 7), .rangeRead1), (sh0, .rangeRead1),
   (sh0, .rangeLock),
   (shA (.val 0 7), .rangeRead2), (shR (.val 0 7), .rangeRead2), (sh0, .rangeRead2),
   (shA (.val 0 7), .rangeStore [(2, 0)]), (shA (.val 0 7), .rangeStore []),
   (sh0, .rangePick [(1, 0)] []),
   (shR (.val 0 7), .rangeLoad [(3, 1)] [] 1 0), (shR (.val 0 7), .rangeLoad [] [] 1 0)]

def realised : List FlowEdge := flowWitnesses.flatMap realisedBy

theorem realises_of_mem_realised {e : FlowEdge} (h : e ∈ realised) : Realises e := by
  simp only [realised, List.mem_flatMap, realisedBy, List.mem_append, List.mem_map] at h
  obtain ⟨w, _, h | ⟨c, hc, rfl⟩⟩ := h
  · split at h
    · next r hr =>
      simp only [List.mem_singleton] at h
      exact ⟨w.1, 0, w.2, Or.inl ⟨r.1, r.2, hr, h⟩⟩
    · simp at h
  · exact ⟨w.1, 0, w.2, Or.inr ⟨c, hc, rfl⟩⟩

theorem modelFlow_subset_realised : ∀ e ∈ modelFlow, e ∈ realised := by decide +kernel

/-- the witnesses realise nothing but `modelFlow`: they are steps and picks of the model -/
theorem realised_subset_modelFlow : ∀ e ∈ realised, e ∈ modelFlow := by
  intro e he
  obtain ⟨_, _, _, ⟨_, _, hx, rfl⟩ | ⟨c, hc, rfl⟩⟩ := realises_of_mem_realised he
  · exact (flow_sound _ _ _ _ _ hx).1
  · exact (flow_sound_picks _ c hc).1

theorem flow_complete : ∀ e ∈ modelFlow, Realises e :=
  fun e he => realises_of_mem_realised (modelFlow_subset_realised e he)

/-- the operations, in the order of `Gen.MapFlow.edges` -/
def flowOps : List String := ["load", "store", "loadorstore", "loadanddelete", "delete", "range"]

/-- the order of `Gen.MapFlow.edges`: by operation (position in `flowOps`), then by the two labels, lexicographically -/
def flowLt (x y : FlowEdge) : Bool :=
  decide (flowOps.idxOf x.1 < flowOps.idxOf y.1) ||
  (x.1 == y.1 && (decide (x.2.1 < y.2.1) || (x.2.1 == y.2.1 && decide (x.2.2 < y.2.2))))

/-- strictly sorted (hence duplicate-free) -/
def flowSorted : List FlowEdge → Bool
  | x :: y :: l => flowLt x y && flowSorted (y :: l)
  | _ => true

def flowInsert (e : FlowEdge) : List FlowEdge → List FlowEdge
  | [] => [e]
  | x :: xs => if flowLt e x then e :: x :: xs else x :: flowInsert e xs

/-- sorted merge (of a sorted list `xs` with the elements of `ys`) -/
def flowMerge (xs ys : List FlowEdge) : List FlowEdge := ys.foldr flowInsert xs

def flowOf (op : String) (l : List FlowEdge) : List FlowEdge := l.filter (fun e => e.1 == op)

/-- Edges the static analysis of map.go must produce although the model (and the code) cannot take them: artefacts of its
over-approximation (it does not track values).

* `("loadorstore", "tryLoadOrStore.casPtr1", "lock")`: in `tryLoadOrStore` a successful `CompareAndSwapPointer` at
  `casPtr1` is followed by `return i, false, true`, i.e. `ok = true`, so the caller `LoadOrStore` (fast path:
  `actual, loaded, ok := e.tryLoadOrStore(value); if ok { return actual, loaded }`) returns; a failed CAS goes on to
  `tryLoadOrStore.loadPtr2`.  The analysis does not know the value of `ok` and lets `if ok` fall through to
  `verifMuLock` (`lock`).  (The fall-through is real after `loadPtr1`/`loadPtr2`, which can return `ok = false` on an
  expunged entry: those two edges to `lock` are edges of the model.) -/
def staticOnly : List FlowEdge := [("loadorstore", "tryLoadOrStore.casPtr1", "lock")]

/-- what `Gen.MapFlow.edges` has to be: the sorted merge of the model's graph and the artefacts -/
def expectedGen : List FlowEdge := flowMerge modelFlow staticOnly

theorem flowLt_iff {x y : FlowEdge} : flowLt x y = true ↔
    flowOps.idxOf x.1 < flowOps.idxOf y.1 ∨ x.1 = y.1 ∧ (x.2.1 < y.2.1 ∨ x.2.1 = y.2.1 ∧ x.2.2 < y.2.2) := by
  simp [flowLt]

/-- `flowLt` is a lexicographic order -/
theorem flowLt_trans {x y z : FlowEdge} (h₁ : flowLt x y = true) (h₂ : flowLt y z = true) : flowLt x z = true := by
  rw [flowLt_iff] at *
  rcases h₁ with h₁ | ⟨e₁, h₁⟩ <;> rcases h₂ with h₂ | ⟨e₂, h₂⟩
  · exact .inl (Nat.lt_trans h₁ h₂)
  · exact .inl (e₂ ▸ h₁)
  · exact .inl (e₁ ▸ h₂)
  · refine .inr ⟨e₁.trans e₂, ?_⟩
    rcases h₁ with h₁ | ⟨f₁, h₁⟩ <;> rcases h₂ with h₂ | ⟨f₂, h₂⟩
    · exact .inl (String.lt_trans h₁ h₂)
    · exact .inl (f₂ ▸ h₁)
    · exact .inl (f₁ ▸ h₂)
    · exact .inr ⟨f₁.trans f₂, String.lt_trans h₁ h₂⟩

/-- taking the inserted edge out again leaves a sorted list sorted -/
theorem flowSorted_of_insert {e : FlowEdge} : ∀ {l : List FlowEdge}, flowSorted (flowInsert e l) = true → flowSorted l = true
  | [], _ => rfl
  | [_], _ => rfl
  | x :: y :: l, h => by
    simp only [flowInsert] at h
    split at h
    · exact (Bool.and_eq_true_iff.1 h).2
    · split at h <;> simp only [flowSorted, Bool.and_eq_true] at h ⊢
      · exact ⟨flowLt_trans h.1 h.2.1, h.2.2⟩
      · refine ⟨h.1, flowSorted_of_insert (e := e) (l := y :: l) ?_⟩
        simp only [flowInsert, *]
        exact h.2

theorem flowSorted_of_merge {xs : List FlowEdge} :
    ∀ {ys : List FlowEdge}, flowSorted (flowMerge xs ys) = true → flowSorted xs = true
  | [], h => h
  | _ :: ys, h => flowSorted_of_merge (ys := ys) (flowSorted_of_insert h)

-- `String.<` is slow to evaluate: the sweep over the table is left to the kernel alone
theorem expectedGen_sorted : flowSorted expectedGen = true := by decide +kernel

theorem mem_flowInsert {a e : FlowEdge} {l : List FlowEdge} : a ∈ flowInsert e l ↔ a = e ∨ a ∈ l := by
  induction l with
  | nil => simp [flowInsert]
  | cons x xs ih =>
    simp only [flowInsert]
    split
    · simp
    · simp only [List.mem_cons, ih]
      exact or_left_comm

theorem mem_flowMerge {a : FlowEdge} {xs ys : List FlowEdge} : a ∈ flowMerge xs ys ↔ a ∈ xs ∨ a ∈ ys := by
  induction ys with
  | nil => simp [flowMerge]
  | cons y ys ih =>
    have : flowMerge xs (y :: ys) = flowInsert y (flowMerge xs ys) := rfl
    rw [this, mem_flowInsert, ih, List.mem_cons]
    exact or_left_comm

/-- a generated graph equal to the merge covers the model's graph and has nothing beyond it but the artefacts -/
theorem tie_of_eq {g : List FlowEdge} (h : g = flowMerge modelFlow staticOnly) :
    (∀ e ∈ modelFlow, e ∈ g) ∧ (∀ e ∈ g, e ∈ modelFlow ∨ e ∈ staticOnly) := by
  subst h
  exact ⟨fun e he => mem_flowMerge.2 (Or.inl he), fun e he => mem_flowMerge.1 he⟩

theorem mem_flowOf {op : String} {l : List FlowEdge} {e : FlowEdge} : e ∈ flowOf op l ↔ e ∈ l ∧ e.1 = op := by
  simp [flowOf]

end TypVerif.Lemmas.Smc
