import TypVerif.Lemmas.ObjTrack
import TypVerif.Drv.ObjLin
/-
What one line does to the atomic-object state sets of the ObjLin judge (`Drv.ObjLin.step`), for histories of
SINGLE operations: `ms` in map mode (`cmap`; load / store / loadorstore / loadanddelete / delete) and the `s` components of
`cs` in set mode (`cset`; add / remove / has).

`MapLine toks oe` / `SetLine toks oe` describe the lines covered: `oe = some e` — the line stands for the event `e` of the
history; `oe = none` — the line is read by the judge without touching the state set (map mode: `inv range`, the Range
result `res t [[k,v],…]`, `step`/`iter` lines of step-level traces; set mode: `step`/`iter`, and `inv t len` / `res t <int>`:
Len is a Range count, the judge only checks `≥ 0`).
`Lines P lines tr`: every line of `lines` is covered, `tr` is the history they stand for.
`LinStep` says what a covered line does to the number of goroutines, the state set and the flag, in either mode
(`MapStep` / `SetStep`: `stepMap_spec`, `stepSet_spec`, the only case analyses of `stepMap` / `stepSet`); the invariants of
`ObjCompleteLin` (soundness and completeness) are carried along the fold (`runLines_inv`) from that.

Left out: set mode's composite operations (`addset`, `removeset`: expansion into element operations in `compClosure`) — a
history containing such a line is not covered by `SetLine`; the Range predicates of map mode are not part of the
linearizability statement (the Range lines are skipped: the statement is about the history of the single operations).
-/
namespace TypVerif.Lemmas.ObjAcceptLin
open TypVerif TypVerif.Conc TypVerif.Model TypVerif.Proto TypVerif.Drv.ObjLin TypVerif.Lemmas.ObjAccept
open TypVerif.Lemmas.ObjTrack (stepOpt InvLt LineVerdict lineVerdict_ite lineVerdict_skip)

abbrev MEvent := AtomicObj.Event MapObj.Op MapObj.Res
abbrev SEvent := AtomicObj.Event MapObj.SOp Bool

theorem stepObj_eq (S : AtomicObj.Spec) [DecidableEq S.σ] [DecidableEq S.Op] [DecidableEq S.Res] (n : Nat)
    (ss : List (AtomicObj.State S.σ S.Op S.Res)) (e : AtomicObj.Event S.Op S.Res) :
    Drv.ObjLin.stepObj S n ss e = stepObjF S Drv.ObjLin.closureFuel n ss e := rfl

/- The state-set steps are opaque below: otherwise, to compare `stepObj …` or `liftStep …` with a projection of a concrete
judge state or with `stepOpt …`, the unifier unfolds them (they are the taller definitions) before it reduces the other side. -/
attribute [local irreducible] stepObj liftStep

def runLines (j : JSt) (lines : List (List Val × String)) : JSt :=
  lines.foldl (fun j l => (step j l.1 l.2).1) j

/-- `lines` are all covered by `P`; `tr` is the list of the events they stand for -/
inductive Lines {E : Type} (P : List Val → Option E → Prop) : List (List Val × String) → List E → Prop where
  | nil : Lines P [] []
  | ev {l : List Val × String} {ls : List (List Val × String)} {e : E} {tr : List E} :
      P l.1 (some e) → Lines P ls tr → Lines P (l :: ls) (e :: tr)
  | skip {l : List Val × String} {ls : List (List Val × String)} {tr : List E} :
      P l.1 none → Lines P ls tr → Lines P (l :: ls) tr

theorem runLines_inv {E : Type} {P : List Val → Option E → Prop} {R : List E → JSt → Prop}
    {lines : List (List Val × String)} {tr : List E} (hl : Lines P lines tr)
    (hstep : ∀ l ∈ lines, ∀ oe, P l.1 oe → ∀ tr0 j, R tr0 j →
      R (tr0 ++ oe.toList) (step j l.1 l.2).1) :
    ∀ tr0 j, R tr0 j → R (tr0 ++ tr) (runLines j lines) := by
  induction hl with
  | nil => intro tr0 j h; rw [List.append_nil]; exact h
  | @ev l ls e tr hP _ ih =>
    intro tr0 j h
    have := ih (fun l' hl' => hstep l' (List.mem_cons_of_mem _ hl')) (tr0 ++ [e]) _
      (hstep l List.mem_cons_self (some e) hP tr0 j h)
    rw [List.append_assoc] at this
    exact this
  | @skip l ls tr hP _ ih =>
    intro tr0 j h
    have h1 : R (tr0 ++ []) (step j l.1 l.2).1 := hstep l List.mem_cons_self none hP tr0 j h
    rw [List.append_nil] at h1
    exact ih (fun l' hl' => hstep l' (List.mem_cons_of_mem _ hl')) tr0 _ h1

/-- a line with at least two tokens is not a header: `step` hands it to `stepMap` / `stepSet` -/
theorem step_of_two_le (j : JSt) {toks : List Val} (impl : String) (h : 2 ≤ toks.length) :
    step j toks impl =
      if j.st.mode == 1 then ({ j with st := (stepMap j.st toks).1 }, (stepMap j.st toks).2)
      else if j.st.mode == 2 then
        ({ st := (stepSet j.st j.cs toks).1, cs := (stepSet j.st j.cs toks).2.1 }, (stepSet j.st j.cs toks).2.2)
      else (j, { model := "bad-op" }) := by
  unfold step
  split
  · exact absurd h (by decide)
  · exact absurd h (by decide)
  · rfl

/-! ### the verdict -/

/-- `finish` keeps an earlier verdict -/
theorem finish_fst (st : St) (v : Option String) (tags : List String) :
    (finish st v tags).1 = { st with violated := st.violated.or v } := by
  have h : (match st.violated with | some w => some w | none => v) = st.violated.or v := by
    cases st.violated with
    | none => rfl
    | some _ => rfl
  exact congrArg (fun x => { st with violated := x }) h

/-- (`Lin` = the ObjLin judge, not a linearization step.)  What a covered line does to the part of a judge state the theorems speak of: the number of goroutines `n`, the state set
`ss` (stepped by `G`) and the flag `v`.  The number of goroutines changes only at an `inv` line (any, also `inv t range` /
`inv t len`); the state set is stepped, with the new number, on an event line whatever the verdict so far; an earlier verdict
is kept -/
structure LinStep {Op Res α : Type} (G : Nat → List α → AtomicObj.Event Op Res → List α) (toks : List Val)
    (oe : Option (AtomicObj.Event Op Res)) (n n' : Nat) (ss ss' : List α) (v v' : Option String) : Prop where
  n : n' = n ∨ ∃ (t : Int) (rest : List Val), toks = .w "inv" :: .i t :: rest ∧ n' = max n (t.toNat + 1)
  lt : InvLt oe n'
  ss : ss' = stepOpt (G n' ss) oe ss
  flag : ∃ w, v' = v.or w ∧ LineVerdict oe w ss'

theorem LinStep.refl {Op Res α : Type} (G : Nat → List α → AtomicObj.Event Op Res → List α) (toks : List Val) (n : Nat)
    (ss : List α) (v : Option String) : LinStep G toks none n n ss ss v v :=
  ⟨.inl rfl, trivial, rfl, none, Option.or_none.symm, lineVerdict_skip ss nofun⟩

/-- as far as acceptance is concerned: if no violation is reported afterwards, none was reported before and — event line —
the state set was stepped (with some number of goroutines) and is non-empty, — skipped line — it is unchanged -/
theorem LinStep.ok {Op Res α : Type} {G : Nat → List α → AtomicObj.Event Op Res → List α} {toks : List Val}
    {oe : Option (AtomicObj.Event Op Res)} {n n' : Nat} {ss ss' : List α} {v v' : Option String}
    (h : LinStep G toks oe n n' ss ss' v v') (h0 : v' = none) :
    v = none ∧ (match (generalizing := false) oe with
      | some e => (∃ n, ss' = G n ss e) ∧ ss' ≠ []
      | none => ss' = ss) := by
  obtain ⟨w, hv, hw⟩ := h.flag
  refine ⟨((hw.or hv).1 h0).1, ?_⟩
  cases oe with
  | some e => exact ⟨⟨_, h.ss⟩, ((hw.or hv).1 h0).2 e rfl⟩
  | none => exact h.ss

/-! ### map mode -/

inductive MapLine : List Val → Option MEvent → Prop where
  | inv (toks : List Val) (t : Nat) (op : MapObj.Op) :
      parseMapInv toks = some (t, op) → MapLine toks (some (.inv t op))
  | resDone (t : Int) : MapLine [.w "res", .i t, .w "done"] (some (.res t.toNat .done))
  | resVal (t v : Int) (b : String) :
      MapLine [.w "res", .i t, .i v, .w b] (some (.res t.toNat (.val v (b == "true"))))
  | rangeInv (t : Int) : MapLine [.w "inv", .i t, .w "range"] none
  | rangeRes (t : Int) (pairs : List Val) : MapLine [.w "res", .i t, .l pairs] none
  | stepLine (a b : Val) : MapLine [.w "step", a, b] none
  | iterLine (a b : Val) : MapLine [.w "iter", a, b] none

theorem parseMapInv_shape {toks : List Val} {t' : Nat} {op : MapObj.Op} (h : parseMapInv toks = some (t', op)) :
    ∃ (t : Int) (rest : List Val), toks = .w "inv" :: .i t :: rest ∧ t' = t.toNat := by
  unfold parseMapInv at h
  split at h <;> cases h <;> exact ⟨_, _, rfl, rfl⟩

theorem mapLine_two_le {toks : List Val} {oe : Option MEvent} (h : MapLine toks oe) : 2 ≤ toks.length := by
  cases h with
  | inv _ t op hp =>
    obtain ⟨t0, rest, rfl, _⟩ := parseMapInv_shape hp
    exact Nat.le_add_left 2 _
  | _ => exact Nat.le_add_left 2 _

/-! `stepMap` on each kind of covered line other than an invocation (for which `parseMapInv` selects the first branch) -/

theorem stepMap_resDone (st : St) (t : Int) :
    stepMap st [.w "res", .i t, .w "done"] =
      finish { st with ms := stepObj MapObj.mapSpec st.n st.ms (.res t.toNat .done),
                       pendingKeys := st.pendingKeys.filter (·.1 != t.toNat) }
        (if (stepObj MapObj.mapSpec st.n st.ms (.res t.toNat .done)).isEmpty then some "not-linearizable" else none)
        ["map.res"] := rfl

theorem stepMap_resVal (st : St) (t v : Int) (b : String) :
    stepMap st [.w "res", .i t, .i v, .w b] =
      finish { st with ms := stepObj MapObj.mapSpec st.n st.ms (.res t.toNat (.val v (b == "true"))),
                       pendingKeys := st.pendingKeys.filter (·.1 != t.toNat) }
        (if (stepObj MapObj.mapSpec st.n st.ms (.res t.toNat (.val v (b == "true")))).isEmpty then
          some "not-linearizable" else none)
        ["map.res"] := rfl

theorem stepMap_rangeInv (st : St) (t : Int) :
    ∃ ranges : List RangeObs, stepMap st [.w "inv", .i t, .w "range"] =
      finish { st with n := max st.n (t.toNat + 1), ranges := ranges } none ["map.range.inv"] := ⟨_, rfl⟩

theorem stepMap_rangeRes (st : St) (t : Int) (pairs : List Val) :
    stepMap st [.w "res", .i t, .l pairs] =
      match st.ranges.find? (·.t == t.toNat) with
      | none => finish st (some "range-res-without-inv") []
      | some r =>
        let ps : List (Int × Int) :=
          pairs.filterMap (fun p => match p with | .l [.i k, .i v] => some (k, v) | _ => none)
        let ks := ps.map (·.1)
        let dup := ks.length != (Conc.dedup ks).length
        let invented := ps.any (fun (k, v) => !(r.possible.contains (k, v)) && !(st.writes.contains (k, v)))
        let missed := r.stable.any (fun (k, ov) =>
          match ov with
          | some v => !(r.touched.contains k) && !(ps.contains (k, v))
          | none => !(r.touched.contains k) && ks.contains k)
        let viol := if dup then some "range-duplicate-key" else if invented then some "range-invented-value"
                    else if missed then some "range-missed-stable-key" else none
        finish { st with ranges := st.ranges.filter (·.t != t.toNat) } viol ["map.range.res"] := rfl

theorem stepMap_stepLine (st : St) (a b : Val) :
    stepMap st [.w "step", a, b] = (st, { model := "ok", spec := some "ok" }) := rfl

theorem stepMap_iterLine (st : St) (a b : Val) :
    stepMap st [.w "iter", a, b] = (st, { model := "ok", spec := some "ok" }) := rfl

def MapStep (toks : List Val) (oe : Option MEvent) (st st' : St) : Prop :=
  st'.mode = st.mode ∧
  LinStep (stepObj MapObj.mapSpec) toks oe st.n st'.n st.ms st'.ms st.violated st'.violated

theorem stepMap_spec (st : St) (toks : List Val) (oe : Option MEvent) (h : MapLine toks oe) :
    MapStep toks oe st (stepMap st toks).1 := by
  cases h with
  | inv _ t op hp =>
    obtain ⟨t0, rest, htoks, ht0⟩ := parseMapInv_shape hp
    unfold stepMap
    rw [hp]
    dsimp only
    rw [finish_fst]
    exact ⟨rfl, .inr ⟨t0, rest, htoks, by rw [ht0]⟩, Nat.lt_of_lt_of_le (Nat.lt_succ_self _) (Nat.le_max_right _ _),
      rfl, _, rfl, lineVerdict_ite _ _⟩
  | resDone t =>
    rw [stepMap_resDone, finish_fst]
    exact ⟨rfl, .inl rfl, trivial, rfl, _, rfl, lineVerdict_ite _ _⟩
  | resVal t v b =>
    rw [stepMap_resVal, finish_fst]
    exact ⟨rfl, .inl rfl, trivial, rfl, _, rfl, lineVerdict_ite _ _⟩
  | rangeInv t =>
    obtain ⟨ranges, h⟩ := stepMap_rangeInv st t
    rw [h, finish_fst]
    exact ⟨rfl, .inr ⟨t, _, rfl, rfl⟩, trivial, rfl, none, rfl, lineVerdict_skip _ nofun⟩
  | rangeRes t pairs =>
    -- the Range result is judged by predicates of its own, whose verdicts are never `not-linearizable`
    rw [stepMap_rangeRes]
    split
    · rw [finish_fst]
      exact ⟨rfl, .inl rfl, trivial, rfl, _, rfl, lineVerdict_skip _ (by decide)⟩
    · rw [finish_fst]
      refine ⟨rfl, .inl rfl, trivial, rfl, _, rfl, lineVerdict_skip _ ?_⟩
      split
      · decide
      · split
        · decide
        · split <;> decide
  | stepLine a b =>
    rw [stepMap_stepLine]
    exact ⟨rfl, .refl _ _ _ _ _⟩
  | iterLine a b =>
    rw [stepMap_iterLine]
    exact ⟨rfl, .refl _ _ _ _ _⟩

theorem step_map (j : JSt) (toks : List Val) (impl : String) (oe : Option MEvent) (hmode : j.st.mode = 1)
    (h : MapLine toks oe) : (step j toks impl).1.st = (stepMap j.st toks).1 := by
  rw [step_of_two_le j impl (mapLine_two_le h), hmode]
  rfl

/-! ### set mode -/

/-- the operation the judge reads from `inv t <op> v` -/
def sopOf (op : String) (v : Int) : MapObj.SOp :=
  if op == "add" then .add v else if op == "remove" then .remove v else .has v

inductive SetLine : List Val → Option SEvent → Prop where
  | inv (t : Int) (op : String) (rest : List Val) (v : Int) :
      (op = "add" ∨ op = "remove" ∨ op = "has") → rest.filterMap Val.int? = [v] →
      SetLine (.w "inv" :: .i t :: .w op :: rest) (some (.inv t.toNat (sopOf op v)))
  | res (t : Int) (b : String) : (b = "true" ∨ b = "false") →
      SetLine [.w "res", .i t, .w b] (some (.res t.toNat (b == "true")))
  | lenInv (t : Int) (rest : List Val) : rest.filterMap Val.int? = [] →
      SetLine (.w "inv" :: .i t :: .w "len" :: rest) none
  | lenRes (t c : Int) : SetLine [.w "res", .i t, .i c] none
  | stepLine (a b : Val) : SetLine [.w "step", a, b] none
  | iterLine (a b : Val) : SetLine [.w "iter", a, b] none

/-- the only pending multi-element calls are `len` calls (no `addset` / `removeset` line has been read); it tells the
`res t <int>` of a `len` call from that of a composite -/
def OnlyLen (st : St) : Prop := ∀ m ∈ st.multi, m.2.1 = "len"

/-- no composite operation is in progress, and every set state is accounted for -/
def CRel (tr : List SEvent) (cs : List CSt) : Prop :=
  ∀ c ∈ cs, c.prog = [] ∧ Acc MapObj.setSpec tr [c.s]

theorem flatMap_prog_nil {β : Type} (F : CSt → Nat × List MapObj.SOp × Nat → List β) {cs : List CSt}
    (hp : ∀ c ∈ cs, c.prog = []) : cs.flatMap (fun c => c.prog.flatMap (F c)) = [] := by
  rw [List.flatMap_eq_nil_iff]
  intro c hc
  rw [hp c hc]
  rfl

/-- without composites in progress `compClosure` adds nothing -/
theorem compClosure_sub (n : Nat) (fuel : Nat) : ∀ (cs : List CSt), (∀ c ∈ cs, c.prog = []) →
    ∀ c ∈ compClosure n fuel cs, c ∈ cs := by
  induction fuel with
  | zero => intro cs _ c h; exact h
  | succ fuel ih =>
    intro cs hp c h
    unfold compClosure at h
    rw [flatMap_prog_nil _ hp] at h
    dsimp only at h
    rw [List.append_nil] at h
    split at h
    · exact h
    · exact mem_of_mem_dedup (ih _ (fun x hx => hp x (mem_of_mem_dedup hx)) c h)

theorem crel_compClosure {tr : List SEvent} {cs : List CSt} (n fuel : Nat) (h : CRel tr cs) :
    CRel tr (compClosure n fuel cs) :=
  fun c hc => h c (compClosure_sub n fuel cs (fun c hc => (h c hc).1) c hc)

theorem liftStep_crel (n : Nat) (tr : List SEvent) (cs : List CSt) (e : SEvent) (h : CRel tr cs) :
    CRel (tr ++ [e]) (liftStep n cs e) := by
  unfold liftStep
  refine crel_compClosure n _ (fun x hx => ?_)
  obtain ⟨c, hc, hx⟩ := List.mem_flatMap.1 (mem_of_mem_dedup hx)
  obtain ⟨s', hs', rfl⟩ := List.mem_map.1 hx
  obtain ⟨hp, hacc⟩ := crel_compClosure n _ h c hc
  refine ⟨hp, fun s hs => ?_⟩
  rw [List.mem_singleton.1 hs]
  rw [stepObj_eq MapObj.setSpec n [c.s] e] at hs'
  exact acc_step MapObj.setSpec Drv.ObjLin.closureFuel n hacc e s' hs'

def SetStep (toks : List Val) (oe : Option SEvent) (st : St) (cs : List CSt) (r : St × List CSt × Out) : Prop :=
  r.1.mode = st.mode ∧ OnlyLen r.1 ∧ LinStep liftStep toks oe st.n r.1.n cs r.2.1 st.violated r.1.violated

theorem stepSet_spec (st : St) (cs : List CSt) (toks : List Val) (oe : Option SEvent) (h : SetLine toks oe)
    (hol : OnlyLen st) : SetStep toks oe st cs (stepSet st cs toks) := by
  cases h with
  | inv t op rest v hop hvs =>
    have hc : ((op == "add" || op == "remove" || op == "has") && (rest.filterMap Val.int?).length == 1) = true := by
      rw [hvs]
      rcases hop with rfl | rfl | rfl <;> first | rfl | simp
    unfold stepSet
    simp only [hc, if_true]
    rw [hvs]
    show SetStep _ _ _ _ ((finish _ _ _).1, _, _)
    rw [finish_fst]
    exact ⟨rfl, hol, .inr ⟨t, _, rfl, rfl⟩, Nat.lt_of_lt_of_le (Nat.lt_succ_self _) (Nat.le_max_right _ _), rfl, _, rfl,
      lineVerdict_ite _ _⟩
  | res t b hb =>
    have hc : (b == "true" || b == "false") = true := by
      rcases hb with rfl | rfl <;> decide
    unfold stepSet
    simp only [hc, if_true]
    show SetStep _ _ _ _ ((finish _ _ _).1, _, _)
    rw [finish_fst]
    exact ⟨rfl, hol, .inl rfl, trivial, rfl, _, rfl, lineVerdict_ite _ _⟩
  | lenInv t rest hvs =>
    unfold stepSet
    simp only [hvs]
    show SetStep _ _ _ _ ((finish _ _ _).1, _, _)
    rw [finish_fst]
    refine ⟨rfl, ?_, .inr ⟨t, _, rfl, rfl⟩, trivial, rfl, none, rfl, lineVerdict_skip _ nofun⟩
    intro m hm
    rcases List.mem_cons.1 hm with rfl | hm
    · rfl
    · exact hol m hm
  | lenRes t c =>
    unfold stepSet
    simp only
    split
    · exact ⟨rfl, hol, .refl _ _ _ _ _⟩
    · rename_i x kind y z heq
      have hk : kind = "len" := hol _ (List.mem_of_find?_eq_some heq)
      subst hk
      simp only [beq_self_eq_true, if_true]
      show SetStep _ _ _ _ ((finish _ _ _).1, _, _)
      rw [finish_fst]
      refine ⟨rfl, ?_, .inl rfl, trivial, rfl, _, rfl, lineVerdict_skip _ ?_⟩
      · intro m hm
        exact hol m (List.mem_filter.1 hm).1
      · show (if c < 0 then some "count" else none) ≠ some "not-linearizable"
        split <;> decide
  | stepLine a b =>
    unfold stepSet
    exact ⟨rfl, hol, .refl _ _ _ _ _⟩
  | iterLine a b =>
    unfold stepSet
    exact ⟨rfl, hol, .refl _ _ _ _ _⟩

theorem setLine_two_le {toks : List Val} {oe : Option SEvent} (h : SetLine toks oe) : 2 ≤ toks.length := by
  cases h with
  | _ => exact Nat.le_add_left 2 _

theorem step_set (j : JSt) (toks : List Val) (impl : String) (oe : Option SEvent) (hmode : j.st.mode = 2)
    (h : SetLine toks oe) :
    (step j toks impl).1.st = (stepSet j.st j.cs toks).1 ∧ (step j toks impl).1.cs = (stepSet j.st j.cs toks).2.1 := by
  rw [step_of_two_le j impl (setLine_two_le h), hmode]
  exact ⟨rfl, rfl⟩

theorem crel_init : CRel [] [{ s := AtomicObj.init MapObj.setSpec 0, prog := [] }] := by
  intro c hc
  rw [List.mem_singleton.1 hc]
  exact ⟨rfl, acc_init MapObj.setSpec 0⟩

end TypVerif.Lemmas.ObjAcceptLin
