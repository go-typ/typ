import TypVerif.Lemmas.SmcQuiet
import TypVerif.Lemmas.SmcPromote
import TypVerif.Lemmas.SmcStore
import TypVerif.Lemmas.SmcNew
import TypVerif.Lemmas.SmcLos
import TypVerif.Lemmas.SmcLad
/-
C04 concurrent half, integration: every step of every goroutine of the step-level model of `sync2.Map`
(`Model.SyncMapConc`) is matched by steps of the relaxed atomic map and re-establishes the simulation relation `R`
(`sim_step`, by cases on the program counter — one lemma per hook of map.go, proved in the `Smc*` files; the hooks that
share their code — the five `lock`s, the two loads of `tryExpungeLocked`, the two of `tryLoadOrStore` — share a line); hence every
execution's visible history is linearizable (`linearizable`), and every reachable state satisfies `R` (`reachable_R`).
-/
namespace TypVerif.Lemmas.Smc
open TypVerif TypVerif.Conc TypVerif.Model TypVerif.Model.SyncMapConc TypVerif.Model.RelObj

variable {K V : Type} [DecidableEq K] [DecidableEq V] [Inhabited V]

/-- **one-step simulation**, for every program counter of `map.go` -/
theorem sim_step {menu : List (Op K V)} {s : State K V} {a : AState K V} {t : Tid}
    (hR : R s a) (ht : t < s.pcs.length) : StepOK menu s a t := by
  cases hpc : s.pc t with
  | idle => exact stepOK_idle hR ht hpc
  | loadLock k | storeLock k v | losLock k v | ladLock d k | rangeLock =>
    exact stepOK_lock hR ht hpc nofun (fun _ => nofun) rfl rfl rfl rfl (fun hT => ⟨hT.1, rfl⟩) rfl
  | start op => exact stepOK_start hR ht hpc
  | ret r => exact stepOK_ret hR ht hpc
  | loadRead1 k => exact stepOK_loadRead1 hR ht hpc
  | loadRead2 k => exact stepOK_loadRead2 hR ht hpc
  | loadMiss k e => exact stepOK_loadMiss hR ht hpc
  | loadPtr k e => exact stepOK_loadPtr hR ht hpc
  | storeRead1 k v => exact stepOK_storeRead1 hR ht hpc
  | tryStoreLoad k v e => exact stepOK_tryStoreLoad hR ht hpc
  | tryStoreCas k v e p => exact stepOK_tryStoreCas hR ht hpc
  | storeRead2 k v => exact stepOK_storeRead2 hR ht hpc
  | storeUnexp k v e => exact stepOK_storeUnexp hR ht hpc
  | storeLocked k v e => exact stepOK_storeLocked hR ht hpc
  | dirtyRead c k v rm => exact stepOK_dirtyRead hR ht hpc
  | dirtyPick c k v rm todo => exact stepOK_dirtyPick hR ht hpc
  | expLoad c k v rm todo k' e' | expLoad2 c k v rm todo k' e' =>
    have hT := hpc ▸ hR.thr t
    exact stepOK_exec hR ht hpc nofun (fun _ => nofun) rfl fun sh' pc' hex =>
      R_expLoaded hR ht (hpc ▸ rfl) (hpc ▸ rfl) hT sh' pc' (Option.some.inj hex)
  | expCas c k v rm todo k' e' => exact stepOK_expCas hR ht hpc
  | readStore c k v rm => exact stepOK_readStore hR ht hpc
  | losRead1 k v => exact stepOK_losRead1 hR ht hpc
  | losLoad c k v e | losLoad2 c k v e =>
    have hT := hpc ▸ hR.thr t
    exact stepOK_exec hR ht hpc nofun (fun _ => nofun) rfl fun sh' pc' hex =>
      R_losLoaded hR ht hT.1 hT.2 (hpc ▸ rfl) (hpc ▸ rfl) (Option.some.inj hex)
  | losCas c k v e => exact stepOK_losCas hR ht hpc
  | losRead2 k v => exact stepOK_losRead2 hR ht hpc
  | losUnexp k v e => exact stepOK_losUnexp hR ht hpc
  | losMiss k r => exact stepOK_losMiss hR ht hpc
  | ladRead1 d k => exact stepOK_ladRead1 hR ht hpc
  | ladRead2 d k => exact stepOK_ladRead2 hR ht hpc
  | ladMiss d k e => exact stepOK_ladMiss hR ht hpc
  | delLoad d k e => exact stepOK_delLoad hR ht hpc
  | delCas d k e p => exact stepOK_delCas hR ht hpc
  | rangeRead1 => exact stepOK_rangeRead1 hR ht hpc
  | rangeRead2 => exact stepOK_rangeRead2 hR ht hpc
  | rangeStore dm => exact stepOK_rangeStore hR ht hpc
  | rangePick todo acc => exact stepOK_rangePick hR ht hpc
  | rangeLoad todo acc k' e' => exact stepOK_rangeLoad hR ht hpc

/-- **Linearizability, all schedules**: the visible history (invocations and responses of Load, Store, LoadOrStore,
LoadAndDelete, Delete) of every execution of the step-level model — any number of goroutines, any operations, every
interleaving of the atomic steps — is linearizable with respect to the ordinary map. -/
theorem linearizable {menu : List (Op K V)} {n : Nat} {zst : Bool} {s : State K V}
    {ls : List (Option (SyncMapConc.Event K V))}
    (he : Exec (sys K V menu n zst) (SyncMapConc.init n zst) ls s) :
    AtomicObj.Linearizable (mapSpec K V) (ls.filterMap (·.bind evOf)) := by
  obtain ⟨a', hstar, _, hhist⟩ := sim_exec (fun _ _ _ => sim_step) he _ (R_init n zst)
  have hlin := Lemmas.RelObj.linearizable (mapSpec K V) (Lemmas.RelObj.rreach_star RReach.init hstar)
  rwa [hhist.trans (List.nil_append _)] at hlin

/-- **the invariant holds in every reachable state** (with a reachable abstract state as witness) -/
theorem reachable_R {menu : List (Op K V)} {n : Nat} {zst : Bool} {s : State K V}
    (h : Reachable (sys K V menu n zst) s) :
    ∃ a : AState K V, RReach (mapSpec K V) a ∧ R s a := by
  obtain ⟨ls, he⟩ := exec_of_reachable h
  obtain ⟨a, hstar, hR, _⟩ := sim_exec (fun _ _ _ => sim_step) he _ (R_init n zst)
  exact ⟨a, Lemmas.RelObj.rreach_star RReach.init hstar, hR⟩

end TypVerif.Lemmas.Smc
