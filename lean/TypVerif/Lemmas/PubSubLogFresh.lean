import TypVerif.Lemmas.PubSubLogCount
/-
Global bookkeeping invariants of the ghost logs:
* `Fresh` (all configurations): publisher ids are not reused — the model's `envStep` refuses a `pubinv p` with
  `p ∈ s.pids`, and `Fresh` tracks the used ids: at most one call of `p` waits for its snapshot (`le1`), none while `p` is
  unused (`unused`); while `p` is unused or its call has not taken the snapshot, nothing with publisher id `p` is pending or
  logged (`zero`).
* `AtMostOnce` (system without clones, `cfg.allowClone = false`): every key is pending-or-logged at most once, globally.
-/
namespace TypVerif.Lemmas.PubSubLog
open TypVerif TypVerif.Model.PubSub TypVerif.Lemmas.PubSubSafe

/-- the pairs of different events differ in the index, those of one event in the channel -/
theorem callKeys_nodup (p : Nat) (evs : List Int) (subs : List Chan) (hnd : subs.Nodup) :
    (callKeys p evs subs).Nodup := by
  rw [callKeys, mkItems, List.nodup_iff_pairwise_ne, List.pairwise_map, List.pairwise_flatMap]
  constructor
  · intro ei _
    rw [List.pairwise_map]
    exact hnd.imp fun hne e => hne (congrArg (·.2.2) e)
  · rw [List.pairwise_iff_getElem]
    intro i j hi hj hij x hx y hy e
    rw [List.getElem_zipIdx] at hx hy
    obtain ⟨_, _, rfl⟩ := List.mem_map.mp hx
    obtain ⟨_, _, rfl⟩ := List.mem_map.mp hy
    have : 0 + i = 0 + j := congrArg (·.2.1) e
    omega

structure Fresh (s : State) : Prop where
  le1 : ∀ p, nPS p s ≤ 1
  unused : ∀ p, p ∉ s.pids → nPS p s = 0
  zero : ∀ p, (p ∉ s.pids ∨ nPS p s = 1) → ∀ k : Key, k.1 = p → cP k s + cL k s = 0

theorem fresh_init : Fresh ({} : State) := by
  constructor <;> simp [nPS, cP, cL, pendKeys, logs]

theorem fresh_bstep {cfg : Cfg} {s s' : State} (hf : Fresh s) (h : BStep cfg s s') : Fresh s' := by
  rcases h with ⟨ts, hs⟩ | ⟨i, t, hi, t', new, dl, tl, hT, h1, h2, h3, h4⟩
  · refine ⟨fun p => ?_, fun p hp => ?_, fun p hp k hk => ?_⟩
    · rcases spawn_nPS hs p with ⟨_, e⟩ | ⟨p0, hp0, _, e⟩
      · exact e ▸ hf.le1 p
      · rw [e]
        by_cases hpp : p0 = p
        · rw [← hpp, hf.unused p0 hp0, if_pos rfl]
          exact Nat.le_refl _
        · rw [if_neg hpp]
          exact hf.le1 p
    · rcases spawn_nPS hs p with ⟨e0, e⟩ | ⟨p0, hp0, e0, e⟩
      · exact e.trans (hf.unused p (e0 ▸ hp))
      · rw [e0, List.mem_append, not_or] at hp
        rw [e, hf.unused p hp.1, if_neg fun hpp => hp.2 (List.mem_singleton.mpr hpp.symm)]
    · rw [(spawn_counts hs k).1, (spawn_counts hs k).2]
      refine hf.zero p ?_ k hk
      rcases spawn_nPS hs p with ⟨e0, e⟩ | ⟨p0, hp0, e0, e⟩
      · exact e0 ▸ e ▸ hp
      · by_cases hpp : p0 = p
        · exact .inl (hpp ▸ hp0)
        · rw [e0, e, if_neg hpp] at hp
          exact hp.imp_left fun hn hm => hn (List.mem_append_left _ hm)
  · have hle : ∀ p, nPS p s' ≤ nPS p s := fun p => Nat.le.intro (task_nPS hi hT h1 p)
    refine ⟨fun p => Nat.le_trans (hle p) (hf.le1 p), fun p hp => ?_, fun p hp k hk => ?_⟩
    · exact Nat.eq_zero_of_le_zero (hf.unused p (h4 ▸ hp) ▸ hle p)
    · subst hk
      have e := task_nPS hi hT h1 k.1
      have hone := hf.le1 k.1
      obtain ⟨a, _, _⟩ := task_counts hi hT h1 h2 h3 k
      by_cases hq : isPubStart k.1 t = true
      · -- the stepping task is not the snapshot of `k.1`: otherwise `nPS` would have dropped to 0 with `k.1` used
        exfalso
        rw [if_pos hq] at e
        have hused : k.1 ∈ s.pids := Classical.byContradiction fun hnu => by have := hf.unused k.1 hnu; omega
        rcases hp with hp | hp
        · exact hp (h4 ▸ hused)
        · omega
      · rw [if_neg hq, Nat.add_zero] at e
        rw [gain_zero (Bool.eq_false_iff.mpr hq)] at a
        have := hf.zero k.1 (hp.imp (fun hn => h4 ▸ hn) (fun h => e ▸ h)) k rfl
        omega

theorem fresh_reachable (cfg : Cfg) : ∀ s, Conc.Reachable (sys cfg) s → Fresh s :=
  Conc.invariant (sys cfg) Fresh fresh_init (fun _ _ _ hf h => fresh_bstep hf (succ_bstep h))

/-! ### every key at most once (needs `subs` without duplicates: `Safe`) -/

def AtMostOnce (s : State) : Prop := ∀ k : Key, cP k s + cL k s ≤ 1

theorem atMostOnce_bstep {cfg : Cfg} {s s' : State} (hs : Safe s) (hf : Fresh s) (ha : AtMostOnce s)
    (h : BStep cfg s s') : AtMostOnce s' := by
  intro k
  rcases h with ⟨ts, hsp⟩ | ⟨i, t, hi, t', new, dl, tl, hT, h1, h2, h3, _⟩
  · rw [(spawn_counts hsp k).1, (spawn_counts hsp k).2]
    exact ha k
  · obtain ⟨a, _, _⟩ := task_counts hi hT h1 h2 h3 k
    by_cases hq : isPubStart k.1 t = true
    · -- the snapshot of `k.1`: nothing of `k.1` was there before, and the keys of a call are distinct
      have hpos : 0 < nPS k.1 s := List.countP_pos_iff.mpr ⟨t, List.mem_of_getElem? hi, hq⟩
      have hle := hf.le1 k.1
      have hz := hf.zero k.1 (.inr (by omega)) k rfl
      cases t with
      | pubStart p o v evs =>
        cases hs.obj0 _ (List.mem_of_getElem? hi)
        have hg : gain s (.pubStart p 0 v evs) k = (callKeys p evs (s.obj 0).subs).count k := rfl
        have := List.nodup_iff_count.mp (callKeys_nodup p evs (s.obj 0).subs hs.nodup) k
        omega
      | _ => cases hq
    · rw [gain_zero (Bool.eq_false_iff.mpr hq)] at a
      have := ha k
      omega

theorem atMostOnce_reachable (cfg : Cfg) (hc : cfg.allowClone = false) :
    ∀ s, Conc.Reachable (sys cfg) s → AtMostOnce s :=
  Conc.invariant' (sys cfg) AtMostOnce (by intro k; simp [cP, cL, pendKeys, logs, sys])
    (fun s _ _ hr ha h => atMostOnce_bstep (no_panic_noClone cfg hc s hr) (fresh_reachable cfg s hr) ha (succ_bstep h))

/-- a timeout entry is written only when the timeout is positive -/
theorem timedOut_nil (cfg : Cfg) (h0 : cfg.timeout ≤ 0) : ∀ s, Conc.Reachable (sys cfg) s → s.timedOut = [] := by
  refine Conc.invariant (sys cfg) (fun s => s.timedOut = []) rfl ?_
  intro s l s' hs h
  rcases succ_bstep h with ⟨ts, hsp⟩ | ⟨i, t, _, t', new, dl, tl, hT, _, _, h3, _⟩
  · exact hsp.timedOut.trans hs
  · rw [h3, hs, List.nil_append]
    cases tstep_kind hT with
    | quiet _ _ _ _ htl => exact htl
    | handOff _ _ _ _ _ _ hlog =>
      rcases hlog with ⟨_, rfl⟩ | ⟨_, _, htm⟩
      · rfl
      · omega
    | snapshot _ _ _ _ _ _ _ htl => exact htl
    | drop _ _ _ _ _ _ htl => exact htl

theorem timeout_pos_of_timedOut {cfg : Cfg} {s : State} (hr : Conc.Reachable (sys cfg) s) (hne : s.timedOut ≠ []) :
    cfg.timeout > 0 :=
  Classical.byContradiction fun hn => hne (timedOut_nil cfg (by omega) s hr)

end TypVerif.Lemmas.PubSubLog
