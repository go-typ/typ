import TypVerif.Lemmas.PubSubSafeStep
/-
Bookkeeping view of the PubSub transition system, for the ghost-log theorems of C10.  `TStep` lists, at the level of
(task, spawned tasks, appended `delivered` entries, appended `timedOut` entries), every transition a task can make; `BStep`
does the same for a whole `succ` step, and every step of `sys cfg` is one (`succ_bstep`).  No reachability, clones allowed.
-/
namespace TypVerif.Lemmas.PubSubLog
open TypVerif TypVerif.Model.PubSub TypVerif.Lemmas.PubSubStep TypVerif.Lemmas.PubSubSafe

/-- a ghost-log entry: (publisher id, event index, channel) -/
abbrev Key := Nat × Nat × Chan

/-- the log entry written by the hand-off of `it` -/
def key (it : Item) : Key := (it.pid, it.idx, it.c)

/-- items the task still has to hand off (the head of a `syncLoop` / the item of a sender whose timer has fired is
already logged in `timedOut`, only its callback is pending) -/
def pend : Task → List Item
  | .syncLoop _ _ work cb => if cb then work.tail else work
  | .asyncStart _ it => [it]
  | .asyncSend _ it cb => if cb then [] else [it]
  | .wgSend _ _ it cb => if cb then [] else [it]
  | _ => []

def pk (t : Task) : List Key := (pend t).map key

/-- the task a PubSync call continues as when `work` is what is left -/
def syncNext (p o : Nat) : List Item → Task
  | [] => .pubRet p
  | it :: rest => .syncLoop p o (it :: rest) false

/-- tasks of Sub / Unsub / UnsubAll / WithOnly, and finished ones -/
def isCtl : Task → Bool
  | .subStart .. => true
  | .subWait .. => true
  | .subRet .. => true
  | .unsubStart .. => true
  | .unsubWait .. => true
  | .unsubRet .. => true
  | .uaStart .. => true
  | .uaWait .. => true
  | .uaRet .. => true
  | .woStart .. => true
  | .done => true
  | _ => false

/-- a publish call before its snapshot -/
def isPub : Task → Bool
  | .pubStart .. => true
  | _ => false

/-- `TStep cfg s t t' new dl tl`: in state `s` task `t` can become `t'`, spawning `new`, appending `dl` to `delivered`
and `tl` to `timedOut`. -/
inductive TStep (cfg : Cfg) (s : State) : Task → Task → List Task → List Key → List Key → Prop
  | stuck (t) : isPub t = false → TStep cfg s t t [] [] []              -- a panicking step: bookkeeping unchanged
      -- (a `pubStart` never panics; excluding it keeps the stutter from counting as a snapshot: `gain_notPub`)
  | ctl {t t'} : isCtl t = true → isCtl t' = true → TStep cfg s t t' [] [] []
  | ret (p) : TStep cfg s (.pubRet p) .done [] [] []
  | waitRet (p o w) : s.wgs.getD w 0 = 0 → TStep cfg s (.waitWg p o w) (.pubRet p) [] [] []
  | pubSync (p o v evs) : v.isSync = true →
      TStep cfg s (.pubStart p o v evs) (syncNext p o (mkItems p evs (s.obj o).subs)) [] [] []
  | pubWait (p o v evs) : v.isSync = false → v.isWait = true →
      TStep cfg s (.pubStart p o v evs) (.waitWg p o s.wgs.length)
        ((mkItems p evs (s.obj o).subs).map (fun it => .wgSend o s.wgs.length it false)) [] []
  | pubAsync (p o v evs) : v.isSync = false → v.isWait = false →
      TStep cfg s (.pubStart p o v evs) (.pubRet p)
        ((mkItems p evs (s.obj o).subs).map (fun it => .asyncStart o it)) [] []
  | syncCb (p o it rest) : TStep cfg s (.syncLoop p o (it :: rest) true) (syncNext p o rest) [] [] []
  | syncSent (p o it rest) : TStep cfg s (.syncLoop p o (it :: rest) false) (syncNext p o rest) [] [key it] []
  | syncTmo (p o it rest) : cfg.timeout > 0 →
      TStep cfg s (.syncLoop p o (it :: rest) false) (.syncLoop p o (it :: rest) true) [] [] [key it]
  | asyncGo (o it) : it.c ∈ (s.obj o).subs → TStep cfg s (.asyncStart o it) (.asyncSend o it false) [] [] []
  | asyncDrop (o it) : it.c ∉ (s.obj o).subs → TStep cfg s (.asyncStart o it) .done [] [] []
  | asyncCb (o it) : TStep cfg s (.asyncSend o it true) .done [] [] []
  | asyncSent (o it) : TStep cfg s (.asyncSend o it false) .done [] [key it] []
  | asyncTmo (o it) : cfg.timeout > 0 → TStep cfg s (.asyncSend o it false) (.asyncSend o it true) [] [] [key it]
  | wgCb (o w it) : TStep cfg s (.wgSend o w it true) .done [] [] []
  | wgSent (o w it) : TStep cfg s (.wgSend o w it false) .done [] [key it] []
  | wgTmo (o w it) : cfg.timeout > 0 → TStep cfg s (.wgSend o w it false) (.wgSend o w it true) [] [] [key it]

/-- an invocation, a receiver's step or the end of the run -/
structure Spawn (s s' : State) (ts : List Task) : Prop where
  tasks : s'.tasks = s.tasks ++ ts
  delivered : s'.delivered = s.delivered
  timedOut : s'.timedOut = s.timedOut
  pids : (s'.pids = s.pids ∧ ∀ x ∈ ts, isCtl x = true) ∨
    ∃ p o v evs, p ∉ s.pids ∧ s'.pids = s.pids ++ [p] ∧ ts = [.pubStart p o v evs]

/-- the step `s → s'` is the transition `TStep` of task `t` at position `i`: `t'` replaces it, `new` is appended, the logs
grow by `dl` / `tl`, `pids` stays -/
def TSum (cfg : Cfg) (s s' : State) (i : Nat) (t : Task) : Prop :=
  ∃ t' new dl tl, TStep cfg s t t' new dl tl ∧ s'.tasks = s.tasks.set i t' ++ new ∧
    s'.delivered = s.delivered ++ dl ∧ s'.timedOut = s.timedOut ++ tl ∧ s'.pids = s.pids

/-- `BStep cfg s s'`: what a step of the system does to (tasks, delivered, timedOut, pids) -/
inductive BStep (cfg : Cfg) (s s' : State) : Prop
  | spawn (ts) : Spawn s s' ts → BStep cfg s s'
  | task (i t) : s.tasks[i]? = some t → TSum cfg s s' i t → BStep cfg s s'

theorem BStep.same {cfg : Cfg} {s s' : State} (h1 : s'.tasks = s.tasks) (h2 : s'.delivered = s.delivered)
    (h3 : s'.timedOut = s.timedOut) (h4 : s'.pids = s.pids) : BStep cfg s s' :=
  .spawn [] ⟨h1.trans (List.append_nil _).symm, h2, h3, .inl ⟨h4, fun _ h => nomatch h⟩⟩

theorem set_self {α} (l : List α) (i : Nat) (t : α) (h : l[i]? = some t) : l.set i t = l := by
  obtain ⟨hlt, rfl⟩ := List.getElem?_eq_some_iff.mp h
  exact List.set_getElem_self hlt

theorem getElem?_set_append_ne {α} (l new : List α) (i j : Nat) (x : α) (hij : j ≠ i) (hi : i < l.length) :
    (l.set j x ++ new)[i]? = l[i]? := by
  rw [List.getElem?_append_left (by rw [List.length_set]; exact hi), List.getElem?_set_ne hij]

theorem getElem?_set_append_self {α} (l new : List α) (i : Nat) (x : α) (hi : i < l.length) :
    (l.set i x ++ new)[i]? = some x := by
  rw [List.getElem?_append_left (by rw [List.length_set]; exact hi)]
  exact List.getElem?_set_self hi

theorem getElem?_set_append_cases {α} {l new : List α} {j j' : Nat} {t' x : α}
    (h : (l.set j t' ++ new)[j']? = some x) :
    (j' = j ∧ x = t') ∨ (j' ≠ j ∧ l[j']? = some x) ∨ (x ∈ new) := by
  by_cases hlt : j' < l.length
  · rw [List.getElem?_append_left (by simpa using hlt), List.getElem?_set] at h
    by_cases hjj : j = j'
    · subst hjj
      simp [hlt] at h
      exact Or.inl ⟨rfl, h.symm⟩
    · simp [hjj] at h
      exact Or.inr (Or.inl ⟨fun h' => hjj h'.symm, h⟩)
  · rw [List.getElem?_append_right (by simpa using hlt)] at h
    exact Or.inr (Or.inr (List.mem_of_getElem? h))

theorem mem_set_append {α} {l new : List α} {j : Nat} {t' x : α} (h : x ∈ l.set j t' ++ new) :
    x = t' ∨ x ∈ l ∨ x ∈ new := by
  rcases List.mem_append.mp h with h | h
  · exact (List.mem_or_eq_of_mem_set h).symm.imp_right .inl
  · exact .inr (.inr h)

theorem tsum_quiet {cfg : Cfg} {s s' : State} {i : Nat} {t t' : Task} (hT : TStep cfg s t t' [] [] [])
    (ht : s'.tasks = s.tasks.set i t') (hd : s'.delivered = s.delivered) (hto : s'.timedOut = s.timedOut)
    (hp : s'.pids = s.pids) : TSum cfg s s' i t :=
  ⟨t', [], [], [], hT, by rw [ht, List.append_nil], by rw [hd, List.append_nil], by rw [hto, List.append_nil], hp⟩

/-- a step of a control task; the new task is read off `ht` -/
theorem tsum_ctl {cfg : Cfg} {s s' : State} {i : Nat} {t t' : Task} (ht : s'.tasks = s.tasks.set i t')
    (hd : s'.delivered = s.delivered) (hto : s'.timedOut = s.timedOut) (hp : s'.pids = s.pids)
    (h1 : isCtl t = true := by rfl) (h2 : isCtl t' = true := by rfl) : TSum cfg s s' i t :=
  tsum_quiet (.ctl h1 h2) ht hd hto hp

theorem tsum_stuck {cfg : Cfg} {s : State} {i : Nat} {t : Task} (m : String) (hi : s.tasks[i]? = some t)
    (hn : isPub t = false := by rfl) : TSum cfg s (s.panic m) i t :=
  tsum_quiet (.stuck t hn) (set_self _ _ _ hi).symm rfl rfl rfl

theorem syncNext_of_ne_nil (p o : Nat) {work : List Item} (h : work ≠ []) :
    syncNext p o work = .syncLoop p o work false := by
  cases work with
  | nil => exact absurd rfl h
  | cons it rest => rfl

section
variable {cfg : Cfg} {s : State} {i : Nat} {t tfin tcb : Task} {it : Item} {fin : State → State}

theorem sender_not_pub {cb : Bool} (h : Sender i t it cb fin tfin tcb) : isPub t = false := by
  cases h <;> rfl

/-- the continuation of `stepSend` replaces the task and leaves the rest of the bookkeeping alone -/
theorem sender_fin_book {cb : Bool} (h : Sender i t it cb fin tfin tcb) (x : State) :
    (fin x).delivered = x.delivered ∧ (fin x).timedOut = x.timedOut ∧ (fin x).pids = x.pids := by
  cases h with
  | wg o w it cb =>
    obtain ⟨ws, p, e⟩ := wgDone_eq x w
    show (wgDone x w).delivered = x.delivered ∧ (wgDone x w).timedOut = x.timedOut ∧ (wgDone x w).pids = x.pids
    rw [e]
    exact ⟨rfl, rfl, rfl⟩
  | _ => exact ⟨rfl, rfl, rfl⟩

theorem sender_tstep_cb (h : Sender i t it true fin tfin tcb) : TStep cfg s t tfin [] [] [] := by
  cases h with
  | syncLast p o it => exact .syncCb p o it []
  | syncMore p o it a rest => exact .syncCb p o it (a :: rest)
  | async o it => exact .asyncCb o it
  | wg o w it => exact .wgCb o w it

theorem sender_tstep_sent (h : Sender i t it false fin tfin tcb) : TStep cfg s t tfin [] [key it] [] := by
  cases h with
  | syncLast p o it => exact .syncSent p o it []
  | syncMore p o it a rest => exact .syncSent p o it (a :: rest)
  | async o it => exact .asyncSent o it
  | wg o w it => exact .wgSent o w it

theorem sender_tstep_tmo (h : Sender i t it false fin tfin tcb) (htm : cfg.timeout > 0) :
    TStep cfg s t tcb [] [] [key it] := by
  cases h with
  | syncLast p o it => exact .syncTmo p o it [] htm
  | syncMore p o it a rest => exact .syncTmo p o it (a :: rest) htm
  | async o it => exact .asyncTmo o it htm
  | wg o w it => exact .wgTmo o w it htm

end

theorem taskStep_tsum {cfg : Cfg} {s s' : State} {i : Nat} {t : Task} (hi : s.tasks[i]? = some t)
    (h : TaskStep cfg s i t s') : TSum cfg s s' i t := by
  cases h with
  | plain hp =>
    cases hp with
    | pubRet p => exact tsum_quiet (.ret p) rfl rfl rfl rfl
    | pubNone p o v evs _ hv he =>
      have hT := TStep.pubSync (cfg := cfg) (s := s) p o v evs hv
      rw [he] at hT
      exact tsum_quiet hT rfl rfl rfl rfl
    | asyncDrop o it _ hm => exact tsum_quiet (.asyncDrop o it hm) rfl rfl rfl rfl
    | _ => exact tsum_ctl rfl rfl rfl rfl
  | rw o r hr =>
    cases hr with
    | pubSync p v evs _ hv hne =>
      have hT := TStep.pubSync (cfg := cfg) (s := s) p o v evs hv
      rw [syncNext_of_ne_nil p o hne] at hT
      exact tsum_quiet hT rfl rfl rfl rfl
    | asyncGo it _ hm => exact tsum_quiet (.asyncGo o it hm) rfl rfl rfl rfl
    | waitRet p w hz => exact tsum_quiet (.waitRet p o w hz) rfl rfl rfl rfl
    | _ => exact tsum_ctl rfl rfl rfl rfl
  | pubWait p o v evs _ hv hw =>
    exact ⟨_, _, [], [], .pubWait p o v evs hv hw, rfl, (List.append_nil _).symm, (List.append_nil _).symm, rfl⟩
  | pubAsync p o v evs _ hv hw =>
    exact ⟨_, _, [], [], .pubAsync p o v evs hv hw, rfl, (List.append_nil _).symm, (List.append_nil _).symm, rfl⟩
  | sub | unsub | unsubAll | withOnly => exact tsum_ctl rfl rfl rfl rfl
  | unsubClosed | unsubAllClosed => exact tsum_stuck _ hi
  | sendCb hsnd =>
    obtain ⟨b, c, d⟩ := sender_fin_book hsnd s
    exact tsum_quiet (sender_tstep_cb hsnd) (hsnd.fin_tasks s) b c d
  | @sent _ it _ _ _ s1 hsnd hst =>
    obtain ⟨b, c, d⟩ := sender_fin_book hsnd s1
    obtain ⟨f, _, rfl⟩ := sendTo_eq_sent hst
    exact ⟨_, [], [key it], [], sender_tstep_sent hsnd, (hsnd.fin_tasks _).trans (List.append_nil _).symm, b,
      c.trans (List.append_nil _).symm, d⟩
  | sendClosed hsnd _ => exact tsum_stuck _ hi (sender_not_pub hsnd)
  | @timeout _ it _ _ _ hsnd htm =>
    exact ⟨_, [], [], [key it], sender_tstep_tmo hsnd htm, (List.append_nil _).symm, (List.append_nil _).symm, rfl, rfl⟩

theorem stepTask_tsum {cfg : Cfg} {s s' : State} {i : Nat} {t : Task} {l : Option Event}
    (hi : s.tasks[i]? = some t) (h : (l, s') ∈ stepTask cfg s i t) : TSum cfg s s' i t :=
  taskStep_tsum hi (taskStep_of_mem h)

theorem taskStep_other {cfg : Cfg} {s s' : State} {i j : Nat} {t : Task}
    (hj : s.tasks[j]? = some t) (h : TaskStep cfg s j t s') (hij : j ≠ i) (hi : i < s.tasks.length) :
    s'.tasks[i]? = s.tasks[i]? := by
  obtain ⟨t', new, dl, tl, _, h1, _, _, _⟩ := taskStep_tsum hj h
  rw [h1, getElem?_set_append_ne _ _ _ _ _ hij hi]

theorem taskSteps_task_ne {cfg : Cfg} {x z : State} {k : Nat} {l : Option Event} (h : (l, z) ∈ taskSteps cfg x k)
    {i : Nat} (hi : i < x.tasks.length) (hne : i ≠ k) : z.tasks[i]? = x.tasks[i]? :=
  have ⟨_, ht, hst⟩ := mem_taskSteps h
  taskStep_other ht (taskStep_of_mem hst) (Ne.symm hne) hi

/-- an invocation spawns one task (a publish call only under a fresh id; a clone also appends its object),
`mkchan` / `allow` touch the channels only -/
theorem envStep_bstep {cfg : Cfg} {s s' : State} {e : Event} (h : EnvStep cfg s e s') : BStep cfg s s' := by
  cases h with
  | mkchan | allow => exact .same rfl rfl rfl rfl
  | pubinv p via v evs hp _ =>
    refine .spawn _ ⟨rfl, rfl, rfl, .inr ⟨p, via, v, evs, fun hm => ?_, rfl, rfl⟩⟩
    rw [List.contains_iff_mem.mpr hm] at hp
    cases hp
  | _ => exact .spawn [_] ⟨rfl, rfl, rfl, .inl ⟨rfl, List.forall_mem_singleton.mpr rfl⟩⟩

theorem work_bstep {cfg : Cfg} {s s' : State} (h : Work cfg s s') : BStep cfg s s' := by
  cases h with
  | task hi ht => exact .task _ _ hi (taskStep_tsum hi ht)
  | recv => exact .same rfl rfl rfl rfl

theorem succ_bstep {cfg : Cfg} {s s' : State} {l : Option Event} (h : (l, s') ∈ succ cfg s) : BStep cfg s s' := by
  cases step_of_mem_succ h with
  | exit => exact .same rfl rfl rfl rfl
  | env he => exact envStep_bstep he
  | work hw => exact work_bstep hw

end TypVerif.Lemmas.PubSubLog
