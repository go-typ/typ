import TypVerif.Lemmas.PubSubLogStep
/-
Counting: for a key `k`, `cP k s` = number of pending items with key `k`, `cL k s` = number of log entries `k`.
A step changes `cP k + cL k` only at the snapshot step of the call with publisher id `k.1` (where it grows by the number of
items with that key) and at the drop of a `sendAsync` goroutine whose channel was unsubscribed (where it shrinks).
-/
namespace TypVerif.Lemmas.PubSubLog
open TypVerif TypVerif.Model.PubSub TypVerif.Lemmas.PubSubSafe

theorem count_flatMap_set {α β} [BEq β] (f : α → List β) (k : β) (l : List α) (i : Nat) (t t' : α)
    (hi : l[i]? = some t) :
    ((l.set i t').flatMap f).count k + (f t).count k = (l.flatMap f).count k + (f t').count k := by
  have := ((perm_set t' hi).flatMap_right f).count_eq k
  simp only [List.flatMap_cons, List.count_append] at this
  omega

theorem mkItems_pid {p : Nat} {evs : List Int} {subs : List Chan} {it : Item}
    (h : it ∈ mkItems p evs subs) : it.pid = p := by
  simp only [mkItems, List.mem_flatMap, List.mem_map] at h
  obtain ⟨_, _, c, _, rfl⟩ := h
  rfl

def callKeys (p : Nat) (evs : List Int) (subs : List Chan) : List Key := (mkItems p evs subs).map key

theorem callKeys_pid {p : Nat} {evs : List Int} {subs : List Chan} {k : Key}
    (h : k ∈ callKeys p evs subs) : k.1 = p := by
  simp only [callKeys, List.mem_map] at h
  obtain ⟨it, hit, rfl⟩ := h
  exact mkItems_pid hit

theorem count_callKeys_ne {p : Nat} {evs : List Int} {subs : List Chan} {k : Key} (h : k.1 ≠ p) :
    (callKeys p evs subs).count k = 0 := by
  rw [List.count_eq_zero]
  intro hk
  exact h (callKeys_pid hk)

theorem flatMap_pk (l : List Task) : l.flatMap pk = (l.flatMap pend).map key :=
  List.map_flatMap.symm

theorem pend_syncNext (p o : Nat) (w : List Item) : pend (syncNext p o w) = w := by
  cases w <;> rfl

theorem pk_syncNext (p o : Nat) (w : List Item) : pk (syncNext p o w) = w.map key :=
  congrArg _ (pend_syncNext p o w)

def isPubStart (p : Nat) : Task → Bool
  | .pubStart p' _ _ _ => p' == p
  | _ => false

/-- a `sendAsync` goroutine of publisher `p` that has not yet checked its subscription -/
def isAsyncStart (p : Nat) : Task → Bool
  | .asyncStart _ it => it.pid == p
  | _ => false

/-- number of items with key `k` that the snapshot step of `t` creates -/
def gain (s : State) (t : Task) (k : Key) : Nat :=
  match t with
  | .pubStart p o _ evs => (callKeys p evs (s.obj o).subs).count k
  | _ => 0

theorem isPubStart_eq_false {t : Task} (h : isPub t = false) (p : Nat) : isPubStart p t = false := by
  cases t <;> first | rfl | cases h

theorem gain_zero {s : State} {t : Task} {k : Key} (h : isPubStart k.1 t = false) : gain s t k = 0 := by
  cases t with
  | pubStart p o v evs =>
    simp only [isPubStart, beq_eq_false_iff_ne] at h
    exact count_callKeys_ne (fun h' => h h'.symm)
  | _ => rfl

theorem gain_notPub {s : State} {t : Task} {k : Key} (h : isPub t = false) : gain s t k = 0 :=
  gain_zero (isPubStart_eq_false h k.1)

theorem ctl_quiet {t : Task} (h : isCtl t = true) :
    pend t = [] ∧ isPub t = false ∧ ∀ p, isAsyncStart p t = false := by
  cases t <;> first | exact ⟨rfl, rfl, fun _ => rfl⟩ | cases h

/-- The transitions by what they do to the pending items: nothing; hand one off into one of the logs; create the
items of a call (the snapshot); drop the item of a `sendAsync` goroutine whose channel is gone.  (`target` is not counting:
it is what `log_step_subscribed` reads.) -/
inductive TKind (cfg : Cfg) (s : State) (t t' : Task) (new : List Task) (dl tl : List Key) : Prop
  | quiet (notPub : isPub t = false) (pendEq : pend t' = pend t) (newNil : new = []) (dlNil : dl = [])
      (tlNil : tl = [])
  | handOff (notPub : isPub t = false) (notAsync : ∀ p, isAsyncStart p t = false) (newNil : new = []) (it : Item)
      (pendEq : pend t = it :: pend t') (target : it.c ∈ targets t)
      (log : (dl = [key it] ∧ tl = []) ∨ (dl = [] ∧ tl = [key it] ∧ cfg.timeout > 0))
  | snapshot (p o : Nat) (v : Variant) (evs : List Int) (start : t = .pubStart p o v evs)
      (items : pend t' ++ new.flatMap pend = mkItems p evs (s.obj o).subs) (dlNil : dl = []) (tlNil : tl = [])
  | drop (o : Nat) (it : Item) (start : t = .asyncStart o it) (pendNil : pend t' = []) (newNil : new = [])
      (dlNil : dl = []) (tlNil : tl = [])

theorem tstep_kind {cfg : Cfg} {s : State} {t t' : Task} {new : List Task} {dl tl : List Key}
    (h : TStep cfg s t t' new dl tl) : TKind cfg s t t' new dl tl := by
  -- `induction` although no hypothesis is used, here and on `TStep` below: `cases` is slower to check on its 18 constructors
  induction h with
  | stuck _ hn => exact .quiet hn rfl rfl rfl rfl
  | ctl h1 h2 => exact .quiet (ctl_quiet h1).2.1 ((ctl_quiet h2).1.trans (ctl_quiet h1).1.symm) rfl rfl rfl
  | ret p => exact .quiet rfl rfl rfl rfl rfl
  | waitRet p o w hz => exact .quiet rfl rfl rfl rfl rfl
  | pubSync p o v evs hv =>
    exact .snapshot p o v evs rfl ((List.append_nil _).trans (pend_syncNext p o _)) rfl rfl
  | pubWait p o v evs hv hw =>
    refine .snapshot p o v evs rfl ?_ rfl rfl
    rw [List.flatMap_map]
    exact List.flatMap_singleton' _
  | pubAsync p o v evs hv hw =>
    refine .snapshot p o v evs rfl ?_ rfl rfl
    rw [List.flatMap_map]
    exact List.flatMap_singleton' _
  | syncCb p o it rest => exact .quiet rfl (pend_syncNext p o rest) rfl rfl rfl
  | syncSent p o it rest =>
    exact .handOff rfl (fun _ => rfl) rfl it (congrArg _ (pend_syncNext p o rest).symm) List.mem_cons_self
      (.inl ⟨rfl, rfl⟩)
  | syncTmo p o it rest htm =>
    exact .handOff rfl (fun _ => rfl) rfl it rfl List.mem_cons_self (.inr ⟨rfl, rfl, htm⟩)
  | asyncGo o it hm => exact .quiet rfl rfl rfl rfl rfl
  | asyncDrop o it hm => exact .drop o it rfl rfl rfl rfl rfl
  | asyncCb o it => exact .quiet rfl rfl rfl rfl rfl
  | asyncSent o it => exact .handOff rfl (fun _ => rfl) rfl it rfl List.mem_cons_self (.inl ⟨rfl, rfl⟩)
  | asyncTmo o it htm => exact .handOff rfl (fun _ => rfl) rfl it rfl List.mem_cons_self (.inr ⟨rfl, rfl, htm⟩)
  | wgCb o w it => exact .quiet rfl rfl rfl rfl rfl
  | wgSent o w it => exact .handOff rfl (fun _ => rfl) rfl it rfl List.mem_cons_self (.inl ⟨rfl, rfl⟩)
  | wgTmo o w it htm => exact .handOff rfl (fun _ => rfl) rfl it rfl List.mem_cons_self (.inr ⟨rfl, rfl, htm⟩)

/-- The pending and logged occurrences of a key around a transition: the snapshot adds `gain`; only the drop of a
`sendAsync` goroutine loses one. -/
theorem tstep_counts {cfg : Cfg} {s : State} {t t' : Task} {new : List Task} {dl tl : List Key}
    (h : TStep cfg s t t' new dl tl) (k : Key) :
    (pk t').count k + (new.flatMap pk).count k + dl.count k + tl.count k ≤ (pk t).count k + gain s t k ∧
    (isAsyncStart k.1 t = false →
      (pk t').count k + (new.flatMap pk).count k + dl.count k + tl.count k = (pk t).count k + gain s t k) := by
  have both : ∀ {a b : Nat}, a = b → a ≤ b ∧ (isAsyncStart k.1 t = false → a = b) :=
    fun e => ⟨Nat.le_of_eq e, fun _ => e⟩
  cases tstep_kind h with
  | quiet hn hp hnew hdl htl =>
    subst hnew hdl htl
    apply both
    rw [gain_notPub hn, pk, pk, hp]
    rfl
  | handOff hn _ hnew it hp _ hl =>
    subst hnew
    apply both
    rw [gain_notPub hn, pk, pk, hp, List.map_cons, List.count_cons]
    rcases hl with ⟨rfl, rfl⟩ | ⟨rfl, rfl, _⟩
    · rw [List.count_singleton]; rfl
    · rw [List.count_singleton]; rfl
  | snapshot p o v evs ht hp hdl htl =>
    subst ht hdl htl
    apply both
    show _ = 0 + ((mkItems p evs (s.obj o).subs).map key).count k
    rw [Nat.zero_add, ← hp, flatMap_pk, pk, List.map_append, List.count_append]
    rfl
  | drop o it ht hp hnew hdl htl =>
    subst ht hnew hdl htl
    rw [pk, hp]
    refine ⟨Nat.zero_le _, fun hd => ?_⟩
    have hne : (key it == k) = false := by
      rw [beq_eq_false_iff_ne]
      intro e
      rw [← e] at hd
      simp [isAsyncStart, key] at hd
    show 0 = ([key it].count k) + 0
    rw [List.count_singleton, hne]
    rfl

theorem tstep_pend_le {cfg : Cfg} {s : State} {t t' : Task} {new : List Task} {dl tl : List Key}
    (h : TStep cfg s t t' new dl tl) (k : Key) :
    (pk t').count k + (new.flatMap pk).count k ≤ (pk t).count k + gain s t k := by
  have := (tstep_counts h k).1; omega

/-- The counting law read at zero: except at the snapshot of its publisher, a key that is pending or logged after a
transition was pending in the stepping task before. -/
theorem tstep_from {cfg : Cfg} {s : State} {t t' : Task} {new : List Task} {dl tl : List Key}
    (h : TStep cfg s t t' new dl tl) {k : Key} (hq : isPubStart k.1 t = false)
    (hk : k ∈ pk t' ∨ k ∈ new.flatMap pk ∨ k ∈ dl ∨ k ∈ tl) : k ∈ pk t := by
  have h1 := (tstep_counts h k).1
  rw [gain_zero hq] at h1
  have pos : ∀ {l : List Key}, k ∈ l → 0 < l.count k := List.count_pos_iff.mpr
  have h2 := hk.imp pos (Or.imp pos (Or.imp pos pos))
  exact List.count_pos_iff.mp (by omega)

theorem syncNext_not_start (p o : Nat) (w : List Item) :
    isPub (syncNext p o w) = false ∧ ∀ q, isAsyncStart q (syncNext p o w) = false := by
  cases w <;> exact ⟨rfl, fun _ => rfl⟩

/-- The alternative `t' = t` is there for `TStep.stuck` alone (a panicking step leaves the task in place). -/
theorem tstep_tasks {cfg : Cfg} {s : State} {t t' : Task} {new : List Task} {dl tl : List Key}
    (h : TStep cfg s t t' new dl tl) :
    isPub t' = false ∧ (∀ x ∈ new, isPub x = false) ∧ (t' = t ∨ ∀ p, isAsyncStart p t' = false) := by
  have hnil : ∀ x ∈ ([] : List Task), isPub x = false := fun _ h => nomatch h
  induction h with
  | stuck _ hn => exact ⟨hn, hnil, .inl rfl⟩
  | ctl h1 h2 => exact ⟨(ctl_quiet h2).2.1, hnil, .inr (ctl_quiet h2).2.2⟩
  | pubSync p o v evs hv => exact ⟨(syncNext_not_start p o _).1, hnil, .inr (syncNext_not_start p o _).2⟩
  | pubWait p o v evs hv hw => exact ⟨rfl, List.forall_mem_map.mpr (fun _ _ => rfl), .inr fun _ => rfl⟩
  | pubAsync p o v evs hv hw => exact ⟨rfl, List.forall_mem_map.mpr (fun _ _ => rfl), .inr fun _ => rfl⟩
  | syncCb p o it rest => exact ⟨(syncNext_not_start p o _).1, hnil, .inr (syncNext_not_start p o _).2⟩
  | syncSent p o it rest => exact ⟨(syncNext_not_start p o _).1, hnil, .inr (syncNext_not_start p o _).2⟩
  | _ => exact ⟨rfl, hnil, .inr fun _ => rfl⟩

def pendKeys (s : State) : List Key := s.tasks.flatMap pk
def logs (s : State) : List Key := s.delivered ++ s.timedOut
def cP (k : Key) (s : State) : Nat := (pendKeys s).count k
def cL (k : Key) (s : State) : Nat := (logs s).count k
/-- publish calls of publisher `p` that have not taken their snapshot yet -/
def nPS (p : Nat) (s : State) : Nat := s.tasks.countP (isPubStart p)
/-- `sendAsync` goroutines of publisher `p` before their subscription check -/
def nAS (p : Nat) (s : State) : Nat := s.tasks.countP (isAsyncStart p)

theorem countP_zero_getElem? {α} {q : α → Bool} {l : List α} {i : Nat} {t : α} (h : l.countP q = 0)
    (hi : l[i]? = some t) : q t = false :=
  Bool.eq_false_iff.mpr (List.countP_eq_zero.mp h t (List.mem_of_getElem? hi))

theorem cP_zero_iff {p : Nat} {s : State} :
    (∀ k : Key, k.1 = p → cP k s = 0) ↔ ∀ t ∈ s.tasks, ∀ it ∈ pend t, it.pid ≠ p := by
  constructor
  · intro h t ht it hit hp
    exact List.count_eq_zero.mp (h (key it) hp) (List.mem_flatMap.mpr ⟨t, ht, List.mem_map.mpr ⟨it, hit, rfl⟩⟩)
  · intro h k hk
    rw [cP, List.count_eq_zero]
    intro hm
    obtain ⟨t, ht, hm⟩ := List.mem_flatMap.mp hm
    obtain ⟨it, hit, rfl⟩ := List.mem_map.mp hm
    exact h t ht it hit hk

theorem cL_append {s s' : State} {dl tl : List Key} (hd : s'.delivered = s.delivered ++ dl)
    (ht : s'.timedOut = s.timedOut ++ tl) (k : Key) : cL k s' = cL k s + dl.count k + tl.count k := by
  simp only [cL, logs, hd, ht, List.count_append]; omega

theorem task_counts {cfg : Cfg} {s s' : State} {i : Nat} {t t' : Task} {new : List Task} {dl tl : List Key}
    (hi : s.tasks[i]? = some t) (hT : TStep cfg s t t' new dl tl) (ht : s'.tasks = s.tasks.set i t' ++ new)
    (hd : s'.delivered = s.delivered ++ dl) (hto : s'.timedOut = s.timedOut ++ tl) (k : Key) :
    cP k s' + cL k s' ≤ cP k s + cL k s + gain s t k ∧
    (isAsyncStart k.1 t = false → cP k s' + cL k s' = cP k s + cL k s + gain s t k) ∧
    cP k s' ≤ cP k s + gain s t k := by
  -- the arithmetic, on variables: `A` counts the other tasks' pending items after the step
  have arith : ∀ {P P' L L' A a a' N D T g : Nat}, A + a = P + a' → P' = A + N → L' = L + D + T →
      a' + N + D + T ≤ a + g →
      P' + L' ≤ P + L + g ∧ (a' + N + D + T = a + g → P' + L' = P + L + g) ∧ P' ≤ P + g := by omega
  have h4 : cP k s' = ((s.tasks.set i t').flatMap pk).count k + (new.flatMap pk).count k := by
    rw [cP, pendKeys, ht, List.flatMap_append, List.count_append]
  obtain ⟨h2, h3⟩ := tstep_counts hT k
  obtain ⟨a, b, c⟩ := arith (count_flatMap_set pk k s.tasks i t t' hi) h4 (cL_append hd hto k) h2
  exact ⟨a, fun ha => b (h3 ha), c⟩

theorem task_nPS {cfg : Cfg} {s s' : State} {i : Nat} {t t' : Task} {new : List Task} {dl tl : List Key}
    (hi : s.tasks[i]? = some t) (hT : TStep cfg s t t' new dl tl) (ht : s'.tasks = s.tasks.set i t' ++ new)
    (p : Nat) : nPS p s' + (if isPubStart p t = true then 1 else 0) = nPS p s := by
  obtain ⟨h1, h2, _⟩ := tstep_tasks hT
  have h3 := countP_set_eq (isPubStart p) s.tasks i t t' hi
  have h4 : new.countP (isPubStart p) = 0 :=
    List.countP_eq_zero.mpr fun x hx => Bool.eq_false_iff.mp (isPubStart_eq_false (h2 x hx) p)
  rw [isPubStart_eq_false h1] at h3
  rw [nPS, ht, List.countP_append, h4, Nat.add_zero, h3]
  rfl

theorem pend_of_isAsyncStart {p : Nat} {x : Task} (h : isAsyncStart p x = true) : ∃ it ∈ pend x, it.pid = p := by
  cases x with
  | asyncStart o it => exact ⟨it, List.mem_singleton.mpr rfl, beq_iff_eq.mp h⟩
  | _ => cases h

/-- `sendAsync` goroutines of `p` are created by the snapshot step of `p` only -/
theorem task_nAS {cfg : Cfg} {s s' : State} {i : Nat} {t t' : Task} {new : List Task} {dl tl : List Key}
    (hi : s.tasks[i]? = some t) (hT : TStep cfg s t t' new dl tl) (ht : s'.tasks = s.tasks.set i t' ++ new)
    {p : Nat} (hq : isPubStart p t = false) (h0 : nAS p s = 0) : nAS p s' = 0 := by
  rw [nAS, List.countP_eq_zero]
  intro x hx
  rw [ht] at hx
  rcases mem_set_append hx with rfl | hx | hx
  · rcases (tstep_tasks hT).2.2 with rfl | h
    · exact Bool.eq_false_iff.mp (countP_zero_getElem? h0 hi)
    · exact Bool.eq_false_iff.mp (h p)
  · exact List.countP_eq_zero.mp h0 x hx
  · intro hx'
    obtain ⟨it, hit, rfl⟩ := pend_of_isAsyncStart hx'
    have hmem : it ∈ new.flatMap pend := List.mem_flatMap.mpr ⟨x, hx, hit⟩
    cases tstep_kind hT with
    | quiet _ _ hnew =>
      subst hnew
      cases hmem
    | handOff _ _ hnew =>
      subst hnew
      cases hmem
    | snapshot p' o v evs ht hp =>
      have := mkItems_pid (hp ▸ List.mem_append_right _ hmem)
      subst ht
      simp [isPubStart, this] at hq
    | drop _ _ _ _ hnew =>
      subst hnew
      cases hmem

theorem Spawn.quiet {s s' : State} {ts : List Task} (h : Spawn s s' ts) :
    ∀ x ∈ ts, pend x = [] ∧ ∀ p, isAsyncStart p x = false := by
  rcases h.pids with ⟨_, hc⟩ | ⟨p, o, v, evs, _, _, rfl⟩
  · exact fun x hx => ⟨(ctl_quiet (hc x hx)).1, (ctl_quiet (hc x hx)).2.2⟩
  · exact List.forall_mem_singleton.mpr ⟨rfl, fun _ => rfl⟩

theorem spawn_counts {s s' : State} {ts : List Task} (h : Spawn s s' ts) (k : Key) :
    cP k s' = cP k s ∧ cL k s' = cL k s := by
  have hts : ts.flatMap pk = [] :=
    List.flatMap_eq_nil_iff.mpr fun x hx => by rw [pk, (h.quiet x hx).1]; rfl
  constructor
  · rw [cP, pendKeys, h.tasks, List.flatMap_append, hts, List.append_nil]; rfl
  · rw [cL, logs, h.delivered, h.timedOut]; rfl

theorem spawn_nAS {s s' : State} {ts : List Task} (h : Spawn s s' ts) (p : Nat) : nAS p s' = nAS p s := by
  have hts : ts.countP (isAsyncStart p) = 0 :=
    List.countP_eq_zero.mpr fun x hx => Bool.eq_false_iff.mp ((h.quiet x hx).2 p)
  rw [nAS, h.tasks, List.countP_append, hts]; rfl

/-- an invocation with a fresh id is the only way the number of not-yet-started calls of `p` grows -/
theorem spawn_nPS {s s' : State} {ts : List Task} (h : Spawn s s' ts) (p : Nat) :
    (s'.pids = s.pids ∧ nPS p s' = nPS p s) ∨
    ∃ p0, p0 ∉ s.pids ∧ s'.pids = s.pids ++ [p0] ∧ nPS p s' = nPS p s + (if p0 = p then 1 else 0) := by
  rcases h.pids with ⟨h1, h2⟩ | ⟨p0, o, v, evs, h1, h2, rfl⟩
  · have hts : ts.countP (isPubStart p) = 0 :=
      List.countP_eq_zero.mpr fun x hx => Bool.eq_false_iff.mp (isPubStart_eq_false (ctl_quiet (h2 x hx)).2.1 p)
    exact .inl ⟨h1, by rw [nPS, h.tasks, List.countP_append, hts]; rfl⟩
  · refine .inr ⟨p0, h1, h2, ?_⟩
    rw [nPS, h.tasks, List.countP_append]
    simp [isPubStart, nPS]

theorem bstep_counts {cfg : Cfg} {s s' : State} (h : BStep cfg s s') (k : Key) (hno : nPS k.1 s = 0) :
    cP k s' + cL k s' ≤ cP k s + cL k s ∧ (nAS k.1 s = 0 → cP k s' + cL k s' = cP k s + cL k s) ∧
    cP k s' ≤ cP k s := by
  rcases h with ⟨ts, hs⟩ | ⟨i, t, hi, t', new, dl, tl, hT, h1, h2, h3, _⟩
  · obtain ⟨a, b⟩ := spawn_counts hs k
    rw [a, b]
    exact ⟨Nat.le_refl _, fun _ => rfl, Nat.le_refl _⟩
  · obtain ⟨a, b, c⟩ := task_counts hi hT h1 h2 h3 k
    rw [gain_zero (countP_zero_getElem? hno hi)] at a b c
    exact ⟨a, fun hna => b (countP_zero_getElem? hna hi), c⟩

theorem bstep_pids {cfg : Cfg} {s s' : State} (h : BStep cfg s s') {p : Nat} (hp : p ∈ s.pids) : p ∈ s'.pids := by
  rcases h with ⟨ts, hs⟩ | ⟨_, _, _, _, _, _, _, _, _, _, _, h4⟩
  · rcases spawn_nPS hs p with ⟨h4, _⟩ | ⟨_, _, h4, _⟩
    · exact h4 ▸ hp
    · exact h4 ▸ List.mem_append_left _ hp
  · exact h4 ▸ hp

theorem bstep_nPS_zero {cfg : Cfg} {s s' : State} (h : BStep cfg s s') {p : Nat} (hp : p ∈ s.pids)
    (hno : nPS p s = 0) : nPS p s' = 0 := by
  rcases h with ⟨ts, hs⟩ | ⟨i, t, hi, t', new, dl, tl, hT, h1, _⟩
  · rcases spawn_nPS hs p with ⟨_, e⟩ | ⟨p0, hp0, _, e⟩
    · exact e.trans hno
    · rw [e, hno, if_neg (fun h : p0 = p => hp0 (h ▸ hp))]
  · have := task_nPS hi hT h1 p
    omega

theorem bstep_nAS_zero {cfg : Cfg} {s s' : State} (h : BStep cfg s s') {p : Nat}
    (hno : nPS p s = 0) (hna : nAS p s = 0) : nAS p s' = 0 := by
  rcases h with ⟨ts, hs⟩ | ⟨i, t, hi, t', new, dl, tl, hT, h1, _⟩
  · exact (spawn_nAS hs p).trans hna
  · exact task_nAS hi hT h1 (countP_zero_getElem? hno hi) hna

end TypVerif.Lemmas.PubSubLog
