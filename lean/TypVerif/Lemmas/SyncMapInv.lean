import TypVerif.Lemmas.SyncMapAssoc
/-
The sequential invariant `SeqInv` of `sync2.Map` (S1–S6 of DESIGN §8 C04, and S7, which only sequential
executions keep), the abstraction `abs`,
and how the primitive state updates act on them.
-/
namespace TypVerif.Lemmas.SyncMap
open TypVerif.Model.SyncMap

set_option linter.unusedSectionVars false

variable {K V : Type} [DecidableEq K]

/-- `read.m[k]` -/
def rd (s : State K V) (k : K) : Option EId := alookup k s.read
/-- `m.dirty[k]` -/
def dt (s : State K V) (k : K) : Option EId := alookup k (dirtyMap s)

/-- the entry that currently stands for key `k`: `read.m[k]`, else `dirty[k]` when `amended` -/
def cur (s : State K V) (k : K) : Option EId :=
  match rd s k with
  | some e => some e
  | none => if s.amended then dt s k else none

/-- the abstraction: the value of `k`'s current entry (`nil`/`expunged` count as absent) -/
def abs (s : State K V) (k : K) : Option V := (cur s k).bind (loadEntry s)

structure SeqInv (s : State K V) : Prop where
  /-- no "assignment to entry in nil map" happened -/
  nofault : s.fault = false
  readNodup : (akeys s.read).Nodup
  dirtyNodup : (akeys (dirtyMap s)).Nodup
  /-- entry ids are allocated -/
  readRange : ∀ k e, rd s k = some e → e < s.entries.length
  dirtyRange : ∀ k e, dt s k = some e → e < s.entries.length
  /-- S1: `amended` promises a dirty map -/
  s1 : s.dirty = none → s.amended = false
  /-- S2: with a dirty map, a non-expunged read entry is in it under the same key, an expunged one is absent -/
  s2 : s.dirty ≠ none → ∀ k e, rd s k = some e →
        (getP s e ≠ .expunged → dt s k = some e) ∧ (getP s e = .expunged → dt s k = none)
  /-- S3: entries are expunged only while a dirty map exists -/
  s3 : s.dirty = none → ∀ k e, rd s k = some e → getP s e ≠ .expunged
  /-- S4: unless `amended`, the dirty map has no key that `read.m` lacks -/
  s4 : s.amended = false → ∀ k e, dt s k = some e → (rd s k).isSome
  /-- S5: dirty-only entries are live -/
  s5 : ∀ k e, rd s k = none → dt s k = some e → ∃ v, getP s e = .val v
  /-- S6: no entry serves two keys -/
  s6 : ∀ k k' e, (rd s k = some e ∨ dt s k = some e) → (rd s k' = some e ∨ dt s k' = some e) → k = k'
  /-- S7 (sequential executions only): the dirty map exists exactly when `amended` -/
  s7 : s.dirty ≠ none → s.amended = true

@[simp] theorem setP_read (s : State K V) (e : EId) (p : P V) : (setP s e p).read = s.read := rfl
@[simp] theorem setP_dirty (s : State K V) (e : EId) (p : P V) : (setP s e p).dirty = s.dirty := rfl
@[simp] theorem setP_amended (s : State K V) (e : EId) (p : P V) : (setP s e p).amended = s.amended := rfl
@[simp] theorem setP_misses (s : State K V) (e : EId) (p : P V) : (setP s e p).misses = s.misses := rfl
@[simp] theorem setP_fault (s : State K V) (e : EId) (p : P V) : (setP s e p).fault = s.fault := rfl
@[simp] theorem setP_length (s : State K V) (e : EId) (p : P V) :
    (setP s e p).entries.length = s.entries.length := by simp [setP]
@[simp] theorem rd_setP (s : State K V) (e : EId) (p : P V) (k : K) : rd (setP s e p) k = rd s k := rfl
@[simp] theorem dt_setP (s : State K V) (e : EId) (p : P V) (k : K) : dt (setP s e p) k = dt s k := rfl
@[simp] theorem dirtyMap_setP (s : State K V) (e : EId) (p : P V) : dirtyMap (setP s e p) = dirtyMap s := rfl
@[simp] theorem cur_setP (s : State K V) (e : EId) (p : P V) (k : K) : cur (setP s e p) k = cur s k := rfl

theorem getP_setP (s : State K V) (e e' : EId) (p : P V) (he : e < s.entries.length) :
    getP (setP s e p) e' = if e' = e then p else getP s e' := by
  unfold getP setP
  simp only [List.getD_eq_getElem?_getD, List.getElem?_set]
  by_cases h : e = e'
  · subst h
    rw [if_pos rfl, if_pos he, if_pos rfl]
    rfl
  · rw [if_neg h, if_neg (Ne.symm h)]

theorem getP_of_ge (s : State K V) (e : EId) (he : s.entries.length ≤ e) : getP s e = .nil := by
  unfold getP
  simp [List.getD_eq_getElem?_getD, List.getElem?_eq_none he]

/-- value carried by a pointer state -/
def pval : P V → Option V
  | .val v => some v
  | _ => none

theorem loadEntry_eq (s : State K V) (e : EId) : loadEntry s e = pval (getP s e) := by
  unfold loadEntry pval; cases getP s e <;> rfl

theorem loadEntry_setP (s : State K V) (e e' : EId) (p : P V) (he : e < s.entries.length) :
    loadEntry (setP s e p) e' = if e' = e then pval p else loadEntry s e' := by
  rw [loadEntry_eq, getP_setP s e e' p he, loadEntry_eq]; split <;> rfl

theorem getP_setP_self (s : State K V) {e : EId} (p : P V) (he : e < s.entries.length) :
    getP (setP s e p) e = p := by
  rw [getP_setP s e e p he, if_pos rfl]

theorem getP_setP_ne (s : State K V) {e e' : EId} (p : P V) (hne : e' ≠ e) : getP (setP s e p) e' = getP s e' := by
  unfold getP setP
  rw [List.getD_eq_getElem?_getD, List.getD_eq_getElem?_getD, List.getElem?_set_ne (Ne.symm hne)]

theorem setP_of_ge {s : State K V} {e : EId} (he : s.entries.length ≤ e) (p : P V) : setP s e p = s := by
  unfold setP; rw [List.set_eq_of_length_le he]

theorem SeqInv.dirty_of_amended {s : State K V} (h : SeqInv s) (ha : s.amended = true) : s.dirty ≠ none := by
  intro hd; have := h.s1 hd; rw [ha] at this; cases this

theorem dt_none_of_clean {s : State K V} (hd : s.dirty = none) (k : K) : dt s k = none := by
  unfold dt dirtyMap; rw [hd]; rfl

theorem dirty_ne_of_dt {s : State K V} {k : K} {e : EId} (hk : dt s k = some e) : s.dirty ≠ none := by
  intro hd; rw [dt_none_of_clean hd] at hk; cases hk

theorem cur_ref {s : State K V} {k : K} {e : EId} (hc : cur s k = some e) : rd s k = some e ∨ dt s k = some e := by
  unfold cur at hc
  cases hr : rd s k with
  | some e0 => rw [hr] at hc; exact Or.inl hc
  | none =>
    rw [hr] at hc
    simp only at hc
    split at hc
    · exact Or.inr hc
    · cases hc

theorem cur_of_rd {s : State K V} {k : K} {e : EId} (h : rd s k = some e) : cur s k = some e := by
  unfold cur; rw [h]

theorem cur_of_dt {s : State K V} {k : K} (h : rd s k = none) (ha : s.amended = true) : cur s k = dt s k := by
  unfold cur; rw [h]; simp [ha]

theorem cur_of_clean_miss {s : State K V} {k : K} (h : rd s k = none) (ha : s.amended = false) : cur s k = none := by
  unfold cur; rw [h]; simp [ha]

theorem abs_of_rd {s : State K V} {k : K} {e : EId} (h : rd s k = some e) : abs s k = loadEntry s e := by
  unfold abs; rw [cur_of_rd h]; rfl

theorem abs_of_dt {s : State K V} {k : K} (h : rd s k = none) (ha : s.amended = true) :
    abs s k = (dt s k).bind (loadEntry s) := by
  unfold abs; rw [cur_of_dt h ha]

theorem abs_of_clean_miss {s : State K V} {k : K} (h : rd s k = none) (ha : s.amended = false) : abs s k = none := by
  unfold abs; rw [cur_of_clean_miss h ha]; rfl

end TypVerif.Lemmas.SyncMap
