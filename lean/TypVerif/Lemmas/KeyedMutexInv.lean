import TypVerif.Lemmas.KeyedMutexBasic
/-
The inductive invariant `Good` of the KeyedMutex system (with the ClearKey proviso), all schedules,
any number of goroutines, any alphabet of operations.
-/
namespace TypVerif.Lemmas.KeyedMutex
open TypVerif TypVerif.Conc TypVerif.Model.KeyedMutex

/-- what the discipline E1/E2 guarantees about a pending call of kind `kd` on `k` by `t` -/
def Disc (s : State) (t : Nat) (kd : Kind) (k : Nat) : Prop :=
  (kd = .unlock → (t, k) ∈ s.wh) ∧ (kd = .runlock → (t, k) ∈ s.rh) ∧
  ((kd = .rlock ∨ kd = .tryrlock) → (t, k) ∉ s.rh)

/-- what goroutine `t` knows at its program counter: its local `m` is the mutex of its key -/
def ThreadOk (s : State) (t : Nat) : Prop :=
  match s.pc t with
  | .idle => True
  | .ret _ => True
  | .los kd k => Disc s t kd k
  | .act kd k m => get s.map k = some m ∧ Disc s t kd k
  | .ann k m => get s.map k = some m
  | .wait k m => get s.map k = some m
  | .rel k m => get s.map k = some m

/-- The forward invariant: what the goroutines and the ghost holder lists say is true of the map and the cells (a mapped cell is
allocated, two keys never share a cell, a recorded holder is the cell's writer / among its readers, writer excludes readers).
`whNd`/`rhNd`: `erase` on release removes the only entry.  The converses (what a cell records belongs to a goroutine) are `Conv`,
`KeyedMutexConv.lean`. -/
structure Good (s : State) : Prop where
  thread : ∀ t, ThreadOk s t
  mapLt : ∀ k m, get s.map k = some m → m < s.heap.length
  mapInj : ∀ k₁ k₂ m, get s.map k₁ = some m → get s.map k₂ = some m → k₁ = k₂
  whOk : ∀ t k, (t, k) ∈ s.wh → ∃ m, get s.map k = some m ∧ (s.mu m).writer = some t
  rhOk : ∀ t k, (t, k) ∈ s.rh → ∃ m, get s.map k = some m ∧ t ∈ (s.mu m).readers
  excl : ∀ m, (s.mu m).writer ≠ none → (s.mu m).readers = []
  whNd : s.wh.Nodup
  rhNd : s.rh.Nodup

def ThreadOkAt (s : State) (t : Nat) : Pc → Prop
  | .idle | .ret _ => True
  | .los kd k => Disc s t kd k
  | .act kd k m => get s.map k = some m ∧ Disc s t kd k
  | .ann k m | .wait k m | .rel k m => get s.map k = some m

theorem threadOk_at {s : State} {t : Nat} {p : Pc} (h : s.pc t = p) : ThreadOk s t ↔ ThreadOkAt s t p := by
  unfold ThreadOk
  rw [h]
  cases p <;> exact Iff.rfl

theorem threadOk_set {s s' : State} {t : Nat} {p : Pc} (ht : t < s.pcs.length) (h : s'.pcs = s.pcs.set t p)
    (hT : ThreadOkAt s' t p) : ThreadOk s' t :=
  (threadOk_at (pc_set_self ht h)).mpr hT

theorem act_ok {s : State} {t : Nat} {kd k m} (hT : ThreadOk s t) (h : s.pc t = .act kd k m) :
    get s.map k = some m ∧ Disc s t kd k :=
  (threadOk_at h).mp hT

theorem threadOk_loc {s : State} {t k m : Nat} (hT : ThreadOk s t) (h : loc (s.pc t) = some (k, m)) :
    Model.KeyedMutex.get s.map k = some m := by
  rw [threadOk_at rfl] at hT
  generalize s.pc t = p at hT h
  cases p with
  | act _ _ _ => cases h; exact hT.1
  | ann _ _ | wait _ _ | rel _ _ => cases h; exact hT
  | _ => cases h

theorem acq_get {s : State} {t : Nat} (hT : ThreadOk s t) {k m : Nat}
    (hpc : s.pc t = .act .lock k m ∨ s.pc t = .act .trylock k m ∨ s.pc t = .wait k m) :
    Model.KeyedMutex.get s.map k = some m :=
  threadOk_loc hT (hpc.elim (congrArg loc) (·.elim (congrArg loc) (congrArg loc)))

theorem loc_get {s : State} (hg : Good s) {t k m : Nat} (h : loc (s.pc t) = some (k, m)) :
    Model.KeyedMutex.get s.map k = some m :=
  threadOk_loc (hg.thread t) h

theorem Good.writer_at {s : State} (hg : Good s) {t k m : Nat} (hk : Model.KeyedMutex.get s.map k = some m)
    (h : (t, k) ∈ s.wh) : (s.mu m).writer = some t := by
  obtain ⟨m0, h0, h1⟩ := hg.whOk _ _ h
  cases h0.symm.trans hk; exact h1

theorem Good.reader_at {s : State} (hg : Good s) {t k m : Nat} (hk : Model.KeyedMutex.get s.map k = some m)
    (h : (t, k) ∈ s.rh) : t ∈ (s.mu m).readers := by
  obtain ⟨m0, h0, h1⟩ := hg.rhOk _ _ h
  cases h0.symm.trans hk; exact h1

theorem onKey_iff_loc {p : Pc} {k : Nat} : onKey k p = true ↔ ∃ m, loc p = some (k, m) := by
  constructor
  · intro h
    cases p with
    | act _ k' m | ann k' m | wait k' m | rel k' m => exact ⟨m, by rw [← eq_of_beq h]; rfl⟩
    | _ => cases h
  · rintro ⟨m, h⟩
    cases p <;> cases h <;> exact beq_self_eq_true k

theorem onKey_get {s : State} {t k : Nat} (hT : ThreadOk s t) (h : onKey k (s.pc t) = true) :
    ∃ m, get s.map k = some m := by
  obtain ⟨m, hm⟩ := onKey_iff_loc.mp h
  exact ⟨m, threadOk_loc hT hm⟩

theorem disc_of_invOk {rw : Bool} {s : State} {t : Nat} {op : Op} (h : invOk rw s t op = true) :
    Disc s t op.kind op.key := by
  unfold invOk at h
  unfold Disc
  split at h <;> simp_all

theorem disc_frame {s s' : State} {t' : Nat} {kd : Kind} {k : Nat}
    (hwh : ∀ k, (t', k) ∈ s'.wh ↔ (t', k) ∈ s.wh) (hrh : ∀ k, (t', k) ∈ s'.rh ↔ (t', k) ∈ s.rh)
    (h : Disc s t' kd k) : Disc s' t' kd k :=
  ⟨fun e => (hwh k).mpr (h.1 e), fun e => (hrh k).mpr (h.2.1 e), fun e hm => h.2.2 e ((hrh k).mp hm)⟩

theorem threadOk_frame {s s' : State} {t' : Nat} (hpc : s'.pc t' = s.pc t')
    (hmap : ∀ k m, onKey k (s.pc t') = true → get s.map k = some m → get s'.map k = some m)
    (hwh : ∀ k, (t', k) ∈ s'.wh ↔ (t', k) ∈ s.wh) (hrh : ∀ k, (t', k) ∈ s'.rh ↔ (t', k) ∈ s.rh)
    (h : ThreadOk s t') : ThreadOk s' t' := by
  rw [threadOk_at hpc]
  rw [threadOk_at rfl] at h
  generalize s.pc t' = p at hmap h
  cases p with
  | idle | ret _ => trivial
  | los _ _ => exact disc_frame hwh hrh h
  | act _ k m => exact ⟨hmap k m (beq_self_eq_true k) h.1, disc_frame hwh hrh h.2⟩
  | ann k m | wait k m | rel k m => exact hmap k m (beq_self_eq_true k) h

theorem pair_ne {t t' k k' : Nat} (h : t' ≠ t) : (t', k') ≠ (t, k) := by
  intro e; exact h (by injection e)

theorem mem_cons_ne {t t' k k' : Nat} {l : List (Nat × Nat)} (h : t' ≠ t) :
    (t', k') ∈ (t, k) :: l ↔ (t', k') ∈ l := by
  simp [List.mem_cons, pair_ne h]

theorem mem_erase_ne {t t' k k' : Nat} {l : List (Nat × Nat)} (h : t' ≠ t) :
    (t', k') ∈ l.erase (t, k) ↔ (t', k') ∈ l :=
  List.mem_erase_of_ne (pair_ne h)

theorem good_init (n : Nat) : Good (init n) := by
  refine ⟨?_, ?_, ?_, ?_, ?_, ?_, ?_, ?_⟩
  · intro t
    refine (threadOk_at (p := .idle) ?_).mpr trivial
    unfold State.pc init
    simp only [List.getD_eq_getElem?_getD, List.getElem?_replicate]
    split <;> rfl
  · intro k m h; simp [init, Model.KeyedMutex.get] at h
  · intro k₁ k₂ m h; simp [init, Model.KeyedMutex.get] at h
  · intro t k h; simp [init] at h
  · intro t k h; simp [init] at h
  · intro m h; simp [init, State.mu, Mu.free] at h
  · simp [init]
  · simp [init]

section step
variable {rw : Bool} {ops : List Op} {s s' : State} {t : Nat} {l : Option Event}

/-! ### the effect of a step

A goroutine inside a call on key `k` carries the mutex `m` of `k` in its program counter (`loc`); its steps there rewrite
the one heap cell `m`, the other steps leave all cells alone. -/

/-- standing in `pending` of its mutex (`inPending`, `inWq`, `QDelta` serve the converse invariants `Conv.pd`/`Conv.wq` only:
`InQ` in `KeyedMutexConv.lean`) -/
def inPending : Pc → Bool
  | .wait _ _ => true
  | _ => false

/-- standing in `wq` of its mutex -/
def inWq : Pc → Bool
  | .ann _ _ | .rel _ _ => true
  | _ => false

/-- how a step of `t` from `p` to `p'` changes a queue of its mutex whose members stand at program counters of class `b`:
not at all, `t` joins, or `t` leaves.  An upper bound, not the exact change: `leave` is also offered when `t` was not a member
(the filter is then the identity) -/
inductive QDelta (b : Pc → Bool) (t : Nat) (p p' : Pc) (old new : List Nat) : Prop
  | same : b p = false → new = old → QDelta b t p p' old new
  | join : b p = false → b p' = true → loc p' = loc p → new = t :: old → QDelta b t p p' old new
  | leave : new = old.filter (· ≠ t) → QDelta b t p p' old new

/-- how a step of `t` on the cell of key `k` changes the writer and the write-holders: not at all, `t` acquires, or `t` releases -/
inductive WDelta (t k : Nat) (μ x : Mu) (wh wh' : List (Nat × Nat)) : Prop
  | same : x.writer = μ.writer → wh' = wh → WDelta t k μ x wh wh'
  | acq : μ.writer = none → x.writer = some t → x.readers = [] → wh' = (t, k) :: wh → WDelta t k μ x wh wh'
  | rel : μ.writer = some t → x.writer = none → wh' = wh.erase (t, k) → WDelta t k μ x wh wh'

/-- how a step of `t` on the cell of key `k` changes the readers and the read-holders: not at all, `t` acquires, or `t` releases
(`rel` is also offered to a non-reader: an upper bound, as for `QDelta`) -/
inductive RDelta (t k : Nat) (μ x : Mu) (rh rh' : List (Nat × Nat)) : Prop
  | same : x.readers = μ.readers → rh' = rh → RDelta t k μ x rh rh'
  | acq : (t, k) ∉ rh → x.writer = none → x.readers = t :: μ.readers → rh' = (t, k) :: rh → RDelta t k μ x rh rh'
  | rel : x.readers = μ.readers.erase t → rh' = rh.erase (t, k) → RDelta t k μ x rh rh'

/-- how a step changes the map: not at all, a fresh key is bound to the fresh cell, or an unused key is deleted -/
inductive MDelta (s s' : State) : Prop
  | same : s'.map = s.map → s.heap.length ≤ s'.heap.length → MDelta s s'
  | bind (k : Nat) : Model.KeyedMutex.get s.map k = none → s'.map = (k, s.heap.length) :: s.map →
      s.heap.length < s'.heap.length → MDelta s s'
  | del (k : Nat) : clearOk s k = true → s'.map = del s.map k → s.heap.length ≤ s'.heap.length → MDelta s s'

theorem MDelta.fwd {s s' : State} (h : MDelta s s') {k m : Nat} (hk : Model.KeyedMutex.get s.map k = some m) :
    Model.KeyedMutex.get s'.map k = some m ∨ clearOk s k = true := by
  cases h with
  | same e _ => rw [e]; exact .inl hk
  | bind k₀ hn e _ =>
    rw [e, get_cons, if_neg (fun e' => by rw [e', hk] at hn; cases hn)]
    exact .inl hk
  | del k₀ hc e _ =>
    by_cases e' : k = k₀
    · rw [e']; exact .inr hc
    · rw [e, get_del_ne _ e']; exact .inl hk

theorem MDelta.back {s s' : State} (h : MDelta s s') {k m : Nat} (hk : Model.KeyedMutex.get s'.map k = some m) :
    Model.KeyedMutex.get s.map k = some m ∨ s.heap.length ≤ m := by
  cases h with
  | same e _ => rw [e] at hk; exact .inl hk
  | bind k₀ hn e _ =>
    rw [e, get_cons] at hk
    split at hk
    · cases hk; exact .inr (Nat.le_refl _)
    · exact .inl hk
  | del k₀ hc e _ => rw [e] at hk; exact .inl (get_del_some hk).2

theorem length_lt_snoc {α : Type} (l : List α) (x : α) : l.length < (l ++ [x]).length := by
  rw [List.length_append]; exact Nat.lt_succ_self _

theorem WDelta.frame {t k : Nat} {μ x : Mu} {wh wh' : List (Nat × Nat)} (h : WDelta t k μ x wh wh') {t' : Nat}
    (hne : t' ≠ t) (k' : Nat) : (t', k') ∈ wh' ↔ (t', k') ∈ wh := by
  cases h with
  | same _ e => rw [e]
  | acq _ _ _ e => rw [e]; exact mem_cons_ne hne
  | rel _ _ e => rw [e]; exact mem_erase_ne hne

theorem RDelta.frame {t k : Nat} {μ x : Mu} {rh rh' : List (Nat × Nat)} (h : RDelta t k μ x rh rh') {t' : Nat}
    (hne : t' ≠ t) (k' : Nat) : (t', k') ∈ rh' ↔ (t', k') ∈ rh := by
  cases h with
  | same _ e => rw [e]
  | acq _ _ _ e => rw [e]; exact mem_cons_ne hne
  | rel _ e => rw [e]; exact mem_erase_ne hne

inductive Eff (s : State) (t : Nat) (s' : State) : Prop
  /-- a step on the map: the cells and the holders stay, a key may be bound to the fresh cell or deleted -/
  | map (p' : Pc) (pcs : s'.pcs = s.pcs.set t p') (mu : ∀ m, s'.mu m = s.mu m)
      (wh : s'.wh = s.wh) (rh : s'.rh = s.rh)
      (md : MDelta s s')
      (offP : inPending (s.pc t) = false) (offQ : inWq (s.pc t) = false) (thr : ThreadOk s' t)
  /-- a step on the cell `m` of `t`'s key `k`, which becomes `x` -/
  | cell (p' : Pc) (k m : Nat) (x : Mu) (pcs : s'.pcs = s.pcs.set t p')
      (own : loc (s.pc t) = some (k, m))
      (map : s'.map = s.map) (len : s'.heap.length = s.heap.length)
      (mu : ∀ m', s'.mu m' = if m' = m then x else s.mu m')
      (pend : QDelta inPending t (s.pc t) p' (s.mu m).pending x.pending)
      (wq : QDelta inWq t (s.pc t) p' (s.mu m).wq x.wq)
      (wr : WDelta t k (s.mu m) x s.wh s'.wh) (rd : RDelta t k (s.mu m) x s.rh s'.rh) (thr : ThreadOk s' t)

theorem eff_set (hg : Good s) {p' : Pc} {k m : Nat} {x : Mu} {wh rh : List (Nat × Nat)} (own : loc (s.pc t) = some (k, m))
    (pend : QDelta inPending t (s.pc t) p' (s.mu m).pending x.pending) (wq : QDelta inWq t (s.pc t) p' (s.mu m).wq x.wq)
    (wr : WDelta t k (s.mu m) x s.wh wh) (rd : RDelta t k (s.mu m) x s.rh rh)
    (thr : ThreadOk ⟨s.pcs.set t p', s.map, s.heap.set m x, wh, rh⟩ t) :
    Eff s t ⟨s.pcs.set t p', s.map, s.heap.set m x, wh, rh⟩ :=
  .cell p' k m x rfl own rfl List.length_set (fun m' => mu_mk_set s m m' x (hg.mapLt _ _ (loc_get hg own)) _ _ _ _)
    pend wq wr rd thr

theorem step_eff (hg : Good s) (ht : t < s.pcs.length) (hs : Step rw true ops s t l s') : Eff s t s' := by
  have hT := hg.thread t
  cases hs with
  | inv op hpc hop hok =>
    exact .map _ rfl (fun _ => rfl) rfl rfl (.same rfl (Nat.le_refl _))
      (congrArg inPending hpc) (congrArg inWq hpc) (threadOk_set ht rfl (disc_of_invOk hok))
  | ret r hpc =>
    exact .map _ rfl (fun _ => rfl) rfl rfl (.same rfl (Nat.le_refl _))
      (congrArg inPending hpc) (congrArg inWq hpc) (threadOk_set ht rfl trivial)
  | tryFail kd k m hpc hkd =>
    exact .map _ rfl (fun _ => rfl) rfl rfl (.same rfl (Nat.le_refl _))
      (congrArg inPending hpc) (congrArg inWq hpc) (threadOk_set ht rfl trivial)
  | hit kd k m hpc hkd hm =>
    exact .map _ rfl (fun m' => mu_mk_append s m' _ _ _ _) rfl rfl
      (.same rfl (Nat.le_of_lt (length_lt_snoc _ _)))
      (congrArg inPending hpc) (congrArg inWq hpc) (threadOk_set ht rfl ⟨hm, (threadOk_at hpc).mp hT⟩)
  | miss kd k hpc hkd hm =>
    exact .map _ rfl (fun m' => mu_mk_append s m' _ _ _ _) rfl rfl
      (.bind k hm rfl (length_lt_snoc _ _)) (congrArg inPending hpc) (congrArg inWq hpc)
      (threadOk_set ht rfl ⟨(get_cons k _ _ k).trans (if_pos rfl),
        (threadOk_at hpc).mp hT⟩)
  | clear k hpc hok =>
    exact .map _ rfl (fun _ => rfl) rfl rfl (.del k (hok rfl) rfl (Nat.le_refl _))
      (congrArg inPending hpc) (congrArg inWq hpc)
      (threadOk_set ht rfl trivial)
  | queue k m p' P Q hq =>
    -- the three queue steps differ in where `t` stands, how it moves between the two queues, and where it goes
    have cell : loc (s.pc t) = some (k, m) → QDelta inPending t (s.pc t) p' (s.mu m).pending P →
        QDelta inWq t (s.pc t) p' (s.mu m).wq Q → (get s.map k = some m → ThreadOk (queueStep s t m p' P Q) t) →
        Eff s t (queueStep s t m p' P Q) := fun own hP hQ thr =>
      eff_set hg own hP hQ (.same rfl rfl) (.same rfl rfl) (thr (loc_get hg own))
    rcases hq with ⟨hp, rfl, rfl, rfl⟩ | ⟨hp, rfl, rfl, rfl⟩ | ⟨hp, rfl, rfl, rfl⟩
    · exact cell (congrArg loc hp) (.same (congrArg inPending hp) rfl)
        (.join (congrArg inWq hp) rfl (congrArg loc hp).symm rfl) (threadOk_set ht rfl ·)
    · exact cell (congrArg loc hp) (.join (congrArg inPending hp) rfl (congrArg loc hp).symm rfl) (.leave rfl)
        (threadOk_set ht rfl ·)
    · exact cell (congrArg loc hp) (.same (congrArg inPending hp) rfl) (.leave rfl) (fun _ => threadOk_set ht rfl trivial)
  | acqW k m r hpc hw hr =>
    have own : loc (s.pc t) = some (k, m) ∧ inWq (s.pc t) = false := by
      rcases hpc with h | h | h <;> rw [h] <;> exact ⟨rfl, rfl⟩
    exact eff_set hg own.1 (.leave rfl) (.same own.2 rfl) (.acq hw rfl hr rfl) (.same rfl rfl)
      (threadOk_set ht rfl trivial)
  | unlock k m p' Q hpc hq =>
    have own : loc (s.pc t) = some (k, m) := congrArg loc hpc
    have hk := loc_get hg own
    -- `t` may only unlock what it holds, so it is the writer
    have hw : (s.mu m).writer = some t := hg.writer_at hk ((act_ok hT hpc).2.1 rfl)
    refine eff_set hg own (.same (congrArg inPending hpc) rfl) ?_ (.rel hw rfl rfl) (.same rfl rfl) ?_
    · rcases hq with ⟨rfl, rfl⟩ | ⟨rfl, rfl⟩
      · exact .join (congrArg inWq hpc) rfl (congrArg loc hpc).symm rfl
      · exact .same (congrArg inWq hpc) rfl
    · rcases hq with ⟨rfl, _⟩ | ⟨rfl, _⟩
      · exact threadOk_set ht rfl hk
      · exact threadOk_set ht rfl trivial
  | acqR kd k m r hpc hkd hw =>
    exact eff_set hg (congrArg loc hpc) (.same (congrArg inPending hpc) rfl) (.same (congrArg inWq hpc) rfl)
      (.same rfl rfl) (.acq ((act_ok hT hpc).2.2.2 hkd) hw rfl rfl) (threadOk_set ht rfl trivial)
  | runlock k m hpc =>
    exact eff_set hg (congrArg loc hpc) (.same (congrArg inPending hpc) rfl) (.same (congrArg inWq hpc) rfl)
      (.same rfl rfl) (.rel rfl rfl) (threadOk_set ht rfl trivial)

theorem thread_step (hg : Good s) (ht : t < s.pcs.length) (he : Eff s t s') :
    ∀ t', ThreadOk s' t' := by
  intro t'
  cases he with
  | map p' pcs mu wh rh md offP offQ thr =>
    by_cases e : t' = t
    · rw [e]; exact thr
    · refine threadOk_frame ((pc_of_set ht pcs t').trans (if_neg e)) (fun k m hon h => ?_) (fun _ => by rw [wh]) (fun _ => by rw [rh])
        (hg.thread t')
      -- a key that some goroutine is on is not cleared
      refine (md.fwd h).resolve_right (fun hc => ?_)
      have := ((clearOk_iff s k).mp hc).2.2 t'
      rw [hon] at this; cases this
  | cell p' k m x pcs own map len mu pend wq wr rd thr =>
    by_cases e : t' = t
    · rw [e]; exact thr
    · exact threadOk_frame ((pc_of_set ht pcs t').trans (if_neg e)) (fun _ _ _ h => by rw [map]; exact h) (wr.frame e) (rd.frame e)
        (hg.thread t')

theorem mapLt_step (hg : Good s) (he : Eff s t s') :
    ∀ k m, Model.KeyedMutex.get s'.map k = some m → m < s'.heap.length := by
  intro k' m' h
  cases he with
  | map p' pcs mu wh rh md offP offQ thr =>
    cases md with
    | same e hl => rw [e] at h; exact Nat.lt_of_lt_of_le (hg.mapLt _ _ h) hl
    | bind k hn e hl =>
      rw [e, get_cons] at h
      split at h
      · cases h; exact hl
      · exact Nat.lt_trans (hg.mapLt _ _ h) hl
    | del k hc e hl => rw [e] at h; exact Nat.lt_of_lt_of_le (hg.mapLt _ _ (get_del_some h).2) hl
  | cell p' k m x pcs own map len mu pend wq wr rd thr => rw [map] at h; rw [len]; exact hg.mapLt _ _ h

theorem mapInj_step (hg : Good s) (he : Eff s t s') :
    ∀ k₁ k₂ m, Model.KeyedMutex.get s'.map k₁ = some m → Model.KeyedMutex.get s'.map k₂ = some m → k₁ = k₂ := by
  intro k₁ k₂ m' h₁ h₂
  cases he with
  | map p' pcs mu wh rh md offP offQ thr =>
    cases md with
    | same e _ => rw [e] at h₁ h₂; exact hg.mapInj _ _ _ h₁ h₂
    | bind k hn e _ =>
      -- the fresh cell is beyond those of the old keys
      rw [e, get_cons] at h₁ h₂
      split at h₁ <;> split at h₂
      · subst_vars; rfl
      · cases h₁; exact absurd (hg.mapLt _ _ h₂) (Nat.lt_irrefl _)
      · cases h₂; exact absurd (hg.mapLt _ _ h₁) (Nat.lt_irrefl _)
      · exact hg.mapInj _ _ _ h₁ h₂
    | del k hc e _ => rw [e] at h₁ h₂; exact hg.mapInj _ _ _ (get_del_some h₁).2 (get_del_some h₂).2
  | cell p' k m x pcs own map len mu pend wq wr rd thr => rw [map] at h₁ h₂; exact hg.mapInj _ _ _ h₁ h₂

theorem whNd_step (hg : Good s) (he : Eff s t s') : s'.wh.Nodup := by
  cases he with
  | map p' pcs mu wh rh md offP offQ thr => rw [wh]; exact hg.whNd
  | cell p' k m x pcs own map len mu pend wq wr rd thr =>
    cases wr with
    | same hx e => rw [e]; exact hg.whNd
    | acq hw hx hr e =>
      rw [e]
      exact List.nodup_cons.mpr ⟨fun hmem => absurd (hw.symm.trans (hg.writer_at (loc_get hg own) hmem)) nofun, hg.whNd⟩
    | rel hw hx e => rw [e]; exact hg.whNd.erase _

theorem rhNd_step (hg : Good s) (he : Eff s t s') : s'.rh.Nodup := by
  cases he with
  | map p' pcs mu wh rh md offP offQ thr => rw [rh]; exact hg.rhNd
  | cell p' k m x pcs own map len mu pend wq wr rd thr =>
    cases rd with
    | same hx e => rw [e]; exact hg.rhNd
    | acq hnot hxw hx e => rw [e]; exact List.nodup_cons.mpr ⟨hnot, hg.rhNd⟩
    | rel hx e => rw [e]; exact hg.rhNd.erase _

theorem whOk_step (hg : Good s) (he : Eff s t s') :
    ∀ t' k', (t', k') ∈ s'.wh → ∃ m', Model.KeyedMutex.get s'.map k' = some m' ∧ (s'.mu m').writer = some t' := by
  intro t' k' hmem
  cases he with
  | map p' pcs mu wh rh md offP offQ thr =>
    rw [wh] at hmem
    obtain ⟨m', h1, h2⟩ := hg.whOk _ _ hmem
    refine ⟨m', (md.fwd h1).resolve_right (fun h => ((clearOk_iff s k').mp h).1 t' hmem), ?_⟩
    rw [mu]; exact h2
  | cell p' k m x pcs own map len mu pend wq wr rd thr =>
    have hk := loc_get hg own
    rw [map]
    cases wr with
    | same hx e =>
      rw [e] at hmem
      obtain ⟨m', h1, h2⟩ := hg.whOk _ _ hmem
      refine ⟨m', h1, ?_⟩
      rw [mu]
      split
      · next em => rw [hx, ← em]; exact h2
      · exact h2
    | acq hw hx hr e =>
      rw [e] at hmem
      rcases List.mem_cons.mp hmem with e | hmem
      · cases e
        exact ⟨m, hk, by rw [mu, if_pos rfl]; exact hx⟩
      · obtain ⟨m', h1, h2⟩ := hg.whOk _ _ hmem
        refine ⟨m', h1, ?_⟩
        rw [mu, if_neg (fun em => by rw [em, hw] at h2; cases h2)]; exact h2
    | rel hw hx e =>
      rw [e] at hmem
      obtain ⟨hne, hmem⟩ := (hg.whNd.mem_erase_iff).mp hmem
      obtain ⟨m', h1, h2⟩ := hg.whOk _ _ hmem
      refine ⟨m', h1, ?_⟩
      -- the released mutex is another one: its writer `t` holds its key only
      rw [mu, if_neg (fun em => by
        rw [em, hw] at h2; cases h2
        exact hne (by rw [hg.mapInj _ _ _ h1 (em ▸ hk)]))]
      exact h2

theorem rhOk_step (hg : Good s) (he : Eff s t s') :
    ∀ t' k', (t', k') ∈ s'.rh → ∃ m', Model.KeyedMutex.get s'.map k' = some m' ∧ t' ∈ (s'.mu m').readers := by
  intro t' k' hmem
  cases he with
  | map p' pcs mu wh rh md offP offQ thr =>
    rw [rh] at hmem
    obtain ⟨m', h1, h2⟩ := hg.rhOk _ _ hmem
    refine ⟨m', (md.fwd h1).resolve_right (fun h => ((clearOk_iff s k').mp h).2.1 t' hmem), ?_⟩
    rw [mu]; exact h2
  | cell p' k m x pcs own map len mu pend wq wr rd thr =>
    have hk := loc_get hg own
    rw [map]
    cases rd with
    | same hx e =>
      rw [e] at hmem
      obtain ⟨m', h1, h2⟩ := hg.rhOk _ _ hmem
      refine ⟨m', h1, ?_⟩
      rw [mu]
      split
      · next em => rw [hx, ← em]; exact h2
      · exact h2
    | acq hnot hxw hx e =>
      rw [e] at hmem
      rcases List.mem_cons.mp hmem with e | hmem
      · cases e
        exact ⟨m, hk, by rw [mu, if_pos rfl, hx]; exact List.mem_cons_self⟩
      · obtain ⟨m', h1, h2⟩ := hg.rhOk _ _ hmem
        refine ⟨m', h1, ?_⟩
        rw [mu]
        split
        · next em => rw [hx, ← em]; exact List.mem_cons_of_mem _ h2
        · exact h2
    | rel hx e =>
      rw [e] at hmem
      obtain ⟨hne, hmem⟩ := (hg.rhNd.mem_erase_iff).mp hmem
      obtain ⟨m', h1, h2⟩ := hg.rhOk _ _ hmem
      refine ⟨m', h1, ?_⟩
      rw [mu]
      split
      · next em =>
        -- only another goroutine can still read-hold the key of this mutex
        have hne' : t' ≠ t := fun e => hne (by rw [e, hg.mapInj _ _ _ h1 (em ▸ hk)])
        rw [hx, ← em]
        exact (List.mem_erase_of_ne hne').mpr h2
      · exact h2

theorem excl_step (hg : Good s) (he : Eff s t s') :
    ∀ m', (s'.mu m').writer ≠ none → (s'.mu m').readers = [] := by
  intro m'
  cases he with
  | map p' pcs mu wh rh md offP offQ thr => rw [mu]; exact hg.excl m'
  | cell p' k m x pcs own map len mu pend wq wr rd thr =>
    rw [mu]
    split
    · cases wr with
      | same hxw _ =>
        cases rd with
        | same hxr _ => rw [hxw, hxr]; exact hg.excl m
        | acq _ hn _ _ => exact fun h => absurd hn h
        | rel hxr _ =>
          intro h
          rw [hxr, hg.excl m (hxw ▸ h)]; rfl
      | acq _ _ hr _ => exact fun _ => hr
      | rel _ hxw _ => exact fun h => absurd hxw h
    · exact hg.excl m'

theorem good_step (hg : Good s) (ht : t < s.pcs.length) (he : Eff s t s') : Good s' :=
  ⟨thread_step hg ht he, mapLt_step hg he, mapInj_step hg he, whOk_step hg he, rhOk_step hg he,
   excl_step hg he, whNd_step hg he, rhNd_step hg he⟩

end step

theorem good_succ {rw : Bool} {ops : List Op} {s s' : State} {l : Option Event}
    (hg : Good s) (h : (l, s') ∈ succ rw true ops s) : Good s' := by
  obtain ⟨t, ht, hs⟩ := step_of_succ h
  exact good_step hg ht (step_eff hg ht hs)

theorem good_reachable (rw : Bool) (n : Nat) (ops : List Op) :
    ∀ s, Reachable (sys rw n ops) s → Good s :=
  Conc.invariant (sys rw n ops) Good (good_init n) (fun _ _ _ hg hm => good_succ hg hm)

end TypVerif.Lemmas.KeyedMutex
