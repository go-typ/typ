import TypVerif.Lemmas.PubSubLogMain
import TypVerif.Lemmas.PubSubLive
/-
`subs` is constant while a reader holds the lock (system without clones): the writers' critical sections
(Sub, Unsub, UnsubAll) need a reader count of 0, everything else leaves `subs` alone.
-/
namespace TypVerif.Lemmas.PubSubLog
open TypVerif TypVerif.Model.PubSub TypVerif.Lemmas.PubSubStep TypVerif.Lemmas.PubSubSafe
open TypVerif.Lemmas.PubSubLive (isWaiter)

/-- a task step leaves `subs` alone, unless it is a writer's critical section (possible only with no reader inside) -/
theorem subs_taskStep {cfg : Cfg} {s s' : State} {i : Nat} {t : Task} (hs : Safe s) (hi : s.tasks[i]? = some t)
    (h : TaskStep cfg s i t s') :
    (s'.obj 0).subs = (s.obj 0).subs ∨ (isWaiter t = true ∧ (s.obj 0).rw.readers = 0) := by
  rcases (PubSubRed.taskStep_lockView h 0).2 with ⟨e, _⟩ | ⟨hw, hk⟩ | hw
  · exact .inl e
  · exact .inr ⟨by rw [PubSubLive.isWaiter_eq, hw]; rfl, readers_of_canLock hk⟩
  · obtain ⟨_, _, rfl⟩ := PubSubRed.woOf_eq hw
    exact (hs.obj0 _ (List.mem_of_getElem? hi)).elim

/-- a step leaves `subs` alone, unless it is the critical section of a writer task `j` with no reader inside -/
theorem subs_step {cfg : Cfg} {s s' : State} {l : Option Event} (hs : Safe s)
    (h : (l, s') ∈ succ cfg s) : (s'.obj 0).subs = (s.obj 0).subs ∨
    ((s.obj 0).rw.readers = 0 ∧ ∃ (j : Nat) (t : Task), s.tasks[j]? = some t ∧ isWaiter t = true ∧
      TaskStep cfg s j t s') := by
  cases step_of_mem_succ h with
  | exit => exact .inl rfl
  | env he => exact .inl (congrArg _ (envStep_objs he (hs.objs1 ▸ Nat.one_pos)).2)
  | work hw =>
    cases hw with
    | recv => exact .inl rfl
    | task hi ht =>
      rcases subs_taskStep hs hi ht with h1 | ⟨h1, h2⟩
      · exact .inl h1
      · exact .inr ⟨h2, _, _, hi, h1, ht⟩

/-- PubSync / PubSliceSync without clones: while the call's task is in its loop (it holds the read lock from the
snapshot to the return), `subs` of the PubSub value is what the snapshot read -/
structure SubsInv (i p o : Nat) (X : List Chan) (s : State) : Prop where
  const : ∀ work cb, s.tasks[i]? = some (.syncLoop p o work cb) → (s.obj 0).subs = X

theorem subsInv_step {cfg : Cfg} (hc : cfg.allowClone = false) {i p o : Nat} {keys : List Key} {X : List Chan}
    {s s' : State} {l : Option Event} (hr : Conc.Reachable (sys cfg) s) (hS : SyncInv i p o keys s)
    (hI : SubsInv i p o X s) (h : (l, s') ∈ succ cfg s) : SubsInv i p o X s' := by
  have hs := no_panic_noClone cfg hc s hr
  constructor
  intro work' cb' hi'
  obtain ⟨t, pre, hi, hct, _⟩ := hS.mine
  -- task `i` was already in its loop before the step
  have hloop : ∃ work cb, t = .syncLoop p o work cb := by
    rcases bstep_at (succ_bstep h) hi with hsame | ⟨t', new, dl, tl, hT, h1, _⟩
    · rw [hsame] at hi'; cases hi'; exact ⟨_, _, rfl⟩
    · exact (tstep_callTask hT hct).2 _ _ (Option.some.inj (h1.symm.trans hi'))
  obtain ⟨work, cb, rfl⟩ := hloop
  have hpos := readers_pos hs hi rfl
  rcases subs_step hs h with h1 | ⟨h0, _⟩
  · rw [h1]; exact hI.const work cb hi
  · omega

theorem CallRun.subsInv {cfg : Cfg} (hc : cfg.allowClone = false) {s0 s1 s2 : State} {i p o : Nat} {v : Variant}
    {evs : List Int} (h : CallRun cfg s0 s1 s2 i p o v evs) (hv : v.isSync = true) :
    o = 0 ∧ SubsInv i p o (s0.obj 0).subs s2 := by
  have hs0 := no_panic_noClone cfg hc s0 h.reach
  have ho : o = 0 := hs0.obj0 _ (List.mem_of_getElem? h.at0)
  refine ⟨ho, ?_⟩
  obtain ⟨l, h01, hne⟩ := h.snap
  have h1 : SubsInv i p o (s0.obj 0).subs s1 := by
    constructor
    intro _ _ _
    rcases subs_step hs0 h01 with e | ⟨_, j, t, hj, hw, hstep⟩
    · exact e
    · exfalso
      have hji : j ≠ i := by
        intro e; subst e
        rw [h.at0] at hj; cases hj
        simp [isWaiter] at hw
      exact hne (taskStep_other hj hstep hji (lt_length_of_getElem? h.at0))
  obtain ⟨ls, hex⟩ := h.run
  exact ((Conc.Exec.invariant' (sys := sys cfg)
    (fun s => SyncInv i p o (callKeys p evs (s0.obj o).subs) s ∧ SubsInv i p o (s0.obj 0).subs s)
    (fun s _ _ hr hI hstep => ⟨syncInv_bstep (fun k hk => callKeys_pid hk) hI.1 (succ_bstep hstep),
      subsInv_step hc hr hI.1 hI.2 hstep⟩)
    hex h.reach1 ⟨h.snapshot.syncInv hv, h1⟩).2).2

end TypVerif.Lemmas.PubSubLog
