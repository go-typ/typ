import TypVerif.Conc.Sys
/-
What holds of every `Conc.Sys`: executions, and soundness of the generic trace acceptor of `Conc/Sys.lean`.

Executions.  Four inductions over `Exec` are stated once here and used by instance everywhere else: a step-stable predicate is
carried along an execution (`Exec.invariant`, `Exec.labels`); an execution is moved to another system along a relation between
the states, step by step with the same labels (`Exec.rel_map`, `Exec.map`: padding with idle goroutines, erased ghost state,
a parameter only other events depend on) or each step by an execution with the same visible label (`Exec.rel_sim`:
a reduced system, a system followed through normal forms); and what a judge's fold over the visible trace maintains along an execution
of the model (`Exec.fold_inv`).

The acceptor.  Every state kept by the subset construction is reached by an execution of the system whose visible labels are
exactly the events consumed so far; hence an accepted trace is the visible trace of an execution from the initial state.
(Only soundness: the fuel bound and the early exit of `tauClosure` make the acceptor incomplete in general; what it does reach
is in `ConcComplete.lean`.)
No lawfulness of `BEq sys.State` is needed (`dedup` only ever drops elements), and `LawfulBEq sys.Event` is needed only where an event is compared (`stepEvent`).
-/
namespace TypVerif.Conc

theorem Exec.single {sys : Sys} {s s' : sys.State} {l : Option sys.Event} (h : (l, s') ∈ sys.succ s) :
    Exec sys s [l] s' := Exec.cons h (Exec.nil s')

theorem Exec.append {sys : Sys} {a b c : sys.State} {ls1 ls2 : List (Option sys.Event)}
    (h1 : Exec sys a ls1 b) (h2 : Exec sys b ls2 c) : Exec sys a (ls1 ++ ls2) c := by
  induction h1 with
  | nil s => simpa using h2
  | cons hm _ ih => exact Exec.cons hm (ih h2)

theorem Exec.snoc {sys : Sys} {a b c : sys.State} {ls : List (Option sys.Event)} {l : Option sys.Event}
    (h1 : Exec sys a ls b) (h2 : (l, c) ∈ sys.succ b) : Exec sys a (ls ++ [l]) c :=
  Exec.append h1 (Exec.single h2)

theorem exec_of_append {S : Sys} {s s' : S.State} {l1 l2 : List (Option S.Event)}
    (h : Exec S s (l1 ++ l2) s') : ∃ m, Exec S s l1 m ∧ Exec S m l2 s' := by
  induction l1 generalizing s with
  | nil => exact ⟨s, Exec.nil s, h⟩
  | cons l l1 ih =>
    cases h with
    | cons hm ht =>
      obtain ⟨m, h1, h2⟩ := ih ht
      exact ⟨m, Exec.cons hm h1, h2⟩

theorem exec_split_mem {S : Sys} {s s' : S.State} {ls : List (Option S.Event)} {l : Option S.Event}
    (h : Exec S s ls s') (hl : l ∈ ls) :
    ∃ l1 l2 m m', Exec S s l1 m ∧ (l, m') ∈ S.succ m ∧ Exec S m' l2 s' := by
  obtain ⟨l1, l2, rfl⟩ := List.append_of_mem hl
  obtain ⟨m, h1, h2⟩ := exec_of_append h
  cases h2 with
  | cons hm h3 => exact ⟨l1, l2, m, _, h1, hm, h3⟩

theorem Exec.invariant {sys : Sys} (P : sys.State → Prop) (hstep : ∀ s l s', P s → (l, s') ∈ sys.succ s → P s')
    {a b : sys.State} {ls : List (Option sys.Event)} (h : Exec sys a ls b) : P a → P b := by
  induction h with
  | nil s => exact id
  | cons hm _ ih => exact fun ha => ih (hstep _ _ _ ha hm)

theorem Exec.reachable {sys : Sys} {a b : sys.State} {ls : List (Option sys.Event)}
    (h : Exec sys a ls b) (ha : Reachable sys a) : Reachable sys b :=
  Exec.invariant (Reachable sys) (fun _ _ _ hr hm => hr.step hm) h ha

theorem exec_of_reachable {sys : Sys} {s : sys.State} (h : Reachable sys s) : ∃ ls, Exec sys sys.init ls s := by
  induction h with
  | init => exact ⟨[], Exec.nil _⟩
  | step _ hm ih => obtain ⟨ls, he⟩ := ih; exact ⟨_, Exec.snoc he hm⟩

/-- `Exec.invariant` for a predicate that is step-stable on reachable states only -/
theorem Exec.invariant' {sys : Sys} (P : sys.State → Prop)
    (hstep : ∀ s l s', Reachable sys s → P s → (l, s') ∈ sys.succ s → P s')
    {a b : sys.State} {ls : List (Option sys.Event)} (h : Exec sys a ls b) (hr : Reachable sys a) (ha : P a) :
    Reachable sys b ∧ P b :=
  Exec.invariant (fun s => Reachable sys s ∧ P s) (fun s l s' hs hm => ⟨hs.1.step hm, hstep s l s' hs.1 hs.2 hm⟩) h ⟨hr, ha⟩

/-- what every step taken under the invariant `P` says of its label holds of all labels of an execution -/
theorem Exec.labels {sys : Sys} (P : sys.State → Prop) (Q : Option sys.Event → Prop)
    (hstep : ∀ s l s', P s → (l, s') ∈ sys.succ s → P s' ∧ Q l)
    {a b : sys.State} {ls : List (Option sys.Event)} (h : Exec sys a ls b) : P a → ∀ l ∈ ls, Q l := by
  induction h with
  | nil s => exact fun _ _ hl => nomatch hl
  | cons hm _ ih =>
    intro ha l hl
    obtain ⟨ha', hq⟩ := hstep _ _ _ ha hm
    rcases List.mem_cons.1 hl with rfl | hl
    · exact hq
    · exact ih ha' l hl

@[simp] theorem visible_nil {ε : Type} : visible ([] : List (Option ε)) = [] := rfl
@[simp] theorem visible_cons_none {ε : Type} (ls : List (Option ε)) : visible (none :: ls) = visible ls := rfl
@[simp] theorem visible_cons_some {ε : Type} (e : ε) (ls : List (Option ε)) :
    visible (some e :: ls) = e :: visible ls := rfl
@[simp] theorem visible_append {ε : Type} (a b : List (Option ε)) : visible (a ++ b) = visible a ++ visible b := by
  simp [visible, List.filterMap_append]

theorem visible_cons {ε : Type} (l : Option ε) (ls : List (Option ε)) :
    visible (l :: ls) = visible [l] ++ visible ls := by
  cases l <;> rfl

theorem mem_visible {ε : Type} {e : ε} {ls : List (Option ε)} : e ∈ visible ls ↔ some e ∈ ls := by
  simp [visible, List.mem_filterMap]

/-! ### `dedup`

Membership in `dedup xs` implies membership in `xs` for any `BEq`; the converse, and that the result is duplicate-free,
need a lawful one. -/
section Dedup
variable {α : Type} [BEq α]

def dstep (acc : List α) (x : α) : List α := if acc.contains x then acc else acc ++ [x]

theorem dedup_eq (xs : List α) : dedup xs = xs.foldl dstep [] := rfl

theorem dstep_prefix (acc : List α) (x : α) : acc <+: dstep acc x := by
  unfold dstep
  split
  · exact List.prefix_refl _
  · exact List.prefix_append _ _

theorem dfold_prefix (xs : List α) : ∀ acc : List α, acc <+: xs.foldl dstep acc := by
  induction xs with
  | nil => exact List.prefix_refl
  | cons x xs ih => exact fun acc => (dstep_prefix acc x).trans (ih _)

theorem dfold_acc (xs acc : List α) (y : α) (h : y ∈ acc) : y ∈ xs.foldl dstep acc :=
  (dfold_prefix xs acc).subset h

theorem mem_dfold (xs : List α) : ∀ (acc : List α) (x : α), x ∈ xs.foldl dstep acc → x ∈ acc ∨ x ∈ xs := by
  induction xs with
  | nil => intro acc x h; exact Or.inl h
  | cons y ys ih =>
    intro acc x h
    rcases ih _ x h with h' | h'
    · unfold dstep at h'
      split at h'
      · exact Or.inl h'
      · rcases List.mem_append.1 h' with h'' | h''
        · exact Or.inl h''
        · exact Or.inr (List.mem_singleton.1 h'' ▸ List.mem_cons_self)
    · exact Or.inr (List.mem_cons_of_mem _ h')

theorem mem_of_mem_dedup {xs : List α} {x : α} (h : x ∈ dedup xs) : x ∈ xs :=
  (mem_dfold xs [] x h).resolve_left List.not_mem_nil

variable [LawfulBEq α]

theorem dstep_of_not_mem {acc : List α} {x : α} (h : x ∉ acc) : dstep acc x = acc ++ [x] :=
  if_neg (mt List.contains_iff_mem.1 h)

theorem mem_dstep_self (acc : List α) (x : α) : x ∈ dstep acc x := by
  unfold dstep
  split
  · rename_i hc
    exact List.contains_iff_mem.1 hc
  · exact List.mem_append_right _ List.mem_cons_self

theorem dfold_mem (xs : List α) : ∀ (acc : List α) (y : α), y ∈ xs → y ∈ xs.foldl dstep acc := by
  induction xs with
  | nil => intro acc y h; cases h
  | cons x xs ih =>
    intro acc y h
    rcases List.mem_cons.1 h with rfl | h
    · exact dfold_acc xs _ _ (mem_dstep_self acc _)
    · exact ih _ y h

theorem mem_dedup {xs : List α} {x : α} (h : x ∈ xs) : x ∈ dedup xs := dfold_mem xs [] x h

theorem dstep_nodup {acc : List α} (x : α) (h : acc.Nodup) : (dstep acc x).Nodup := by
  unfold dstep
  split
  · exact h
  · rename_i hc
    refine List.nodup_append.2 ⟨h, List.pairwise_singleton _ x, fun a ha b hb e => hc (List.contains_iff_mem.2 ?_)⟩
    rw [← List.mem_singleton.1 hb, ← e]
    exact ha

theorem dfold_nodup (xs : List α) : ∀ acc : List α, acc.Nodup → (xs.foldl dstep acc).Nodup := by
  induction xs with
  | nil => exact fun _ h => h
  | cons x xs ih => exact fun acc h => ih _ (dstep_nodup x h)

theorem nodup_dedup (xs : List α) : (dedup xs).Nodup := dfold_nodup xs [] List.nodup_nil

theorem dfold_id (xs : List α) : ∀ acc : List α, (acc ++ xs).Nodup → xs.foldl dstep acc = acc ++ xs := by
  induction xs with
  | nil => exact fun acc _ => (List.append_nil acc).symm
  | cons x xs ih =>
    intro acc h
    have hx : x ∉ acc := fun hm => (List.nodup_append.1 h).2.2 x hm x List.mem_cons_self rfl
    rw [List.foldl_cons, dstep_of_not_mem hx, ih _ (by rwa [List.append_assoc]), List.append_assoc]
    rfl

theorem dedup_of_nodup (xs : List α) (h : xs.Nodup) : dedup xs = xs := dfold_id xs [] h

/-- for duplicate-free `ss`, the length test of `tauClosure` is a fixpoint test -/
theorem dedup_len_eq (ss next : List α) (hn : ss.Nodup) (h : (dedup (ss ++ next)).length = ss.length) :
    ∀ x ∈ next, x ∈ ss := by
  rw [dedup_eq, List.foldl_append, dfold_id ss [] hn, List.nil_append] at h
  intro x hx
  rw [(dfold_prefix next ss).eq_of_length h.symm]
  exact dfold_mem next ss x hx

end Dedup

section Accept
variable (sys : Sys) [BEq sys.State] [BEq sys.Event]

omit [BEq sys.Event] in
theorem tauClosure_sound (fuel : Nat) : ∀ (ss : List sys.State), ∀ s' ∈ tauClosure sys fuel ss,
    ∃ s ∈ ss, ∃ ls, Exec sys s ls s' ∧ visible ls = [] := by
  induction fuel with
  | zero => intro ss s' h; exact ⟨s', h, [], Exec.nil _, rfl⟩
  | succ fuel ih =>
    intro ss s' h
    unfold tauClosure at h
    simp only at h
    split at h
    · exact ⟨s', h, [], Exec.nil _, rfl⟩
    · obtain ⟨s1, hs1, ls, hex, hv⟩ := ih _ s' h
      rcases List.mem_append.1 (mem_of_mem_dedup hs1) with hm | hm
      · exact ⟨s1, hm, ls, hex, hv⟩
      · obtain ⟨s0, hs0, hm⟩ := List.mem_flatMap.1 hm
        obtain ⟨p, hp, hpe⟩ := List.mem_filterMap.1 hm
        obtain ⟨l, t⟩ := p
        cases l with
        | some e => simp at hpe
        | none =>
          simp only [Option.some.injEq] at hpe
          subst hpe
          exact ⟨s0, hs0, none :: ls, Exec.cons hp hex, by simpa using hv⟩

omit [BEq sys.Event] in
theorem tauClosure_nil (fuel : Nat) : tauClosure sys fuel [] = [] := by
  cases fuel with
  | zero => rfl
  | succ fuel => rfl

theorem stepEvent_nil (fuel : Nat) (e : sys.Event) : stepEvent sys fuel [] e = [] :=
  tauClosure_nil sys fuel

theorem stepEvent_sound [LawfulBEq sys.Event] (fuel : Nat) (ss : List sys.State) (e : sys.Event) :
    ∀ s' ∈ stepEvent sys fuel ss e, ∃ s ∈ ss, ∃ ls, Exec sys s ls s' ∧ visible ls = [e] := by
  intro s' h
  unfold stepEvent at h
  obtain ⟨s1, hs1, ls, hex, hv⟩ := tauClosure_sound sys fuel _ s' h
  obtain ⟨s0, hs0, hm⟩ := List.mem_flatMap.1 (mem_of_mem_dedup hs1)
  obtain ⟨p, hp, hpe⟩ := List.mem_filterMap.1 hm
  obtain ⟨l, t⟩ := p
  cases l with
  | none => simp at hpe
  | some e' =>
    simp only at hpe
    split at hpe
    · rename_i heq
      have : e' = e := eq_of_beq heq
      subst this
      simp only [Option.some.injEq] at hpe
      subst hpe
      exact ⟨s0, hs0, some e' :: ls, Exec.cons hp hex, by simp [hv]⟩
    · cases hpe

theorem foldl_stepEvent_sound [LawfulBEq sys.Event] (fuel : Nat) (tr : List sys.Event) :
    ∀ (ss : List sys.State), ∀ s' ∈ tr.foldl (stepEvent sys fuel) ss,
      ∃ s ∈ ss, ∃ ls, Exec sys s ls s' ∧ visible ls = tr := by
  induction tr with
  | nil => intro ss s' h; exact ⟨s', h, [], Exec.nil _, rfl⟩
  | cons e tr ih =>
    intro ss s' h
    rw [List.foldl_cons] at h
    obtain ⟨s1, hs1, ls2, hex2, hv2⟩ := ih _ s' h
    obtain ⟨s0, hs0, ls1, hex1, hv1⟩ := stepEvent_sound sys fuel ss e s1 hs1
    exact ⟨s0, hs0, ls1 ++ ls2, Exec.append hex1 hex2, by simp [hv1, hv2]⟩

theorem after_sound [LawfulBEq sys.Event] (fuel : Nat) (tr : List sys.Event) :
    ∀ s ∈ after sys fuel tr, ∃ ls, Exec sys sys.init ls s ∧ visible ls = tr := by
  intro s h
  unfold after at h
  obtain ⟨s1, hs1, ls2, hex2, hv2⟩ := foldl_stepEvent_sound sys fuel tr _ s h
  obtain ⟨s0, hs0, ls1, hex1, hv1⟩ := tauClosure_sound sys fuel _ s1 hs1
  rw [List.mem_singleton.1 hs0] at hex1
  exact ⟨ls1 ++ ls2, Exec.append hex1 hex2, by simp [hv1, hv2]⟩

theorem accepts_sound [LawfulBEq sys.Event] (fuel : Nat) (tr : List sys.Event) (h : accepts sys fuel tr = true) :
    ∃ ls s, Exec sys sys.init ls s ∧ visible ls = tr := by
  unfold accepts at h
  cases hA : after sys fuel tr with
  | nil => simp [hA] at h
  | cons s rest =>
    obtain ⟨ls, hex, hv⟩ := after_sound sys fuel tr s (by rw [hA]; exact List.mem_cons_self)
    exact ⟨ls, s, hex, hv⟩

omit [BEq sys.Event] in
/-- an enumeration of outcomes: the closure from the initial state, projected, duplicates removed -/
theorem outcomes_sound {β : Type} [BEq β] (f : sys.State → Option β) (fuel : Nat) :
    ∀ o ∈ dedup ((tauClosure sys fuel [sys.init]).filterMap f),
      ∃ (ls : List (Option sys.Event)) (s : sys.State), Exec sys sys.init ls s ∧ visible ls = [] ∧ f s = some o := by
  intro o ho
  obtain ⟨s, hs, hf⟩ := List.mem_filterMap.1 (mem_of_mem_dedup ho)
  obtain ⟨s0, hs0, ls, hex, hv⟩ := tauClosure_sound sys fuel _ s hs
  rw [List.mem_singleton.1 hs0] at hex
  exact ⟨ls, s, hex, hv, hf⟩

end Accept

/-! ### change of system

`Exec.rel_induct` is induction on an execution for a relation between start state, labels and end state.  The systems are
given by their components so that two systems over the same events can be named; on `Exec ⟨S, E, i, succ⟩ a ls b` the tactic
`induction` fails (the states' type is not a variable), hence the rule as a lemma. -/

theorem Exec.rel_induct {sys' : Sys} (R : sys'.State → List (Option sys'.Event) → sys'.State → Prop)
    (hnil : ∀ s, R s [] s)
    (hcons : ∀ s l s' ls s'', (l, s') ∈ sys'.succ s → R s' ls s'' → R s (l :: ls) s'')
    {a b : sys'.State} {ls : List (Option sys'.Event)} (h : Exec sys' a ls b) : R a ls b := by
  induction h with
  | nil s => exact hnil s
  | cons hm _ ih => exact hcons _ _ _ _ _ hm ih

section
variable {S S' E : Type} {i : S} {i' : S'} {succ : S → List (Option E × S)} {succ' : S' → List (Option E × S')}

/-- Each step of `succ` is matched, through the relation `R` between the states, by an execution of `succ'` with the same
visible label: then so is each execution, with the same visible trace (a reduced system, a system followed through normal
forms). -/
theorem Exec.rel_sim (R : S → S' → Prop)
    (hstep : ∀ s l s' t, R s t → (l, s') ∈ succ s →
      ∃ t' ls, Exec ⟨S', E, i', succ'⟩ t ls t' ∧ visible ls = visible [l] ∧ R s' t')
    {a b : S} {ls : List (Option E)} (h : Exec ⟨S, E, i, succ⟩ a ls b) :
    ∀ a', R a a' → ∃ b' ls', Exec ⟨S', E, i', succ'⟩ a' ls' b' ∧ visible ls' = visible ls ∧ R b b' := by
  refine Exec.rel_induct (sys' := ⟨S, E, i, succ⟩)
    (fun a ls b => ∀ a', R a a' → ∃ b' ls', Exec ⟨S', E, i', succ'⟩ a' ls' b' ∧ visible ls' = visible ls ∧ R b b')
    ?_ ?_ h
  · exact fun s a' ha => ⟨a', [], Exec.nil _, rfl, ha⟩
  · intro s l s' ls s'' hm ih a' ha
    obtain ⟨t', ls1, hex1, hv1, ht'⟩ := hstep s l s' a' ha hm
    obtain ⟨b', ls2, hex2, hv2, hb⟩ := ih t' ht'
    refine ⟨b', ls1 ++ ls2, Exec.append hex1 hex2, ?_, hb⟩
    cases l <;> simp [hv1, hv2]

/-- Each step of `succ` is matched, through `R`, by a step of `succ'` with the same label (`P` says which events the
execution may show, for a system parameter that only steps showing other events depend on): then each execution is matched
with the same labels. -/
theorem Exec.rel_map (R : S → S' → Prop) (P : E → Prop)
    (hstep : ∀ s l s' t, (∀ e, l = some e → P e) → R s t → (l, s') ∈ succ s → ∃ t', (l, t') ∈ succ' t ∧ R s' t')
    {a b : S} {ls : List (Option E)} (h : Exec ⟨S, E, i, succ⟩ a ls b) :
    (∀ e ∈ visible ls, P e) → ∀ a', R a a' → ∃ b', Exec ⟨S', E, i', succ'⟩ a' ls b' ∧ R b b' := by
  refine Exec.rel_induct (sys' := ⟨S, E, i, succ⟩)
    (fun a ls b => (∀ e ∈ visible ls, P e) → ∀ a', R a a' → ∃ b', Exec ⟨S', E, i', succ'⟩ a' ls b' ∧ R b b') ?_ ?_ h
  · exact fun s _ a' ha => ⟨a', Exec.nil _, ha⟩
  · intro s l s' ls s'' hm ih hP a' ha
    obtain ⟨t', hm', ht'⟩ := hstep s l s' a' (fun e he => hP e (by subst he; simp)) ha hm
    obtain ⟨b', hex, hb⟩ := ih (fun e he => hP e (by cases l <;> simp [he])) t' ht'
    exact ⟨b', Exec.cons (sys := ⟨S', E, i', succ'⟩) hm' hex, hb⟩

/-- `Exec.rel_map` for a function -/
theorem Exec.map (f : S → S') (P : E → Prop)
    (hstep : ∀ s l s', (∀ e, l = some e → P e) → (l, s') ∈ succ s → (l, f s') ∈ succ' (f s))
    {a b : S} {ls : List (Option E)} (h : Exec ⟨S, E, i, succ⟩ a ls b) (hP : ∀ e ∈ visible ls, P e) :
    Exec ⟨S', E, i', succ'⟩ (f a) ls (f b) := by
  obtain ⟨_, hex, rfl⟩ := Exec.rel_map (i' := i') (succ' := succ') (fun s t => t = f s) P
    (fun s l s' t hl ht hm => ⟨f s', ht ▸ hstep s l s' hl hm, rfl⟩) h hP (f a) rfl
  exact hex

end

/-- What a judge's fold over the visible trace maintains along an execution of the model: internal steps keep `I`, a step
showing `e` takes it to the judge state advanced by `e`. -/
theorem Exec.fold_inv {sys : Sys} {β : Type} (I : β → sys.State → Prop) (f : β → sys.Event → β)
    (htau : ∀ j s s', I j s → (none, s') ∈ sys.succ s → I j s')
    (hvis : ∀ j s e s', I j s → (some e, s') ∈ sys.succ s → I (f j e) s')
    {s s' : sys.State} {ls : List (Option sys.Event)} (h : Exec sys s ls s') :
    ∀ j, I j s → I ((visible ls).foldl f j) s' := by
  induction h with
  | nil s => exact fun j hj => hj
  | @cons s s1 s2 l ls hm _ ih =>
    intro j hj
    cases l with
    | none => exact ih j (htau j s s1 hj hm)
    | some e => exact ih _ (hvis j s e s1 hj hm)

end TypVerif.Conc

/-! ### executions by successor indices

Concrete executions of a transition system by successor indices, to exhibit reachable states
(non-vacuity witnesses): `pick sys s [i₀, i₁, …]` follows the `i₀`-th successor of `s`, then the `i₁`-th, ….
-/

namespace TypVerif.Lemmas.ChanExec
open TypVerif.Conc

def pick (sys : Sys) : sys.State → List Nat → Option sys.State
  | s, [] => some s
  | s, i :: is =>
    match (sys.succ s)[i]? with
    | some (_, s') => pick sys s' is
    | none => none

theorem reachable_pick (sys : Sys) : ∀ (path : List Nat) (s s' : sys.State),
    Reachable sys s → pick sys s path = some s' → Reachable sys s' := by
  intro path
  induction path with
  | nil => intro s s' hr h; simp [pick] at h; subst h; exact hr
  | cons i is ih =>
    intro s s' hr h
    unfold pick at h
    split at h
    · rename_i l s1 heq
      exact ih s1 s' (.step hr (List.mem_of_getElem? heq)) h
    · simp at h

theorem reachable_of_pick (sys : Sys) (path : List Nat) (s' : sys.State)
    (h : pick sys sys.init path = some s') : Reachable sys s' :=
  reachable_pick sys path sys.init s' .init h

end TypVerif.Lemmas.ChanExec
