import TypVerif.Lemmas.SetConc
/-
C09 on the REAL (step-level, concurrent) map: what `KeyedMutex`/`KeyedRWMutex` need from the embedded `sync2.Map`.

`LockKey(k)` is `m, _ := km.m.LoadOrStore(k, &sync.Mutex{}); m.Lock()`, `ClearKey(k)` is `km.m.Delete(k)`.  As long as
nobody clears `k`, all goroutines must end up with ONE mutex for `k` — also when they use a never-seen key simultaneously.
Here this is derived for every linearizable history of the ordinary map (hence, by `C04.conc_linearizable`, for every
execution of the step-level model of `sync2.Map`).
-/
namespace TypVerif.Lemmas.KeyedMapConc
open TypVerif TypVerif.Conc TypVerif.Model TypVerif.Model.AtomicObj
open TypVerif.Model.SyncMapConc (Op Res)
open TypVerif.Lemmas.Smc (mapSpec applyOp put del)
open TypVerif.Lemmas.AtomicObj
open TypVerif.Lemmas.SetConc

-- `[DecidableEq V]` is a section variable; the lemmas that do not need it take it all the same
set_option linter.unusedSectionVars false

variable {K V : Type} [DecidableEq K] [DecidableEq V]

/-- `op` neither overwrites nor removes key `k`: it is not `Store(k, _)`, `Delete(k)` or `LoadAndDelete(k)`
(`KeyedMutex` never calls `Store`; `Delete(k)` is `ClearKey(k)`) -/
def NoClear (k : K) : Op K V → Prop
  | .store k' _ => k' ≠ k
  | .loadAndDelete k' => k' ≠ k
  | .delete k' => k' ≠ k
  | .load _ => True
  | .loadOrStore _ _ => True
  | .range => True

instance (k : K) (op : Op K V) : Decidable (NoClear k op) := by
  cases op <;> unfold NoClear <;> infer_instance

/-- a `LoadOrStore` on `k` that reported `loaded = false` (its value was stored) -/
def storedK (k : K) : Op K V × Res K V → Bool
  | (.loadOrStore k' _, .pair _ false) => decide (k' = k)
  | _ => false

theorem storedK_iff (k : K) (op : Op K V) (r : Res K V) :
    storedK k (op, r) = true ↔ ∃ v a, op = .loadOrStore k v ∧ r = .pair a false := by
  constructor
  · intro h
    unfold storedK at h
    split at h
    · next k' v a e =>
      cases e
      exact ⟨v, a, of_decide_eq_true h ▸ rfl, rfl⟩
    · cases h
  · rintro ⟨v, a, rfl, rfl⟩
    exact decide_eq_true rfl

/-- what a sequential history `h` (newest first) of `NoClear k` operations ending in the map `σ` looks like at key `k` -/
structure KInv (k : K) (h : List (Op K V × Res K V)) (σ : K → Option V) : Prop where
  /-- as long as `k` is absent no `LoadOrStore(k, _)` has taken effect -/
  absent : σ k = none → (∀ v r, (Op.loadOrStore k v, r) ∉ h) ∧ h.countP (storedK k) = 0
  /-- once `k ↦ w`: every `LoadOrStore(k, v)` returned `(w, true)`, or `(w, false)` with `v = w`; the storing call is there;
  and it is the only one that reported `loaded = false` -/
  present : ∀ w, σ k = some w →
    (∀ v r, (Op.loadOrStore k v, r) ∈ h → r = .pair w true ∨ (r = .pair w false ∧ v = w)) ∧
    (Op.loadOrStore k w, Res.pair w false) ∈ h ∧ h.countP (storedK k) = 1

theorem kinv_nil (k : K) : KInv k ([] : List (Op K V × Res K V)) (fun _ => none) :=
  ⟨fun _ => ⟨fun _ _ h => by simp at h, rfl⟩, fun w h => by simp at h⟩

theorem kinv_other {k : K} {h : List (Op K V × Res K V)} {σ σ' : K → Option V} {op : Op K V} {r : Res K V}
    (hi : KInv k h σ) (hk : σ' k = σ k) (hop : ∀ v, op ≠ .loadOrStore k v) : KInv k ((op, r) :: h) σ' := by
  have hst : ¬ storedK k (op, r) = true := fun hs =>
    let ⟨v, _, h1, _⟩ := (storedK_iff k op r).mp hs
    hop v h1
  have hmem : ∀ v r', (Op.loadOrStore k v, r') ∈ (op, r) :: h → (Op.loadOrStore k v, r') ∈ h := by
    intro v r' hm
    rcases List.mem_cons.mp hm with hm | hm
    · injection hm with h1 h2
      exact absurd h1.symm (hop v)
    · exact hm
  have hcnt : ((op, r) :: h).countP (storedK k) = h.countP (storedK k) := List.countP_cons_of_neg hst
  constructor
  · intro hn
    rw [hk] at hn
    obtain ⟨h1, h2⟩ := hi.absent hn
    exact ⟨fun v r' hm => h1 v r' (hmem v r' hm), by rw [hcnt, h2]⟩
  · intro w hw
    rw [hk] at hw
    obtain ⟨h1, h2, h3⟩ := hi.present w hw
    exact ⟨fun v r' hm => h1 v r' (hmem v r' hm), List.mem_cons_of_mem _ h2, by rw [hcnt, h3]⟩

theorem kinv_hit {k : K} {h : List (Op K V × Res K V)} {σ : K → Option V} {v w : V}
    (hi : KInv k h σ) (hw : σ k = some w) : KInv k ((Op.loadOrStore k v, Res.pair w true) :: h) σ := by
  obtain ⟨h1, h2, h3⟩ := hi.present w hw
  constructor
  · intro hn; rw [hw] at hn; cases hn
  · intro w' hw'
    rw [hw] at hw'
    injection hw' with hw'
    subst hw'
    refine ⟨?_, List.mem_cons_of_mem _ h2, ?_⟩
    · intro v' r' hm
      rcases List.mem_cons.mp hm with hm | hm
      · injection hm with _ h5
        exact Or.inl h5
      · exact h1 v' r' hm
    · exact (List.countP_cons_of_neg Bool.false_ne_true).trans h3

theorem kinv_miss {k : K} {h : List (Op K V × Res K V)} {σ : K → Option V} {v : V}
    (hi : KInv k h σ) (hn : σ k = none) : KInv k ((Op.loadOrStore k v, Res.pair v false) :: h) (put σ k v) := by
  obtain ⟨h1, h2⟩ := hi.absent hn
  have hp : put σ k v k = some v := Smc.put_same σ k v
  constructor
  · intro hn'; rw [hp] at hn'; cases hn'
  · intro w hw
    rw [hp] at hw
    injection hw with hw
    subst hw
    refine ⟨?_, List.mem_cons_self, ?_⟩
    · intro v' r' hm
      rcases List.mem_cons.mp hm with hm | hm
      · injection hm with h4 h5
        injection h4 with _ h6
        exact Or.inr ⟨h5, h6⟩
      · exact absurd hm (h1 v' r')
    · have hs : storedK k (Op.loadOrStore k v, Res.pair v false) = true := decide_eq_true rfl
      rw [List.countP_cons_of_pos hs, h2]

theorem kinv_step {k : K} {h : List (Op K V × Res K V)} {σ σ' : K → Option V} {op : Op K V} {r : Res K V}
    (hi : KInv k h σ) (hs : NoClear k op) (happ : (σ', r) ∈ applyOp σ op) : KInv k ((op, r) :: h) σ' := by
  cases op with
  | load k' =>
    cases List.mem_singleton.mp happ
    exact kinv_other hi rfl nofun
  | store k' v' =>
    cases List.mem_singleton.mp happ
    exact kinv_other hi (Smc.put_other _ _ _ (Ne.symm hs)) nofun
  | loadAndDelete k' =>
    cases List.mem_singleton.mp happ
    exact kinv_other hi (Smc.del_other _ _ (Ne.symm hs)) nofun
  | delete k' =>
    cases List.mem_singleton.mp happ
    exact kinv_other hi (Smc.del_other _ _ (Ne.symm hs)) nofun
  | range => cases happ
  | loadOrStore k' v' =>
    have hop : k' ≠ k → ∀ v, Op.loadOrStore k' v' ≠ Op.loadOrStore k v := fun hk v hv => hk (Op.loadOrStore.inj hv).1
    cases hm : σ k' with
    | none =>
      rw [Smc.applyOp_loadOrStore_none v' hm] at happ
      cases List.mem_singleton.mp happ
      by_cases hk : k' = k
      · subst hk
        exact kinv_miss hi hm
      · exact kinv_other hi (Smc.put_other _ _ _ (Ne.symm hk)) (hop hk)
    | some w =>
      rw [Smc.applyOp_loadOrStore_some v' hm] at happ
      cases List.mem_singleton.mp happ
      by_cases hk : k' = k
      · subst hk
        exact kinv_hit hi hm
      · exact kinv_other hi rfl (hop hk)

/-- **The sequential fact.**  A sequential run of the ordinary map consisting of `NoClear k` operations satisfies `KInv k`. -/
theorem kinv_seqRun (k : K) : ∀ (h : List (Op K V × Res K V)) (σ : K → Option V),
    SeqRun (mapSpec K V) h σ → (∀ x ∈ h, NoClear k x.1) → KInv k h σ := by
  intro h
  induction h with
  | nil =>
    intro σ hs _
    have := seqRun_nil_inv hs
    subst this
    exact kinv_nil k
  | cons x h ih =>
    intro σ' hs hsafe
    obtain ⟨op, r⟩ := x
    obtain ⟨σ, hs0, happ⟩ := seqRun_cons_inv hs
    have hi := ih σ hs0 (fun y hy => hsafe y (List.mem_cons_of_mem _ hy))
    exact kinv_step hi (hsafe (op, r) List.mem_cons_self) happ

/-- For a linearization witness `log` (well-formed; its points form a sequential run of the ordinary map ending in `σ`) all
of whose invocations are `NoClear k`, in terms of its visible history:
* every completed `LoadOrStore(k, v)` call returned `(w, loaded)` where `w` is THE value `σ k = some w` — so all completed
  calls on `k` return the same `actual` — and `loaded = false` only if `v = w`;
* at most one completed call on `k` reported `loaded = false`;
* if `k` is present with value `w`, some goroutine invoked `LoadOrStore(k, w)` (the call that stored; it may still be pending). -/
theorem hist_agree (k : K) (log : List (Entry (Op K V) (Res K V))) (σ : K → Option V)
    (hseq : SeqRun (mapSpec K V) (linsOf log) σ) (hthr : ∀ t, (runThread t log).isSome = true)
    (hsafe : ∀ t op, Event.inv t op ∈ histOf log → NoClear k op) :
    (∀ t v r, (t, Op.loadOrStore k v, r) ∈ calls (histOf log) →
        ∃ w, σ k = some w ∧ (r = .pair w true ∨ (r = .pair w false ∧ v = w))) ∧
    (calls (histOf log)).countP (fun c => storedK k c.2) ≤ 1 ∧
    (∀ w, σ k = some w → ∃ t, Event.inv t (Op.loadOrStore k w) ∈ histOf log) := by
  -- what holds of every invoked operation holds of every linearized one
  have hi := kinv_seqRun k (linsOf log) σ hseq (lin_of_inv _ log hthr hsafe)
  rw [calls_histOf]
  refine ⟨?_, ?_, ?_⟩
  · intro t v r hc
    have hl := lin_mem_linsOf _ _ _ log (call_has_point log hthr _ hc)
    cases hm : σ k with
    | none => exact absurd hl ((hi.absent hm).1 v r)
    | some w => exact ⟨w, rfl, (hi.present w hm).1 v r hl⟩
  · refine Nat.le_trans (calls_le_linsOf log hthr (storedK k)) ?_
    cases hm : σ k with
    | none => rw [(hi.absent hm).2]; exact Nat.zero_le _
    | some w => rw [(hi.present w hm).2.2]; exact Nat.le_refl _
  · intro w hw
    exact lin_of_inv (fun op => ∃ t, Event.inv t op ∈ histOf log) log hthr (fun t op h => ⟨t, h⟩) _ (hi.present w hw).2.1

/-- follow a list of choices (`i`: the index of the successor to take) as far as they are valid -/
def schedRun (sy : Sys) : List Nat → sy.State → List (Option sy.Event) × sy.State
  | [], s => ([], s)
  | i :: rest, s =>
    match (sy.succ s)[i]? with
    | some (l, s') => let r := schedRun sy rest s'; (l :: r.1, r.2)
    | none => ([], s)

theorem schedRun_exec (sy : Sys) : ∀ (sched : List Nat) (s : sy.State),
    Exec sy s (schedRun sy sched s).1 (schedRun sy sched s).2 := by
  intro sched
  induction sched with
  | nil => intro s; exact Exec.nil s
  | cons i rest ih =>
    intro s
    unfold schedRun
    cases hx : (sy.succ s)[i]? with
    | none => exact Exec.nil s
    | some p =>
      obtain ⟨l, s'⟩ := p
      exact Exec.cons (List.mem_of_getElem? hx) (ih s')

end TypVerif.Lemmas.KeyedMapConc
