import TypVerif.Lemmas.KeyedMutexConcStep
/-
C09 on the step-level map, layer 4: what the composed invariant gives (the statements of `Props/C09conc.lean`).
-/
namespace TypVerif.Lemmas.KeyedMutexConc
open TypVerif TypVerif.Conc TypVerif.Model TypVerif.Model.SyncMapConc TypVerif.Model.RelObj TypVerif.Lemmas.Smc
open TypVerif.Model.KeyedMutexConc (Phase Kind Mu MId mapOp invOk invStep afterMap retOf valOf finish mapSteps contMap
  acqW acqR hookStep getMu putMu isLockPc enabled)

-- `[DecidableEq K]` is a section variable; the lemmas that do not need it take it all the same
set_option linter.unusedSectionVars false

variable {K : Type} [DecidableEq K]

theorem Inv.agree {k : K} {s : KState K} {a : AState K Nat} (h : Inv k s a) {t : Tid} {m : MId}
    (ho : s.obtained t k m) : absOf s.map.sh k = some m := by
  rw [← h.r.abs]
  rcases ho with ⟨kind, hp⟩ | hw | hr
  · exact (h.linkAt hp).2.2 rfl
  · exact h.mu.wkey t m hw
  · exact h.mu.rkey t m hr

/-- every value of the map is an identity that was offered for that key; identities are offered for one key -/
theorem Inv.distinct {k : K} {s : KState K} {a : AState K Nat} (h : Inv k s a) {k1 k2 : K} {m : MId}
    (h1 : absOf s.map.sh k1 = some m) (h2 : absOf s.map.sh k2 = some m) : k1 = k2 := by
  rw [← h.r.abs] at h1 h2
  exact h.off.func m k1 k2 (h.ak.vals k1 m h1) (h.ak.vals k2 m h2)

/-- the mutex a goroutine is parked at was offered for its key: it is not the mutex of another key -/
theorem Inv.hook_ne {k : K} {s : KState K} {a : AState K Nat} (h : Inv k s a) {t : Tid} {kind : Kind} {k2 : K} {m : MId}
    (hp : s.phase t = .atHook kind k2 m) {k1 : K} (hne : k2 ≠ k1) : absOf s.map.sh k1 ≠ some m := by
  intro h1
  rw [← h.r.abs] at h1
  exact hne (h.off.func m k2 k1 (h.linkAt hp).2.1 (h.ak.vals k1 m h1))

theorem Inv.holdsW_iff_writer {k : K} {s : KState K} {a : AState K Nat} (h : Inv k s a) {t : Tid} {m : MId}
    (hm : absOf s.map.sh k = some m) : s.holdsW t k = true ↔ (s.mu m).writer = some t := by
  rw [← h.r.abs] at hm
  rw [Lemmas.KeyedMutexConc.holdsW_iff]
  constructor
  · rintro ⟨m', hm'⟩
    obtain ⟨h1, h2⟩ := h.mu.writer_of_mem hm'
    rw [hm] at h1
    rw [Option.some.inj h1]; exact h2
  · intro hw
    refine ⟨m, List.count_pos_iff.mp ?_⟩
    rw [h.mu.wcount t m hm, if_pos hw]
    exact Nat.zero_lt_one

theorem Inv.holdsR_iff_reader {k : K} {s : KState K} {a : AState K Nat} (h : Inv k s a) {t : Tid} {m : MId}
    (hm : absOf s.map.sh k = some m) : s.holdsR t k = true ↔ t ∈ (s.mu m).readers := by
  rw [← h.r.abs] at hm
  rw [Lemmas.KeyedMutexConc.holdsR_iff]
  constructor
  · rintro ⟨m', hm'⟩
    obtain ⟨h1, h2⟩ := h.mu.reader_of_mem hm'
    rw [hm] at h1
    rw [Option.some.inj h1]; exact h2
  · intro hr
    refine ⟨m, List.count_pos_iff.mp ?_⟩
    rw [h.mu.rcount t m hm]
    exact List.count_pos_iff.mpr hr

theorem Inv.mutex {k : K} {s : KState K} {a : AState K Nat} (h : Inv k s a) {t1 t2 : Tid} {m1 m2 : MId}
    (h1 : (t1, k, m1) ∈ s.wh) (h2 : (t2, k, m2) ∈ s.wh) : t1 = t2 ∧ m1 = m2 := by
  obtain ⟨a1, w1⟩ := h.mu.writer_of_mem h1
  obtain ⟨a2, w2⟩ := h.mu.writer_of_mem h2
  rw [a1] at a2
  have := Option.some.inj a2
  subst this
  rw [w1] at w2
  exact ⟨Option.some.inj w2, rfl⟩

theorem Inv.rw_excl {k : K} {s : KState K} {a : AState K Nat} (h : Inv k s a) {t1 t2 : Tid} {m1 m2 : MId}
    (h1 : (t1, k, m1) ∈ s.wh) (h2 : (t2, k, m2) ∈ s.rh) : False := by
  obtain ⟨a1, w1⟩ := h.mu.writer_of_mem h1
  obtain ⟨a2, r2⟩ := h.mu.reader_of_mem h2
  rw [a1] at a2
  have := Option.some.inj a2
  subst this
  have := h.mu.wr m1 (by rw [w1]; intro hc; cases hc)
  rw [this] at r2
  cases r2

theorem Inv.wcount_le {k : K} {s : KState K} {a : AState K Nat} (h : Inv k s a) (t : Tid) (m : MId) :
    s.wh.count (t, k, m) ≤ 1 := by
  by_cases hm : (t, k, m) ∈ s.wh
  · rw [h.mu.wcount t m (h.mu.wkey t m hm)]
    split <;> simp
  · rw [List.count_eq_zero.mpr hm]; exact Nat.zero_le _

/-- `ret_facts` one map step later: the result the map goroutine is about to return after the step to `ms'` -/
theorem retOf_mapStep {k : K} {s : KState K} {a : AState K Nat} {t : Tid} {kind : Kind} {k' : K}
    {ms' : SyncMapConc.State K MId} {r : SyncMapConc.Res K MId} (h : Inv k s a)
    (ht : t < s.phases.length) (hph : s.phase t = .inMap kind k') (hmem : ms' ∈ mapSteps s.map t)
    (hr : retOf (ms'.pc t) = some r) (hk : kind ≠ .clear) :
    ∃ w b, r = .pair w b ∧ (w, k') ∈ s.offers ∧ (k' = k → absOf ms'.sh k = some w) := by
  have h1 := inv_mapStep h ht hph hmem
  have hf := ret_facts (s := { s with map := ms' }) h1 hph (retOf_eq_some hr)
  obtain ⟨w, b, h2, h3, h4⟩ := hf hk
  refine ⟨w, b, h2, h3, fun hkk => ?_⟩
  rw [← h4 hkk]
  exact (h1.r.abs k).symm

/-- the step in which a goroutine inside `UnlockKey(k)` / `RUnlockKey(k)` comes to return: its map call returns the map's
mutex `w` for `k` (in the map state `ms'` of that step), and the release `afterMap` is applied in the same step -/
theorem release_step {k : K} {s s' : KState K} {a : AState K Nat} {t : Tid} {l : Option (KeyedMutexConc.Event K)}
    {menu : List (KeyedMutexConc.Op K)} {kind : Kind} (h : Inv k s a) (hk : kind ≠ .clear)
    (ht : t < s.phases.length) (hph : s.phase t = .inMap kind k) (hstep : (l, s') ∈ KeyedMutexConc.stepT menu s t)
    (hdone : s'.phase t = .ret .done) :
    ∃ ms' w a', s' = afterMap { s with map := setPc ms' t ms'.sh .idle } t kind k w ∧
      Inv k { s with map := ms' } a' ∧ absOf ms'.sh k = some w := by
  rw [stepT_inMap menu hph] at hstep
  obtain ⟨ms', hms, heq⟩ := List.mem_map.mp hstep
  cases heq
  unfold contMap at hdone ⊢
  cases hr : retOf (ms'.pc t) with
  | none =>
    rw [hr] at hdone
    exact absurd (hph.symm.trans hdone) (by intro hc; cases hc)
  | some r =>
    obtain ⟨w, b, rfl, _, hwk⟩ := retOf_mapStep h ht hph hms hr hk
    exact ⟨ms', w, _, rfl, inv_mapStep h ht hph hms, hwk rfl⟩

theorem unlock_step {k : K} {s s' : KState K} {a : AState K Nat} {t : Tid} {l : Option (KeyedMutexConc.Event K)}
    {menu : List (KeyedMutexConc.Op K)} (h : Inv k s a)
    (ht : t < s.phases.length) (hph : s.phase t = .inMap .unlock k) (hstep : (l, s') ∈ KeyedMutexConc.stepT menu s t)
    (hdone : s'.phase t = .ret .done) :
    ∃ m, (t, k, m) ∈ s.wh ∧ (s.mu m).writer = some t ∧ absOf s'.map.sh k = some m ∧
      s'.wh = s.wh.erase (t, k, m) ∧ s'.mus = putMu s.mus m { s.mu m with writer := none } ∧
      s'.rh = s.rh ∧ s'.faults = s.faults := by
  obtain ⟨ms', w, a', rfl, h1, hwk⟩ := release_step h (by intro hc; cases hc) ht hph hstep hdone
  obtain ⟨m, hm⟩ := (h.linkAt hph).2.1 rfl rfl
  obtain ⟨ho, hw⟩ := h1.mu.writer_of_mem (s := { s with map := ms' }) hm
  rw [h1.r.abs] at ho
  cases Option.some.inj (hwk.symm.trans ho)
  exact ⟨w, hm, hw, hwk, rfl, rfl, rfl, if_pos hw⟩

theorem runlock_step {k : K} {s s' : KState K} {a : AState K Nat} {t : Tid} {l : Option (KeyedMutexConc.Event K)}
    {menu : List (KeyedMutexConc.Op K)} (h : Inv k s a)
    (ht : t < s.phases.length) (hph : s.phase t = .inMap .runlock k) (hstep : (l, s') ∈ KeyedMutexConc.stepT menu s t)
    (hdone : s'.phase t = .ret .done) :
    ∃ m, (t, k, m) ∈ s.rh ∧ t ∈ (s.mu m).readers ∧ absOf s'.map.sh k = some m ∧
      s'.rh = s.rh.erase (t, k, m) ∧ s'.mus = putMu s.mus m { s.mu m with readers := (s.mu m).readers.erase t } ∧
      s'.wh = s.wh ∧ s'.faults = s.faults := by
  obtain ⟨ms', w, a', rfl, h1, hwk⟩ := release_step h (by intro hc; cases hc) ht hph hstep hdone
  obtain ⟨m, hm⟩ := (h.linkAt hph).2.2 rfl rfl
  obtain ⟨ho, hr⟩ := h1.mu.reader_of_mem (s := { s with map := ms' }) hm
  rw [h1.r.abs] at ho
  cases Option.some.inj (hwk.symm.trans ho)
  exact ⟨w, hm, hr, hwk, rfl, rfl, rfl, if_pos hr⟩

theorem Inv.held_iff_not_free {k : K} {s : KState K} {a : AState K Nat} (h : Inv k s a) {m : MId}
    (hm : absOf s.map.sh k = some m) :
    ((∃ u, s.holdsW u k = true) ∨ (∃ u, s.holdsR u k = true)) ↔ ¬ (s.mu m).free := by
  constructor
  · rintro (⟨u, hu⟩ | ⟨u, hu⟩) hf
    · rw [h.holdsW_iff_writer hm, hf.1] at hu; cases hu
    · rw [h.holdsR_iff_reader hm, hf.2] at hu; cases hu
  · intro hf
    cases hw : (s.mu m).writer with
    | some u => exact Or.inl ⟨u, (h.holdsW_iff_writer hm).mpr hw⟩
    | none =>
      cases hr : (s.mu m).readers with
      | nil => exact absurd ⟨hw, hr⟩ hf
      | cons u rest => exact Or.inr ⟨u, (h.holdsR_iff_reader hm).mpr (by rw [hr]; exact List.mem_cons_self)⟩

theorem Inv.wheld_iff_not_readable {k : K} {s : KState K} {a : AState K Nat} (h : Inv k s a) {m : MId}
    (hm : absOf s.map.sh k = some m) : (∃ u, s.holdsW u k = true) ↔ ¬ (s.mu m).readable := by
  constructor
  · rintro ⟨u, hu⟩ hf
    rw [h.holdsW_iff_writer hm] at hu
    have hf' : (s.mu m).writer = none := hf
    rw [hf'] at hu; cases hu
  · intro hf
    cases hw : (s.mu m).writer with
    | some u => exact ⟨u, (h.holdsW_iff_writer hm).mpr hw⟩
    | none => exact absurd hw hf

theorem phase_acqW (s : KState K) (t : Tid) (k : K) (m : MId) (r : KeyedMutexConc.Res) (ht : t < s.phases.length) :
    (acqW s t k m r).phase t = .ret r := phase_of_set_self rfl ht

theorem phase_acqR (s : KState K) (t : Tid) (k : K) (m : MId) (r : KeyedMutexConc.Res) (ht : t < s.phases.length) :
    (acqR s t k m r).phase t = .ret r := phase_of_set_self rfl ht

theorem holdsW_acqW (s : KState K) (t : Tid) (k : K) (m : MId) (r : KeyedMutexConc.Res) :
    (acqW s t k m r).holdsW t k = true :=
  Lemmas.KeyedMutexConc.holdsW_iff.mpr ⟨m, List.mem_cons_self⟩

theorem holdsR_acqR (s : KState K) (t : Tid) (k : K) (m : MId) (r : KeyedMutexConc.Res) :
    (acqR s t k m r).holdsR t k = true :=
  Lemmas.KeyedMutexConc.holdsR_iff.mpr ⟨m, List.mem_cons_self⟩

theorem mu_acqW (s : KState K) (t : Tid) (k : K) (m : MId) (r : KeyedMutexConc.Res) :
    ((acqW s t k m r).mu m).writer = some t := by
  have : (acqW s t k m r).mus = putMu s.mus m { s.mu m with writer := some t } := rfl
  rw [mu_of_putMu_self this]

theorem mu_acqR (s : KState K) (t : Tid) (k : K) (m : MId) (r : KeyedMutexConc.Res) :
    t ∈ ((acqR s t k m r).mu m).readers := by
  have : (acqR s t k m r).mus = putMu s.mus m { s.mu m with readers := t :: (s.mu m).readers } := rfl
  rw [mu_of_putMu_self this]
  exact List.mem_cons_self

/-- the program points at which the map component has no atomic action to perform -/
def noExec {V : Type} : Pc K V → Bool
  | .idle => true
  | .ret _ => true
  | .dirtyPick _ _ _ _ _ => true
  | .rangePick _ _ => true
  | _ => false

theorem lockStep_isSome {V : Type} (sh : Shared K V) (t : Tid) (next : Pc K V) :
    (lockStep sh t next).isSome = sh.mu.isNone := by
  unfold lockStep
  cases sh.mu <;> rfl

/-- the atomic action of a map goroutine is enabled unless it is parked at `m.mu.Lock()` and `mu` is taken -/
theorem exec_isSome {V : Type} [Inhabited V] (sh : Shared K V) (t : Tid) (pc : Pc K V) :
    (exec sh t pc).isSome = (!noExec pc && (!isLockPc pc || sh.mu.isNone)) := by
  cases pc with
  | idle | ret _ | dirtyPick _ _ _ _ _ | rangePick _ _ => rfl
  | loadLock _ | storeLock _ _ | losLock _ _ | ladLock _ _ | rangeLock => exact lockStep_isSome sh t _
  | start op => cases op <;> rfl
  | loadMiss _ _ | loadPtr _ _ | storeLocked _ _ _ | dirtyRead _ _ _ _ | expLoad _ _ _ _ _ _ _ | expLoad2 _ _ _ _ _ _ _
  | readStore _ _ _ _ | losLoad _ _ _ _ | losLoad2 _ _ _ _ | losMiss _ _ | ladMiss _ _ _ | rangeStore _ => rfl
  | _ =>
    -- every branch of `exec` at these points ends in `some _`
    dsimp only [exec]
    repeat' split
    all_goals rfl

/-- a goroutine parked at `m.mu.Lock()` has an atomic action (no key choice) -/
theorem lockPc_facts {V : Type} {pc : Pc K V} (h : isLockPc pc = true) : noExec pc = false ∧ picks pc = [] := by
  unfold isLockPc at h
  split at h
  iterate 5 exact ⟨rfl, rfl⟩
  cases h

theorem mapSteps_eq_nil_iff (ms : SyncMapConc.State K MId) (t : Tid) :
    mapSteps ms t = [] ↔ (exec ms.sh t (ms.pc t)).isSome = false ∧ picks (ms.pc t) = [] := by
  unfold mapSteps
  cases he : exec ms.sh t (ms.pc t) with
  | none => simp
  | some p => simp

/-- enabledness of a goroutine inside its map call depends on its map program point and on the map's internal `mu` only -/
theorem enabled_inMap {menu : List (KeyedMutexConc.Op K)} {s : KState K} {t : Tid} {kind : Kind} {k : K}
    (hph : s.phase t = .inMap kind k) :
    enabled menu s t ↔
      ((!noExec (s.map.pc t) && (!isLockPc (s.map.pc t) || s.map.sh.mu.isNone)) = true ∨ picks (s.map.pc t) ≠ []) := by
  unfold enabled
  rw [stepT_inMap menu hph, Ne, List.map_eq_nil_iff, mapSteps_eq_nil_iff, exec_isSome]
  cases (!noExec (s.map.pc t) && (!isLockPc (s.map.pc t) || s.map.sh.mu.isNone)) <;> simp

theorem enabled_lockPc {menu : List (KeyedMutexConc.Op K)} {s : KState K} {t : Tid} {kind : Kind} {k : K}
    (hph : s.phase t = .inMap kind k) (hl : isLockPc (s.map.pc t) = true) : enabled menu s t ↔ s.map.sh.mu = none := by
  obtain ⟨h1, h2⟩ := lockPc_facts hl
  rw [enabled_inMap hph, h1, h2, hl]
  cases s.map.sh.mu <;> simp

/-- enabledness of a goroutine at its hook depends on the automaton of its mutex only -/
theorem enabled_atHook {menu : List (KeyedMutexConc.Op K)} {s : KState K} {t : Tid} {kind : Kind} {k : K} {m : MId}
    (hph : s.phase t = .atHook kind k m) :
    enabled menu s t ↔ KeyedMutexConc.hookEnabled kind (s.mu m) := by
  unfold enabled
  rw [stepT_atHook menu hph]
  cases kind with
  | lock => by_cases hf : (s.mu m).free <;> simp [hookStep, hf, KeyedMutexConc.hookEnabled]
  | rlock => by_cases hf : (s.mu m).readable <;> simp [hookStep, hf, KeyedMutexConc.hookEnabled]
  | trylock => by_cases hf : (s.mu m).free <;> simp [hookStep, hf, KeyedMutexConc.hookEnabled]
  | tryrlock => by_cases hf : (s.mu m).readable <;> simp [hookStep, hf, KeyedMutexConc.hookEnabled]
  | unlock | runlock | clear => simp [hookStep, KeyedMutexConc.hookEnabled]

theorem enabled_ret {menu : List (KeyedMutexConc.Op K)} {s : KState K} {t : Tid} {r : KeyedMutexConc.Res}
    (hph : s.phase t = .ret r) : enabled menu s t := by
  unfold enabled
  rw [stepT_ret menu hph]
  exact List.cons_ne_nil _ _

theorem enabled_idle {menu : List (KeyedMutexConc.Op K)} {s : KState K} {t : Tid} (hph : s.phase t = .idle) :
    enabled menu s t ↔ ∃ op ∈ menu, invOk s t op = true := by
  unfold enabled
  rw [stepT_idle menu hph, Ne, List.map_eq_nil_iff, List.filter_eq_nil_iff]
  constructor
  · intro h
    apply Classical.byContradiction
    intro hc
    exact h fun op hop ho => hc ⟨op, hop, ho⟩
  · rintro ⟨op, hop, ho⟩ h
    exact h op hop ho

theorem reachable_run (menu : List (KeyedMutexConc.Op K)) (n : Nat) (sched : List (Tid × Nat)) :
    ∀ s : KState K, Reachable (KeyedMutexConc.sys K menu n) s →
      Reachable (KeyedMutexConc.sys K menu n) (KeyedMutexConc.run menu sched s) := by
  induction sched with
  | nil => intro s h; exact h
  | cons p rest ih =>
    intro s h
    obtain ⟨t, i⟩ := p
    unfold KeyedMutexConc.run
    by_cases ht : t < s.phases.length
    · rw [if_pos ht]
      cases hs : (KeyedMutexConc.stepT menu s t)[i]? with
      | none => exact ih s h
      | some q =>
        refine ih q.2 (Reachable.step (l := q.1) h ?_)
        show (q.1, q.2) ∈ KeyedMutexConc.succ menu s
        exact List.mem_flatMap.mpr ⟨t, List.mem_range.mpr ht, List.mem_of_getElem? hs⟩
    · rw [if_neg ht]; exact ih s h

end TypVerif.Lemmas.KeyedMutexConc
