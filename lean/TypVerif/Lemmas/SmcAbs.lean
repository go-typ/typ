import TypVerif.Lemmas.SmcBasic
import TypVerif.Lemmas.RelObj
/-
C04 concurrent half: the ABSTRACT side of the simulation.  Every `witness` is the stepping goroutine's own abstract move followed by
`observeAll` (`witness_eq_observeAll`), and `observeAll` is a run of `RStep.observe`s.  So `Obs` holds after every step for free
(`obs_witness`), an internal concrete step is always matched abstractly (`sim_none`), and what a step proof has to supply about
`witness` is a `WitnessIs`: the new object and the stepping goroutine's abstract pc.
-/
namespace TypVerif.Lemmas.Smc
open TypVerif.Model TypVerif.Model.SyncMapConc TypVerif.Model.RelObj
open TypVerif.Model.SyncMap (alookup ainsert aerase akeys)
open TypVerif.Conc (Exec)

theorem rstate_ext {σ O Rs : Type} {a b : RState σ O Rs}
    (h1 : a.pcs = b.pcs) (h2 : a.obj = b.obj) (h3 : a.hist = b.hist) : a = b := by
  cases a; cases b; simp_all

theorem update_self {α : Type} (f : Nat → α) (t : Nat) : update f t (f t) = f := by
  funext u
  unfold update
  split
  · rename_i h; rw [h]
  · rfl

theorem singleton_pair_eq {α β : Type} {a a' : α} {b b' : β} :
    [(a, b)] = [(a', b')] ↔ a' = a ∧ b' = b := by
  constructor
  · intro h; cases h; exact ⟨rfl, rfl⟩
  · intro h; rw [h.1, h.2]

section
variable {K V : Type}

@[simp] theorem pureRes_load (m : K → Option V) (k : K) : pureRes m (.load k) = some (.val (m k)) := rfl

@[simp] theorem pureRes_store (m : K → Option V) (k : K) (v : V) : pureRes m (.store k v) = none := rfl

theorem pureRes_loadOrStore (m : K → Option V) (k : K) (v : V) :
    pureRes m (.loadOrStore k v) = (m k).map (fun w => .pair w true) := rfl

theorem pureRes_loadAndDelete (m : K → Option V) (k : K) :
    pureRes m (.loadAndDelete k) = if (m k).isNone then some (.val none) else none := rfl

theorem pureRes_delete (m : K → Option V) (k : K) :
    pureRes m (.delete k) = if (m k).isNone then some .done else none := rfl

@[simp] theorem pureRes_range (m : K → Option V) : pureRes m (.range : Op K V) = none := rfl

theorem isIdle_iff {a : APc K V} : IsIdle a ↔ a = .idle := by
  cases a <;> simp [IsIdle]

namespace Pend

theorem exists_pending {q : APc K V} {op : Op K V} (h : Pend q op) : ∃ seen, q = .pending op seen := by
  cases q with
  | idle => exact h.elim
  | done op' r' => exact h.elim
  | pending op' seen => exact ⟨seen, congrArg (RPc.pending · seen) h⟩

end Pend

theorem idle_update {pcs : Nat → APc K V} {n t : Nat} (hidle : ∀ u, n ≤ u → pcs u = .idle) (ht : t < n)
    (p : APc K V) : ∀ u, n ≤ u → update pcs t p u = .idle := by
  intro u hu
  have hne : u ≠ t := by omega
  rw [update_other _ _ _ hne]
  exact hidle u hu

theorem evOf_inv (t : Tid) {op : Op K V} (hop : op ≠ .range) :
    evOf (.inv t op : SyncMapConc.Event K V) = some (.inv t op) := by
  cases op <;> first | rfl | exact absurd rfl hop

@[simp] theorem evOf_inv_range (t : Tid) : evOf (.inv t .range : SyncMapConc.Event K V) = none := rfl

theorem evOf_res (t : Tid) {r : Res K V} (hr : ∀ l, r ≠ .pairs l) :
    evOf (.res t r : SyncMapConc.Event K V) = some (.res t r) := by
  cases r <;> first | rfl | exact absurd rfl (hr _)

@[simp] theorem evOf_res_pairs (t : Tid) (l : List (K × V)) :
    evOf (.res t (.pairs l) : SyncMapConc.Event K V) = none := rfl

theorem init_pc (n : Nat) (zst : Bool) (t : Tid) :
    (SyncMapConc.init n zst : State K V).pc t = .idle := by
  unfold State.pc SyncMapConc.init
  rw [List.getD_eq_getElem?_getD]
  by_cases h : t < n
  · rw [List.getElem?_replicate, if_pos h]; rfl
  · rw [List.getElem?_replicate, if_neg h]; rfl

theorem init_unprocessed (n : Nat) (zst : Bool) :
    unprocessed (SyncMapConc.init n zst : State K V) = [] := by
  unfold unprocessed SyncMapConc.init
  rw [List.flatMap_eq_nil_iff]
  intro x hx
  rw [List.eq_of_mem_replicate hx]
  rfl

end

section
variable {K V : Type} [DecidableEq K]

theorem put_apply (m : K → Option V) (k : K) (v : V) (k' : K) :
    put m k v k' = if k' = k then some v else m k' := rfl

theorem del_apply (m : K → Option V) (k : K) (k' : K) :
    del m k k' = if k' = k then none else m k' := rfl

@[simp] theorem put_same (m : K → Option V) (k : K) (v : V) : put m k v k = some v := by
  simp [put]

theorem put_other (m : K → Option V) (k : K) (v : V) {k' : K} (h : k' ≠ k) : put m k v k' = m k' := by
  simp [put, h]

@[simp] theorem del_same (m : K → Option V) (k : K) : del m k k = none := by
  simp [del]

theorem del_other (m : K → Option V) (k : K) {k' : K} (h : k' ≠ k) : del m k k' = m k' := by
  simp [del, h]

theorem del_eq_self {m : K → Option V} {k : K} (h : m k = none) : del m k = m := by
  funext k'
  unfold del
  split
  · rename_i hk; rw [hk, h]
  · rfl

theorem put_eq_self {m : K → Option V} {k : K} {v : V} (h : m k = some v) : put m k v = m := by
  funext k'
  unfold put
  split
  · rename_i hk; rw [hk, h]
  · rfl

@[simp] theorem applyOp_load (m : K → Option V) (k : K) :
    applyOp m (.load k) = [(m, .val (m k))] := rfl

@[simp] theorem applyOp_store (m : K → Option V) (k : K) (v : V) :
    applyOp m (.store k v) = [(put m k v, .done)] := rfl

theorem applyOp_loadOrStore (m : K → Option V) (k : K) (v : V) :
    applyOp m (.loadOrStore k v) =
      [match m k with | some w => (m, .pair w true) | none => (put m k v, .pair v false)] := rfl

@[simp] theorem applyOp_loadOrStore_some {m : K → Option V} {k : K} {w : V} (v : V) (h : m k = some w) :
    applyOp m (.loadOrStore k v) = [(m, .pair w true)] := by
  rw [applyOp_loadOrStore, h]

@[simp] theorem applyOp_loadOrStore_none {m : K → Option V} {k : K} (v : V) (h : m k = none) :
    applyOp m (.loadOrStore k v) = [(put m k v, .pair v false)] := by
  rw [applyOp_loadOrStore, h]

@[simp] theorem applyOp_loadAndDelete (m : K → Option V) (k : K) :
    applyOp m (.loadAndDelete k) = [(del m k, .val (m k))] := rfl

@[simp] theorem applyOp_delete (m : K → Option V) (k : K) :
    applyOp m (.delete k) = [(del m k, .done)] := rfl

@[simp] theorem applyOp_range (m : K → Option V) : applyOp m (.range : Op K V) = [] := rfl

theorem applyOp_load_eq {m σ' : K → Option V} {k : K} {r : Res K V} :
    applyOp m (.load k) = [(σ', r)] ↔ σ' = m ∧ r = .val (m k) := by
  rw [applyOp_load]; exact singleton_pair_eq

theorem applyOp_store_eq {m σ' : K → Option V} {k : K} {v : V} {r : Res K V} :
    applyOp m (.store k v) = [(σ', r)] ↔ σ' = put m k v ∧ r = .done := by
  rw [applyOp_store]; exact singleton_pair_eq

theorem applyOp_loadOrStore_eq {m σ' : K → Option V} {k : K} {v : V} {r : Res K V} :
    applyOp m (.loadOrStore k v) = [(σ', r)] ↔
      (∃ w, m k = some w ∧ σ' = m ∧ r = .pair w true) ∨ (m k = none ∧ σ' = put m k v ∧ r = .pair v false) := by
  cases h : m k with
  | none =>
    rw [applyOp_loadOrStore_none v h, singleton_pair_eq]
    constructor
    · intro hh; exact Or.inr ⟨rfl, hh⟩
    · intro hh
      rcases hh with ⟨w, hw, _⟩ | ⟨_, hh⟩
      · cases hw
      · exact hh
  | some w =>
    rw [applyOp_loadOrStore_some v h, singleton_pair_eq]
    constructor
    · intro hh; exact Or.inl ⟨w, rfl, hh⟩
    · intro hh
      rcases hh with ⟨w', hw, hh⟩ | ⟨hn, _⟩
      · cases hw; exact hh
      · cases hn

theorem applyOp_loadAndDelete_eq {m σ' : K → Option V} {k : K} {r : Res K V} :
    applyOp m (.loadAndDelete k) = [(σ', r)] ↔ σ' = del m k ∧ r = .val (m k) := by
  rw [applyOp_loadAndDelete]; exact singleton_pair_eq

theorem applyOp_delete_eq {m σ' : K → Option V} {k : K} {r : Res K V} :
    applyOp m (.delete k) = [(σ', r)] ↔ σ' = del m k ∧ r = .done := by
  rw [applyOp_delete]; exact singleton_pair_eq

theorem applyOp_range_ne {m σ' : K → Option V} {r : Res K V} :
    applyOp m (.range : Op K V) ≠ [(σ', r)] := by
  rw [applyOp_range]; intro h; cases h

/-- every operation of the atomic map has exactly one outcome -/
theorem applyOp_singleton (m : K → Option V) {op : Op K V} (hop : op ≠ .range) :
    ∃ σ' r, applyOp m op = [(σ', r)] := by
  cases op with
  | load k => exact ⟨_, _, rfl⟩
  | store k v => exact ⟨_, _, rfl⟩
  | loadOrStore k v => exact ⟨_, _, applyOp_loadOrStore m k v⟩
  | loadAndDelete k => exact ⟨_, _, rfl⟩
  | delete k => exact ⟨_, _, rfl⟩
  | range => exact absurd rfl hop

theorem mem_applyOp_of_eq {m σ' : K → Option V} {op : Op K V} {r : Res K V}
    (h : applyOp m op = [(σ', r)]) : (σ', r) ∈ applyOp m op := by
  rw [h]; exact List.mem_singleton.mpr rfl

/-- an effect-free result is a result of the sequential map that leaves the map unchanged -/
theorem pureRes_sound {m : K → Option V} {op : Op K V} {r : Res K V}
    (h : pureRes m op = some r) : (m, r) ∈ applyOp m op := by
  cases op with
  | load k =>
    rw [pureRes_load] at h
    cases h
    exact List.mem_singleton.mpr rfl
  | store k v => rw [pureRes_store] at h; cases h
  | loadOrStore k v =>
    rw [pureRes_loadOrStore] at h
    cases hm : m k with
    | none => rw [hm] at h; cases h
    | some w =>
      rw [hm] at h
      cases h
      rw [applyOp_loadOrStore_some v hm]
      exact List.mem_singleton.mpr rfl
  | loadAndDelete k =>
    rw [pureRes_loadAndDelete] at h
    cases hm : m k with
    | none =>
      rw [hm] at h
      cases h
      rw [applyOp_loadAndDelete, del_eq_self hm, hm]
      exact List.mem_singleton.mpr rfl
    | some w => rw [hm] at h; cases h
  | delete k =>
    rw [pureRes_delete] at h
    cases hm : m k with
    | none =>
      rw [hm] at h
      cases h
      rw [applyOp_delete, del_eq_self hm]
      exact List.mem_singleton.mpr rfl
    | some w => rw [hm] at h; cases h
  | range => rw [pureRes_range] at h; cases h

@[simp] theorem linPc_idle (obj : K → Option V) : linPc obj (.idle : APc K V) = (obj, .idle) := rfl

@[simp] theorem linPc_done (obj : K → Option V) (op : Op K V) (r : Res K V) :
    linPc obj (.done op r) = (obj, .done op r) := rfl

theorem linPc_pending_cons {obj σ' : K → Option V} {op : Op K V} {seen : List (Res K V)} {r : Res K V}
    {rest : List ((K → Option V) × Res K V)} (h : applyOp obj op = (σ', r) :: rest) :
    linPc obj (.pending op seen) = (σ', .done op r) := by
  simp only [linPc, h]

theorem linPc_pending_nil {obj : K → Option V} {op : Op K V} {seen : List (Res K V)}
    (h : applyOp obj op = []) : linPc obj (.pending op seen) = (obj, .pending op seen) := by
  simp only [linPc, h]

theorem linPc_cases (obj : K → Option V) (p : APc K V) :
    linPc obj p = (obj, p) ∨
      ∃ op seen σ' r, p = .pending op seen ∧ (σ', r) ∈ applyOp obj op ∧ linPc obj p = (σ', .done op r) := by
  cases p with
  | idle => exact Or.inl rfl
  | done op r => exact Or.inl rfl
  | pending op seen =>
    cases happ : applyOp obj op with
    | nil => exact Or.inl (linPc_pending_nil happ)
    | cons q rest =>
      obtain ⟨σ', r⟩ := q
      refine Or.inr ⟨op, seen, σ', r, rfl, ?_, linPc_pending_cons happ⟩
      rw [happ]; exact List.mem_cons_self

end

variable {K V : Type} [DecidableEq K] [DecidableEq V]

instance instDecEqMapSpecOp : DecidableEq (mapSpec K V).Op := inferInstanceAs (DecidableEq (Op K V))
instance instDecEqMapSpecRes : DecidableEq (mapSpec K V).Res := inferInstanceAs (DecidableEq (Res K V))

/-- abstract progress accompanying a concrete step labelled `l` -/
def Sim (a a' : AState K V) (l : Option (SyncMapConc.Event K V)) : Prop :=
  RStar (mapSpec K V) a a' ∧ a'.hist = a.hist ++ (l.bind evOf).toList

@[simp] theorem observePc_idle (obj : K → Option V) : observePc obj (.idle : APc K V) = .idle := rfl

@[simp] theorem observePc_done (obj : K → Option V) (op : Op K V) (r : Res K V) :
    observePc obj (.done op r) = .done op r := rfl

theorem observePc_pending (obj : K → Option V) (op : Op K V) (seen : List (Res K V)) :
    observePc obj (.pending op seen) =
      match pureRes obj op with
      | some r => if r ∈ seen then .pending op seen else .pending op (r :: seen)
      | none => .pending op seen := rfl

theorem observePc_cases (obj : K → Option V) (p : APc K V) :
    observePc obj p = p ∨
      ∃ op seen r, p = .pending op seen ∧ pureRes obj op = some r ∧ r ∉ seen ∧
        observePc obj p = .pending op (r :: seen) := by
  cases p with
  | idle => exact Or.inl rfl
  | done op r => exact Or.inl rfl
  | pending op seen =>
    rw [observePc_pending]
    cases h : pureRes obj op with
    | none => exact Or.inl rfl
    | some r =>
      by_cases hr : r ∈ seen
      · left; simp [hr]
      · right; exact ⟨op, seen, r, rfl, h, hr, by simp [hr]⟩

/-- the shape of `observePc` on a pending goroutine: same operation, `seen` grows by the current pure result -/
theorem observePc_pending_spec (obj : K → Option V) (op : Op K V) (seen : List (Res K V)) :
    ∃ seen', observePc obj (.pending op seen) = .pending op seen' ∧
      (∀ r, r ∈ seen → r ∈ seen') ∧
      (∀ r, pureRes obj op = some r → r ∈ seen') ∧
      (∀ r, r ∈ seen' → r ∈ seen ∨ pureRes obj op = some r) := by
  rw [observePc_pending]
  cases h : pureRes obj op with
  | none =>
    exact ⟨seen, rfl, fun _ hr => hr, fun _ hr => (by cases hr), fun _ hr => Or.inl hr⟩
  | some r =>
    by_cases hr : r ∈ seen
    · refine ⟨seen, by simp [hr], fun _ h' => h', ?_, fun _ h' => Or.inl h'⟩
      intro r' h'; cases h'; exact hr
    · refine ⟨r :: seen, by simp [hr], fun _ h' => List.mem_cons_of_mem _ h', ?_, ?_⟩
      · intro r' h'; cases h'; exact List.mem_cons_self
      · intro r' h'
        rcases List.mem_cons.mp h' with h' | h'
        · right; rw [h']
        · left; exact h'

theorem observePc_eq_done {obj : K → Option V} {p : APc K V} {op : Op K V} {r : Res K V} :
    observePc obj p = .done op r ↔ p = .done op r :=
  (SeenLe_observePc obj p).elim (motive := fun a a' => a' = .done op r ↔ a = .done op r) Iff.rfl
    fun _ _ _ _ => ⟨nofun, nofun⟩

theorem observePc_eq_pending {obj : K → Option V} {p : APc K V} {op : Op K V} {seen' : List (Res K V)}
    (h : observePc obj p = .pending op seen') :
    ∃ seen, p = .pending op seen ∧ (∀ r, r ∈ seen → r ∈ seen') ∧
      (∀ r, pureRes obj op = some r → r ∈ seen') ∧
      (∀ r, r ∈ seen' → r ∈ seen ∨ pureRes obj op = some r) := by
  cases p with
  | idle => rw [observePc_idle] at h; cases h
  | done op' r' => rw [observePc_done] at h; cases h
  | pending op' seen =>
    obtain ⟨s2, h2, h3, h4, h5⟩ := observePc_pending_spec obj op' seen
    rw [h2] at h
    cases h
    exact ⟨seen, rfl, h3, h4, h5⟩

theorem mem_seenOf_observePc {obj : K → Option V} {p : APc K V} {op : Op K V} {r : Res K V}
    (hp : Pend p op) (hr : pureRes obj op = some r) : r ∈ seenOf (observePc obj p) := by
  cases p with
  | idle => exact hp.elim
  | done op' r' => exact hp.elim
  | pending op' seen =>
    have hp' : op' = op := hp
    subst hp'
    obtain ⟨seen', h1, _, h3, _⟩ := observePc_pending_spec obj op' seen
    rw [h1]
    exact h3 r hr

@[simp] theorem observeAll_obj (a : AState K V) : (observeAll a).obj = a.obj := rfl
@[simp] theorem observeAll_hist (a : AState K V) : (observeAll a).hist = a.hist := rfl
@[simp] theorem observeAll_pcs (a : AState K V) (t : Nat) :
    (observeAll a).pcs t = observePc a.obj (a.pcs t) := rfl

/-- `observePc` applied to the goroutines `< m` only -/
def observeUpTo (m : Nat) (a : AState K V) : AState K V :=
  { a with pcs := fun t => if t < m then observePc a.obj (a.pcs t) else a.pcs t }

@[simp] theorem observeUpTo_obj (m : Nat) (a : AState K V) : (observeUpTo m a).obj = a.obj := rfl
@[simp] theorem observeUpTo_hist (m : Nat) (a : AState K V) : (observeUpTo m a).hist = a.hist := rfl
theorem observeUpTo_pcs (m : Nat) (a : AState K V) (t : Nat) :
    (observeUpTo m a).pcs t = if t < m then observePc a.obj (a.pcs t) else a.pcs t := rfl

theorem observeUpTo_zero (a : AState K V) : observeUpTo 0 a = a := by
  apply rstate_ext
  · funext t; rw [observeUpTo_pcs, if_neg (Nat.not_lt_zero t)]
  · rfl
  · rfl

theorem observeUpTo_succ (m : Nat) (a : AState K V) :
    observeUpTo (m + 1) a =
      { observeUpTo m a with pcs := update (observeUpTo m a).pcs m (observePc a.obj (a.pcs m)) } := by
  refine rstate_ext (funext fun t => ?_) rfl rfl
  show (observeUpTo (m + 1) a).pcs t = update (observeUpTo m a).pcs m (observePc a.obj (a.pcs m)) t
  rw [observeUpTo_pcs]
  by_cases h2 : t = m
  · rw [h2, if_pos (Nat.lt_succ_self m), update_same]
  · rw [update_other _ _ _ h2, observeUpTo_pcs]
    by_cases h1 : t < m
    · rw [if_pos h1, if_pos (Nat.lt_succ_of_lt h1)]
    · rw [if_neg h1, if_neg (by omega)]

theorem rstar_observeUpTo (a : AState K V) (m : Nat) : RStar (mapSpec K V) a (observeUpTo m a) := by
  induction m with
  | zero => rw [observeUpTo_zero]; exact RStar.refl (S := mapSpec K V) a
  | succ m ih =>
    have hpm : (observeUpTo m a).pcs m = a.pcs m := by rw [observeUpTo_pcs, if_neg (Nat.lt_irrefl m)]
    rw [observeUpTo_succ]
    rcases observePc_cases a.obj (a.pcs m) with h | ⟨op, seen, r, hp, hr, _, ho⟩
    · -- goroutine `m` contributes nothing
      rw [h, ← hpm, update_self]
      exact ih
    · -- goroutine `m` contributes one `observe`
      rw [ho]
      exact RStar.tail ih
        (RStep.observe (S := mapSpec K V) (observeUpTo m a) m op seen r (hpm.trans hp) (pureRes_sound hr))

theorem observeUpTo_eq_observeAll {a : AState K V} (n : Nat) (hidle : ∀ t, n ≤ t → a.pcs t = .idle) :
    observeUpTo n a = observeAll a := by
  apply rstate_ext
  · funext t
    rw [observeUpTo_pcs, observeAll_pcs]
    by_cases h : t < n
    · rw [if_pos h]
    · rw [if_neg h, hidle t (Nat.le_of_not_lt h), observePc_idle]
  · rfl
  · rfl

/-- all (finitely many non-idle) goroutines record their current effect-free result: abstract `observe` steps -/
theorem rstar_observeAll {a : AState K V} (n : Nat) (hidle : ∀ t, n ≤ t → a.pcs t = .idle) :
    RStar (mapSpec K V) a (observeAll a) := by
  rw [← observeUpTo_eq_observeAll n hidle]
  exact rstar_observeUpTo a n

/-- after observing, every pending goroutine has its current effect-free result in `seen` -/
theorem obs_observeAll (a : AState K V) : Obs (observeAll a).obj (observeAll a).pcs := by
  intro t op seen' hp r hr
  rw [observeAll_pcs] at hp
  obtain ⟨seen, _, _, h3, _⟩ := observePc_eq_pending hp
  exact h3 r hr

theorem observeAll_idle {a : AState K V} {n : Nat} (hidle : ∀ t, n ≤ t → a.pcs t = .idle) :
    ∀ t, n ≤ t → (observeAll a).pcs t = .idle := by
  intro t ht
  rw [observeAll_pcs, hidle t ht, observePc_idle]

theorem rstar_step_observeAll {a b : AState K V} (n : Nat) (hstep : RStep (mapSpec K V) a b)
    (hidle : ∀ t, n ≤ t → b.pcs t = .idle) : RStar (mapSpec K V) a (observeAll b) :=
  TypVerif.Lemmas.RelObj.rstar_trans (TypVerif.Lemmas.RelObj.rstar_single hstep) (rstar_observeAll n hidle)

/-- `witness` takes the goroutine from its own argument `t` and never looks at the thread id `t'` inside the event -/
theorem witness_inv (s : State K V) (t t' : Tid) {op : Op K V} (a : AState K V) (hop : op ≠ .range) :
    witness s t (some (.inv t' op)) a =
      observeAll { a with pcs := update a.pcs t (.pending op []), hist := a.hist ++ [.inv t op] } := by
  cases op <;> first | rfl | exact absurd rfl hop

@[simp] theorem witness_inv_range (s : State K V) (t t' : Tid) (a : AState K V) :
    witness s t (some (.inv t' .range)) a = observeAll a := rfl

theorem witness_res (s : State K V) (t t' : Tid) {r : Res K V} (a : AState K V) (hr : ∀ l, r ≠ .pairs l) :
    witness s t (some (.res t' r)) a =
      observeAll { a with pcs := update a.pcs t .idle, hist := a.hist ++ [.res t r] } := by
  cases r <;> first | rfl | exact absurd rfl (hr _)

@[simp] theorem witness_res_pairs (s : State K V) (t t' : Tid) (l : List (K × V)) (a : AState K V) :
    witness s t (some (.res t' (.pairs l))) a = observeAll a := rfl

theorem witness_none_lin (s : State K V) (t : Tid) (a : AState K V)
    (hlin : isLin s.sh (s.pc t) (a.pcs t) = true) :
    witness s t none a =
      observeAll { a with pcs := update a.pcs t (linPc a.obj (a.pcs t)).2, obj := (linPc a.obj (a.pcs t)).1 } := by
  simp only [witness, hlin, if_true]

theorem witness_none_tau (s : State K V) (t : Tid) (a : AState K V)
    (hlin : isLin s.sh (s.pc t) (a.pcs t) = false) :
    witness s t none a = observeAll a := by
  simp [witness, hlin]

theorem witness_eq_observeAll (s : State K V) (t : Tid) (l : Option (SyncMapConc.Event K V)) (a : AState K V) :
    ∃ b : AState K V, witness s t l a = observeAll b ∧ ∀ u, u ≠ t → b.pcs u = a.pcs u := by
  have same : ∃ b : AState K V, observeAll a = observeAll b ∧ ∀ u, u ≠ t → b.pcs u = a.pcs u :=
    ⟨a, rfl, fun _ _ => rfl⟩
  have upd : ∀ p obj hist, ∃ b : AState K V,
      observeAll { pcs := update a.pcs t p, obj := obj, hist := hist } = observeAll b ∧
        ∀ u, u ≠ t → b.pcs u = a.pcs u :=
    fun p obj hist => ⟨_, rfl, fun u hu => update_other _ _ _ hu⟩
  cases l with
  | none =>
    cases hlin : isLin s.sh (s.pc t) (a.pcs t) with
    | true => rw [witness_none_lin s t a hlin]; exact upd _ _ _
    | false => rw [witness_none_tau s t a hlin]; exact same
  | some e =>
    cases e with
    | inv t' op => cases op <;> first | exact same | exact upd _ _ _
    | res t' r => cases r <;> first | exact same | exact upd _ _ _

theorem witness_pcs_other (s : State K V) (t : Tid) (l : Option (SyncMapConc.Event K V)) (a : AState K V) {u : Tid}
    (hu : u ≠ t) : (witness s t l a).pcs u = observePc (witness s t l a).obj (a.pcs u) := by
  obtain ⟨b, hb, ho⟩ := witness_eq_observeAll s t l a
  rw [hb, observeAll_pcs, ho u hu]
  rfl

/-- a visible step leaves the abstract object alone -/
@[simp] theorem witness_obj_some (s : State K V) (t : Tid) (e : SyncMapConc.Event K V) (a : AState K V) :
    (witness s t (some e) a).obj = a.obj := by
  cases e with
  | inv t' op => cases op <;> rfl
  | res t' r => cases r <;> rfl

theorem witness_hist_inv (s : State K V) (t t' : Tid) {op : Op K V} (a : AState K V) (hop : op ≠ .range) :
    (witness s t (some (.inv t' op)) a).hist = a.hist ++ [.inv t op] := by
  rw [witness_inv s t t' a hop]; rfl

theorem witness_pcs_inv_self (s : State K V) (t t' : Tid) {op : Op K V} (a : AState K V) (hop : op ≠ .range) :
    (witness s t (some (.inv t' op)) a).pcs t = observePc a.obj (.pending op []) := by
  rw [witness_inv s t t' a hop, observeAll_pcs]
  show observePc a.obj (update a.pcs t (.pending op []) t) = _
  rw [update_same]

@[simp] theorem witness_hist_inv_range (s : State K V) (t t' : Tid) (a : AState K V) :
    (witness s t (some (.inv t' .range)) a).hist = a.hist := rfl

theorem witness_hist_res (s : State K V) (t t' : Tid) {r : Res K V} (a : AState K V) (hr : ∀ l, r ≠ .pairs l) :
    (witness s t (some (.res t' r)) a).hist = a.hist ++ [.res t r] := by
  rw [witness_res s t t' a hr]; rfl

theorem witness_pcs_res_self (s : State K V) (t t' : Tid) {r : Res K V} (a : AState K V)
    (hr : ∀ l, r ≠ .pairs l) : (witness s t (some (.res t' r)) a).pcs t = .idle := by
  rw [witness_res s t t' a hr, observeAll_pcs]
  show observePc a.obj (update a.pcs t .idle t) = _
  rw [update_same, observePc_idle]

@[simp] theorem witness_hist_res_pairs (s : State K V) (t t' : Tid) (l : List (K × V)) (a : AState K V) :
    (witness s t (some (.res t' (.pairs l))) a).hist = a.hist := rfl

@[simp] theorem witness_hist_none (s : State K V) (t : Tid) (a : AState K V) :
    (witness s t none a).hist = a.hist := by
  cases hlin : isLin s.sh (s.pc t) (a.pcs t) with
  | true => rw [witness_none_lin s t a hlin]; rfl
  | false => rw [witness_none_tau s t a hlin]; rfl

/-- what `witness` prescribes for a step of `t` labelled `l`: the new object, and the abstract pc `q` of `t` itself
before the final observation (everybody else has just observed, `WitnessIs.others`) -/
structure WitnessIs (s : State K V) (t : Tid) (l : Option (SyncMapConc.Event K V)) (a : AState K V)
    (obj' : K → Option V) (q : APc K V) : Prop where
  obj : (witness s t l a).obj = obj'
  self : SeenLe q ((witness s t l a).pcs t)

namespace WitnessIs
variable {s : State K V} {t : Tid} {a : AState K V}

theorem others {l : Option (SyncMapConc.Event K V)} {obj' : K → Option V} {q : APc K V}
    (h : WitnessIs s t l a obj' q) {u : Tid} (hu : u ≠ t) : (witness s t l a).pcs u = observePc obj' (a.pcs u) :=
  h.obj ▸ witness_pcs_other s t l a hu

/-- a visible step: `t` makes the move `q` (invoked, returned, or nothing for `Range`) and observes -/
theorem vis (e : SyncMapConc.Event K V) {q : APc K V} (hq : (witness s t (some e) a).pcs t = observePc a.obj q) :
    WitnessIs s t (some e) a a.obj q :=
  ⟨witness_obj_some s t e a, hq ▸ SeenLe_observePc _ _⟩

theorem tau (hlin : isLin s.sh (s.pc t) (a.pcs t) = false) : WitnessIs s t none a a.obj (a.pcs t) :=
  have h := witness_none_tau s t a hlin
  ⟨h ▸ rfl, h ▸ SeenLe_observePc _ _⟩

theorem lin (hlin : isLin s.sh (s.pc t) (a.pcs t) = true) {op : Op K V} (hpend : Pend (a.pcs t) op)
    {obj' : K → Option V} {r : Res K V} (happ : applyOp a.obj op = [(obj', r)]) :
    WitnessIs s t none a obj' (.done op r) := by
  obtain ⟨seen, hseen⟩ := hpend.exists_pending
  have h := witness_none_lin s t a hlin
  rw [hseen, linPc_pending_cons happ] at h
  refine ⟨h ▸ rfl, ?_⟩
  rw [h, observeAll_pcs]
  show SeenLe _ (observePc obj' (update a.pcs t (.done op r) t))
  rw [update_same]
  exact SeenLe.refl _

end WitnessIs

/-- a step at which nobody moves abstractly and which shows no event of the atomic map (`Range`'s visible steps, an
internal step that is no linearization step): everybody observes -/
theorem sim_silent (s : State K V) {a : AState K V} {n : Nat} {t : Tid} {l : Option (SyncMapConc.Event K V)}
    (hidle : ∀ u, n ≤ u → a.pcs u = .idle) (hw : witness s t l a = observeAll a) (hl : l.bind evOf = none) :
    Sim a (witness s t l a) l := by
  rw [hw]
  exact ⟨rstar_observeAll n hidle, by rw [hl]; exact (List.append_nil _).symm⟩

theorem sim_inv (s : State K V) {a : AState K V} {n : Nat} {t : Tid} {op : Op K V}
    (hidle : ∀ u, n ≤ u → a.pcs u = .idle) (ht : t < n)
    (hpc : a.pcs t = .idle) (hop : op ≠ .range) :
    Sim a (witness s t (some (.inv t op)) a) (some (.inv t op)) := by
  rw [witness_inv s t t a hop]
  refine ⟨rstar_step_observeAll n (RStep.inv (S := mapSpec K V) a t op hpc) (idle_update hidle ht _), ?_⟩
  show a.hist ++ [.inv t op] = a.hist ++ (Option.bind (some (.inv t op)) evOf).toList
  rw [Option.bind_some, evOf_inv t hop]
  rfl

theorem sim_res (s : State K V) {a : AState K V} {n : Nat} {t : Tid} {r : Res K V}
    (hidle : ∀ u, n ≤ u → a.pcs u = .idle) (ht : t < n)
    (hret : RetOk (a.pcs t) r) (hr : ∀ l, r ≠ .pairs l) :
    Sim a (witness s t (some (.res t r)) a) (some (.res t r)) := by
  rw [witness_res s t t a hr]
  have hstep : RStep (mapSpec K V) a { a with pcs := update a.pcs t .idle, hist := a.hist ++ [.res t r] } := by
    cases hp : a.pcs t with
    | idle => rw [hp] at hret; exact False.elim hret
    | pending op seen =>
      rw [hp] at hret
      exact RStep.resSeen (S := mapSpec K V) a t op seen r hp hret
    | done op r' =>
      rw [hp] at hret
      have hrr : r' = r := hret
      subst hrr
      exact RStep.resDone (S := mapSpec K V) a t op r' hp
  refine ⟨rstar_step_observeAll n hstep (idle_update hidle ht _), ?_⟩
  show a.hist ++ [.res t r] = a.hist ++ (Option.bind (some (.res t r)) evOf).toList
  rw [Option.bind_some, evOf_res t hr]
  rfl

/-- an internal concrete step is always matched (a `lin` of the stepping goroutine, if any, then `observeAll`) -/
theorem sim_none (s : State K V) {a : AState K V} {n : Nat} {t : Tid}
    (hidle : ∀ u, n ≤ u → a.pcs u = .idle) (ht : t < n) :
    Sim a (witness s t none a) none := by
  cases hlin : isLin s.sh (s.pc t) (a.pcs t) with
  | false => exact sim_silent s hidle (witness_none_tau s t a hlin) rfl
  | true =>
    refine ⟨?_, (witness_hist_none s t a).trans (List.append_nil _).symm⟩
    rw [witness_none_lin s t a hlin]
    rcases linPc_cases a.obj (a.pcs t) with hl | ⟨op, seen, σ', r, hp, hmem, hl⟩
    · rw [hl, update_self]
      exact rstar_observeAll n hidle
    · rw [hl]
      exact rstar_step_observeAll n (RStep.lin (S := mapSpec K V) a t op seen σ' r hp hmem)
        (idle_update hidle ht _)

/-- linearization step of goroutine `t` -/
theorem sim_lin (s : State K V) {a : AState K V} {n : Nat} {t : Tid} {op : Op K V} {seen : List (Res K V)}
    {σ' : K → Option V} {r : Res K V}
    (hidle : ∀ u, n ≤ u → a.pcs u = .idle) (ht : t < n)
    (hlin : isLin s.sh (s.pc t) (a.pcs t) = true) (hp : a.pcs t = .pending op seen)
    (happ : applyOp a.obj op = [(σ', r)]) :
    Sim a (witness s t none a) none ∧ (witness s t none a).obj = σ' ∧
      (witness s t none a).pcs t = .done op r ∧
      ∀ u, u ≠ t → (witness s t none a).pcs u = observePc σ' (a.pcs u) :=
  have w := WitnessIs.lin hlin (show Pend (a.pcs t) op from hp ▸ rfl) happ
  ⟨sim_none s hidle ht, w.obj, w.self, fun _ hu => w.others hu⟩

/-- internal step that is not a linearization step -/
theorem sim_tau (s : State K V) {a : AState K V} {n : Nat} {t : Tid}
    (hidle : ∀ u, n ≤ u → a.pcs u = .idle) (ht : t < n)
    (hlin : isLin s.sh (s.pc t) (a.pcs t) = false) :
    Sim a (witness s t none a) none ∧ (witness s t none a).obj = a.obj ∧
      ∀ u, (witness s t none a).pcs u = observePc a.obj (a.pcs u) :=
  have h := witness_none_tau s t a hlin
  ⟨sim_none s hidle ht, h ▸ rfl, fun _ => h ▸ rfl⟩

theorem R_g {s : State K V} {a : AState K V} (h : R s a) : G s a.pcs := h.g
theorem R_abs {s : State K V} {a : AState K V} (h : R s a) : ∀ k, a.obj k = absOf s.sh k := h.abs
theorem R_thr {s : State K V} {a : AState K V} (h : R s a) : ∀ t, T s.sh t (s.pc t) (a.pcs t) := h.thr
theorem R_obs {s : State K V} {a : AState K V} (h : R s a) : Obs a.obj a.pcs := h.obs

theorem R_iff_parts {s : State K V} {a : AState K V} :
    R s a ↔ G s a.pcs ∧ (∀ k, a.obj k = absOf s.sh k) ∧ (∀ t, T s.sh t (s.pc t) (a.pcs t)) ∧ Obs a.obj a.pcs :=
  ⟨fun h => ⟨h.g, h.abs, h.thr, h.obs⟩, fun h => ⟨h.1, h.2.1, h.2.2.1, h.2.2.2⟩⟩

/-- `R` for a witness state: the `Obs` part is free (every `witness` ends with `observeAll`) -/
theorem obs_witness (s : State K V) (t : Tid) (l : Option (SyncMapConc.Event K V)) (a : AState K V) :
    Obs (witness s t l a).obj (witness s t l a).pcs := by
  obtain ⟨b, hb, _⟩ := witness_eq_observeAll s t l a
  rw [hb]
  exact obs_observeAll b

namespace R

theorem idle_of_le {s : State K V} {a : AState K V} (h : R s a) :
    ∀ u, s.pcs.length ≤ u → a.pcs u = .idle := by
  intro u hu
  have ht := h.thr u
  rw [pc_of_le hu] at ht
  exact isIdle_iff.mp ht.1

end R

theorem R_init (n : Nat) (zst : Bool) :
    R (SyncMapConc.init n zst : State K V) (RState.init (mapSpec K V)) := by
  refine ⟨?_, ?_, ?_, ?_⟩
  · refine
      { keysR := List.nodup_nil, valsR := List.nodup_nil, keysD := List.nodup_nil, valsD := List.nodup_nil,
        boundR := ?_, boundD := ?_, s1 := fun _ => rfl, nofault := rfl, muBound := ?_, readDirty := ?_,
        dirtySub := ?_, dirtyLive := ?_, unlinked := ?_ }
    · intro p hp; cases hp
    · intro p hp; cases hp
    · intro t ht; cases ht
    · intro p hp; cases hp
    · intro _ p hp; cases hp
    · intro p hp; cases hp
    · intro t u _ _ _ e he
      rw [init_pc] at he
      cases he
  · intro k; rfl
  · intro t
    rw [init_pc]
    exact ⟨True.intro, by intro h; cases h⟩
  · intro t op seen hp
    cases hp

theorem sim_exec [Inhabited V] {menu : List (Op K V)} {n : Nat} {zst : Bool}
    (hstep : ∀ (s : State K V) (a : AState K V) (t : Tid), R s a → t < s.pcs.length →
      ∀ l s', (l, s') ∈ stepT menu s t → Sim a (witness s t l a) l ∧ R s' (witness s t l a))
    {s s' : (sys K V menu n zst).State} {ls : List (Option (sys K V menu n zst).Event)}
    (he : Exec (sys K V menu n zst) s ls s') :
    ∀ a : AState K V, R s a →
      ∃ a' : AState K V, RStar (mapSpec K V) a a' ∧ R s' a' ∧
        a'.hist = a.hist ++ ls.filterMap (·.bind evOf) := by
  induction he with
  | nil s => intro a hR; exact ⟨a, RStar.refl (S := mapSpec K V) a, hR, by simp⟩
  | @cons s s1 s2 l ls hmem _ ih =>
    intro a hR
    obtain ⟨t, htl, hin⟩ := mem_succ_iff.mp (show (l, s1) ∈ succ menu s from hmem)
    obtain ⟨⟨hstar, hhist⟩, hR1⟩ := hstep s a t hR htl l s1 hin
    obtain ⟨a2, hstar2, hR2, hhist2⟩ := ih _ hR1
    refine ⟨a2, TypVerif.Lemmas.RelObj.rstar_trans hstar hstar2, hR2, ?_⟩
    rw [hhist2, hhist, List.append_assoc]
    congr 1
    cases h : l.bind evOf with
    | none => simp [h]
    | some e => simp [h]

end TypVerif.Lemmas.Smc
