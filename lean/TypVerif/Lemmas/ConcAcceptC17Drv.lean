import TypVerif.Lemmas.ConcAcceptC17
/-
Soundness of the fold the C17 judge (`Drv.C17.step`) performs.  The judge does not step a fixed system
`red n arity res`: on every event it enlarges the number of goroutines `n` (padding all states of its set with idle
goroutines), and it chooses the result function from the event (`fun _ => r` on `fend _ r`).  `jstep` is the model-state
part of `Drv.C17.step` (`step_model`), `jfold` the fold from the header line, and `driver_accept_sound` says that a
non-empty state set after the trace `tr` means that `tr` is the visible trace of an execution of
`Model.Once.sys N arity res` from its initial state, for `N` the final number of goroutines and `res t` the result of
the first `fend t _` of the trace.

Ingredients: (1) `stepEvent_sound` + `red_exec_sound`; (2) an execution does not depend on the result function except at
the goroutines whose `fend` it shows (`exec_res`); (3) padding with idle goroutines is a simulation (`exec_pad`);
(4) an execution shows at most one `fend` (`Once.exec_fend_count`), so that the result function chosen per event agrees
with the one fixed for the whole trace.
-/
namespace TypVerif.Lemmas.ConcAcceptC17
open TypVerif TypVerif.Conc TypVerif.Model.Once TypVerif.Drv.C17 TypVerif.Lemmas.Once

/-- model side of the judge state -/
structure JS where
  n : Nat
  ss : List State

def resOf : Event → (Nat → List Int)
  | .fend _ r => fun _ => r
  | _ => fun _ => []

/-- the model-state-set part of `Drv.C17.step` on an accepted-arity event -/
def jstep (arity fuel : Nat) (j : JS) (e : Event) : JS :=
  let t := Event.tid e
  let n := if t + 1 > j.n then t + 1 else j.n
  let ss := if n > j.n then j.ss.map (padTo n) else j.ss
  { n := n, ss := Conc.stepEvent (red n arity (resOf e)) fuel ss e }

def jfold (arity fuel : Nat) (tr : List Event) : JS :=
  tr.foldl (jstep arity fuel) { n := 0, ss := [init 0 arity] }

theorem succ_res (ρ R : Nat → List Int) (s : State) (l : Option Event) (s' : State)
    (h : (l, s') ∈ succ ρ s) (hR : ∀ t r, l = some (.fend t r) → R t = ρ t) : (l, s') ∈ succ R s := by
  obtain ⟨u, hu, hm⟩ := mem_succ.1 h
  refine mem_succ.2 ⟨u, hu, ?_⟩
  rw [← stepT_res ρ R s u ?_]
  · exact hm
  · intro hpc
    unfold stepT at hm
    rw [hpc] at hm
    simp only [List.mem_singleton, Prod.mk.injEq] at hm
    exact hR u (ρ u) hm.1

/-- `sys n arity ρ` uses `n` only in its initial state, so an execution between given states is one for any `m` -/
theorem exec_res (n m arity : Nat) (ρ R : Nat → List Int) {a b : State} {ls : List (Option Event)}
    (h : Exec (sys n arity ρ) a ls b) :
    (∀ t r, Event.fend t r ∈ visible ls → R t = ρ t) → Exec (sys m arity R) a ls b :=
  fun hR => Exec.map id (fun e => ∀ t r, e = .fend t r → R t = ρ t)
    (fun s l s' hl hm => succ_res ρ R s l s' hm fun t r he => hl _ he t r rfl) h
    fun _ he t r heq => hR t r (heq ▸ he)

theorem padTo_pc (m : Nat) (s : State) (u : Nat) : (padTo m s).pc u = s.pc u := by
  unfold padTo State.pc
  simp only [List.getD_eq_getElem?_getD, List.getElem?_append, List.getElem?_replicate]
  split
  · rfl
  · rw [List.getElem?_eq_none (Nat.le_of_not_lt ‹_›)]
    split <;> rfl

theorem padTo_setPc (m : Nat) (s : State) (u : Nat) (p : Pc) (hu : u < s.pcs.length) :
    (padTo m s).setPc u p = padTo m (s.setPc u p) := by
  unfold padTo State.setPc
  simp only [List.set_append_left _ _ hu, List.length_set]

theorem stepT_pad (R : Nat → List Int) (m : Nat) (s : State) (u : Nat) (hu : u < s.pcs.length) :
    stepT R (padTo m s) u = (stepT R s u).map (fun p => (p.1, padTo m p.2)) := by
  unfold stepT
  simp only [padTo_pc, padTo_setPc m s u _ hu, show (padTo m s).mu = s.mu from rfl]
  -- what is left differs only in that `padTo` stands outside the updates of the other fields
  cases s.pc u
  case lock => cases s.mu <;> rfl
  all_goals rfl

theorem succ_pad (R : Nat → List Int) (m : Nat) (s : State) (l : Option Event) (s' : State)
    (h : (l, s') ∈ succ R s) : (l, padTo m s') ∈ succ R (padTo m s) := by
  obtain ⟨u, hu, hm⟩ := mem_succ.1 h
  refine mem_succ.2 ⟨u, ?_, ?_⟩
  · simp only [padTo, List.length_append]
    exact Nat.lt_add_right _ hu
  · rw [stepT_pad R m s u hu]
    exact List.mem_map.2 ⟨(l, s'), hm, rfl⟩

/-- padding with idle goroutines is a simulation (`n'` is free for the same reason as in `exec_res`) -/
theorem exec_pad (n n' arity : Nat) (R : Nat → List Int) (m : Nat) {a b : State} {ls : List (Option Event)}
    (h : Exec (sys n arity R) a ls b) : Exec (sys n' arity R) (padTo m a) ls (padTo m b) :=
  Exec.map (padTo m) (fun _ => True) (fun s l s' _ hm => succ_pad R m s l s' hm) h fun _ _ => trivial

theorem padTo_init (n m arity : Nat) (h : n ≤ m) : padTo m (init n arity) = init m arity := by
  unfold padTo init
  simp only [List.length_replicate, List.replicate_append_replicate]
  congr 2
  omega

/-- the result of the first `fend t _` of the trace (`[]` if there is none) -/
def resFirst : List Event → Nat → List Int
  | [], _ => []
  | e :: rest, u =>
    match e with
    | .fend t r => if u = t then r else resFirst rest u
    | _ => resFirst rest u

theorem resFirst_first (pre : List Event) (t : Nat) (r : List Int) (post : List Event)
    (h : ∀ r0, Event.fend t r0 ∉ pre) : resFirst (pre ++ .fend t r :: post) t = r := by
  induction pre with
  | nil => simp [resFirst]
  | cons e pre ih =>
    have ih := ih (fun r0 hm => h r0 (List.mem_cons_of_mem _ hm))
    rw [List.cons_append]
    unfold resFirst
    cases e with
    | fend t' r' =>
      have : t ≠ t' := by
        intro heq
        subst heq
        exact h r' List.mem_cons_self
      simp only [this, if_false]
      exact ih
    | _ => exact ih

/-- every state of the judge's set is reached by an execution of the model showing `done` -/
def Inv (arity : Nat) (R : Nat → List Int) (done : List Event) (j : JS) : Prop :=
  ∀ s ∈ j.ss, ∃ ls, Exec (sys j.n arity R) (init j.n arity) ls s ∧ visible ls = done

theorem stepEvent_inv (arity fuel : Nat) (R : Nat → List Int) (done : List Event) (e : Event) (n : Nat)
    (ss : List State)
    (hfirst : ∀ t r, e = .fend t r → (∀ r0, Event.fend t r0 ∉ done) → R t = r)
    (hinv : ∀ s ∈ ss, ∃ ls, Exec (sys n arity R) (init n arity) ls s ∧ visible ls = done) :
    ∀ s' ∈ Conc.stepEvent (red n arity (resOf e)) fuel ss e,
      ∃ ls, Exec (sys n arity R) (init n arity) ls s' ∧ visible ls = done ++ [e] := by
  intro s' hs'
  obtain ⟨s, hs, ls', hex', hv'⟩ := stepEvent_sound (red n arity (resOf e)) fuel ss e s' hs'
  obtain ⟨ls1, hex1, hv1⟩ := red_exec_sound n arity (resOf e) hex'
  have hv1 : visible ls1 = [e] := hv1.trans hv'
  obtain ⟨ls0, hex0, hv0⟩ := hinv s hs
  have hex1' : Exec (sys n arity R) s ls1 s' := by
    refine exec_res n n arity (resOf e) R hex1 ?_
    intro t r hmem
    rw [hv1, List.mem_singleton] at hmem
    subst hmem
    show R t = r
    -- `fres` counts the `fend`s: one before `s` would fill it, the one shown from `s` needs it empty
    refine hfirst t r rfl fun r0 hr0 => ?_
    have h0 := exec_fend_count hex0 (good_init n arity)
    have h1 := exec_fend_count hex1 (good_reachable n arity R s (hex0.reachable .init))
    rw [hv0] at h0
    rw [hv1] at h1
    have hp : 0 < done.countP isFend := List.countP_pos_iff.2 ⟨_, hr0, rfl⟩
    have := Bool.toNat_le s'.fres.isSome
    have h0 : _ + 0 = _ := h0
    have h1 : 1 + _ = _ := h1
    omega
  exact ⟨ls0 ++ ls1, Exec.append hex0 hex1', by rw [visible_append, hv0, hv1]⟩

theorem jstep_inv (arity fuel : Nat) (R : Nat → List Int) (done : List Event) (j : JS) (e : Event)
    (hfirst : ∀ t r, e = .fend t r → (∀ r0, Event.fend t r0 ∉ done) → R t = r)
    (hinv : Inv arity R done j) : Inv arity R (done ++ [e]) (jstep arity fuel j e) := by
  unfold Inv jstep
  simp only
  generalize hn : (if Event.tid e + 1 > j.n then Event.tid e + 1 else j.n) = n'
  have hle : j.n ≤ n' := by
    rw [← hn]
    split <;> omega
  clear hn
  apply stepEvent_inv arity fuel R done e _ _ hfirst
  intro s hs
  split at hs
  · obtain ⟨s0, hs0, rfl⟩ := List.mem_map.1 hs
    obtain ⟨ls, hex, hv⟩ := hinv s0 hs0
    refine ⟨ls, ?_, hv⟩
    have := exec_pad j.n n' arity R n' hex
    rw [padTo_init _ _ _ hle] at this
    exact this
  · have hn : n' = j.n := by omega
    subst hn
    exact hinv s hs

theorem foldl_jstep_inv (arity fuel : Nat) (R : Nat → List Int) (full : List Event)
    (hR : ∀ pre t r post, full = pre ++ .fend t r :: post → (∀ r0, Event.fend t r0 ∉ pre) → R t = r) :
    ∀ (tr done : List Event) (j : JS), done ++ tr = full → Inv arity R done j →
      Inv arity R full (tr.foldl (jstep arity fuel) j) := by
  intro tr
  induction tr with
  | nil =>
    intro done j hfull hinv
    rw [List.append_nil] at hfull
    subst hfull
    exact hinv
  | cons e tr ih =>
    intro done j hfull hinv
    rw [List.foldl_cons]
    refine ih (done ++ [e]) (jstep arity fuel j e) (by rw [← hfull]; simp) ?_
    refine jstep_inv arity fuel R done j e ?_ hinv
    intro t r he hno
    subst he
    exact hR done t r tr hfull.symm hno

/-- the invariant of the judge's fold, with the number of goroutines and the result function explicit -/
theorem jfold_sound (arity fuel : Nat) (tr : List Event) :
    ∀ s ∈ (jfold arity fuel tr).ss, ∃ ls,
      Exec (sys (jfold arity fuel tr).n arity (resFirst tr)) (init (jfold arity fuel tr).n arity) ls s ∧
        visible ls = tr := by
  refine foldl_jstep_inv arity fuel (resFirst tr) tr ?_ tr [] { n := 0, ss := [init 0 arity] } rfl ?_
  · intro pre t r post hfull hno
    rw [hfull]
    exact resFirst_first pre t r post hno
  · intro s hs
    rw [List.mem_singleton.1 hs]
    exact ⟨[], Exec.nil _, rfl⟩

/-- a trace the judge accepts (its state set is non-empty after the last event) is the visible trace of an execution of
the model from its initial state -/
theorem driver_accept_sound_explicit (arity fuel : Nat) (tr : List Event) (h : (jfold arity fuel tr).ss ≠ []) :
    ∃ (ls : List (Option Event)) (s : State),
      Exec (sys (jfold arity fuel tr).n arity (resFirst tr)) (init (jfold arity fuel tr).n arity) ls s ∧
        visible ls = tr := by
  obtain ⟨s, hs⟩ := List.exists_mem_of_ne_nil _ h
  obtain ⟨ls, hex, hv⟩ := jfold_sound arity fuel tr s hs
  exact ⟨ls, s, hex, hv⟩

theorem driver_accept_sound (arity fuel : Nat) (tr : List Event) (h : (jfold arity fuel tr).ss ≠ []) :
    ∃ (N : Nat) (res : Nat → List Int) (ls : List (Option Event)) (s : State),
      Exec (sys N arity res) (init N arity) ls s ∧ visible ls = tr :=
  ⟨_, _, driver_accept_sound_explicit arity fuel tr h⟩

section StepModel
open TypVerif.Proto

theorem parseEvent_once (a : Int) : parseEvent [.w "once", .i a] = none := rfl

theorem parseEvent_fpanic (t : Int) : parseEvent [.w "fpanic", .i t] = none := rfl

/-- the arity check of `Drv.C17.step` -/
def arityOk (arity : Nat) : Event → Bool
  | .fend _ r | .ret _ r => r.length == arity
  | _ => true

/-- `st'` is what `Drv.C17.step` makes of the model part of `st` on a line that stands for the event `e` -/
def StepsTo (st : St) (e : Event) (st' : St) : Prop :=
  st'.started = true ∧ st'.arity = st.arity ∧
  st'.n = (jstep st.arity closureFuel { n := st.n, ss := st.ss } e).n ∧
  st'.ss =
    (if (st.rejected || !arityOk st.arity e) = true then []
      else (jstep st.arity closureFuel { n := st.n, ss := st.ss } e).ss) ∧
  st'.rejected = (st.rejected || st'.ss.isEmpty)

theorem step_event (st : St) (toks : List Val) (impl : String) (e : Event)
    (hp : parseEvent toks = some e) (hst : st.started = true) : StepsTo st e (step st toks impl).1 := by
  unfold StepsTo step
  split
  · cases hp.symm.trans (parseEvent_once _)
  · split
    · cases hp.symm.trans (parseEvent_fpanic _)
    · simp only [hp, hst, Bool.not_true, Bool.false_eq_true, if_false]
      -- `step` and `jstep`/`resOf`/`arityOk` compute the same, by matches on `e` that only agree constructor by constructor
      cases e <;> simp only [jstep, resOf, arityOk] <;> exact ⟨trivial, trivial, trivial, rfl, rfl⟩

theorem step_model (st : St) (toks : List Val) (impl : String) (e : Event)
    (hp : parseEvent toks = some e)
    (hst : st.started = true) (hrej : st.rejected = false)
    (harity : arityOk st.arity e = true) :
    (step st toks impl).1.ss = (jstep st.arity closureFuel { n := st.n, ss := st.ss } e).ss ∧
    (step st toks impl).1.n = (jstep st.arity closureFuel { n := st.n, ss := st.ss } e).n := by
  obtain ⟨_, _, hn, hss, _⟩ := step_event st toks impl e hp hst
  rw [hrej, harity] at hss
  exact ⟨hss.trans (if_neg (by decide)), hn⟩

/-- the event a non-header line stands for (`fpanic t` is the event `fend t [0,…,0]`) -/
def lineEvent (arity : Nat) (toks : List Val) : Option Event :=
  match toks with
  | [.w "once", .i _] => none
  | [.w "fpanic", .i t] => parseEvent [.w "fend", .i t, ofInts (List.replicate arity 0)]
  | _ => parseEvent toks

theorem lineEvent_of_parse (arity : Nat) (toks : List Val) (e : Event) (hp : parseEvent toks = some e) :
    lineEvent arity toks = some e := by
  unfold lineEvent
  split
  · cases hp.symm.trans (parseEvent_once _)
  · cases hp.symm.trans (parseEvent_fpanic _)
  · exact hp

example : lineEvent 2 [.w "fpanic", .i 3] = some (.fend 3 [0, 0]) := by decide
example : lineEvent 2 [.w "ret", .i 1, .l [.i 5, .i 6]] = some (.ret 1 [5, 6]) := by decide

/-- `step` rewrites an `fpanic` line to the `fend` line with the zero tuple before it parses -/
theorem step_fpanic (st : St) (t : Int) (impl : String) :
    step st [.w "fpanic", .i t] impl = step st [.w "fend", .i t, ofInts (List.replicate st.arity 0)] impl := rfl

/-- everything `Drv.C17.step` does to the model part of its state on a line that stands for an event -/
theorem step_parsed (st : St) (toks : List Val) (impl : String) (e : Event)
    (hp : lineEvent st.arity toks = some e) (hst : st.started = true) : StepsTo st e (step st toks impl).1 := by
  unfold lineEvent at hp
  split at hp
  · cases hp
  · rw [step_fpanic]
    exact step_event st _ impl e hp hst
  · exact step_event st toks impl e hp hst

def runLines (st : St) (lines : List (List Val × String)) : St :=
  lines.foldl (fun st l => (step st l.1 l.2).1) st

theorem jstep_nil (arity fuel : Nat) (j : JS) (e : Event) (h : j.ss = []) : (jstep arity fuel j e).ss = [] := by
  unfold jstep
  simp only [h, List.map_nil, ite_self]
  exact stepEvent_nil _ fuel e

theorem foldl_jstep_nil (arity fuel : Nat) (tr : List Event) :
    ∀ j : JS, j.ss = [] → (tr.foldl (jstep arity fuel) j).ss = [] := by
  induction tr with
  | nil => exact fun j h => h
  | cons e tr ih => exact fun j h => ih _ (jstep_nil arity fuel j e h)

/-- what the fold of `step` maintains after the header: the arity, and `rejected` says that the state set is empty -/
def JOk (arity : Nat) (st : St) : Prop :=
  st.started = true ∧ st.arity = arity ∧ st.rejected = st.ss.isEmpty

theorem step_JOk (arity : Nat) (st : St) (toks : List Val) (impl : String) (e : Event)
    (hp : lineEvent arity toks = some e) (h : JOk arity st) :
    JOk arity (step st toks impl).1 ∧
    (step st toks impl).1.n = (jstep arity closureFuel { n := st.n, ss := st.ss } e).n ∧
    (step st toks impl).1.ss =
      if arityOk arity e = true then (jstep arity closureFuel { n := st.n, ss := st.ss } e).ss else [] := by
  obtain ⟨hst, rfl, hrej⟩ := h
  obtain ⟨h1, h2, h3, h4, h5⟩ := step_parsed st toks impl e hp hst
  cases hr : st.rejected
  · refine ⟨⟨h1, h2, by rw [h5, hr, Bool.false_or]⟩, h3, ?_⟩
    rw [h4, hr]
    cases arityOk st.arity e <;> rfl
  · -- the set was empty already, so `jstep` leaves it empty whatever the arity check says
    refine ⟨⟨h1, h2, by rw [h5, hr, Bool.true_or, h4, hr]; rfl⟩, h3, ?_⟩
    rw [h4, hr, jstep_nil _ _ _ e (List.isEmpty_iff.1 (hrej.symm.trans hr))]
    simp only [Bool.true_or, ite_self]

/-- the fold of `step` over event lines computes the fold of `jstep`, emptied by an event that fails the arity check -/
theorem runLines_spec (arity : Nat) (lines : List (List Val × String)) :
    ∀ (tr : List Event) (st : St), lines.map (fun l => lineEvent arity l.1) = tr.map some → JOk arity st →
      JOk arity (runLines st lines) ∧
      (runLines st lines).ss =
        if tr.all (arityOk arity) = true then (tr.foldl (jstep arity closureFuel) { n := st.n, ss := st.ss }).ss
        else [] := by
  induction lines with
  | nil =>
    intro tr st hl h
    cases tr with
    | nil => exact ⟨h, rfl⟩
    | cons e tr => cases hl
  | cons l lines ih =>
    intro tr st hl h
    cases tr with
    | nil => cases hl
    | cons e tr =>
      injection hl with hl1 hl2
      obtain ⟨hJ, hn, hss⟩ := step_JOk arity st l.1 l.2 e hl1 h
      obtain ⟨hJ', hss'⟩ := ih tr _ hl2 hJ
      refine ⟨hJ', hss'.trans ?_⟩
      rw [hn, hss, List.all_cons, List.foldl_cons]
      cases arityOk arity e
      · simp only [Bool.false_and, Bool.false_eq_true, if_false, foldl_jstep_nil arity closureFuel tr ⟨_, []⟩ rfl,
          ite_self]
      · simp only [Bool.true_and, if_true]

theorem step_once (st : St) (a : Int) (impl : String) :
    (step st [.w "once", .i a] impl).1 = { arity := a.toNat, started := true, ss := [init 0 a.toNat] } := rfl

theorem judge_ok_iff (st0 : St) (a : Int) (impl0 : String) (lines : List (List Val × String))
    (tr : List Event) (hparse : lines.map (fun l => lineEvent a.toNat l.1) = tr.map some) :
    (runLines (step st0 [.w "once", .i a] impl0).1 lines).rejected = false ↔
      (∀ e ∈ tr, arityOk a.toNat e = true) ∧ (jfold a.toNat closureFuel tr).ss ≠ [] := by
  rw [step_once]
  obtain ⟨⟨_, _, hrej⟩, hss⟩ := runLines_spec a.toNat lines tr
    { arity := a.toNat, started := true, ss := [init 0 a.toNat] } hparse ⟨rfl, rfl, rfl⟩
  rw [hrej, hss, ← List.all_eq_true, List.isEmpty_eq_false_iff]
  cases tr.all (arityOk a.toNat)
  · exact ⟨fun h => absurd rfl h, fun h => nomatch h.1⟩
  · rw [if_pos rfl]
    exact (and_iff_right rfl).symm

/-- soundness of the C17 judge itself: after the header line `once a` and lines that stand for the events `tr`
(`lineEvent`: event lines, and `fpanic t` for `fend t [0,…,0]`), if the judge has not rejected (every model output
was `ok`), then `tr` is the visible trace of an execution of the model from its initial state -/
theorem judge_accept_sound (st0 : St) (a : Int) (impl0 : String) (lines : List (List Val × String))
    (tr : List Event) (hparse : lines.map (fun l => lineEvent a.toNat l.1) = tr.map some)
    (hok : (runLines (step st0 [.w "once", .i a] impl0).1 lines).rejected = false) :
    ∃ (N : Nat) (res : Nat → List Int) (ls : List (Option Event)) (s : State),
      Exec (sys N a.toNat res) (init N a.toNat) ls s ∧ visible ls = tr :=
  driver_accept_sound a.toNat closureFuel tr ((judge_ok_iff st0 a impl0 lines tr hparse).1 hok).2

end StepModel

end TypVerif.Lemmas.ConcAcceptC17

#print axioms TypVerif.Lemmas.ConcAcceptC17.jfold_sound
#print axioms TypVerif.Lemmas.ConcAcceptC17.driver_accept_sound_explicit
#print axioms TypVerif.Lemmas.ConcAcceptC17.driver_accept_sound
#print axioms TypVerif.Lemmas.ConcAcceptC17.step_model
#print axioms TypVerif.Lemmas.ConcAcceptC17.step_parsed
#print axioms TypVerif.Lemmas.ConcAcceptC17.judge_accept_sound
