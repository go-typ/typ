import TypVerif.Model.Pool
import TypVerif.Lemmas.AtomicObj
/-
Ownership in the Pool transition system.  Every step permutes what its goroutine and the pool hold together, or adds one id
that `Good.known` shows nobody has; `good_move` derives `Good` afterwards from that `Perm` and the freshness of the new id.
-/
namespace TypVerif.Lemmas.Pool
open TypVerif TypVerif.Conc TypVerif.Model.Pool TypVerif.Model

def Owns (s : State) (t : Nat) (id : Nat) : Prop := id ∈ (s.thr t).items

structure Good (s : State) : Prop where
  owner : ∀ t1 t2 id, Owns s t1 id → Owns s t2 id → t1 = t2
  notBag : ∀ t id, Owns s t id → id ∉ s.bag
  nodupT : ∀ t, (s.thr t).items.Nodup
  nodupB : s.bag.Nodup
  /-- `1000` is the model's split of ids: the callers' scripts make `1..999` (`isScript`), `New` counts `fresh` up from `1000` -/
  known : ∀ id, (id ∈ s.bag ∨ ∃ t, Owns s t id) → id ≠ 0 ∧ (id < 1000 → id ∈ s.minted) ∧ id < s.fresh
  freshLB : 1000 ≤ s.fresh

theorem thr_init (n t : Nat) : (init n).thr t = ⟨.idle, []⟩ :=
  Lemmas.AtomicObj.getD_replicate n t _

theorem good_init (n : Nat) : Good (init n) := by
  refine ⟨?_, ?_, ?_, ?_, ?_, ?_⟩
  · intro t1 t2 id h; simp [Owns, thr_init, Thr.items, localItems] at h
  · intro t id h; simp [Owns, thr_init, Thr.items, localItems] at h
  · intro t; simp [thr_init, Thr.items, localItems]
  · simp [init]
  · intro id h
    rcases h with h | ⟨t, h⟩
    · simp [init] at h
    · simp [Owns, thr_init, Thr.items, localItems] at h
  · simp [init]

/-- every step moves items between its goroutine `t` and the pool, or brings in items `new` that nobody had -/
theorem good_move {s s' : State} {t : Nat} {th' : Thr} (hg : Good s) (new : List Nat)
    (hthr : ∀ t', s'.thr t' = if t' = t then th' else s.thr t')
    (hperm : (th'.items ++ s'.bag).Perm (new ++ ((s.thr t).items ++ s.bag)))
    (hnew : new.Nodup) (hfree : ∀ x ∈ new, x ∉ s.bag ∧ ∀ t', ¬ Owns s t' x)
    (hx : ∀ x ∈ new, x ≠ 0 ∧ (x < 1000 → x ∈ s'.minted) ∧ x < s'.fresh)
    (hfresh : s.fresh ≤ s'.fresh) (hmint : ∀ id, id ∈ s.minted → id ∈ s'.minted) : Good s' := by
  have hmem : ∀ id, id ∈ th'.items ∨ id ∈ s'.bag → id ∈ new ∨ id ∈ (s.thr t).items ∨ id ∈ s.bag := fun id h => by
    simpa only [List.mem_append] using hperm.mem_iff.mp (List.mem_append.mpr h)
  obtain ⟨hT, hB, hTB⟩ := List.nodup_append.mp <| hperm.nodup_iff.mpr <| List.nodup_append.mpr
    ⟨hnew, List.nodup_append.mpr ⟨hg.nodupT t, hg.nodupB, fun a ha b hb e => hg.notBag t a ha (e ▸ hb)⟩,
      fun a ha b hb e => (List.mem_append.mp hb).elim (fun h => (hfree a ha).2 t (e ▸ h)) fun h => (hfree a ha).1 (e ▸ h)⟩
  have hOt : ∀ id, Owns s' t id ↔ id ∈ th'.items := fun id => by unfold Owns; rw [hthr, if_pos rfl]
  have hO : ∀ {t'} id, t' ≠ t → (Owns s' t' id ↔ Owns s t' id) := fun id e => by unfold Owns; rw [hthr, if_neg e]
  have key : ∀ {t'} id, t' ≠ t → Owns s t' id → id ∉ th'.items ∧ id ∉ s'.bag := by
    intro t' id e ho
    have : ¬ (id ∈ th'.items ∨ id ∈ s'.bag) := fun h => by
      rcases hmem id h with h | h | h
      · exact (hfree id h).2 t' ho
      · exact e (hg.owner t' t id ho h)
      · exact hg.notBag t' id ho h
    exact ⟨fun h => this (.inl h), fun h => this (.inr h)⟩
  refine ⟨?_, ?_, ?_, hB, ?_, Nat.le_trans hg.freshLB hfresh⟩
  · intro t1 t2 id h1 h2
    by_cases e1 : t1 = t <;> by_cases e2 : t2 = t
    · exact e1.trans e2.symm
    · exact absurd ((hOt id).mp (e1 ▸ h1)) (key id e2 ((hO id e2).mp h2)).1
    · exact absurd ((hOt id).mp (e2 ▸ h2)) (key id e1 ((hO id e1).mp h1)).1
    · exact hg.owner t1 t2 id ((hO id e1).mp h1) ((hO id e2).mp h2)
  · intro t' id h hb
    by_cases e : t' = t
    · exact hTB id ((hOt id).mp (e ▸ h)) id hb rfl
    · exact (key id e ((hO id e).mp h)).2 hb
  · intro t'
    rw [hthr]
    split
    · exact hT
    · exact hg.nodupT t'
  · intro id h
    have h' : id ∈ new ∨ (id ∈ s.bag ∨ ∃ t, Owns s t id) := by
      rcases h with h | ⟨t', h⟩
      · exact (hmem id (.inr h)).imp_right fun h => h.symm.imp_right fun h => ⟨t, h⟩
      · by_cases e : t' = t
        · exact (hmem id (.inl ((hOt id).mp (e ▸ h)))).imp_right fun h => h.symm.imp_right fun h => ⟨t, h⟩
        · exact .inr (.inr ⟨t', (hO id e).mp h⟩)
    rcases h' with h' | h'
    · exact hx id h'
    · obtain ⟨a, b, c⟩ := hg.known id h'
      exact ⟨a, fun h => hmint _ (b h), Nat.lt_of_lt_of_le c hfresh⟩

theorem good_perm {s s' : State} {t : Nat} {th' : Thr} (hg : Good s)
    (hthr : ∀ t', s'.thr t' = if t' = t then th' else s.thr t')
    (hperm : (th'.items ++ s'.bag).Perm ((s.thr t).items ++ s.bag))
    (hfresh : s'.fresh = s.fresh) (hmint : ∀ id, id ∈ s.minted → id ∈ s'.minted) : Good s' :=
  good_move hg [] hthr hperm .nil nofun nofun (Nat.le_of_eq hfresh.symm) hmint

theorem thr_mk (s : State) (t t' : Nat) (th : Thr) (ht : t < s.thrs.length) b f m :
    State.thr ⟨s.thrs.set t th, b, f, m⟩ t' = if t' = t then th else s.thr t' :=
  Lemmas.getD_set_of_lt s.thrs t t' th _ ht

theorem mem_succ {hasNew : Bool} {menu : List Op} {s : State} {p : Option Event × State} :
    p ∈ succ hasNew menu s ↔ ∃ t, t < s.thrs.length ∧ p ∈ stepT hasNew menu s t := by
  simp only [succ, List.mem_flatMap, List.mem_range]

inductive Shape (hasNew : Bool) (menu : List Op) (s : State) (t : Nat) : Option Event → State → Prop where
  | invGet : (s.thr t).pc = .idle → Op.get ∈ menu →
      Shape hasNew menu s t (some (.inv t .get)) ⟨s.thrs.set t ⟨.g0, (s.thr t).held⟩, s.bag, s.fresh, s.minted⟩
  | invPut (id : Nat) : (s.thr t).pc = .idle → Op.put id ∈ menu → mayPut s (s.thr t) id = true →
      Shape hasNew menu s t (some (.inv t (.put id)))
        ⟨s.thrs.set t ⟨.p0 id, (s.thr t).held.erase id⟩, s.bag, s.fresh,
          if (s.thr t).held.contains id then s.minted else id :: s.minted⟩
  | readNew : (s.thr t).pc = .g0 →
      Shape hasNew menu s t none
        ⟨s.thrs.set t ⟨if hasNew then .g1 else .gRet none, (s.thr t).held⟩, s.bag, s.fresh, s.minted⟩
  | poolHit (x : Nat) : (s.thr t).pc = .g1 → x ∈ s.bag →
      Shape hasNew menu s t none
        ⟨s.thrs.set t ⟨.gRet (some x), (s.thr t).held⟩, s.bag.erase x, s.fresh, s.minted⟩
  | poolMiss : (s.thr t).pc = .g1 →
      Shape hasNew menu s t none ⟨s.thrs.set t ⟨.g2, (s.thr t).held⟩, s.bag, s.fresh, s.minted⟩
  | callNew : (s.thr t).pc = .g2 →
      Shape hasNew menu s t none
        ⟨s.thrs.set t ⟨.gRet (some s.fresh), (s.thr t).held⟩, s.bag, s.fresh + 1, s.minted⟩
  | retGet (x : Option Nat) : (s.thr t).pc = .gRet x →
      Shape hasNew menu s t (some (.res t (.item (x.getD 0))))
        ⟨s.thrs.set t ⟨.idle, match x with | some i => i :: (s.thr t).held | none => (s.thr t).held⟩,
          s.bag, s.fresh, s.minted⟩
  | poolPut (id : Nat) : (s.thr t).pc = .p0 id →
      Shape hasNew menu s t none ⟨s.thrs.set t ⟨.pRet, (s.thr t).held⟩, id :: s.bag, s.fresh, s.minted⟩
  | retPut : (s.thr t).pc = .pRet →
      Shape hasNew menu s t (some (.res t .done)) ⟨s.thrs.set t ⟨.idle, (s.thr t).held⟩, s.bag, s.fresh, s.minted⟩

theorem step_shape {hasNew : Bool} {menu : List Op} {s s' : State} {l : Option Event}
    (h : (l, s') ∈ succ hasNew menu s) : ∃ t, t < s.thrs.length ∧ Shape hasNew menu s t l s' := by
  obtain ⟨t, ht, hstep⟩ := mem_succ.mp h
  refine ⟨t, ht, ?_⟩
  unfold stepT at hstep
  simp only at hstep
  split at hstep
  · obtain ⟨op, hop, hin⟩ := List.mem_flatMap.mp hstep
    cases op with
    | get =>
      simp only [List.mem_singleton, Prod.mk.injEq] at hin
      obtain ⟨rfl, rfl⟩ := hin
      exact Shape.invGet (by assumption) hop
    | put id =>
      simp only at hin
      split at hin
      · simp only [List.mem_singleton, Prod.mk.injEq] at hin
        obtain ⟨rfl, rfl⟩ := hin
        exact Shape.invPut id (by assumption) hop (by assumption)
      · simp at hin
  · cases List.mem_singleton.mp hstep
    exact Shape.readNew (by assumption)
  · rcases List.mem_append.mp hstep with hin | hin
    · obtain ⟨x, hx, heq⟩ := List.mem_map.mp hin
      simp only [Prod.mk.injEq] at heq
      obtain ⟨rfl, rfl⟩ := heq
      exact Shape.poolHit x (by assumption) hx
    · simp only [List.mem_singleton, Prod.mk.injEq] at hin
      obtain ⟨rfl, rfl⟩ := hin
      exact Shape.poolMiss (by assumption)
  · cases List.mem_singleton.mp hstep
    exact Shape.callNew (by assumption)
  · cases List.mem_singleton.mp hstep
    exact Shape.retGet _ (by assumption)
  · cases List.mem_singleton.mp hstep
    exact Shape.poolPut _ (by assumption)
  · cases List.mem_singleton.mp hstep
    exact Shape.retPut (by assumption)


theorem items_eq (th : Thr) : th.items = th.held ++ localItems th.pc := rfl

theorem good_step (hasNew : Bool) (menu : List Op) (s : State) (l : Option Event) (s' : State)
    (hg : Good s) (hmem : (l, s') ∈ succ hasNew menu s) : Good s' := by
  obtain ⟨t, ht, hshape⟩ := step_shape hmem
  have hfl := hg.freshLB
  -- in every case: what the stepping goroutine and the pool hold afterwards, as a permutation of what they held
  cases hshape with
  | invGet hpc _ | poolMiss hpc | retPut hpc =>
    -- the goroutine only moves on: it holds what it held, and so does the pool
    refine good_perm (t := t) hg (thr_mk s t · _ ht _ _ _) ?_ rfl (fun _ h => h)
    rw [items_eq (s.thr t), hpc]; exact .refl _
  | invPut id hpc _ hmay =>
    have hi : (s.thr t).items = (s.thr t).held := by rw [items_eq, hpc]; exact List.append_nil _
    by_cases hh : id ∈ (s.thr t).held
    · rw [if_pos (List.contains_iff_mem.mpr hh)]
      refine good_perm (t := t) hg (thr_mk s t · _ ht _ _ _) (.append_right _ ?_) rfl (fun _ h => h)
      rw [hi]
      exact (List.perm_append_singleton _ _).trans (List.perm_cons_erase hh).symm
    · -- a script-made item that has not entered yet
      have hc : (s.thr t).held.contains id = false := Bool.eq_false_iff.mpr fun h => hh (List.contains_iff_mem.mp h)
      simp only [mayPut, hc, Bool.false_or, Bool.and_eq_true, Bool.not_eq_true', isScript,
        decide_eq_true_eq] at hmay
      obtain ⟨⟨h1, h2⟩, h3⟩ := hmay
      have hnm : id ∉ s.minted := by simpa using h3
      rw [hc, List.erase_of_not_mem hh]
      refine good_move (t := t) hg [id] (thr_mk s t · _ ht _ _ _) ?_ (List.pairwise_singleton _ _)
        (fun x hx => ?_) (fun x hx => ?_) (Nat.le_refl _) (fun _ h => List.mem_cons_of_mem _ h)
      · rw [hi]
        exact .append_right _ (List.perm_append_singleton _ _)
      · cases List.mem_singleton.mp hx
        exact ⟨fun hb => hnm ((hg.known id (Or.inl hb)).2.1 h2), fun t' h => hnm ((hg.known id (Or.inr ⟨t', h⟩)).2.1 h2)⟩
      · cases List.mem_singleton.mp hx
        exact ⟨by omega, fun _ => List.mem_cons_self, show id < s.fresh by omega⟩
  | readNew hpc =>
    refine good_perm (t := t) hg (thr_mk s t · _ ht _ _ _) ?_ rfl (fun _ h => h)
    rw [items_eq (s.thr t), hpc]
    cases hasNew <;> exact .refl _
  | poolHit x hpc hx =>
    refine good_perm (t := t) hg (thr_mk s t · _ ht _ _ _) ?_ rfl (fun _ h => h)
    rw [items_eq (s.thr t), hpc]
    show ((s.thr t).held ++ [x] ++ s.bag.erase x).Perm ((s.thr t).held ++ [] ++ s.bag)
    rw [List.append_nil, List.append_assoc]
    exact .append_left _ (List.perm_cons_erase hx).symm
  | callNew hpc =>
    refine good_move (t := t) hg [s.fresh] (thr_mk s t · _ ht _ _ _) ?_ (List.pairwise_singleton _ _)
      (fun x hx => ?_) (fun x hx => ?_) (Nat.le_succ _) (fun _ h => h)
    · rw [items_eq (s.thr t), hpc]
      show ((s.thr t).held ++ [s.fresh] ++ s.bag).Perm (s.fresh :: ((s.thr t).held ++ [] ++ s.bag))
      rw [List.append_nil]
      exact .append_right _ (List.perm_append_singleton _ _)
    · cases List.mem_singleton.mp hx
      exact ⟨fun hb => Nat.lt_irrefl _ (hg.known _ (Or.inl hb)).2.2, fun t' h => Nat.lt_irrefl _ (hg.known _ (Or.inr ⟨t', h⟩)).2.2⟩
    · cases List.mem_singleton.mp hx
      exact ⟨by omega, fun h => by omega, Nat.lt_succ_self _⟩
  | retGet x hpc =>
    refine good_perm (t := t) hg (thr_mk s t · _ ht _ _ _) (.append_right _ ?_) rfl (fun _ h => h)
    rw [items_eq (s.thr t), hpc]
    cases x with
    | none => exact .refl _
    | some i => exact (List.Perm.of_eq (List.append_nil _)).trans (List.perm_append_singleton i _).symm
  | poolPut id hpc =>
    refine good_perm (t := t) hg (thr_mk s t · _ ht _ _ _) ?_ rfl (fun _ h => h)
    rw [items_eq (s.thr t), hpc]
    show ((s.thr t).held ++ [] ++ id :: s.bag).Perm ((s.thr t).held ++ [id] ++ s.bag)
    rw [List.append_nil, List.append_assoc]
    exact .refl _

theorem good_reachable (hasNew : Bool) (menu : List Op) (n : Nat) :
    ∀ s, Reachable (sys hasNew menu n) s → Good s :=
  Conc.invariant (sys hasNew menu n) Good (good_init n) (fun s l s' h hm => good_step hasNew menu s l s' h hm)


end TypVerif.Lemmas.Pool
