import TypVerif.Lemmas.C09AcceptSim1
/-
Acceptance soundness and completeness for the judge `Drv/C09.lean`: the relation `R` (`C09AcceptRel.lean`) is a bisimulation.
Goroutine by goroutine, the successor lists `stepT … a t` of a model state and `stepT … x t` of a judge state standing for it agree
element by element: same label, related states (`sim_stepT`).  Both directions follow: every step of the judge state is matched by
a step of the model state (`R_succ`), and conversely (`R_succ_fwd`).  The related states are related by `R`, which includes
well-formedness of the model state: that `WF` is an invariant of the model (`C09.wf_succ`) is the bisimulation of a state with itself.
-/
namespace TypVerif.Lemmas.C09Accept
open TypVerif TypVerif.Conc TypVerif.Model.KeyedMutex TypVerif.Drv.C09
open TypVerif.Lemmas.KeyedMutex

theorem sim_invOk {f : Nat → Nat} {a x : State} (hr : Rel f a x) (rw : Bool) (t : Nat) (op : Op) :
    invOk rw x t op = invOk rw a t op := by
  have e1 : decide ((t, op.key) ∈ x.wh) = decide ((t, op.key) ∈ a.wh) := decide_eq_decide.mpr hr.wh.mem_iff
  have e2 : decide ((t, op.key) ∈ x.rh) = decide ((t, op.key) ∈ a.rh) := decide_eq_decide.mpr hr.rh.mem_iff
  have e3 : decide ((t, op.key) ∉ x.rh) = decide ((t, op.key) ∉ a.rh) :=
    decide_eq_decide.mpr (not_congr hr.rh.mem_iff)
  unfold invOk
  rw [e1, e2, e3]

theorem sim_clearOk {f : Nat → Nat} {a x : State} (hr : Rel f a x) (k : Nat) : clearOk x k = clearOk a k := by
  unfold clearOk
  have e : ((fun p => !onKey k p) ∘ renPc f) = (fun p => !onKey k p) := by
    funext p
    show (!onKey k (renPc f p)) = !onKey k p
    rw [sim_onKey_renPc]
  rw [hr.wh.all_eq, hr.rh.all_eq, hr.pcs, List.all_map, e]

theorem sim_R_clear {f : Nat → Nat} {a x : State} (hw : WF a) (hr : Rel f a x) (t k : Nat) :
    R ⟨a.pcs.set t (.ret .done), del a.map k, a.heap, a.wh, a.rh⟩
      ⟨x.pcs.set t (.ret .done), del x.map k, x.heap, x.wh, x.rh⟩ := by
  refine sim_R_frame hw hr (sim_del_keys_nodup k hw.keysNd) (Nat.le_refl _) (fun m' h => ?_)
    (sim_pcs_set hr t (.ret .done)) ?_ (Nat.le_refl _) hr.mu hr.wh hr.rh
  · rcases sim_live_set h with ⟨k', hm⟩ | hm | hm
    · exact .inl ⟨k', sim_mem_del hm⟩
    · exact .inr hm
    · cases hm
  · show (del x.map k).Perm ((del a.map k).map (fun p => (p.1, f p.2)))
    rw [← sim_del_map]
    exact sim_del_perm hr.map k

theorem sim_R_hit {f : Nat → Nat} {a x : State} (hw : WF a) (hr : Rel f a x) (t : Nat) (kd : Kind) (k : Nat) {m : Nat}
    (hm : Live a m) :
    R ⟨a.pcs.set t (.act kd k m), a.map, a.heap ++ [Mu.free], a.wh, a.rh⟩
      ⟨x.pcs.set t (.act kd k (f m)), x.map, x.heap ++ [Mu.free], x.wh, x.rh⟩ := by
  refine sim_R_frame hw hr hw.keysNd (List.length_append ▸ Nat.le_add_right _ _)
    (fun _ h => sim_live_set_same (fun _ h' => Option.some.inj h' ▸ hm) h) (sim_pcs_set hr t (.act kd k m))
    hr.map (List.length_append ▸ Nat.le_add_right _ _) (fun m1 h1 => ?_) hr.wh hr.rh
  rw [mu_mk_append x, mu_mk_append a]
  exact hr.mu m1 h1

/-- the one step that changes the renaming: the cell allocated on a miss has a different id on the two sides, and the renaming is
extended by sending the new id to the new id -/
theorem sim_R_miss {f : Nat → Nat} {a x : State} (hw : WF a) (hr : Rel f a x) (t : Nat) (kd : Kind) {k : Nat}
    (hget : get a.map k = none) :
    R ⟨a.pcs.set t (.act kd k a.heap.length), (k, a.heap.length) :: a.map, a.heap ++ [Mu.free], a.wh, a.rh⟩
      ⟨x.pcs.set t (.act kd k x.heap.length), (k, x.heap.length) :: x.map, x.heap ++ [Mu.free], x.wh, x.rh⟩ := by
  let f' : Nat → Nat := fun m => if m = a.heap.length then x.heap.length else f m
  have hold : ∀ m, Live a m → f' m = f m := fun m h => if_neg (Nat.ne_of_lt (hw.liveLt m h))
  have hnew : f' a.heap.length = x.heap.length := if_pos rfl
  have hlive : ∀ m',
      Live ⟨a.pcs.set t (.act kd k a.heap.length), (k, a.heap.length) :: a.map, a.heap ++ [Mu.free], a.wh, a.rh⟩ m' →
      m' = a.heap.length ∨ Live a m' := by
    intro m' h
    rcases sim_live_set h with ⟨k', hm⟩ | hm | hm
    · rcases List.mem_cons.mp hm with hm | hm
      · exact .inl (Prod.mk.inj hm).2
      · exact .inr (.inl ⟨k', hm⟩)
    · exact .inr (.inr hm)
    · exact .inl (Option.some.inj hm).symm
  have hlt : ∀ m, Live a m → f' m < x.heap.length := fun m h => hold m h ▸ hr.ltX m h
  refine ⟨⟨List.nodup_cons.mpr ⟨sim_get_none_keys hget, hw.keysNd⟩, fun m1 h1 => ?_⟩, f', ?_, ?_, ?_, ?_, ?_, hr.wh, hr.rh⟩
  · show m1 < (a.heap ++ [Mu.free]).length
    rw [List.length_append, List.length_singleton]
    exact (hlive _ h1).elim (fun e => e ▸ Nat.lt_succ_self _) (fun h => Nat.lt_succ_of_lt (hw.liveLt m1 h))
  · show _ = (a.pcs.set t (.act kd k a.heap.length)).map (renPc f')
    rw [List.map_set, hr.pcs, List.map_congr_left (fun p hp => sim_renPc_congr (fun m hm => hold m (.inr ⟨p, hp, hm⟩)))]
    show _ = (a.pcs.map (renPc f)).set t (.act kd k (f' a.heap.length))
    rw [hnew]
  · show ((k, x.heap.length) :: x.map).Perm ((k, f' a.heap.length) :: a.map.map (fun p => (p.1, f' p.2)))
    rw [hnew, List.map_congr_left (fun p hp => congrArg (Prod.mk p.1) (hold p.2 (.inl ⟨p.1, hp⟩)))]
    exact hr.map.cons _
  · intro m1 m2 h1 h2 e
    rcases hlive _ h1 with e1 | h1 <;> rcases hlive _ h2 with e2 | h2
    · rw [e1, e2]
    · rw [e1, hnew] at e
      exact absurd e.symm (Nat.ne_of_lt (hlt m2 h2))
    · rw [e2, hnew] at e
      exact absurd e (Nat.ne_of_lt (hlt m1 h1))
    · rw [hold m1 h1, hold m2 h2] at e
      exact hr.inj m1 m2 h1 h2 e
  · intro m1 h1
    show _ < (x.heap ++ [Mu.free]).length
    rw [List.length_append, List.length_singleton]
    rcases hlive _ h1 with e1 | h1
    · rw [e1, hnew]
      exact Nat.lt_succ_self _
    · exact Nat.lt_succ_of_lt (hlt m1 h1)
  · intro m1 h1
    rcases hlive _ h1 with e1 | h1
    · rw [e1, hnew, mu_mk_append x, mu_mk_append a, mu_free_of_ge x (Nat.le_refl _), mu_free_of_ge a (Nat.le_refl _)]
      exact sim_muEq_refl _
    · rw [hold m1 h1, mu_mk_append x, mu_mk_append a]
      exact hr.mu m1 h1

theorem sim_R_acqW {f : Nat → Nat} {a x : State} (hw : WF a) (hr : Rel f a x) (t k : Nat) {m : Nat} (r : Res)
    (hm : Live a m) : R (acqW a t k m r) (acqW x t k (f m) r) := by
  have hμ := hr.mu m hm
  exact sim_R_update hw hr t m (.ret r) _ _ _ _ _ _ hm (fun m' h => by cases h)
    ⟨rfl, hμ.2.1, hμ.2.2.1.filter _, hμ.2.2.2⟩ (hr.wh.cons _) hr.rh

theorem sim_R_acqR {f : Nat → Nat} {a x : State} (hw : WF a) (hr : Rel f a x) (t k : Nat) {m : Nat} (r : Res)
    (hm : Live a m) : R (acqR a t k m r) (acqR x t k (f m) r) := by
  have hμ := hr.mu m hm
  exact sim_R_update hw hr t m (.ret r) _ _ _ _ _ _ hm (fun m' h => by cases h)
    ⟨hμ.1, hμ.2.1.cons t, hμ.2.2.1, hμ.2.2.2⟩ hr.wh (hr.rh.cons _)

theorem sim_R_queue {f : Nat → Nat} {a x : State} (hw : WF a) (hr : Rel f a x) (t : Nat) {m : Nat} (p' : Pc)
    {pd wq pd' wq' : List Nat} (hm : Live a m) (hp' : ∀ m', pcLocal p' = some m' → Live a m')
    (hpd : pd'.Perm pd) (hwq : wq'.Perm wq) :
    R (queueStep a t m p' pd wq) (queueStep x t (f m) (renPc f p') pd' wq') := by
  have hμ := hr.mu m hm
  exact sim_R_update hw hr t m p' _ _ _ _ _ _ hm hp' ⟨hμ.1, hμ.2.1, hpd, hwq⟩ hr.wh hr.rh

theorem sim_R_relW {f : Nat → Nat} {a x : State} (hw : WF a) (hr : Rel f a x) (t k : Nat) {m : Nat} (p' : Pc)
    {wq wq' : List Nat} (hm : Live a m) (hp' : ∀ m', pcLocal p' = some m' → Live a m') (hwq : wq'.Perm wq) :
    R (relW a t k m p' wq) (relW x t k (f m) (renPc f p') wq') := by
  have hμ := hr.mu m hm
  exact sim_R_update hw hr t m p' _ _ _ _ _ _ hm hp' ⟨rfl, hμ.2.1, hμ.2.2.1, hwq⟩ (hr.wh.erase _) hr.rh

theorem sim_R_runlock {f : Nat → Nat} {a x : State} (hw : WF a) (hr : Rel f a x) (t k : Nat) {m : Nat}
    (hm : Live a m) :
    R ⟨a.pcs.set t (.ret .done), a.map,
        a.heap.set m ⟨(a.mu m).writer, (a.mu m).readers.erase t, (a.mu m).pending, (a.mu m).wq⟩, a.wh, a.rh.erase (t, k)⟩
      ⟨x.pcs.set t (.ret .done), x.map,
        x.heap.set (f m) ⟨(x.mu (f m)).writer, (x.mu (f m)).readers.erase t, (x.mu (f m)).pending, (x.mu (f m)).wq⟩,
        x.wh, x.rh.erase (t, k)⟩ := by
  have hμ := hr.mu m hm
  exact sim_R_update hw hr t m (.ret .done) _ _ _ _ _ _ hm (fun m' h => by cases h)
    ⟨hμ.1, hμ.2.1.erase t, hμ.2.2.1, hμ.2.2.2⟩ hr.wh (hr.rh.erase _)

/-- same labels, and the states of the second list stand for those of the first (`R`: each under a renaming of its own,
`sim_R_miss` extends it) -/
inductive Match : List (Option Event × State) → List (Option Event × State) → Prop where
  | nil : Match [] []
  | cons {l : Option Event} {a x : State} {la lx : List (Option Event × State)} :
      R a x → Match la lx → Match ((l, a) :: la) ((l, x) :: lx)

theorem Match.one {a x : State} (hr : R a x) : Match [(none, a)] [(none, x)] := .cons hr .nil

theorem Match.ite {c c' : Prop} [Decidable c] [Decidable c'] (h : c' ↔ c) {la la' lx lx' : List (Option Event × State)}
    (h1 : Match la lx) (h2 : Match la' lx') : Match (if c then la else la') (if c' then lx else lx') := by
  by_cases hc : c
  · rw [if_pos hc, if_pos (h.mpr hc)]
    exact h1
  · rw [if_neg hc, if_neg (fun h' => hc (h.mp h'))]
    exact h2

theorem Match.map {α : Type} {F G : α → Option Event × State} (l : List α)
    (h1 : ∀ o ∈ l, (F o).1 = (G o).1) (h2 : ∀ o ∈ l, R (F o).2 (G o).2) : Match (l.map F) (l.map G) := by
  induction l with
  | nil => exact .nil
  | cons o l ih =>
    have e := h1 o List.mem_cons_self
    have r := h2 o List.mem_cons_self
    rw [List.map_cons, List.map_cons]
    generalize F o = p at e r
    generalize G o = q at e r
    obtain ⟨l1, a⟩ := p
    obtain ⟨l2, x⟩ := q
    cases e
    exact .cons r (ih (fun o h => h1 o (List.mem_cons_of_mem _ h)) (fun o h => h2 o (List.mem_cons_of_mem _ h)))

theorem Match.left {la lx : List (Option Event × State)} (h : Match la lx) {l : Option Event} {a' : State}
    (hm : (l, a') ∈ la) : ∃ z, (l, z) ∈ lx ∧ R a' z := by
  induction h with
  | nil => cases hm
  | @cons l0 a x la lx hr _ ih =>
    rcases List.mem_cons.mp hm with e | hm
    · cases e
      exact ⟨x, List.mem_cons_self, hr⟩
    · obtain ⟨z, hz, hr'⟩ := ih hm
      exact ⟨z, List.mem_cons_of_mem _ hz, hr'⟩

theorem Match.right {la lx : List (Option Event × State)} (h : Match la lx) {l : Option Event} {z : State}
    (hm : (l, z) ∈ lx) : ∃ a', (l, a') ∈ la ∧ R a' z := by
  induction h with
  | nil => cases hm
  | @cons l0 a x la lx hr _ ih =>
    rcases List.mem_cons.mp hm with e | hm
    · cases e
      exact ⟨a, List.mem_cons_self, hr⟩
    · obtain ⟨a', ha, hr'⟩ := ih hm
      exact ⟨a', List.mem_cons_of_mem _ ha, hr'⟩

theorem sim_actStep {rw : Bool} {f : Nat → Nat} {a x : State} {t : Nat} (kd : Kind) (k : Nat) {m : Nat}
    (hw : WF a) (hr : Rel f a x) (hm : Live a m) : Match (actStep rw a t kd k m) (actStep rw x t kd k (f m)) := by
  have hμ := hr.mu m hm
  have hself : ∀ (p : Pc), pcLocal p = some m → ∀ m', pcLocal p = some m' → Live a m' :=
    fun p hp m' hp' => Option.some.inj (hp.symm.trans hp') ▸ hm
  cases kd with
  | lock =>
    exact .ite Iff.rfl (.one (sim_R_queue hw hr t (.ann k m) hm (hself _ rfl) hμ.2.2.1 (hμ.2.2.2.cons t)))
      (.ite (sim_muEq_acq hμ) (.one (sim_R_acqW hw hr t k .done hm)) .nil)
  | trylock =>
    exact .ite (sim_muEq_try hμ) (.one (sim_R_acqW hw hr t k .tt hm)) (.one (sim_R_setPc hw hr t (.ret .ff) nofun))
  | unlock =>
    exact .ite Iff.rfl (.one (sim_R_relW hw hr t k (.rel k m) hm (hself _ rfl) (hμ.2.2.2.cons t)))
      (.one (sim_R_relW hw hr t k (.ret .done) hm nofun hμ.2.2.2))
  | rlock => exact .ite (sim_muEq_rd hμ) (.one (sim_R_acqR hw hr t k .done hm)) .nil
  | tryrlock =>
    exact .ite (sim_muEq_rd hμ) (.one (sim_R_acqR hw hr t k .tt hm)) (.one (sim_R_setPc hw hr t (.ret .ff) nofun))
  | runlock => exact .one (sim_R_runlock hw hr t k hm)
  | clear => exact .nil

theorem sim_losStep {g : Bool} {f : Nat → Nat} {a x : State} (t : Nat) (kd : Kind) (k : Nat)
    (hw : WF a) (hr : Rel f a x) : Match (losStep g a t kd k) (losStep g x t kd k) := by
  by_cases hkd : kd = .clear
  · subst hkd
    rw [losStep_clear, losStep_clear, sim_clearOk hr]
    exact .ite Iff.rfl (.one (sim_R_clear hw hr t k)) .nil
  · have hget : get x.map k = (get a.map k).map f := by
      rw [sim_get_perm hr.map (by rw [sim_keys_map]; exact hw.keysNd), sim_get_map]
    cases hga : get a.map k with
    | none =>
      rw [hga] at hget
      rw [losStep_miss g x t hkd hget, losStep_miss g a t hkd hga]
      exact .one (sim_R_miss hw hr t kd hga)
    | some m =>
      rw [hga] at hget
      rw [losStep_hit g x t hkd hget, losStep_hit g a t hkd hga]
      exact .one (sim_R_hit hw hr t kd k (sim_live_map hga))

/-- goroutine `t` has the same steps, up to `R`, in a model state and in a judge state standing for it -/
theorem sim_stepT {rw g : Bool} {ops : List Op} {f : Nat → Nat} {a x : State} {t : Nat}
    (hw : WF a) (hr : Rel f a x) (ht : t < a.pcs.length) : Match (stepT rw g ops a t) (stepT rw g ops x t) := by
  have hx := sim_pc_ren hr t
  have hloc : ∀ {m : Nat}, pcLocal (a.pc t) = some m → Live a m := sim_live_pc ht
  cases hpc : a.pc t with
  | idle =>
    rw [hpc] at hx
    rw [stepT_idle hpc, stepT_idle hx, funext (sim_invOk hr rw t)]
    exact .map _ (fun _ _ => rfl) (fun op _ => sim_R_setPc hw hr t (.los op.kind op.key) nofun)
  | los kd k =>
    rw [hpc] at hx
    rw [stepT_los hpc, stepT_los hx]
    exact sim_losStep t kd k hw hr
  | act kd k m =>
    rw [hpc] at hx hloc
    rw [stepT_act hpc, stepT_act hx]
    exact sim_actStep kd k hw hr (hloc rfl)
  | ann k m =>
    rw [hpc] at hx hloc
    have hμ := hr.mu m (hloc rfl)
    rw [stepT_ann hpc, stepT_ann hx]
    exact .one (sim_R_queue hw hr t (.wait k m) (hloc rfl) (fun m' h' => Option.some.inj h' ▸ hloc rfl)
      (hμ.2.2.1.cons t) (hμ.2.2.2.filter _))
  | wait k m =>
    rw [hpc] at hx hloc
    rw [stepT_wait hpc, stepT_wait hx]
    exact .ite (sim_muEq_acq (hr.mu m (hloc rfl))) (.one (sim_R_acqW hw hr t k .done (hloc rfl))) .nil
  | rel k m =>
    rw [hpc] at hx hloc
    have hμ := hr.mu m (hloc rfl)
    rw [stepT_rel hpc, stepT_rel hx]
    exact .one (sim_R_queue hw hr t (.ret .done) (hloc rfl) nofun hμ.2.2.1 (hμ.2.2.2.filter _))
  | ret r =>
    rw [hpc] at hx
    rw [stepT_ret hpc, stepT_ret hx]
    exact .cons (sim_R_setPc hw hr t .idle nofun) .nil

theorem R_succ {rw g : Bool} {ops : List Op} {a x z : State} {l : Option Event}
    (hr : R a x) (h : (l, z) ∈ succ rw g ops x) : ∃ a', (l, a') ∈ succ rw g ops a ∧ R a' z := by
  obtain ⟨hw, f, hrel⟩ := hr
  obtain ⟨t, ht, hs⟩ := mem_succ.mp h
  rw [sim_len hrel] at ht
  obtain ⟨a', hm, hr'⟩ := (sim_stepT hw hrel ht).right hs
  exact ⟨a', mem_succ.mpr ⟨t, ht, hm⟩, hr'⟩

end TypVerif.Lemmas.C09Accept

namespace TypVerif.Lemmas.C09Complete
open TypVerif TypVerif.Conc TypVerif.Model.KeyedMutex TypVerif.Lemmas.C09Accept TypVerif.Lemmas.KeyedMutex

theorem R_succ_fwd {rw g : Bool} {ops : List Op} {a x a' : State} {l : Option Event}
    (hr : R a x) (h : (l, a') ∈ succ rw g ops a) : ∃ z, (l, z) ∈ succ rw g ops x ∧ R a' z := by
  obtain ⟨hw, f, hrel⟩ := hr
  obtain ⟨t, ht, hs⟩ := mem_succ.mp h
  obtain ⟨z, hm, hr'⟩ := (sim_stepT hw hrel ht).left hs
  exact ⟨z, mem_succ.mpr ⟨t, (sim_len hrel).symm ▸ ht, hm⟩, hr'⟩

end TypVerif.Lemmas.C09Complete
