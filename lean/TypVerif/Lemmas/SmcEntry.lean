import TypVerif.Lemmas.SmcMaps
/-
C04 concurrent half: ENTRY-pointer writes.

An entry write changes `entries` (and possibly `nextPtr`) only.  For every such write performed by `exec`
(`storeVal` on a linked live entry; `setP nil` on `read.m[k]`; `setP nil` on the actor's unlinked entry;
`setP expunged` by the builder; un-expunge = `setP nil` + `setDirty`) this file proves
  (i)   every (bystander) goroutine's `T` survives,
  (ii)  `GS` survives (for the stated unprocessed set),
  (iii) what happens to `absOf`.

`T` goes through `Xfer sh' sh u pc a`: a list of monotonicity facts that suffices for `T sh u pc a → T sh' u pc a`
(`Xfer.transfer`, an instance of `T_transfer`), established once for all entry writes by `EW.xfer`.
-/
namespace TypVerif.Lemmas.Smc
open TypVerif.Model TypVerif.Model.SyncMapConc TypVerif.Model.RelObj
open TypVerif.Model.SyncMap (alookup ainsert aerase akeys)
open TypVerif.Lemmas.SyncMap

set_option linter.unusedSectionVars false

variable {K V : Type} [DecidableEq K] [DecidableEq V]

theorem uok_of_T {s : State K V} {apcs : Nat → APc K V} (hT : ∀ u, T s.sh u (s.pc u) (apcs u)) :
    UOk s.sh (unprocessed s) :=
  fun _ hp => unprocessed_spec hT hp

theorem uok_of_empty {sh : Shared K V} {U : List (K × EId)} (h : ∀ p, p ∉ U) : UOk sh U :=
  fun p hp => absurd hp (h p)

namespace GS

section
omit [DecidableEq V]

/-- `GS.read_dirty_same_keyM` for all pairs of `read.m`: `UOk` covers the unprocessed ones -/
theorem read_dirty_same_key {sh : Shared K V} {U : List (K × EId)} (hG : GS sh U) (hU : UOk sh U) {k k' : K}
    {e : EId} (h : alookup k sh.readM = some e) (hd : alookup k' (dirtyMap sh) = some e) :
    k' = k ∧ (getP sh e).isExpunged = false :=
  if hu : (k, e) ∈ U then absurd (mem_vals_of_alookup hd) (hU _ hu).2.2.1 else hG.read_dirty_same_key_of_processed h hu hd

theorem cur_key_unique {sh : Shared K V} {U : List (K × EId)} (hG : GS sh U) (hU : UOk sh U) {k k' : K} {e : EId}
    (h : Cur sh k e) (h' : Cur sh k' e) : k = k' := by
  rcases h with h | ⟨h1, h2⟩ <;> rcases h' with h' | ⟨h1', h2'⟩
  · exact alookup_inj hG.valsR h h'
  · exact (hG.read_dirty_same_key hU h h2').1.symm
  · exact (hG.read_dirty_same_key hU h' h2).1
  · exact alookup_inj hG.valsD h2 h2'

end

theorem absOf_of_cur {sh : Shared K V} {U : List (K × EId)} (hG : GS sh U) {k : K} {e : EId} (h : Cur sh k e) :
    absOf sh k = (getP sh e).value? :=
  hG.absOf_cur h

section
omit [DecidableEq V]

theorem read_pair_eq {sh : Shared K V} {U : List (K × EId)} (hG : GS sh U) {k : K} {e : EId} {q : K × EId}
    (h : (k, e) ∈ sh.readM) (hq : q ∈ sh.readM) (he : q.2 = e) : q = (k, e) := by
  obtain ⟨k1, e1⟩ := q
  simp only at he
  subst he
  rw [key_unique_of_mem hG.valsR hq h]

theorem amended_of_cur {sh : Shared K V} {U : List (K × EId)} (hG : GS sh U) {k : K} {e : EId} (hcur : Cur sh k e)
    (h : alookup k sh.readM = none) : sh.amended = true := by
  rcases hcur with h1 | ⟨_, h2⟩
  · rw [h] at h1; cases h1
  · exact hG.amended_of_dirty_only h h2

end

end GS

/-- `sh'` is `sh` with `entries[e0] := p`; `nextPtr`, `misses`, `zst` are unconstrained -/
structure EW (sh' sh : Shared K V) (e0 : EId) (p : Ptr V) : Prop where
  entries : sh'.entries = sh.entries.set e0 p
  readM : sh'.readM = sh.readM
  amended : sh'.amended = sh.amended
  dirty : sh'.dirty = sh.dirty
  mu : sh'.mu = sh.mu
  fault : sh'.fault = sh.fault

section
omit [DecidableEq V]

theorem EW_setP (sh : Shared K V) (e0 : EId) (p : Ptr V) : EW (setP sh e0 p) sh e0 p := ⟨rfl, rfl, rfl, rfl, rfl, rfl⟩

theorem EW_storeVal (sh : Shared K V) (e0 : EId) (v : V) : EW (storeVal sh e0 v) sh e0 (.val (freshId sh) v) :=
  ⟨rfl, rfl, rfl, rfl, rfl, rfl⟩

end

section EWBasic
variable {sh sh' : Shared K V} {e0 : EId} {p : Ptr V}

namespace EW

section
omit [DecidableEq V]

theorem getP_eq (hw : EW sh' sh e0 p) (e : EId) :
    getP sh' e = if e = e0 ∧ e0 < sh.entries.length then p else getP sh e := by
  rw [← getP_setP]
  exact getP_congr (sh := setP sh e0 p) hw.entries e

theorem getP_ne (hw : EW sh' sh e0 p) {e : EId} (h : e ≠ e0) : getP sh' e = getP sh e := by
  rw [hw.getP_eq]; simp [h]

theorem getP_self (hw : EW sh' sh e0 p) (h : e0 < sh.entries.length) : getP sh' e0 = p := by
  rw [hw.getP_eq]; simp [h]

end

theorem getP_of_le (hw : EW sh' sh e0 p) (h : sh.entries.length ≤ e0) (e : EId) : getP sh' e = getP sh e := by
  rw [hw.getP_eq]
  have : ¬ e0 < sh.entries.length := Nat.not_lt.mpr h
  simp [this]

section
omit [DecidableEq V]

theorem length_eq (hw : EW sh' sh e0 p) : sh'.entries.length = sh.entries.length := by
  rw [hw.entries]; simp

theorem dirtyMap_eq (hw : EW sh' sh e0 p) : dirtyMap sh' = dirtyMap sh := dirtyMap_congr hw.dirty

/-- a write that keeps "expunged or not" of the written entry keeps it for all entries -/
theorem isExpunged_eq (hw : EW sh' sh e0 p) (h : e0 < sh.entries.length → p.isExpunged = (getP sh e0).isExpunged)
    (e : EId) : (getP sh' e).isExpunged = (getP sh e).isExpunged := by
  rw [hw.getP_eq]
  split
  · rename_i hc; rw [hc.1]; exact h hc.2
  · rfl

theorem not_expunged (hw : EW sh' sh e0 p) (hp : p.isExpunged = false) {e : EId}
    (h : (getP sh e).isExpunged = false) : (getP sh' e).isExpunged = false := by
  rw [hw.getP_eq]
  split
  · exact hp
  · exact h

theorem value?_eq (hw : EW sh' sh e0 p) (h : e0 < sh.entries.length → p.value? = (getP sh e0).value?)
    (e : EId) : (getP sh' e).value? = (getP sh e).value? := by
  rw [hw.getP_eq]
  split
  · rename_i hc; rw [hc.1]; exact h hc.2
  · rfl

end

end EW

end EWBasic

/-- facts about a change `sh ↦ sh'` of the shared state that suffice for goroutine `u`, parked at `pc` with abstract
status `a`, to keep its invariant `T` -/
structure Xfer (sh' sh : Shared K V) (u : Tid) (pc : Pc K V) (a : APc K V) : Prop where
  readM : sh'.readM = sh.readM
  mu : sh'.mu = sh.mu
  len : sh'.entries.length = sh.entries.length
  dead : ∀ e, Dead sh e → Dead sh' e
  load : ∀ k e, HoldLoad sh k e a → HoldLoad sh' k e a
  unl : ∀ d k e, e ∈ unlinkedPc pc a → Unlinker sh d k e a → Unlinker sh' d k e a
  -- with `unl`: an entry the goroutine has unlinked keeps its pointer (`delCas` compares it)
  unlBack : ∀ d k e, Unlinker sh' d k e a → Unlinker sh d k e a ∧ getP sh' e = getP sh e
  /-- only the owner of `mu` looks at `amended`, `dirty`, and relies on entries being not expunged -/
  own : Own sh u → sh'.amended = sh.amended ∧ sh'.dirty = sh.dirty ∧
    ∀ e, (getP sh e).isExpunged = false → (getP sh' e).isExpunged = false

section XferLemmas
variable {sh sh' : Shared K V} {u : Tid} {pc : Pc K V} {a : APc K V}

namespace Xfer

theorem own_iff (h : Xfer sh' sh u pc a) : Own sh' u ↔ Own sh u := Own_congr h.mu u

theorem ownerView (h : Xfer sh' sh u pc a) (ho : Own sh u) : OwnerView sh' sh :=
  ⟨h.mu, h.readM, (h.own ho).1, (h.own ho).2.1, (h.own ho).2.2⟩

theorem building (h : Xfer sh' sh u pc a) (ho : Own sh u) {l : List (K × EId)} (hp : Building sh l) :
    Building sh' l :=
  (h.ownerView ho).building hp

theorem transfer (h : Xfer sh' sh u pc a) (hT : T sh u pc a) : T sh' u pc a :=
  T_transfer hT (SeenLe.refl a) h.ownerView (fun hn ho => hn (h.own_iff.mp ho)) (fun _ e hr => hr.mono (Nat.le_of_eq h.len.symm) h.readM (h.dead e))
    (fun k e _ => h.load k e) (fun _ _ e _ hr => hr.mono (.refl a) (Nat.le_of_eq h.len.symm) h.readM (h.dead e))
    (fun d k e hm hu => ⟨h.unl d k e hm hu, (h.unlBack d k e (h.unl d k e hm hu)).2⟩)

end Xfer

end XferLemmas

section EWXfer
variable {sh sh' : Shared K V} {e0 : EId} {p : Ptr V}

namespace EW

section
omit [DecidableEq V]

theorem cur_iff (hw : EW sh' sh e0 p) (k : K) (e : EId) : Cur sh' k e ↔ Cur sh k e := by
  unfold Cur
  rw [hw.readM, hw.dirtyMap_eq]

theorem dead (hw : EW sh' sh e0 p) (hdead : ¬ Dead sh e0) {e : EId} (h : Dead sh e) : Dead sh' e := by
  have hne : e ≠ e0 := fun h1 => hdead (h1 ▸ h)
  exact ⟨by rw [hw.getP_ne hne]; exact h.1, by rw [hw.readM]; exact h.2.1, by rw [hw.dirtyMap_eq]; exact h.2.2⟩

end

theorem orphan (hw : EW sh' sh e0 p) (horph : Orphan sh e0 → p.isExpunged = false) {e : EId} (h : Orphan sh e) :
    Orphan sh' e := by
  refine ⟨?_, by rw [hw.readM]; exact h.2.1, by rw [hw.dirtyMap_eq]; exact h.2.2⟩
  by_cases hc : e = e0 ∧ e0 < sh.entries.length
  · rw [hw.getP_eq, if_pos hc]; exact horph (hc.1 ▸ h)
  · rw [hw.getP_eq, if_neg hc]; exact h.1

theorem holdLoad (hw : EW sh' sh e0 p) (hdead : ¬ Dead sh e0) (horph : Orphan sh e0 → p = .nil) {k : K} {e : EId}
    {a : APc K V} (h : HoldLoad sh k e a) : HoldLoad sh' k e a :=
  h.mono (.refl a) (Nat.le_of_eq hw.length_eq.symm)
    (fun h1 => ⟨hw.length_eq ▸ h.1, Or.inl ((hw.cur_iff k e).mpr h1)⟩) (hw.dead hdead)
    fun h1 => ⟨hw.orphan (fun ho => by rw [horph ho]; rfl) h1, fun v hv => by
      by_cases hc : e = e0 ∧ e0 < sh.entries.length
      · rw [hw.getP_eq, if_pos hc, horph (hc.1 ▸ h1)] at hv; cases hv
      · rwa [hw.getP_eq, if_neg hc] at hv⟩

theorem unlinker_iff_of_ne (hw : EW sh' sh e0 p) {d : Bool} {k : K} {e : EId} {a : APc K V} (hne : e ≠ e0) :
    Unlinker sh' d k e a ↔ Unlinker sh d k e a := by
  unfold Unlinker
  rw [hw.length_eq, hw.readM, hw.dirtyMap_eq, hw.getP_ne hne]

/-- `T` of goroutine `u` survives the write `entries[e0] := p` provided
* `e0` is not dead,
* an orphan is only ever set to nil,
* `e0` is in one of the maps, or no value is written (nobody becomes an `Unlinker` of `e0`),
* `p` is not expunged, or `u` does not hold the mutex,
* `e0` is not the entry `u` has unlinked (unless it is in a map, in which case `u` has not unlinked it). -/
theorem xfer (hw : EW sh' sh e0 p) {u : Tid} {pc : Pc K V} {a : APc K V}
    (hdead : ¬ Dead sh e0) (horph : Orphan sh e0 → p = .nil)
    (hback : e0 ∈ vals sh.readM ∨ e0 ∈ vals (dirtyMap sh) ∨ p.value? = none)
    (hexp : p.isExpunged = false ∨ ¬ Own sh u)
    (hunl : e0 ∈ unlinkedPc pc a → e0 ∈ vals sh.readM ∨ e0 ∈ vals (dirtyMap sh)) : Xfer sh' sh u pc a where
  readM := hw.readM
  mu := hw.mu
  len := hw.length_eq
  dead := fun e h => hw.dead hdead h
  load := fun k e h => hw.holdLoad hdead horph h
  unl := by
    intro d k e hm h
    by_cases hne : e = e0
    · rw [hne] at hm h
      rcases hunl hm with h1 | h1
      · exact absurd h1 h.2.1
      · exact absurd h1 h.2.2.1
    · exact (hw.unlinker_iff_of_ne hne).mpr h
  unlBack := by
    intro d k e h
    by_cases hne : e = e0
    · rw [hne] at h
      have hlt : e0 < sh.entries.length := by rw [← hw.length_eq]; exact h.1
      obtain ⟨v, hv, _⟩ := h.spec
      rw [hw.getP_self hlt] at hv
      rcases hback with h1 | h1 | h1
      · exact absurd (by rw [hw.readM]; exact h1) h.2.1
      · exact absurd (by rw [hw.dirtyMap_eq]; exact h1) h.2.2.1
      · rw [h1] at hv; cases hv
    · exact ⟨(hw.unlinker_iff_of_ne hne).mp h, hw.getP_ne hne⟩
  own := by
    intro ho
    refine ⟨hw.amended, hw.dirty, fun e he => ?_⟩
    rcases hexp with h1 | h1
    · exact hw.not_expunged h1 he
    · exact absurd ho h1

/-- the written entry is the one the maps hold for some key: every goroutine keeps its `T` (owners only if the
pointer written is not expunged) -/
theorem T_of_cur (hw : EW sh' sh e0 p) {k : K} (hcur : Cur sh k e0) {u : Tid} {pc : Pc K V} {a : APc K V}
    (hexp : p.isExpunged = false ∨ ¬ Own sh u) (hT : T sh u pc a) : T sh' u pc a :=
  (hw.xfer hcur.not_dead (fun h => absurd h hcur.not_orphan)
    (hcur.mem_vals.elim Or.inl (fun h => Or.inr (Or.inl h))) hexp (fun _ => hcur.mem_vals)).transfer hT

end EW

end EWXfer

section EWGS
variable {sh sh' : Shared K V} {e0 : EId} {p : Ptr V} {U U' : List (K × EId)}

namespace EW

section
omit [DecidableEq V]

/-- skeleton: only `readDirty` and `dirtyLive` look at the pointers -/
theorem gs (hw : EW sh' sh e0 p) (hG : GS sh U)
    (hRD : ∀ q ∈ sh.readM, q ∉ U' →
      if (getP sh' q.2).isExpunged then
        sh.dirty.isSome = true ∧ alookup q.1 (dirtyMap sh) = none ∧ q.2 ∉ vals (dirtyMap sh)
      else (sh.dirty.isSome = true → alookup q.1 (dirtyMap sh) = some q.2))
    (hDL : ∀ q ∈ dirtyMap sh, alookup q.1 sh.readM = none → isVal (getP sh' q.2) = true) : GS sh' U' where
  keysR := by rw [hw.readM]; exact hG.keysR
  valsR := by rw [hw.readM]; exact hG.valsR
  keysD := by rw [hw.dirtyMap_eq]; exact hG.keysD
  valsD := by rw [hw.dirtyMap_eq]; exact hG.valsD
  boundR := by rw [hw.readM, hw.length_eq]; exact hG.boundR
  boundD := by rw [hw.dirtyMap_eq, hw.length_eq]; exact hG.boundD
  s1 := by rw [hw.dirty, hw.amended]; exact hG.s1
  nofault := by rw [hw.fault]; exact hG.nofault
  readDirty := by rw [hw.readM, hw.dirty, hw.dirtyMap_eq]; exact hRD
  dirtySub := by rw [hw.amended, hw.dirtyMap_eq, hw.readM]; exact hG.dirtySub
  dirtyLive := by rw [hw.dirtyMap_eq, hw.readM]; exact hDL

/-- the written entry keeps its "expunged or not" status; if it is a dirty-only entry, a value is written -/
theorem gs_keep (hw : EW sh' sh e0 p) (hG : GS sh U)
    (hx : e0 < sh.entries.length → p.isExpunged = (getP sh e0).isExpunged)
    (hDL : ∀ q ∈ dirtyMap sh, alookup q.1 sh.readM = none → q.2 = e0 → isVal p = true) : GS sh' U := by
  apply hw.gs hG
  · intro q hq hu
    rw [hw.isExpunged_eq hx]
    exact hG.readDirty q hq hu
  · intro q hq hn
    by_cases hc : q.2 = e0 ∧ e0 < sh.entries.length
    · rw [hw.getP_eq, if_pos hc]; exact hDL q hq hn hc.1
    · rw [hw.getP_eq, if_neg hc]; exact hG.dirtyLive q hq hn

theorem absOf_of_value_eq (hw : EW sh' sh e0 p) (hv : e0 < sh.entries.length → p.value? = (getP sh e0).value?)
    (k : K) : absOf sh' k = absOf sh k := by
  unfold absOf
  rw [hw.readM, hw.amended, hw.dirtyMap_eq]
  cases alookup k sh.readM with
  | some e => simp only [hw.value?_eq hv]
  | none => simp only [hw.value?_eq hv]

theorem absOf_of_not_cur (hw : EW sh' sh e0 p) {k : K} (h : ¬ Cur sh k e0) : absOf sh' k = absOf sh k := by
  unfold absOf
  rw [hw.readM, hw.amended, hw.dirtyMap_eq]
  cases hr : alookup k sh.readM with
  | some e =>
    have hne : e ≠ e0 := fun h1 => h (Or.inl (h1 ▸ hr))
    simp only [hw.getP_ne hne]
  | none =>
    cases hd : alookup k (dirtyMap sh) with
    | none => rfl
    | some e =>
      have hne : e ≠ e0 := fun h1 => h (Or.inr ⟨hr, h1 ▸ hd⟩)
      simp only [Option.bind_some, hw.getP_ne hne]

theorem absOf_of_cur (hw : EW sh' sh e0 p) (hlt : e0 < sh.entries.length) {k : K} (h : Cur sh k e0)
    (ham : alookup k sh.readM = none → sh.amended = true) : absOf sh' k = p.value? := by
  rcases h with h | ⟨h1, h2⟩
  · rw [absOf_of_read (by rw [hw.readM]; exact h), hw.getP_self hlt]
  · rw [absOf_of_dirty (by rw [hw.readM]; exact h1) (by rw [hw.amended]; exact ham h1)
      (by rw [hw.dirtyMap_eq]; exact h2), hw.getP_self hlt]

theorem absOf_write_cur (hw : EW sh' sh e0 p) (hG : GS sh U) (hU : UOk sh U) {k : K} (hcur : Cur sh k e0) (k' : K) :
    absOf sh' k' = if k' = k then p.value? else absOf sh k' := by
  by_cases hk : k' = k
  · rw [if_pos hk, hk, hw.absOf_of_cur (hG.cur_lt_length hcur) hcur (hG.amended_of_cur hcur)]
  · rw [if_neg hk]
    exact hw.absOf_of_not_cur (fun h => hk (hG.cur_key_unique hU h hcur))

end

end EW

end EWGS

/-! ### `nextPtr` is invisible -/

theorem storeVal_eq_setP (sh : Shared K V) (e : EId) (v : V) :
    storeVal sh e v = { setP sh e (.val (freshId sh) v) with nextPtr := sh.nextPtr + 1 } := rfl

theorem T_nextPtr (sh : Shared K V) (n : Nat) (u : Tid) (pc : Pc K V) (a : APc K V) :
    T { sh with nextPtr := n } u pc a ↔ T sh u pc a :=
  T_congr ⟨rfl, rfl, rfl, rfl⟩ Iff.rfl pc a

theorem absOf_nextPtr (sh : Shared K V) (n : Nat) (k : K) : absOf { sh with nextPtr := n } k = absOf sh k := rfl

theorem GS_nextPtr (sh : Shared K V) (n : Nat) (U : List (K × EId)) : GS { sh with nextPtr := n } U ↔ GS sh U :=
  GS_sameData_iff (sh' := { sh with nextPtr := n }) (sh := sh) ⟨rfl, rfl, rfl, rfl⟩ rfl U

/-! ### 1. `storeVal` on a linked live entry (tryStoreCas success, storeLocked, losCas success) -/
section StoreVal
variable {sh : Shared K V} {U : List (K × EId)} {k : K} {e0 : EId} {v : V}

section
omit [DecidableEq V]

theorem storeVal_GS (hG : GS sh U) (hne : (getP sh e0).isExpunged = false) : GS (storeVal sh e0 v) U :=
  (EW_storeVal sh e0 v).gs_keep hG (fun _ => by rw [hne]; rfl) (fun _ _ _ _ => rfl)

end

theorem storeVal_effect {s : State K V} {a : AState K V} {t : Tid} (hR : R s a) {k : K} {e0 : EId} (v : V)
    (hne : (getP s.sh e0).isExpunged = false) (hcur : Cur s.sh k e0) :
    Effect s a t (storeVal s.sh e0 v) (unprocessed s) (put a.obj k v) :=
  ⟨fun u _ => (EW_storeVal s.sh e0 v).T_of_cur hcur (Or.inl rfl) (hR.thr u), storeVal_GS hR.g.gs hne, fun k' => by
    rw [put_apply, (EW_storeVal s.sh e0 v).absOf_write_cur hR.g.gs (uok_of_T hR.thr) hcur k', hR.abs k']; rfl⟩

end StoreVal

/-! ### 2. `setP nil` on `read.m[k]` (pending `delCas` success) -/
section DelPending
variable {sh : Shared K V} {U : List (K × EId)} {k : K} {e0 : EId}

section
omit [DecidableEq V]

theorem delNil_GS (hG : GS sh U) (hU : UOk sh U) (hr : alookup k sh.readM = some e0)
    (hval : isVal (getP sh e0) = true) : GS (setP sh e0 .nil) U := by
  apply (EW_setP sh e0 .nil).gs_keep hG
  · intro _; rw [not_isExpunged_of_isVal hval]; rfl
  · intro q hq hn h2
    exfalso
    have h1 : alookup q.1 (dirtyMap sh) = some e0 := h2 ▸ alookup_of_mem' hG.keysD hq
    have h3 := (hG.read_dirty_same_key hU hr h1).1
    rw [h3, hr] at hn
    cases hn

end

theorem delNil_effect {s : State K V} {a : AState K V} {t : Tid} (hR : R s a) {k : K} {e0 : EId}
    (hr : alookup k s.sh.readM = some e0) (hval : isVal (getP s.sh e0) = true) :
    Effect s a t (setP s.sh e0 .nil) (unprocessed s) (del a.obj k) :=
  ⟨fun u _ => (EW_setP s.sh e0 .nil).T_of_cur (Cur_of_read hr) (Or.inl rfl) (hR.thr u), delNil_GS hR.g.gs (uok_of_T hR.thr) hr hval, fun k' => by
    rw [del_apply, (EW_setP s.sh e0 .nil).absOf_write_cur hR.g.gs (uok_of_T hR.thr) (Cur_of_read hr) k', hR.abs k']; rfl⟩

end DelPending

/-! ### 3. `setP nil` on the actor's unlinked entry (`delCas` success in unlinker mode) -/
section DelUnlinked
variable {sh : Shared K V} {U : List (K × EId)} {e0 : EId}

/-- shared-state form: a goroutine that has not itself unlinked `e0` keeps `T` -/
theorem unlinkedNil_T (hval : isVal (getP sh e0) = true) {u : Tid} {pc : Pc K V} {a : APc K V}
    (hunl : e0 ∉ unlinkedPc pc a) (hT : T sh u pc a) : T (setP sh e0 .nil) u pc a :=
  ((EW_setP sh e0 .nil).xfer
    (fun h => by have h1 := h.1; rw [not_isExpunged_of_isVal hval] at h1; cases h1)
    (fun _ => rfl) (Or.inr (Or.inr rfl)) (Or.inl rfl) (fun h => absurd h hunl)).transfer hT

theorem unlinkedPc_idle (a : APc K V) : unlinkedPc (Pc.idle : Pc K V) a = [] := by
  cases a <;> rfl

namespace GT

/-- from `GT`: the entry unlinked by `t` is not the entry unlinked by anybody else -/
theorem not_unlinked_other {s : State K V} {apcs : Nat → APc K V} (hg : GT s apcs) {t u : Tid} {e0 : EId}
    (ht : e0 ∈ unlinkedPc (s.pc t) (apcs t)) (hne : u ≠ t) : e0 ∉ unlinkedPc (s.pc u) (apcs u) := by
  intro hu
  have htl : t < s.pcs.length := by
    apply lt_length_of_pc_ne_idle
    intro h; rw [h, unlinkedPc_idle] at ht; cases ht
  have hul : u < s.pcs.length := by
    apply lt_length_of_pc_ne_idle
    intro h; rw [h, unlinkedPc_idle] at hu; cases hu
  exact hg.unlinked t u htl hul (fun h => hne h.symm) e0 ht hu

end GT

section
omit [DecidableEq V]

theorem unlinkedNil_GS (hG : GS sh U) (hd : e0 ∉ vals (dirtyMap sh)) (hval : isVal (getP sh e0) = true) :
    GS (setP sh e0 .nil) U := by
  apply (EW_setP sh e0 .nil).gs_keep hG
  · intro _; rw [not_isExpunged_of_isVal hval]; rfl
  · intro q hq _ h2
    exact absurd (h2 ▸ mem_vals_of_mem' hq) hd

theorem unlinkedNil_absOf (hr : e0 ∉ vals sh.readM) (hd : e0 ∉ vals (dirtyMap sh)) (k' : K) :
    absOf (setP sh e0 .nil) k' = absOf sh k' :=
  (EW_setP sh e0 .nil).absOf_of_not_cur (fun h => h.mem_vals.elim hr hd)

end

theorem unlinkedNil_effect {s : State K V} {a : AState K V} {t : Tid} (hR : R s a) {e0 : EId}
    (hr : e0 ∉ vals s.sh.readM) (hd : e0 ∉ vals (dirtyMap s.sh)) (hval : isVal (getP s.sh e0) = true)
    (ht : e0 ∈ unlinkedPc (s.pc t) (a.pcs t)) : Effect s a t (setP s.sh e0 .nil) (unprocessed s) a.obj :=
  ⟨fun u hne => unlinkedNil_T hval (((G_iff s a.pcs).mp hR.g).2.not_unlinked_other ht hne) (hR.thr u),
    unlinkedNil_GS hR.g.gs hd hval, fun k' => (hR.abs k').trans (unlinkedNil_absOf hr hd k').symm⟩

end DelUnlinked

/-! ### 4. `setP expunged` by the builder (`expCas` success) -/
section Expunge
variable {sh : Shared K V} {U U' : List (K × EId)} {k' : K} {e' : EId}

section
omit [DecidableEq V]

/-- the pair leaves the unprocessed set (`hds`: the builder's `T` says that the dirty map exists) -/
theorem expunge_GS (hG : GS sh U) (hU : UOk sh U) (hm : (k', e') ∈ U) (hds : sh.dirty.isSome = true)
    (hU' : ∀ q, q ∈ U' ↔ q ∈ U ∧ q ≠ (k', e')) : GS (setP sh e' .expunged) U' := by
  obtain ⟨hmr, hdn, hdv, _⟩ := hU _ hm
  have hlt : e' < sh.entries.length := hG.boundR _ hmr
  have hw := EW_setP sh e' .expunged
  apply hw.gs hG
  · intro q hq hu
    by_cases hq2 : q.2 = e'
    · have hqe : q = (k', e') := hG.read_pair_eq hmr hq hq2
      rw [hq2, hw.getP_self hlt]
      simp only [isExpunged_expunged, if_true]
      rw [hqe]
      exact ⟨hds, hdn, hdv⟩
    · have hqU : q ∉ U := fun h => hu ((hU' q).mpr ⟨h, fun h1 => hq2 (by rw [h1])⟩)
      rw [hw.getP_ne hq2]
      exact hG.readDirty q hq hqU
  · intro q hq hn
    have hq2 : q.2 ≠ e' := fun h => hdv (by rw [← h]; exact mem_vals_of_mem' (p := q) hq)
    rw [hw.getP_ne hq2]
    exact hG.dirtyLive q hq hn

theorem expunge_building (hG : GS sh U) {todo : List (K × EId)} (hb : Building sh ((k', e') :: todo)) :
    Building (setP sh e' .expunged) todo := by
  refine ⟨hb.tail.1, fun q hq => ?_⟩
  obtain ⟨h1, h2, h3, h4⟩ := hb.tail.2 q hq
  have hq2 : q.2 ≠ e' := by
    intro h
    have hqe : q = (k', e') := hG.read_pair_eq hb.head.1 h1 h
    exact hb.head_not_mem (hqe ▸ hq)
  exact ⟨h1, h2, h3, by rw [(EW_setP sh e' .expunged).getP_ne hq2]; exact h4⟩

theorem expunge_absOf (hnil : (getP sh e').isNil = true) (k : K) : absOf (setP sh e' .expunged) k = absOf sh k :=
  (EW_setP sh e' .expunged).absOf_of_value_eq (fun _ => by rw [value?_none_of_isNil hnil]; rfl) k

end

theorem expunge_effect {s : State K V} {a : AState K V} {t : Tid} (hR : R s a) (ho : Own s.sh t) {k' : K}
    {e' : EId} (hm : (k', e') ∈ unprocessed s) (hnil : (getP s.sh e').isNil = true) {U' : List (K × EId)}
    (hU' : ∀ q, q ∈ U' ↔ q ∈ unprocessed s ∧ q ≠ (k', e')) : Effect s a t (setP s.sh e' .expunged) U' a.obj := by
  have hU := uok_of_T hR.thr
  have hds : s.sh.dirty.isSome = true := by
    obtain ⟨u, hu⟩ := mem_unprocessed.mp hm
    exact (hR.thr u).dirty_isSome_of_unprocPc (List.ne_nil_of_mem hu)
  exact ⟨fun u hne => (EW_setP s.sh e' .expunged).T_of_cur (Cur_of_read (alookup_of_mem hR.g.keysR (hU _ hm).1))
      (Or.inr (not_Own_of_ne ho hne)) (hR.thr u),
    expunge_GS hR.g.gs hU hm hds hU', fun k => (hR.abs k).trans (expunge_absOf hnil k).symm⟩

end Expunge

/-! ### 5. un-expunge (`storeUnexp` / `losUnexp` on an expunged entry): `setP nil` then `setDirty` -/
section Unexp
variable {sh : Shared K V} {U : List (K × EId)} {k : K} {e : EId}

section
omit [DecidableEq V]

theorem unexp_readM (sh : Shared K V) (k : K) (e : EId) : (setDirty (setP sh e .nil) k e).readM = sh.readM :=
  setDirty_readM (setP sh e .nil) k e
theorem unexp_amended (sh : Shared K V) (k : K) (e : EId) :
    (setDirty (setP sh e .nil) k e).amended = sh.amended :=
  setDirty_amended (setP sh e .nil) k e
theorem unexp_mu (sh : Shared K V) (k : K) (e : EId) : (setDirty (setP sh e .nil) k e).mu = sh.mu :=
  setDirty_mu (setP sh e .nil) k e

theorem unexp_getP (hlt : e < sh.entries.length) (x : EId) :
    getP (setDirty (setP sh e .nil) k e) x = if x = e then .nil else getP sh x := by
  rw [getP_setDirty, getP_setP]
  simp [hlt]

theorem unexp_dirtyMap (hds : sh.dirty.isSome = true) :
    dirtyMap (setDirty (setP sh e .nil) k e) = ainsert k e (dirtyMap sh) :=
  dirtyMap_setDirty_of_isSome (sh := setP sh e .nil) hds k e

/-- what `GS` (nobody is building) says about the expunged entry `read.m[k]` -/
theorem unexp_pre (hG : GS sh U) (hempty : ∀ p, p ∉ U) (hr : alookup k sh.readM = some e)
    (hx : (getP sh e).isExpunged = true) :
    sh.dirty.isSome = true ∧ alookup k (dirtyMap sh) = none ∧ e ∉ vals (dirtyMap sh) ∧ e < sh.entries.length :=
  let h := hG.read_expunged_not_in_dirty hr (hempty _) hx
  ⟨h.1, h.2.1, h.2.2, hG.boundR _ (mem_of_alookup hr)⟩

end

/-- shared-state form: any goroutine that does not hold the mutex keeps `T` -/
theorem unexp_T (hG : GS sh U) (hempty : ∀ p, p ∉ U) (hr : alookup k sh.readM = some e)
    (hx : (getP sh e).isExpunged = true) {u : Tid} {pc : Pc K V} {a : APc K V} (hno : ¬ Own sh u)
    (hT : T sh u pc a) : T (setDirty (setP sh e .nil) k e) u pc a := by
  have hds := (unexp_pre hG hempty hr hx).1
  exact T_setDirty_of_mem_read (sh := setP sh e .nil) hds (mem_of_alookup hr)
    ((EW_setP sh e .nil).T_of_cur (Cur_of_read hr) (Or.inl rfl) hT) hno

section
omit [DecidableEq V]

theorem unexp_GS (hG : GS sh U) (hempty : ∀ p, p ∉ U) (hr : alookup k sh.readM = some e)
    (hx : (getP sh e).isExpunged = true) : GS (setDirty (setP sh e .nil) k e) U := by
  obtain ⟨hds, hdn, hev, hlt⟩ := unexp_pre hG hempty hr hx
  have hmr : (k, e) ∈ sh.readM := mem_of_alookup hr
  have hw := EW_setP sh e .nil
  -- after the pointer write `(k, e)` is as an unprocessed pair of `dirtyLocked`; `setDirty` then processes it
  have g1 : GS (setP sh e .nil) [(k, e)] := by
    refine hw.gs hG (fun q hq hn => ?_) (fun q hq hn => ?_)
    · rw [hw.getP_ne fun h => hn (List.mem_singleton.mpr (hG.read_pair_eq hmr hq h))]
      exact hG.readDirty q hq (hempty q)
    · rw [hw.getP_ne fun h => hev (h ▸ mem_vals_of_mem' hq)]
      exact hG.dirtyLive q hq hn
  refine GS_expDone g1 hds (List.mem_singleton.mpr rfl) (fun q hq => ?_)
    fun q => ⟨fun h => (hempty q h).elim, fun h => (h.2 (List.mem_singleton.mp h.1)).elim⟩
  cases List.mem_singleton.mp hq
  exact ⟨hmr, hw.dirtyMap_eq ▸ hdn, hw.dirtyMap_eq ▸ hev, by rw [hw.getP_self hlt]; rfl⟩

/-- what the next pc (`storeLocked` / `losLoad slowRead`) needs -/
theorem unexp_not_expunged (hG : GS sh U) (hempty : ∀ p, p ∉ U) (hr : alookup k sh.readM = some e)
    (hx : (getP sh e).isExpunged = true) : (getP (setDirty (setP sh e .nil) k e) e).isExpunged = false := by
  rw [unexp_getP (unexp_pre hG hempty hr hx).2.2.2]; simp

theorem unexp_absOf (hG : GS sh U) (hempty : ∀ p, p ∉ U) (hr : alookup k sh.readM = some e)
    (hx : (getP sh e).isExpunged = true) (k' : K) :
    absOf (setDirty (setP sh e .nil) k e) k' = absOf sh k' := by
  obtain ⟨hds, hdn, hev, hlt⟩ := unexp_pre hG hempty hr hx
  have hval : ∀ x, (getP (setDirty (setP sh e .nil) k e) x).value? = (getP sh x).value? := by
    intro x
    rw [unexp_getP hlt]
    by_cases hxe : x = e
    · rw [if_pos hxe, hxe, value?_none_of_isExpunged hx]; rfl
    · rw [if_neg hxe]
  unfold absOf
  rw [unexp_readM, unexp_amended, unexp_dirtyMap hds]
  cases hr' : alookup k' sh.readM with
  | some e1 => simp only [hval]
  | none =>
    have hk : k' ≠ k := by rintro rfl; rw [hr] at hr'; cases hr'
    simp only [hval, alookup_ainsert, if_neg hk]

end

theorem unexp_effect {s : State K V} {a : AState K V} {t : Tid} (hR : R s a) (ho : Own s.sh t)
    (hempty : ∀ p, p ∉ unprocessed s) {k : K} {e : EId} (hr : alookup k s.sh.readM = some e)
    (hx : (getP s.sh e).isExpunged = true) :
    Effect s a t (setDirty (setP s.sh e .nil) k e) (unprocessed s) a.obj :=
  ⟨fun u hne => unexp_T hR.g.gs hempty hr hx (not_Own_of_ne ho hne) (hR.thr u), unexp_GS hR.g.gs hempty hr hx,
    fun k' => (hR.abs k').trans (unexp_absOf hR.g.gs hempty hr hx k').symm⟩

end Unexp

/-! ### conveniences for the callers (how the writers obtain the hypotheses above from their own `T`) -/
section Callers
variable {sh : Shared K V} {U : List (K × EId)} {k : K} {e : EId}

namespace HoldRead

/-- a held `read` entry that is not expunged is still `read.m[k]` (tryStoreCas / losCas `.fast` success) -/
theorem read_of_not_expunged (h : HoldRead sh k e) (hx : (getP sh e).isExpunged = false) :
    alookup k sh.readM = some e := by
  rcases h.2 with h1 | h1
  · exact h1
  · have := h1.1; rw [hx] at this; cases this

end HoldRead

namespace HoldDel

/-- the same for a pending `delete()` whose CAS found a value (`delCas` success, pending mode) -/
theorem read_of_not_expunged {d : Bool} {a : APc K V} (h : HoldDel sh d k e a)
    (hx : (getP sh e).isExpunged = false) : alookup k sh.readM = some e := by
  rcases h.2 with h1 | h1
  · exact h1
  · have := h1.1.1; rw [hx] at this; cases this

end HoldDel

namespace StoreTarget

section
omit [DecidableEq V]

theorem not_expunged (hG : GS sh U) (h : StoreTarget sh k e) : (getP sh e).isExpunged = false := by
  rcases h with h | ⟨h1, h2⟩
  · exact h.2
  · exact not_isExpunged_of_isVal (hG.dirtyLive (k, e) (mem_of_alookup h2) h1)

end

end StoreTarget

namespace LosHold

/-- the entry of `tryLoadOrStore` in its three contexts is the current one once it is known not to be expunged -/
theorem cur_of_not_expunged {t : Tid} {c : LosCtx} (h : LosHold sh t c k e)
    (hx : (getP sh e).isExpunged = false) : Cur sh k e := by
  cases c with
  | fast => exact Cur_of_read (h.2.read_of_not_expunged hx)
  | slowRead => exact Cur_of_read h.2.1
  | slowDirty => exact Cur_of_dirty h.2.1 h.2.2

end LosHold

/-- predicates of the owner that do not look at the entries at all -/
theorem NewTail_setP (sh : Shared K V) (e0 : EId) (p : Ptr V) (t : Tid) (c : NewCtx) (k : K) (v : V)
    (rm : List (K × EId)) (a : APc K V) : NewTail (setP sh e0 p) t c k v rm a ↔ NewTail sh t c k v rm a := Iff.rfl
theorem Promoting_setP (sh : Shared K V) (e0 : EId) (p : Ptr V) (t : Tid) :
    Promoting (setP sh e0 p) t ↔ Promoting sh t := Iff.rfl
theorem NewTail_storeVal (sh : Shared K V) (e0 : EId) (w : V) (t : Tid) (c : NewCtx) (k : K) (v : V)
    (rm : List (K × EId)) (a : APc K V) : NewTail (storeVal sh e0 w) t c k v rm a ↔ NewTail sh t c k v rm a := Iff.rfl
theorem Promoting_storeVal (sh : Shared K V) (e0 : EId) (w : V) (t : Tid) :
    Promoting (storeVal sh e0 w) t ↔ Promoting sh t := Iff.rfl

end Callers

end TypVerif.Lemmas.Smc
