import TypVerif.Spec.SortContract
import TypVerif.Lemmas.Sorted
/-
The sort adapters are `Len/Less/Swap` interfaces whose state is seen as a list (`Consistent`): swaps made through the interface are
the same swaps on that list (`view_ifaceSwaps`), so the reference sort is the stable sort of the view (`refSort_view`).
-/
namespace TypVerif.Lemmas.SortAdapters
open TypVerif.Model TypVerif.Model.SortAdapters TypVerif.Spec.Order TypVerif.Spec.SortContract

theorem swapList_of_lt (l : List α) (i j : Nat) (hi : i < l.length) (hj : j < l.length) :
    swapList l i j = (l.set i l[j]).set j l[i] := by
  simp [swapList, List.getElem?_eq_getElem hi, List.getElem?_eq_getElem hj]

theorem swapList_of_ge_left (l : List α) (i j : Nat) (hi : l.length ≤ i) : swapList l i j = l := by
  simp [swapList, List.getElem?_eq_none hi]

theorem swapList_of_ge_right (l : List α) (i j : Nat) (hj : l.length ≤ j) : swapList l i j = l := by
  unfold swapList
  rw [List.getElem?_eq_none hj]
  cases l[i]? <;> rfl

theorem swapList_perm (l : List α) (i j : Nat) : (swapList l i j).Perm l := by
  by_cases hi : i < l.length
  · by_cases hj : j < l.length
    · rw [swapList_of_lt l i j hi hj]; exact List.set_set_perm hi hj
    · rw [swapList_of_ge_right l i j (by omega)]
  · rw [swapList_of_ge_left l i j (by omega)]

@[simp] theorem length_swapList (l : List α) (i j : Nat) : (swapList l i j).length = l.length :=
  (swapList_perm l i j).length_eq

theorem swapList_map (f : α → β) (l : List α) (i j : Nat) :
    (swapList l i j).map f = swapList (l.map f) i j := by
  unfold swapList
  rw [List.getElem?_map, List.getElem?_map]
  cases l[i]? <;> cases l[j]? <;> simp [List.map_set]

theorem swapList_append_right (pre cur : List α) (i j : Nat) :
    swapList (pre ++ cur) (pre.length + i) (pre.length + j) = pre ++ swapList cur i j := by
  unfold swapList
  rw [List.getElem?_append_right (by omega), List.getElem?_append_right (by omega)]
  simp only [Nat.add_sub_cancel_left]
  cases cur[i]? <;> cases cur[j]? <;> simp [List.set_append_right]

theorem swapList_zero_eq_cons (cur : List α) (p : Nat) (hp : p < cur.length) :
    swapList cur 0 p = cur[p] :: (swapList cur 0 p).tail := by
  cases cur with
  | nil => simp at hp
  | cons c rest =>
    cases p with
    | zero => simp [swapList]
    | succ p =>
      have hp' : p < rest.length := by simpa using hp
      simp [swapList, List.getElem?_eq_getElem hp']

theorem applySwaps_nil (l : List α) : applySwaps l [] = l := rfl

theorem applySwaps_cons (l : List α) (p : Nat × Nat) (sw : List (Nat × Nat)) :
    applySwaps l (p :: sw) = applySwaps (swapList l p.1 p.2) sw := rfl

theorem applySwaps_perm (l : List α) (sw : List (Nat × Nat)) : (applySwaps l sw).Perm l := by
  induction sw generalizing l with
  | nil => exact List.Perm.refl _
  | cons p sw ih => rw [applySwaps_cons]; exact (ih _).trans (swapList_perm l p.1 p.2)

theorem applySwaps_map (f : α → β) (l : List α) (sw : List (Nat × Nat)) :
    (applySwaps l sw).map f = applySwaps (l.map f) sw := by
  induction sw generalizing l with
  | nil => rfl
  | cons p sw ih => rw [applySwaps_cons, applySwaps_cons, ih, swapList_map]

/-- one round of `realize`: the swap brings the wanted value `t` to the front, what follows is a permutation of
the remaining targets -/
theorem swap_idxOf_front (cur : List Nat) (t : Nat) (ts : List Nat) (hp : cur.Perm (t :: ts)) :
    cur.idxOf t < cur.length ∧
    swapList cur 0 (cur.idxOf t) = t :: (swapList cur 0 (cur.idxOf t)).tail ∧
    (swapList cur 0 (cur.idxOf t)).tail.Perm ts := by
  have hlt : cur.idxOf t < cur.length := List.idxOf_lt_length_of_mem (hp.symm.subset List.mem_cons_self)
  have hcons := swapList_zero_eq_cons cur (cur.idxOf t) hlt
  rw [List.getElem_idxOf hlt] at hcons
  refine ⟨hlt, hcons, List.Perm.cons_inv (a := t) ?_⟩
  rw [← hcons]; exact (swapList_perm _ _ _).trans hp

theorem realize_spec : ∀ (target cur pre : List Nat), cur.Perm target →
    applySwaps (pre ++ cur) (realize pre.length cur target) = pre ++ target
  | [], cur, pre, hp => by rw [List.Perm.eq_nil hp]; rfl
  | t :: ts, cur, pre, hp => by
    obtain ⟨_, hcons, hperm⟩ := swap_idxOf_front cur t ts hp
    have ih := realize_spec ts (swapList cur 0 (cur.idxOf t)).tail (pre ++ [t]) hperm
    rw [List.length_append, List.append_assoc, List.append_assoc] at ih
    show applySwaps (swapList (pre ++ cur) (pre.length + 0) (pre.length + cur.idxOf t)) _ = _
    rw [swapList_append_right, hcons]
    exact ih

theorem realize_range : ∀ (target cur : List Nat) (k : Nat), cur.Perm target →
    ∀ p ∈ realize k cur target, p.1 < k + cur.length ∧ p.2 < k + cur.length
  | [], _, _, _, _, hpm => nomatch hpm
  | t :: ts, cur, k, hp, p, hpm => by
    obtain ⟨hlt, hcons, hperm⟩ := swap_idxOf_front cur t ts hp
    rcases List.mem_cons.1 hpm with rfl | hpm
    · exact ⟨Nat.lt_add_of_pos_right (Nat.zero_lt_of_lt hlt), Nat.add_lt_add_left hlt k⟩
    · have ih := realize_range ts _ (k + 1) hperm p hpm
      have hl : cur.length = (swapList cur 0 (cur.idxOf t)).tail.length + 1 :=
        (length_swapList cur 0 _).symm.trans (congrArg List.length hcons)
      rw [Nat.add_right_comm] at ih
      rw [hl]; exact ih

theorem view_ifaceSwaps {I : Iface σ} {view : σ → List β} {lt : β → β → Bool} (hc : Consistent I view lt) :
    ∀ (sw : List (Nat × Nat)) (s : σ), (∀ p ∈ sw, p.1 < (view s).length ∧ p.2 < (view s).length) →
      view (ifaceSwaps I s sw) = applySwaps (view s) sw := by
  intro sw
  induction sw with
  | nil => intro s _; rfl
  | cons p sw ih =>
    intro s h
    have hp := h p List.mem_cons_self
    have hsw := hc.swap_eq s p.1 p.2 hp.1 hp.2
    show view (ifaceSwaps I (I.swap s p.1 p.2) sw) = applySwaps (swapList (view s) p.1 p.2) sw
    rw [ih (I.swap s p.1 p.2) (by
      intro q hq
      rw [hsw, length_swapList]
      exact h q (List.mem_cons_of_mem _ hq)), hsw]

theorem refSort_view {I : Iface σ} {view : σ → List β} {lt : β → β → Bool} (hc : Consistent I view lt) (s : σ) :
    view (refSort σ I s) = Sorted.stableSort lt (view s) := by
  have hperm : (List.range (I.len s)).Perm ((List.range (I.len s)).mergeSort (fun i j => !I.less s j i)) :=
    (List.mergeSort_perm _ _).symm
  have hrange := realize_range _ _ 0 hperm
  have hv : view (refSort σ I s) =
      applySwaps (view s) (realize 0 (List.range (I.len s)) ((List.range (I.len s)).mergeSort (fun i j => !I.less s j i))) := by
    apply view_ifaceSwaps hc
    intro p hp
    have := hrange p hp
    simp only [List.length_range, Nat.zero_add, hc.len_eq s] at this
    exact this
  rw [hv]
  have hn := hc.len_eq s
  -- idea: the view is the image of the index list under `g := (view s).getD · d`, and `List.map_mergeSort` carries the
  -- sort of the indices to the sort of the values; `cases v` only serves to find a default `d`
  generalize hvs : view s = v at *
  cases v with
  | nil =>
    simp only [List.length_nil] at hn
    simp [hn, realize, applySwaps, Sorted.stableSort]
  | cons d tl =>
    let g : Nat → β := fun i => (d :: tl).getD i d
    have hg : ∀ i (h : i < (d :: tl).length), g i = (d :: tl)[i] := by
      intro i h
      show (d :: tl).getD i d = _
      rw [List.getD_eq_getElem?_getD, List.getElem?_eq_getElem h]; rfl
    have hmap : (List.range (I.len s)).map g = d :: tl := by
      apply List.ext_getElem
      · simp [hn]
      · intro i h1 h2
        simp only [List.getElem_map, List.getElem_range]
        exact hg i h2
    conv => lhs; rw [← hmap]
    rw [← applySwaps_map]
    have hreal := realize_spec _ _ [] hperm
    simp only [List.nil_append, List.length_nil] at hreal
    rw [hreal]
    rw [List.map_mergeSort (s := fun a b => !lt b a), hmap]
    · rfl
    · intro i hi j hj
      rw [List.mem_range] at hi hj
      rw [hn] at hi hj
      have := hc.less_eq s j i (by rw [hvs]; exact hj) (by rw [hvs]; exact hi)
      rw [this, hg i hi, hg j hj]
      simp only [hvs]

theorem tied_flip (lt : β → β → Bool) (x y : β) : tied (fun a b => lt b a) x y = tied lt x y := by
  simp [tied, Bool.and_comm]

/-- from "ordered sublists survive" to "ties keep their order": the elements tied with `x` are pairwise incomparable, so they form an
ordered sublist of `l` to which `hst` applies; filtering once more and comparing lengths turns the sublist into an equality -/
theorem stable_filter {lt : β → β → Bool} (hw : StrictWeak lt) (l out : List β) (hperm : out.Perm l)
    (hst : ∀ ys, IsSorted lt ys → ys.Sublist l → ys.Sublist out) (x : β) :
    out.filter (tied lt x) = l.filter (tied lt x) := by
  have hsorted : IsSorted lt (l.filter (tied lt x)) := by
    apply List.pairwise_of_forall_mem_list
    intro a ha b hb
    have ha' := (List.mem_filter.mp ha).2
    have hb' := (List.mem_filter.mp hb).2
    simp only [tied, Bool.and_eq_true, Bool.not_eq_true'] at ha' hb'
    exact (hw.incomp_trans b x a hb'.2 hb'.1 ha'.1 ha'.2).1
  have hsub := hst _ hsorted List.filter_sublist
  have hsub2 := hsub.filter (tied lt x)
  rw [List.filter_filter] at hsub2
  simp only [Bool.and_self] at hsub2
  have hlen : (l.filter (tied lt x)).length = (out.filter (tied lt x)).length :=
    (hperm.filter _).length_eq.symm
  exact (hsub2.eq_of_length hlen).symm

theorem refSort_stableContract : StableContract refSort := by
  intro σ β I view lt hw hc s
  rw [refSort_view hc s]
  refine ⟨Lemmas.Sorted.stableSort_perm lt _, Lemmas.Sorted.stableSort_sorted hw _, ?_⟩
  intro x
  exact stable_filter hw _ _ (Lemmas.Sorted.stableSort_perm lt _)
    (fun ys h1 h2 => Lemmas.Sorted.stableSort_stable hw _ ys h1 h2) x

theorem sortLess_consistent (less : α → α → Bool) : Consistent (sortLess less) id less where
  len_eq _ := rfl
  less_eq s i j hi hj := by
    simp only [id] at hi hj
    simp [sortLess, List.getElem?_eq_getElem hi, List.getElem?_eq_getElem hj]
  swap_eq _ _ _ _ _ := rfl

/-- `sortOrdered` is `sortLess` with the built-in `<` -/
theorem sortOrdered_consistent [LT α] [DecidableLT α] :
    Consistent (sortOrdered (α := α)) id (fun a b => decide (a < b)) :=
  sortLess_consistent _

theorem reverse_consistent {I : Iface σ} {view : σ → List β} {lt : β → β → Bool} (hc : Consistent I view lt) :
    Consistent (reverse I) view (fun a b => lt b a) where
  len_eq := hc.len_eq
  less_eq s i j hi hj := hc.less_eq s j i hj hi
  swap_eq := hc.swap_eq

theorem binarySearch_eq_search [LT α] [DecidableLT α] [LE α] [DecidableLE α]
    (hge : ∀ a b : α, a ≥ b ↔ ¬ a < b) (slice : List α) (v : α) :
    binarySearch slice v = (⟨slice, fun a b => decide (a < b)⟩ : Sorted.Sorted α).search v := by
  unfold binarySearch Sorted.Sorted.search
  apply GoSearch.search_congr
  intro k hk
  simp only [Sorted.Sorted.pred, List.getElem?_eq_getElem hk]
  by_cases h : slice[k] < v <;> simp [h, hge]

end TypVerif.Lemmas.SortAdapters
