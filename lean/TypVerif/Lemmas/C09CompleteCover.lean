import TypVerif.Lemmas.C09CompleteClose
import TypVerif.Lemmas.C09AcceptJudge
/-
Acceptance completeness for the judge `Drv/C09.lean`: the judge's state set COVERS the model state through every step.

The model runs with a fixed number `N` of goroutines, the judge pads its thread tables lazily; a model state `a` is covered by the
set `ss` when `a` is `padBy k b` (`k` more idle goroutines) for a state `b` that some member `x` of `ss` stands for (`R b x`).
  * an internal step of the model keeps the state covered when `ss` is closed under normalised internal steps (`Sat`);
  * a visible step `e` of the model leads to a state covered by `advance false rw ss e` (what `Drv.C09.modelStep` computes).
-/
namespace TypVerif.Lemmas.C09Complete
open TypVerif TypVerif.Conc TypVerif.Model.KeyedMutex TypVerif.Drv.C09
open TypVerif.Lemmas.KeyedMutex TypVerif.Lemmas.C09Accept

def Cover (ss : List State) (a : State) : Prop :=
  ∃ (b : State) (k : Nat) (x : State), a = padBy k b ∧ x ∈ ss ∧ R b x

theorem padBy_pc_ge (k : Nat) (s : State) (t : Nat) (ht : s.pcs.length ≤ t) : (padBy k s).pc t = .idle :=
  (padBy_pc k s t).trans (getD_of_le _ ht)

/-- a visible step of goroutine `t` is an event of goroutine `t`, and is possible with the alphabet of that event alone -/
theorem stepT_some {rw g : Bool} {ops : List Op} {s s' : State} {t : Nat} {e : Event}
    (h : (some e, s') ∈ stepT rw g ops s t) : evT e = t ∧ (some e, s') ∈ stepT rw g (evOps e) s t := by
  cases step_of_stepT h with
  | inv op hpc hop hok =>
    rw [stepT_idle hpc]
    exact ⟨rfl, List.mem_map.mpr ⟨op, List.mem_filter.mpr ⟨List.mem_singleton.mpr rfl, hok⟩, rfl⟩⟩
  | ret r hpc =>
    rw [stepT_ret hpc]
    exact ⟨rfl, List.mem_singleton.mpr rfl⟩

/-- an internal step does not depend on the alphabet, and is not a step of an idle goroutine -/
theorem stepT_none {rw g : Bool} {ops : List Op} {s s' : State} {t : Nat}
    (h : (none, s') ∈ stepT rw g ops s t) : s.pc t ≠ .idle ∧ (none, s') ∈ stepT rw g [] s t := by
  have hpc : s.pc t ≠ .idle := by
    intro hpc
    rw [stepT_idle hpc] at h
    obtain ⟨op, _, he⟩ := List.mem_map.mp h
    cases he
  exact ⟨hpc, stepT_ops [] hpc ▸ h⟩

theorem succ_some_evOps {rw g : Bool} {ops : List Op} {s s' : State} {e : Event}
    (h : (some e, s') ∈ succ rw g ops s) : (some e, s') ∈ succ rw g (evOps e) s := by
  obtain ⟨t, ht, hs⟩ := KeyedMutex.mem_succ.mp h
  exact KeyedMutex.mem_succ.mpr ⟨t, ht, (stepT_some hs).2⟩

theorem succ_none_to_nil {rw g : Bool} {ops : List Op} {s s' : State}
    (h : (none, s') ∈ succ rw g ops s) : (none, s') ∈ succ rw g [] s := by
  obtain ⟨t, ht, hs⟩ := KeyedMutex.mem_succ.mp h
  exact KeyedMutex.mem_succ.mpr ⟨t, ht, (stepT_none hs).2⟩

theorem stepT_padBy_inv {rw g : Bool} {ops : List Op} {k : Nat} {b a' : State} {t : Nat} {l : Option Event}
    (ht : t < b.pcs.length) (h : (l, a') ∈ stepT rw g ops (padBy k b) t) :
    ∃ b', a' = padBy k b' ∧ (l, b') ∈ stepT rw g ops b t := by
  rw [stepT_padBy rw g ops k b t ht] at h
  obtain ⟨p, hp, he⟩ := List.mem_map.1 h
  obtain ⟨l', b'⟩ := p
  obtain ⟨h1, h2⟩ := Prod.mk.inj he
  simp only at h1 h2
  subst h1
  exact ⟨b', h2.symm, hp⟩

theorem cover_internal {rw : Bool} {ops : List Op} {ss : List State} {a a' : State}
    (hsat : Sat rw ss) (hc : Cover ss a) (h : (none, a') ∈ succ rw true ops a) : Cover ss a' := by
  obtain ⟨b, k, x, rfl, hx, hr⟩ := hc
  obtain ⟨t, ht, hs⟩ := KeyedMutex.mem_succ.mp h
  by_cases htb : t < b.pcs.length
  · obtain ⟨b', rfl, hb'⟩ := stepT_padBy_inv htb hs
    obtain ⟨z, hz, hr'⟩ := R_succ_fwd hr (KeyedMutex.mem_succ.mpr ⟨t, htb, hb'⟩)
    exact ⟨b', k, norm z, rfl, hsat x hx _ (mem_intNexts_iff.2 ⟨z, succ_none_to_nil hz, rfl⟩), R_norm hr'⟩
  · exact absurd (padBy_pc_ge k b t (Nat.le_of_not_lt htb)) (stepT_none hs).1

theorem cover_visible {rw : Bool} {ops : List Op} {ss : List State} {a a' : State} {e : Event}
    (hc : Cover ss a) (h : (some e, a') ∈ succ rw true ops a) : Cover (advance false rw ss e) a' := by
  obtain ⟨b, k, x, rfl, hx, hr⟩ := hc
  obtain ⟨t, ht, hs⟩ := KeyedMutex.mem_succ.mp h
  have het : evT e = t := (stepT_some hs).1
  rw [padBy_length] at ht
  -- split the padding: `pad t b` first, the rest afterwards
  have hsplit : padBy k b = padBy (k - (t + 1 - b.pcs.length)) (pad t b) := by
    rw [pad_eq_padBy, padBy_padBy, Nat.add_sub_cancel' (Nat.sub_le_iff_le_add'.mpr ht)]
  have htb := lt_pad_length t b
  rw [hsplit] at hs
  obtain ⟨b', rfl, hb'⟩ := stepT_padBy_inv htb hs
  obtain ⟨z, hz, hr'⟩ := R_succ_fwd (R_pad t hr) (KeyedMutex.mem_succ.mpr ⟨t, htb, hb'⟩)
  refine ⟨b', _, norm z, rfl, ?_, R_norm hr'⟩
  show norm z ∈ Drv.C09.stepEvent rw (evOps e) (ss.map (pad (evT e))) e
  rw [het]
  exact (stepEvent_complete rw (evOps e) (ss.map (pad t)) e).1 (pad t x) (List.mem_map.2 ⟨x, hx, rfl⟩) z
    (succ_some_evOps hz)

/-- the set the judge computes for an event is closed under normalised internal steps when it has at most `closeBudget` states -/
theorem sat_advance (rw : Bool) (ss : List State) (e : Event)
    (h : (advance false rw ss e).length ≤ closeBudget) : Sat rw (advance false rw ss e) :=
  (stepEvent_complete rw (evOps e) (ss.map (pad (evT e))) e).2 h

theorem sat_init (rw : Bool) : Sat rw [init 0] := by
  intro y hy z hz
  rw [List.mem_singleton.1 hy] at hz
  simp [intNexts, succ, init] at hz

theorem cover_init (N : Nat) : Cover [init 0] (init N) :=
  ⟨init 0, N, init 0, by rw [padBy_init, Nat.zero_add], List.mem_singleton.2 rfl, R_refl (wf_init 0)⟩

end TypVerif.Lemmas.C09Complete
