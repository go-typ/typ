/-
Sums of per-label counts: if every counted element of a list carries a label from a duplicate-free list, the counts per
label sum to the total count.
-/
namespace TypVerif.Lemmas.ListCount

theorem sum_map_add {γ : Type} (f g : γ → Nat) : ∀ ids : List γ,
    (ids.map (fun c => f c + g c)).sum = (ids.map f).sum + (ids.map g).sum := by
  intro ids
  induction ids with
  | nil => rfl
  | cons a as ih => simp only [List.map_cons, List.sum_cons, ih]; omega

theorem sum_map_zero {γ : Type} : ∀ ids : List γ, (ids.map (fun _ => 0)).sum = 0 := by
  intro ids
  induction ids with
  | nil => rfl
  | cons a as ih => simp only [List.map_cons, List.sum_cons, ih]

theorem sum_indicator_count {γ : Type} [DecidableEq γ] (c0 : γ) (ids : List γ) :
    (ids.map (fun c => if c0 = c then 1 else 0)).sum = ids.count c0 := by
  induction ids with
  | nil => rfl
  | cons a as ih =>
    rw [List.map_cons, List.sum_cons, List.count_cons, ih, Nat.add_comm]
    by_cases h : a = c0
    · subst h; simp
    · have h' : ¬ c0 = a := fun e => h e.symm
      simp [h, h']

theorem sum_indicator {γ : Type} [DecidableEq γ] (c0 : γ) (ids : List γ) (hnd : ids.Nodup) (hmem : c0 ∈ ids) :
    (ids.map (fun c => if c0 = c then 1 else 0)).sum = 1 := by
  rw [sum_indicator_count, hnd.count, if_pos hmem]

theorem countP_by_label {β γ : Type} [DecidableEq γ] (p : β → Bool) (label : β → γ) (labels : List γ) (hnd : labels.Nodup) :
    ∀ l : List β, (∀ x ∈ l, p x = true → label x ∈ labels) →
    (labels.map (fun c => l.countP (fun x => p x && decide (label x = c)))).sum = l.countP p := by
  intro l
  induction l with
  | nil =>
    intro _
    exact sum_map_zero labels
  | cons a as ih =>
    intro hcov
    have i := ih (fun x hx => hcov x (List.mem_cons_of_mem _ hx))
    have hfun : (fun c => (a :: as).countP (fun x => p x && decide (label x = c))) =
        (fun c => as.countP (fun x => p x && decide (label x = c)) +
          (if p a = true then (if label a = c then 1 else 0) else 0)) := by
      funext c
      rw [List.countP_cons]
      congr 1
      cases hp : p a <;> simp
    rw [hfun, sum_map_add, i, List.countP_cons]
    congr 1
    cases hp : p a with
    | false => simpa using sum_map_zero labels
    | true =>
      simp only [if_true]
      exact sum_indicator (label a) labels hnd (hcov a List.mem_cons_self hp)

end TypVerif.Lemmas.ListCount
