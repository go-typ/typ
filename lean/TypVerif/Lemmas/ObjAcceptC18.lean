import TypVerif.Lemmas.ObjTrack
import TypVerif.Drv.C18
/-
What one event line does to the atomic-object state sets of the C18 judge (`Drv.C18.step`): `avM` (model
`AtomicValue.spec`), `avS` (specification `Spec.Register.spec`) in mode `av`, and `poolS` (specification
`Pool.bagSpec hasNew`) in mode `pool hasNew` (not `trace`-only).  `step_av` / `step_pool`: the number of goroutines becomes
`nextN n t`, a set is stepped by `stepObj` with that number while its flag is clear and given up (`[]`) afterwards, the flags
record emptiness; in mode `pool` the flag `violated` is shared with the holding-discipline predicates `put-unheld` /
`double-hold` / `unknown-item`.  The invariants that `runLines_inv` carries along the fold (`AvC`, `PoolC`) are in `ObjCompleteC18`.

Not covered: the wrapper-level pool model `poolM` (`Pool.sys`, `stepPool`, `padPool`) — the `rejected` flag in mode `pool`.
-/
namespace TypVerif.Lemmas.ObjAcceptC18
open TypVerif TypVerif.Conc TypVerif.Model TypVerif.Proto TypVerif.Drv.C18 TypVerif.Lemmas.ObjAccept
open TypVerif.Lemmas.ObjTrack (LineVerdict lineVerdict_ite)

theorem stepObj_eq (S : AtomicObj.Spec) [DecidableEq S.σ] [DecidableEq S.Op] [DecidableEq S.Res] (n : Nat)
    (ss : List (AtomicObj.State S.σ S.Op S.Res)) (e : AtomicObj.Event S.Op S.Res) :
    Drv.C18.stepObj S n ss e = stepObjF S Drv.C18.closureFuel n ss e := rfl

theorem stepAvM_eq (n : Nat) (ss : List AvState) (e : AvEvent) :
    stepAvM n ss e = stepObjF AtomicValue.spec closureFuel n ss e := rfl

theorem stepAvS_eq (n : Nat) (ss : List AvState) (e : AvEvent) :
    stepAvS n ss e = stepObjF Spec.Register.spec closureFuel n ss e := rfl

theorem stepBag_eq (hasNew : Bool) (n : Nat) (ss : List BagState) (e : Pool.Event) :
    stepBag hasNew n ss e = stepObjF (Pool.bagSpec hasNew) closureFuel n ss e := rfl

def nextN (n : Nat) (t : Nat) : Nat := if t + 1 > n then t + 1 else n

def runLines (st : St) (lines : List (List Val × String)) : St :=
  lines.foldl (fun st l => (step st l.1 l.2).1) st

theorem runLines_inv {E : Type} {parse : List Val → Option E} {R : List E → St → Prop}
    (hstep : ∀ tr0 st toks impl e, parse toks = some e → R tr0 st → R (tr0 ++ [e]) (step st toks impl).1)
    (lines : List (List Val × String)) :
    ∀ (tr0 tr : List E) (st : St), lines.map (fun l => parse l.1) = tr.map some → R tr0 st →
      R (tr0 ++ tr) (runLines st lines) := by
  induction lines with
  | nil =>
    intro tr0 tr st hl h
    cases tr with
    | nil => rw [List.append_nil]; exact h
    | cons e tr => cases hl
  | cons l lines ih =>
    intro tr0 tr st hl h
    cases tr with
    | nil => cases hl
    | cons e tr =>
      rw [List.map_cons, List.map_cons, List.cons.injEq] at hl
      have := ih (tr0 ++ [e]) tr _ hl.2 (hstep tr0 st l.1 l.2 e hl.1 h)
      rw [List.append_assoc] at this
      exact this

/-! ### one event line -/

theorem parseAv_av : parseAv [.w "av"] = none := rfl
theorem parseAv_pool (hn : Int) : parseAv [.w "pool", .i hn] = none := rfl
theorem parseAv_poolt (hn : Int) : parseAv [.w "pool", .i hn, .w "trace"] = none := rfl

/-- everything `Drv.C18.step` does to the `av` part of its state on an event line -/
theorem step_av (st : St) (toks : List Val) (impl : String) (e : AvEvent) (hmode : st.mode = .av)
    (hp : parseAv toks = some e) :
    (step st toks impl).1.mode = .av ∧
    (step st toks impl).1.n = nextN st.n (evTid e) ∧
    (step st toks impl).1.avM = (if st.rejected then [] else stepAvM (nextN st.n (evTid e)) st.avM e) ∧
    (step st toks impl).1.avS = (if st.violated.isSome then [] else stepAvS (nextN st.n (evTid e)) st.avS e) ∧
    (step st toks impl).1.rejected = (st.rejected || (step st toks impl).1.avM.isEmpty) ∧
    (step st toks impl).1.violated = (match st.violated with
        | some w => some w
        | none => if (step st toks impl).1.avS.isEmpty then some "not-linearizable" else none) := by
  unfold step
  split
  · rw [parseAv_av] at hp; cases hp
  · rw [parseAv_poolt] at hp; cases hp
  · rw [parseAv_pool] at hp; cases hp
  · simp only [hmode, hp]
    -- after `simp only` the components are `True` or hold by unfolding
    refine ⟨?_, ?_, ?_, ?_, ?_, ?_⟩ <;> first | trivial | rfl

theorem parsePool_av : parsePool [.w "av"] = none := rfl
theorem parsePool_pool (hn : Int) : parsePool [.w "pool", .i hn] = none := rfl
theorem parsePool_poolt (hn : Int) : parsePool [.w "pool", .i hn, .w "trace"] = none := rfl

/-- the flag of mode `pool` is sticky, and the verdict `disc` of the holding-discipline predicates (never `not-linearizable`)
comes before that of the bag state set -/
theorem pool_verdict {α : Type} (e : Pool.Event) (v disc : Option String) (ss : List α)
    (hd : disc ≠ some "not-linearizable") :
    ∃ w, (match (generalizing := false) v with
        | some w => some w
        | none => match (generalizing := false) disc with
          | some w => some w
          | none => if ss.isEmpty = true then some "not-linearizable" else none) = v.or w ∧ LineVerdict (some e) w ss :=
  ⟨_, by cases v <;> cases disc <;> rfl, (lineVerdict_ite e ss).disc hd⟩

/-- what `Drv.C18.step` does to the bag part of its state on an event line (mode `pool`, not trace-only) -/
theorem step_pool (st : St) (toks : List Val) (impl : String) (hasNew : Bool) (e : Pool.Event)
    (hmode : st.mode = .pool hasNew) (htr : st.traceOnly = false) (hp : parsePool toks = some e) :
    (step st toks impl).1.mode = .pool hasNew ∧ (step st toks impl).1.traceOnly = false ∧
    (step st toks impl).1.n = nextN st.n (evTid e) ∧
    (step st toks impl).1.poolS =
      (if st.violated.isSome then [] else stepBag hasNew (nextN st.n (evTid e)) st.poolS e) ∧
    ∃ w, (step st toks impl).1.violated = st.violated.or w ∧ LineVerdict (some e) w (step st toks impl).1.poolS := by
  have hn : (if evTid e + 1 > st.n then evTid e + 1 else st.n) = nextN st.n (evTid e) := rfl
  unfold step
  split
  · rw [parsePool_av] at hp; cases hp
  · rw [parsePool_poolt] at hp; cases hp
  · rw [parsePool_pool] at hp; cases hp
  · simp only [hmode, hp, htr, hn, Bool.or_false, Bool.not_false, Bool.and_true]
    -- `disc` is the judge's own term, a nest of `if`s over the holding-discipline checks; the splits walk that nest: every
    -- leaf is `none` or a string other than `not-linearizable`
    refine ⟨trivial, trivial, trivial, trivial, pool_verdict e _ _ _ ?_⟩
    split
    · split
      · simp
      · split <;> simp
    · split
      · simp
      · split
        · simp
        · split <;> simp
    · simp

def nfJ {Op Res : Type} (n : Nat) (e : AtomicObj.Event Op Res) : Nat := nextN n (evTid e)

end TypVerif.Lemmas.ObjAcceptC18
