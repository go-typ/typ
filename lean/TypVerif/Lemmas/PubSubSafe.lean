import TypVerif.Lemmas.PubSubStep
import TypVerif.Lemmas.ListSet
/-
`Safe`, the inductive invariant behind `C10.no_panic_partial` (system without clones): a writer runs only with `readers = 0`, and
`readers` / `wgw` make that mean that no task is about to send.  `safe_replace` is the one preservation argument (task `i` replaced);
the channel-table lemmas say what `updChan`, `closeChan`, `closeAll` and `sendTo` keep of `isClosed` / `hasChan`.
-/
namespace TypVerif.Lemmas.PubSubSafe
open TypVerif TypVerif.Model.PubSub TypVerif.Lemmas.PubSubStep

def holdsRead : Task → Bool
  | .syncLoop .. => true
  | .waitWg .. => true
  | .asyncSend .. => true
  | _ => false

/-- channels the task may still send on -/
def targets : Task → List Chan
  | .syncLoop _ _ work _ => work.map (·.c)
  | .asyncSend _ it _ => [it.c]
  | .wgSend _ _ it _ => [it.c]
  | _ => []

def isWgSend (w : Nat) : Task → Bool
  | .wgSend _ w' _ _ => w' == w
  | _ => false

def isWaitWg (w : Nat) : Task → Bool
  | .waitWg _ _ w' => w' == w
  | _ => false

/-- every object reference of the task is the root (there are no clones) -/
def objOk : Task → Prop
  | .pubStart _ o _ _ => o = 0
  | .syncLoop _ o _ _ => o = 0
  | .waitWg _ o _ => o = 0
  | .asyncStart o _ => o = 0
  | .asyncSend o _ _ => o = 0
  | .wgSend o _ _ _ => o = 0
  | .subStart o _ _ => o = 0
  | .subWait o _ _ => o = 0
  | .unsubStart _ o _ => o = 0
  | .unsubWait _ o _ => o = 0
  | .uaStart _ o => o = 0
  | .uaWait _ o => o = 0
  | .woStart _ _ _ => False
  | _ => True

/-- `readers`: the reader count is the number of tasks inside a read-locked region.  `opn`, `exist`, `nodup`: a subscribed
channel is open, exists and is listed once.  `targ`: senders target subscribed channels only.  `wgc`: a WaitGroup
counter is the number of its live `wgSend` tasks.  `wgw`: a positive counter still has its `Pub*Wait` waiting; that task
holds the read lock, so `readers = 0` (what a writer needs) excludes live `wgSend` tasks although they are not counted
in `readers` themselves. -/
structure Safe (s : State) : Prop where
  objs1 : s.objs.length = 1
  obj0 : ∀ t ∈ s.tasks, objOk t
  readers : (s.obj 0).rw.readers = s.tasks.countP holdsRead
  opn : ∀ c ∈ (s.obj 0).subs, isClosed s.chans c = false
  nodup : (s.obj 0).subs.Nodup
  exist : ∀ c ∈ (s.obj 0).subs, hasChan s.chans c = true
  targ : ∀ t ∈ s.tasks, ∀ c ∈ targets t, c ∈ (s.obj 0).subs
  wgc : ∀ w, s.wgs.getD w 0 = s.tasks.countP (isWgSend w)
  wgw : ∀ w, 0 < s.wgs.getD w 0 → ∃ t ∈ s.tasks, isWaitWg w t = true
  nopanic : s.panicked = none

theorem safe_init : Safe ({} : State) := by
  constructor <;> simp [State.obj]

/-- Replacing an entry permutes the list, up to the two entries: every sum or count over it changes by their difference. -/
theorem perm_set {α} {l : List α} {i : Nat} {t : α} (t' : α) (hi : l[i]? = some t) :
    (t :: l.set i t').Perm (t' :: l) := by
  induction l generalizing i with
  | nil => simp at hi
  | cons a l ih =>
    cases i with
    | zero => cases hi; exact .swap ..
    | succ i => exact (List.Perm.swap ..).trans (((ih hi).cons a).trans (.swap ..))

theorem countP_set_eq {α} (p : α → Bool) (l : List α) (i : Nat) (t t' : α) (hi : l[i]? = some t) :
    (l.set i t').countP p + (if p t then 1 else 0) = l.countP p + (if p t' then 1 else 0) := by
  simpa only [List.countP_cons] using (perm_set t' hi).countP_eq p

theorem exists_set {α} (q : α → Bool) (l : List α) (i : Nat) (t t' : α) (hi : l[i]? = some t)
    (h : ∃ x ∈ l, q x = true) (ht : q t = true → q t' = true) : ∃ x ∈ l.set i t', q x = true := by
  obtain ⟨x, hx, hq⟩ := h
  rcases List.mem_cons.mp ((perm_set t' hi).mem_iff.mpr (List.mem_cons_of_mem _ hx)) with rfl | hx'
  · exact ⟨t', List.mem_set (lt_length_of_getElem? hi) t', ht hq⟩
  · exact ⟨x, hx', hq⟩

/-- `hrd`, `hwg`: the counters move with the kind of the task.  `hnew` (`t'` is a `wgSend` only if `t` was) makes a counter
that is positive after the step positive before it, so that `wgw` of `s` applies.  `hww` is about the counters of `s'`:
a `Pub*Wait` stops waiting only if its counter is 0 afterwards (in `safe_setTask` the counters do not change). -/
theorem safe_replace {s s' : State} {i : Nat} {t t' : Task} (hs : Safe s) (hi : s.tasks[i]? = some t)
    (htasks : s'.tasks = s.tasks.set i t')
    (hobjs : s'.objs.length = 1)
    (hsubs : (s'.obj 0).subs = (s.obj 0).subs)
    (hrd : (s'.obj 0).rw.readers + (if holdsRead t then 1 else 0)
            = (s.obj 0).rw.readers + (if holdsRead t' then 1 else 0))
    (hcl : ∀ c, isClosed s'.chans c = isClosed s.chans c)
    (hex : ∀ c, hasChan s.chans c = true → hasChan s'.chans c = true)
    (hwg : ∀ w, s'.wgs.getD w 0 + (if isWgSend w t then 1 else 0)
            = s.wgs.getD w 0 + (if isWgSend w t' then 1 else 0))
    (hnew : ∀ w, isWgSend w t' = true → isWgSend w t = true)
    (hww : ∀ w, isWaitWg w t = true → isWaitWg w t' = true ∨ s'.wgs.getD w 0 = 0)
    (hobj : objOk t')
    (htarg : ∀ c ∈ targets t', c ∈ (s.obj 0).subs)
    (hp : s'.panicked = none) : Safe s' := by
  constructor
  · exact hobjs
  · rw [htasks]; exact forall_mem_set _ hs.obj0 hobj
  · have h1 := countP_set_eq holdsRead s.tasks i t t' hi
    have h2 := hs.readers
    rw [htasks]; omega
  · intro c hc; rw [hcl]; exact hs.opn c (hsubs ▸ hc)
  · rw [hsubs]; exact hs.nodup
  · intro c hc; exact hex c (hs.exist c (hsubs ▸ hc))
  · rw [htasks, hsubs]; exact forall_mem_set _ hs.targ htarg
  · intro w
    have h1 := countP_set_eq (isWgSend w) s.tasks i t t' hi
    have h2 := hs.wgc w
    have h3 := hwg w
    rw [htasks]; omega
  · intro w hw
    have h3 := hwg w
    have ha : (if isWgSend w t' = true then 1 else 0) ≤ (if isWgSend w t = true then 1 else 0) := by
      by_cases hn : isWgSend w t' = true
      · simp [hn, hnew w hn]
      · simp [hn]
    have hpos : 0 < s.wgs.getD w 0 := by omega
    have hex' := hs.wgw w hpos
    rw [htasks]
    refine exists_set (isWaitWg w) s.tasks i t t' hi hex' ?_
    intro hq
    rcases hww w hq with h | h
    · exact h
    · omega
  · exact hp

theorem readers_pos {s : State} {i : Nat} {t : Task} (hs : Safe s) (hi : s.tasks[i]? = some t)
    (hr : holdsRead t = true) : 0 < (s.obj 0).rw.readers := by
  rw [hs.readers]
  exact List.countP_pos_iff.mpr ⟨t, List.mem_of_getElem? hi, hr⟩

theorem wg_pos {s : State} {w : Nat} {t : Task} (hs : Safe s) (hm : t ∈ s.tasks)
    (hr : isWgSend w t = true) : 0 < s.wgs.getD w 0 := by
  rw [hs.wgc]
  exact List.countP_pos_iff.mpr ⟨t, hm, hr⟩

/-- `updChan` is a `map`: whatever the update keeps at the entries of the id, the table keeps entry by entry -/
theorem map_updChan {β} (q : ChanSt → β) (cs : List ChanSt) (c : Chan) (f : ChanSt → ChanSt)
    (h : ∀ ch, ch.id = c → q (f ch) = q ch) : (updChan cs c f).map q = cs.map q := by
  rw [updChan, List.map_map]
  exact List.map_congr_left fun ch _ => by by_cases e : ch.id = c <;> simp [e, h]

theorem any_updChan (p : ChanSt → Bool) (cs : List ChanSt) (c : Chan) (f : ChanSt → ChanSt)
    (h : ∀ ch, ch.id = c → p (f ch) = p ch) : (updChan cs c f).any p = cs.any p := by
  have := congrArg (·.any id) (map_updChan p cs c f h)
  rwa [List.any_map, List.any_map] at this

theorem isClosed_updChan (cs : List ChanSt) (c c' : Chan) (f : ChanSt → ChanSt)
    (hid : ∀ ch, (f ch).id = ch.id) (hcl : ∀ ch, (f ch).closed = ch.closed) :
    isClosed (updChan cs c f) c' = isClosed cs c' :=
  any_updChan _ cs c f fun ch _ => by rw [hid, hcl]

theorem hasChan_updChan (cs : List ChanSt) (c c' : Chan) (f : ChanSt → ChanSt)
    (hid : ∀ ch, (f ch).id = ch.id) :
    hasChan (updChan cs c f) c' = hasChan cs c' :=
  any_updChan _ cs c f fun ch _ => by rw [hid]

theorem isClosed_append_open (cs : List ChanSt) (ch : ChanSt) (c' : Chan) (h : ch.closed = false) :
    isClosed (cs ++ [ch]) c' = isClosed cs c' := by
  simp [isClosed, h]

theorem hasChan_append (cs : List ChanSt) (ch : ChanSt) (c' : Chan) :
    hasChan (cs ++ [ch]) c' = (hasChan cs c' || ch.id == c') := by
  simp [hasChan]

theorem isClosed_closeChan_ne (cs : List ChanSt) (c c' : Chan) (h : c' ≠ c) :
    isClosed (closeChan cs c) c' = isClosed cs c' :=
  any_updChan _ cs c _ fun ch e => by simp [e, Ne.symm h]

theorem hasChan_closeChan (cs : List ChanSt) (c c' : Chan) :
    hasChan (closeChan cs c) c' = hasChan cs c' :=
  hasChan_updChan cs c c' _ (fun _ => rfl)

theorem closeAll_inv {P : List ChanSt → Prop} {l : List Chan} (hP : ∀ cs, ∀ c ∈ l, P cs → P (closeChan cs c)) :
    ∀ {cs cs' : List ChanSt}, closeAll cs l = some cs' → P cs → P cs' := by
  induction l with
  | nil => intro cs cs' he h; cases he; exact h
  | cons c rest ih =>
    intro cs cs' he h
    simp only [closeAll] at he
    split at he
    · cases he
    · exact ih (fun cs x hx => hP cs x (List.mem_cons_of_mem _ hx)) he (hP cs c List.mem_cons_self h)

/-- what a completed send leaves untouched -/
structure SendFrame (s s' : State) : Prop where
  objs : s'.objs = s.objs
  tasks : s'.tasks = s.tasks
  wgs : s'.wgs = s.wgs
  panicked : s'.panicked = s.panicked
  closed : ∀ c, isClosed s'.chans c = isClosed s.chans c
  has : ∀ c, hasChan s'.chans c = hasChan s.chans c

theorem sendTo_sent {s s' : State} {it : Item} (h : sendTo s it = .sent s') : SendFrame s s' := by
  obtain ⟨f, hf, rfl⟩ := sendTo_eq_sent h
  exact ⟨rfl, rfl, rfl, rfl,
    fun c => isClosed_updChan _ _ _ _ (fun x => (hf.keeps x).1) (fun x => (hf.keeps x).2.1),
    fun c => hasChan_updChan _ _ _ _ (fun x => (hf.keeps x).1)⟩

end TypVerif.Lemmas.PubSubSafe
