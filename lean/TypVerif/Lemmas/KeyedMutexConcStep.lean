import TypVerif.Lemmas.KeyedMutexConcInv
/-
C09 on the step-level map, layer 3: every step of the composed system preserves `Inv k` (for a menu that never applies
`ClearKey` to `k`), hence every reachable state satisfies it (`reachable_inv`).

One lemma per kind of step:
* `inv_invStep`   invocation — the map's `inv` step (`sim_step`), a fresh identity is offered;
* `inv_mapStep`   one internal step of the map component (`sim_step`);
* `inv_finish`    the map call returns — the map's `res` step (`sim_step`) fused with the method's continuation; the returned mutex
                  is the abstract map's value (`retOk_okRes`);
* `inv_hookStep`  the mutex action at the hook;
* `inv_setPhase_ret`  a step that only moves the goroutine to `ret _` / `idle` (a failed `Try*`, the response).
-/
namespace TypVerif.Lemmas.KeyedMutexConc
open TypVerif TypVerif.Conc TypVerif.Model TypVerif.Model.SyncMapConc TypVerif.Model.RelObj TypVerif.Lemmas.Smc
open TypVerif.Model.KeyedMutexConc (Phase Kind Mu MId mapOp invOk invStep afterMap retOf valOf finish mapSteps contMap
  acqW acqR hookStep getMu putMu)

-- `[DecidableEq K]` is a section variable; the lemmas that do not need it take it all the same
set_option linter.unusedSectionVars false

variable {K : Type} [DecidableEq K]

/-- an invocation offers at most the fresh identity `s.next`, for the key of the call -/
theorem OffersOk.of_invStep {s : KState K} (h : OffersOk s) (t : Tid) (op : KeyedMutexConc.Op K) :
    OffersOk (invStep s t op) := by
  have hmem : ∀ p ∈ (invStep s t op).offers, p = (s.next, op.key) ∨ p ∈ s.offers := by
    intro p hp
    have hp' : p ∈ (if op.kind = .clear then s.offers else (s.next, op.key) :: s.offers) := hp
    split at hp'
    · exact .inr hp'
    · exact List.mem_cons.mp hp'
  refine ⟨fun p hp => ?_, fun m k1 k2 h1 h2 => ?_⟩
  · show p.1 < s.next + 1
    rcases hmem p hp with e | hp'
    · rw [e]; exact Nat.lt_succ_self _
    · exact Nat.lt_succ_of_lt (h.lt p hp')
  · rcases hmem _ h1 with e1 | h1' <;> rcases hmem _ h2 with e2 | h2'
    · cases e1; cases e2; rfl
    · cases e1; exact absurd (h.lt _ h2') (Nat.lt_irrefl _)
    · cases e2; exact absurd (h.lt _ h1') (Nat.lt_irrefl _)
    · exact h.func m k1 k2 h1' h2'

theorem inv_invStep {k : K} {s : KState K} {a : AState K Nat} {t : Tid} {op : KeyedMutexConc.Op K} (h : Inv k s a)
    (ht : t < s.phases.length) (hph : s.phase t = .idle) (hok : invOk s t op = true)
    (hclear : op.kind = .clear → op.key ≠ k) :
    Inv k (invStep s t op) (witness s.map t (some (.inv t (mapOp op.kind op.key s.next))) a) := by
  have hpc : s.map.pc t = .idle := h.linkAt hph
  have hsub : ∀ p ∈ s.offers, p ∈ (invStep s t op).offers := by
    intro p hp
    show p ∈ (if op.kind = .clear then s.offers else (s.next, op.key) :: s.offers)
    split
    · exact hp
    · exact List.mem_cons_of_mem _ hp
  have hmop : OkOp k (invStep s t op).offers (mapOp op.kind op.key s.next) := by
    by_cases hc : op.kind = .clear
    · rw [hc, mapOp_clear]
      exact hclear hc
    · rw [mapOp_of_ne_clear hc]
      show (s.next, op.key) ∈ (if op.kind = .clear then s.offers else (s.next, op.key) :: s.offers)
      rw [if_neg hc]
      exact List.mem_cons_self
  have hne : mapOp op.kind op.key s.next ≠ .range := by
    intro he; rw [he] at hmop; exact hmop
  have hsim := sim_step h.r (h.lt_map ht) _ _ (map_stepT_inv (mapOp op.kind op.key s.next) hpc)
  obtain ⟨hak, hst⟩ := absKey_witness (h.ak.mono hsub) s.map t (some (.inv t (mapOp op.kind op.key s.next)))
    (fun t' op' heq => by cases heq; exact hmop)
  have hoff := h.off.of_invStep t op
  refine ⟨?_, hsim.2, hak, hoff, ?_, ?_⟩
  · show (s.map.pcs.set t _).length = (s.phases.set t _).length
    rw [List.length_set, List.length_set]; exact h.len
  · intro u
    by_cases hu : u = t
    · subst hu
      have hph' : (invStep s u op).phase u = .inMap op.kind op.key := phase_of_set_self rfl ht
      rw [link_at hph', LinkAt]
      refine ⟨⟨s.next, opOf_witness_inv s.map u u a hne⟩, ?_, ?_⟩
      · intro h1 h2
        have : s.holdsW u op.key = true := by
          simp only [invOk, h1] at hok; exact hok
        rw [h2] at this
        exact holdsW_iff.mp this
      · intro h1 h2
        have : s.holdsR u op.key = true := by
          simp only [invOk, h1] at hok; exact hok
        rw [h2] at this
        exact holdsR_iff.mp this
    · exact (h.link u).other (phase_of_set_ne rfl hu) (pc_setPc_ne hu _ _) (opOf_witness_other _ _ _ _ hu) hst hsub
        (fun _ x => x) (fun _ x => x)
  · exact h.mu.abs_step rfl rfl rfl rfl hsub hoff hak hst

theorem inv_mapStep {k : K} {s : KState K} {a : AState K Nat} {t : Tid} {kind : Kind} {k' : K}
    {ms' : SyncMapConc.State K MId} (h : Inv k s a)
    (ht : t < s.phases.length) (hph : s.phase t = .inMap kind k') (hmem : ms' ∈ mapSteps s.map t) :
    Inv k { s with map := ms' } (witness s.map t none a) := by
  have hstep := (mem_mapSteps_iff []).mp hmem
  obtain ⟨sh', pc', hms⟩ := Smc.stepT_setPc hstep
  have hsim := sim_step h.r (h.lt_map ht) _ _ hstep
  obtain ⟨hak, hst⟩ := absKey_witness h.ak s.map t none (fun t' op' heq => by cases heq)
  have hoff : OffersOk { s with map := ms' } := ⟨h.off.lt, h.off.func⟩
  refine ⟨?_, hsim.2, hak, hoff, ?_, ?_⟩
  · show ms'.pcs.length = s.phases.length
    rw [hms]
    show (s.map.pcs.set t _).length = _
    rw [List.length_set]; exact h.len
  · intro u
    by_cases hu : u = t
    · subst hu
      have hl := h.linkAt hph
      have hph' : ({ s with map := ms' } : KState K).phase u = .inMap kind k' := hph
      rw [link_at hph', LinkAt, opOf_witness_none]
      exact hl
    · refine (h.link u).other rfl ?_ (opOf_witness_other _ _ _ _ hu) hst (fun _ x => x) (fun _ x => x) (fun _ x => x)
      show ms'.pc u = s.map.pc u
      rw [hms]; exact pc_setPc_ne hu _ _
  · exact h.mu.abs_step rfl rfl rfl rfl (fun _ x => x) hoff hak hst

/-- what the map call of a `LoadOrStore`-method returns: the abstract map's value -/
theorem ret_facts {k : K} {s : KState K} {a : AState K Nat} {t : Tid} {kind : Kind} {k' : K}
    {r : SyncMapConc.Res K MId} (h : Inv k s a)
    (hph : s.phase t = .inMap kind k') (hpc : s.map.pc t = .ret r) :
    kind ≠ .clear → OkRes k s.offers a.obj k' r := by
  obtain ⟨⟨v, hv⟩, _, _⟩ := h.linkAt hph
  have hT := h.r.thr t
  rw [hpc] at hT
  have hnp : ∀ l, r ≠ .pairs l := by
    intro l he
    subst he
    have hi : IsIdle (a.pcs t) := hT.1
    rw [isIdle_iff.mp hi] at hv
    cases hv
  intro hk
  rw [mapOp_of_ne_clear hk] at hv
  have hret : RetOk (a.pcs t) r := by
    cases r with
    | pairs l => exact absurd rfl (hnp l)
    | done => exact hT.1
    | val o => exact hT.1
    | pair w b => exact hT.1
  exact retOk_okRes h.ak hv hret

theorem not_mem_faults {k k' : K} {faults : List K} (hk : k' ≠ k) (hf : k ∉ faults) (c : Prop) [Decidable c] :
    k ∉ (if c then faults else k' :: faults) := by
  split
  · exact hf
  · exact fun hc => (List.mem_cons.mp hc).elim (fun e => hk e.symm) hf

/-- the goroutine returns from its map call into a state `s3` given by its fields: `Inv` is kept if the mutex bookkeeping of
`s3` is in order for the old abstract state -/
theorem inv_ret_frame {k : K} {s s3 : KState K} {a : AState K Nat} {t : Tid}
    {r : SyncMapConc.Res K MId} {p : Phase K} (h : Inv k s a)
    (ht : t < s.phases.length) (hpc : s.map.pc t = .ret r)
    (hmap : s3.map = setPc s.map t s.map.sh .idle) (hphases : s3.phases = s.phases.set t p)
    (hnext : s3.next = s.next) (hoffers : s3.offers = s.offers)
    (hp : RestOk k s (witness s.map t (some (.res t r)) a) p)
    (hwh : ∀ u, u ≠ t → ∀ m, (u, k, m) ∈ s.wh → (u, k, m) ∈ s3.wh)
    (hrh : ∀ u, u ≠ t → ∀ m, (u, k, m) ∈ s.rh → (u, k, m) ∈ s3.rh)
    (hmu : MuInv k s3 a) : Inv k s3 (witness s.map t (some (.res t r)) a) := by
  have hsim := sim_step h.r (h.lt_map ht) _ _ (map_stepT_res hpc)
  obtain ⟨hak, hst⟩ := absKey_witness h.ak s.map t (some (.res t r)) (fun t' op' heq => by cases heq)
  have hoff : OffersOk s3 := ⟨by rw [hoffers, hnext]; exact h.off.lt, by rw [hoffers]; exact h.off.func⟩
  refine h.frame ht (hlen := ?_) (hR := ?_) (hak := hak) (hst := hst) (hop := fun u hu => opOf_witness_other _ _ _ _ hu)
    (hpcs := ?_) (hpct := ?_) (hphases := hphases) (hnext := hnext) (hoffers := hoffers) (hp := hp) (hwh := hwh) (hrh := hrh)
    (hmu := hmu.abs_step rfl rfl rfl rfl (fun _ x => x) hoff (by rw [hoffers]; exact hak) hst)
  · rw [hmap]; exact List.length_set
  · rw [hmap]; exact hsim.2
  · intro u hu
    rw [hmap]; exact pc_setPc_ne hu _ _
  · rw [hmap]; exact pc_setPc_self (h.lt_map ht) _ _

theorem inv_finish {k : K} {s : KState K} {a : AState K Nat} {t : Tid} {kind : Kind} {k' : K}
    {r : SyncMapConc.Res K MId} (h : Inv k s a)
    (ht : t < s.phases.length) (hph : s.phase t = .inMap kind k') (hpc : s.map.pc t = .ret r) :
    Inv k (finish { s with map := setPc s.map t s.map.sh .idle } t kind k' (valOf r))
      (witness s.map t (some (.res t r)) a) := by
  have hfacts := ret_facts h hph hpc
  obtain ⟨_, hlw, hlr⟩ := h.linkAt hph
  -- the simple continuations: only the phase changes
  have simple : ∀ p : Phase K, RestOk k s (witness s.map t (some (.res t r)) a) p →
      Inv k (({ s with map := setPc s.map t s.map.sh .idle } : KState K).setPhase t p)
        (witness s.map t (some (.res t r)) a) :=
    fun p hp => inv_ret_frame h ht hpc rfl rfl rfl rfl hp (fun _ _ _ x => x) (fun _ _ _ x => x)
      (h.mu.abs_step rfl rfl rfl rfl (fun _ x => x) ⟨h.off.lt, h.off.func⟩ h.ak fun _ x => x)
  by_cases hk : kind = .clear
  · subst hk
    rw [finish_clear]
    exact simple (.ret .done) trivial
  · obtain ⟨w, b, hr, hwo, hwk⟩ := hfacts hk
    subst hr
    show Inv k (afterMap _ t kind k' w) _
    cases kind with
    | clear => exact absurd rfl hk
    | lock | trylock | rlock | tryrlock =>
      exact simple (.atHook _ k' w) ⟨hwo, fun hkk => by rw [witness_obj_some]; exact hwk hkk⟩
    | unlock =>
      refine inv_ret_frame (p := .ret .done) h ht hpc rfl rfl rfl rfl trivial ?_ (fun _ _ _ x => x) ?_
      · exact fun u hu m hm => (List.mem_erase_of_ne fun he => hu (congrArg Prod.fst he)).mpr hm
      · by_cases hkk : k' = k
        · subst hkk
          obtain ⟨m, hm⟩ := hlw rfl rfl
          have h1 := h.mu.wkey t m hm
          rw [hwk rfl] at h1
          have := Option.some.inj h1; subst this
          exact h.mu.relW_key hm rfl rfl rfl rfl rfl
        · refine h.mu.foreign (x := { s.mu w with writer := none }) hkk hwo h.off h.ak rfl (fun hc => absurd rfl hc)
            ?_ (fun _ _ => rfl) ?_ rfl
          · exact count_erase_other hkk s.wh
          · exact not_mem_faults hkk h.mu.nofault _
    | runlock =>
      refine inv_ret_frame (p := .ret .done) h ht hpc rfl rfl rfl rfl trivial (fun _ _ _ x => x) ?_ ?_
      · exact fun u hu m hm => (List.mem_erase_of_ne fun he => hu (congrArg Prod.fst he)).mpr hm
      · by_cases hkk : k' = k
        · subst hkk
          obtain ⟨m, hm⟩ := hlr rfl rfl
          have h1 := h.mu.rkey t m hm
          rw [hwk rfl] at h1
          have := Option.some.inj h1; subst this
          exact h.mu.relR_key hm rfl rfl rfl rfl rfl
        · refine h.mu.foreign (x := { s.mu w with readers := (s.mu w).readers.erase t }) hkk hwo h.off h.ak rfl ?_
            (fun _ _ => rfl) ?_ ?_ rfl
          · intro hc
            show (s.mu w).readers.erase t = []
            rw [h.mu.wr w hc]; rfl
          · exact count_erase_other hkk s.rh
          · exact not_mem_faults hkk h.mu.nofault _

theorem inv_contMap {k : K} {s : KState K} {a : AState K Nat} {t : Tid} {kind : Kind} {k' : K}
    {ms' : SyncMapConc.State K MId} (h : Inv k s a)
    (ht : t < s.phases.length) (hph : s.phase t = .inMap kind k') (hmem : ms' ∈ mapSteps s.map t) :
    ∃ a', Inv k (contMap s t kind k' ms') a' := by
  have h1 := inv_mapStep h ht hph hmem
  unfold contMap
  cases hr : retOf (ms'.pc t) with
  | none => exact ⟨_, h1⟩
  | some r =>
    have hpc : ms'.pc t = .ret r := retOf_eq_some hr
    exact ⟨_, inv_finish (s := { s with map := ms' }) h1 ht hph hpc⟩

theorem inv_acqW {k : K} {s : KState K} {a : AState K Nat} {t : Tid} {kind : Kind} {k' : K} {m : MId}
    (h : Inv k s a) (ht : t < s.phases.length) (hph : s.phase t = .atHook kind k' m) (hfree : (s.mu m).free)
    (r : KeyedMutexConc.Res) : Inv k (acqW s t k' m r) a := by
  obtain ⟨hpc, hmo, hmk⟩ := h.linkAt hph
  refine h.frame (p := .ret r) ht (hlen := rfl) (hR := h.r) (hak := h.ak) (hst := fun _ x => x) (hop := fun _ _ => rfl)
    (hpcs := fun _ _ => rfl) (hpct := hpc) (hphases := rfl) (hnext := rfl) (hoffers := rfl)
    (hp := trivial) (hwh := ?_) (hrh := fun _ _ _ x => x) (hmu := ?_)
  · intro u hu m' hm'
    exact List.mem_cons_of_mem _ hm'
  · by_cases hkk : k' = k
    · subst hkk
      exact h.mu.acqW_key (hmk rfl) hfree rfl rfl rfl rfl rfl
    · refine h.mu.foreign (x := { s.mu m with writer := some t }) hkk hmo h.off h.ak rfl (fun _ => hfree.2)
        ?_ (fun _ _ => rfl) h.mu.nofault rfl
      exact count_cons_other hkk s.wh

theorem inv_acqR {k : K} {s : KState K} {a : AState K Nat} {t : Tid} {kind : Kind} {k' : K} {m : MId}
    (h : Inv k s a) (ht : t < s.phases.length) (hph : s.phase t = .atHook kind k' m) (hfree : (s.mu m).readable)
    (r : KeyedMutexConc.Res) : Inv k (acqR s t k' m r) a := by
  obtain ⟨hpc, hmo, hmk⟩ := h.linkAt hph
  refine h.frame (p := .ret r) ht (hlen := rfl) (hR := h.r) (hak := h.ak) (hst := fun _ x => x) (hop := fun _ _ => rfl)
    (hpcs := fun _ _ => rfl) (hpct := hpc) (hphases := rfl) (hnext := rfl) (hoffers := rfl)
    (hp := trivial) (hwh := fun _ _ _ x => x) (hrh := ?_) (hmu := ?_)
  · intro u hu m' hm'
    exact List.mem_cons_of_mem _ hm'
  · by_cases hkk : k' = k
    · subst hkk
      exact h.mu.acqR_key (hmk rfl) hfree rfl rfl rfl rfl rfl
    · refine h.mu.foreign (x := { s.mu m with readers := t :: (s.mu m).readers }) hkk hmo h.off h.ak rfl
        (fun hc => absurd hfree hc) (fun _ _ => rfl) ?_ h.mu.nofault rfl
      exact count_cons_other hkk s.rh

theorem inv_setPhase_ret {k : K} {s : KState K} {a : AState K Nat} {t : Tid} (h : Inv k s a) (ht : t < s.phases.length)
    (hpc : s.map.pc t = .idle) (p : Phase K) (hp : p = .idle ∨ ∃ r, p = .ret r) : Inv k (s.setPhase t p) a := by
  refine h.frame (p := p) ht (hlen := rfl) (hR := h.r) (hak := h.ak) (hst := fun _ x => x) (hop := fun _ _ => rfl)
    (hpcs := fun _ _ => rfl) (hpct := hpc) (hphases := rfl) (hnext := rfl) (hoffers := rfl)
    (hp := ?_) (hwh := fun _ _ _ x => x) (hrh := fun _ _ _ x => x) (hmu := ?_)
  · rcases hp with hp | ⟨r, hp⟩ <;> subst hp <;> trivial
  · exact h.mu.abs_step rfl rfl rfl rfl (fun _ x => x) ⟨h.off.lt, h.off.func⟩ h.ak (fun _ x => x)

theorem inv_hookStep {k : K} {s s' : KState K} {a : AState K Nat} {t : Tid} {kind : Kind} {k' : K} {m : MId}
    (h : Inv k s a) (ht : t < s.phases.length) (hph : s.phase t = .atHook kind k' m)
    (hs : hookStep s t kind k' m = some s') : Inv k s' a := by
  have hpc : s.map.pc t = .idle := (h.linkAt hph).1
  cases kind with
  | lock =>
    dsimp only [hookStep] at hs
    split at hs
    · rename_i hf; cases hs; exact inv_acqW h ht hph hf _
    · cases hs
  | rlock =>
    dsimp only [hookStep] at hs
    split at hs
    · rename_i hf; cases hs; exact inv_acqR h ht hph hf _
    · cases hs
  | trylock =>
    dsimp only [hookStep] at hs
    split at hs
    · rename_i hf; cases hs; exact inv_acqW h ht hph hf _
    · cases hs; exact inv_setPhase_ret h ht hpc _ (Or.inr ⟨_, rfl⟩)
  | tryrlock =>
    dsimp only [hookStep] at hs
    split at hs
    · rename_i hf; cases hs; exact inv_acqR h ht hph hf _
    · cases hs; exact inv_setPhase_ret h ht hpc _ (Or.inr ⟨_, rfl⟩)
  | unlock | runlock | clear => cases hs

def NoClearKey (k : K) (menu : List (KeyedMutexConc.Op K)) : Prop := ∀ op ∈ menu, op.kind = .clear → op.key ≠ k

theorem inv_stepT {k : K} {menu : List (KeyedMutexConc.Op K)} (hmenu : NoClearKey k menu) {s s' : KState K}
    {a : AState K Nat} {t : Tid} {l : Option (KeyedMutexConc.Event K)} (h : Inv k s a) (ht : t < s.phases.length)
    (hstep : (l, s') ∈ KeyedMutexConc.stepT menu s t) : ∃ a', Inv k s' a' := by
  cases hph : s.phase t with
  | idle =>
    rw [stepT_idle menu hph] at hstep
    obtain ⟨op, hop, heq⟩ := List.mem_map.mp hstep
    obtain ⟨hop1, hop2⟩ := List.mem_filter.mp hop
    cases heq
    exact ⟨_, inv_invStep h ht hph hop2 (hmenu op hop1)⟩
  | inMap kind k' =>
    rw [stepT_inMap menu hph] at hstep
    obtain ⟨ms', hms, heq⟩ := List.mem_map.mp hstep
    cases heq
    exact inv_contMap h ht hph hms
  | atHook kind k' m =>
    rw [stepT_atHook menu hph] at hstep
    obtain ⟨s1, hs, heq⟩ := List.mem_map.mp hstep
    cases heq
    exact ⟨a, inv_hookStep h ht hph (Option.mem_toList.mp hs)⟩
  | ret r =>
    rw [stepT_ret menu hph] at hstep
    cases List.mem_singleton.mp hstep
    exact ⟨a, inv_setPhase_ret h ht (h.linkAt hph) _ (Or.inl rfl)⟩

theorem inv_init (k : K) (n : Nat) : Inv k (KeyedMutexConc.init n : KState K) (RState.init (mapSpec K Nat)) := by
  refine ⟨?_, R_init n false, ?_, ?_, ?_, ?_⟩
  · simp [KeyedMutexConc.init, SyncMapConc.init]
  · refine ⟨?_, ?_, ?_, ?_⟩
    · intro t op ho; cases ho
    · intro t k' v seen hp; cases hp
    · intro t k' v r hp; cases hp
    · intro k' m hm; cases hm
  · refine ⟨?_, ?_⟩
    · intro p hp; cases hp
    · intro m k1 k2 h1; cases h1
  · intro t
    have hph : (KeyedMutexConc.init n : KState K).phase t = .idle := by
      simp only [KeyedMutexConc.State.phase, KeyedMutexConc.init, List.getD_eq_getElem?_getD]
      by_cases ht : t < n
      · simp [ht]
      · simp [ht]
    exact (link_at hph).mpr (init_pc n false t)
  · refine ⟨?_, ?_, ?_, ?_, ?_, ?_, ?_⟩
    · intro t m hm; cases hm
    · intro t m hm; cases hm
    · intro t m hm; cases hm
    · intro t m hm; cases hm
    · intro m hm; exact absurd rfl hm
    · intro m _ _; exact ⟨rfl, rfl⟩
    · intro hc; cases hc

/-- **the composed invariant holds in every reachable state**, for every schedule -/
theorem reachable_inv {k : K} {menu : List (KeyedMutexConc.Op K)} (hmenu : NoClearKey k menu) (n : Nat) {s : KState K}
    (hr : Reachable (KeyedMutexConc.sys K menu n) s) : ∃ a, Inv k s a := by
  refine Conc.invariant (KeyedMutexConc.sys K menu n) (fun s => ∃ a, Inv k s a) ⟨_, inv_init k n⟩ ?_ s hr
  intro s1 l s2 ih hmem
  obtain ⟨a, h⟩ := ih
  obtain ⟨t, ht, hstep⟩ := mem_succ.mp hmem
  exact inv_stepT hmenu h ht hstep

end TypVerif.Lemmas.KeyedMutexConc
