import TypVerif.Lemmas.OnceRedBase
/-
The normal form `nf` and urgent steps of the model: an urgent step leaves `nf` unchanged and decreases the measure `nu`
(`urgent_step_nf`); `nf s` has no urgent step and a state without urgent step is its own normal form (`urgent_nf`, `nf_fix`).
-/
namespace TypVerif.Lemmas.OnceRed
open TypVerif TypVerif.Conc TypVerif.Model.Once TypVerif.Drv.C17 TypVerif.Lemmas.Once

variable {s : State} {t : Nat} {p : Pc}

/-- extensionality for `nf`: two states with the same `willDone = W` have the same normal form if they agree on what `nf` reads
(program counters up to `nfPc W`, `mu` unless `W`, the fields `nf` will show) -/
theorem nf_congr (A B : State) (W : Bool) (hA : willDone A = W) (hB : willDone B = W)
    (hl : A.pcs.length = B.pcs.length) (hpc : ∀ u, u < A.pcs.length → nfPc W (A.pc u) = nfPc W (B.pc u))
    (hm : W = false → A.mu = B.mu)
    (hf : (if W then A.fres.getD A.fields else A.fields) = (if W then B.fres.getD B.fields else B.fields))
    (hi : A.invoked = B.invoked) (hr : A.fres = B.fres) : nf A = nf B := by
  subst hB
  apply state_ext
  · exact (nf_len A).trans (hl.trans (nf_len B).symm)
  · intro u hu
    rw [nf_pc, nf_pc, hA]
    exact hpc u (nf_len A ▸ hu)
  · exact hA
  · show (if willDone A = true then none else A.mu) = if willDone B = true then none else B.mu
    rw [hA]
    cases h : willDone B
    · exact hm h
    · rfl
  · show (if willDone A = true then A.fres.getD A.fields else A.fields) =
      if willDone B = true then B.fres.getD B.fields else B.fields
    rw [hA]
    exact hf
  · exact hi
  · exact hr

section
variable {res : Nat → List Int} {s' : State} {l : Option Event}

theorem willDone_of_done (h : s.done = true) : willDone s = true := by
  unfold willDone
  rw [h]
  rfl

theorem isRun_of_isAS {p : Pc} (h : isAS p = true) : isRun p = true := by
  cases p
  case assign | store => rfl
  all_goals cases h

/-- while its function runs the result is not recorded; after that it is -/
theorem fres_of_isRun (hT : ThreadOk s t) (h : isRun (s.pc t) = true) : s.fres.isSome = isAS (s.pc t) := by
  unfold ThreadOk at hT
  cases hpc : s.pc t <;> rw [hpc] at h
  case inF | assign | store =>
    rw [hpc] at hT
    rw [hT.2.2.2]
    rfl
  all_goals cases h

/-- `done` is set, or the result is recorded (and the goroutine that recorded it is on its way to set `done`) -/
theorem willDone_eq (hg : Good s) : willDone s = (s.done || s.fres.isSome) := by
  unfold willDone
  cases hd : s.done
  · rcases hg.doneF hd with ⟨_, hf⟩ | ⟨t, ht⟩
    · rw [hf]
      cases hm : s.mu with
      | none => rfl
      | some w =>
        show isAS (s.pc w) = false
        cases hA : isAS (s.pc w) with
        | false => rfl
        | true =>
          have := fres_of_isRun (hg.thread w) (isRun_of_isAS hA)
          rw [hf, hA] at this
          cases this
    · rw [(run_facts hg ht).1]
      exact (fres_of_isRun (hg.thread t) ht).symm
  · rfl

theorem willDone_of_fres (hg : Good s) {r : List Int} (h : s.fres = some r) : willDone s = true := by
  rw [willDone_eq hg, h]
  exact Bool.or_true _

/-- at the re-check under the mutex nothing is recorded yet -/
theorem willDone_check (hg : Good s) (hpc : s.pc t = .check) : willDone s = s.done := by
  rw [willDone_eq hg]
  cases hd : s.done
  · rw [(check_fresh hg hpc hd).2]
    rfl
  · rfl

theorem willDone_step (hg : Good s) (ht : t < s.pcs.length) (h : Step res s t l s') :
    willDone s' = match (generalizing := false) l with
      | some (.fend _ _) => true
      | _ => willDone s := by
  have hT := hg.thread t
  unfold ThreadOk at hT
  rw [willDone_eq (h.good hg ht), willDone_eq hg]
  cases h with
  | fend => exact Bool.or_true _
  | store hpc =>
    rw [hpc] at hT
    rw [hT.2.2.2]
    exact (Bool.or_true _).symm
  | _ => rfl

theorem step_records (hg : Good s) (ht : t < s.pcs.length) (h : Step res s t l s') :
    (willDone s' = willDone s ∧ s'.fres = s.fres) ∨ (s.pc t = .inF ∧ willDone s' = true ∧ ∃ r, s'.fres = some r) := by
  have hW := willDone_step hg ht h
  have hf := h.fres
  cases l with
  | none => exact .inl ⟨hW, hf⟩
  | some e =>
    cases e with
    | fend =>
      obtain ⟨rfl, hpc, _⟩ := h.fend_inv
      exact .inr ⟨hpc, hW, _, hf⟩
    | _ => exact .inl ⟨hW, hf⟩

end

theorem wt_nextPc {s : State} {t : Nat} (hu : urgent s t = true) (r : List Int) :
    wt (nextPc s.done r (s.pc t)) < wt (s.pc t) := by
  cases hpc : s.pc t
  case fast | check => cases s.done <;> exact Nat.le_of_ble_eq_true rfl
  case lock | assign | store | unlock => exact Nat.le_of_ble_eq_true rfl
  all_goals
    unfold urgent at hu
    rw [hpc] at hu
    cases hu

theorem nfPc_nextPc (hg : Good s) (hu : urgent s t = true) (r : List Int) :
    nfPc (willDone s) (nextPc s.done r (s.pc t)) = nfPc (willDone s) (s.pc t) := by
  cases hpc : s.pc t
  case fast =>
    cases hd : s.done
    · rfl
    · rw [willDone_of_done hd]
      rfl
  case lock =>
    unfold urgent at hu
    rw [hpc] at hu
    rw [willDone_of_done (Bool.and_eq_true_iff.mp hu).2]
    rfl
  case check =>
    rw [willDone_check hg hpc]
    cases s.done <;> rfl
  case assign | store | unlock => rfl
  all_goals
    unfold urgent at hu
    rw [hpc] at hu
    cases hu

theorem urgent_step_nf (res : Nat → List Int) (s : State) (t : Nat) (l : Option Event) (s' : State)
    (hg : GoodX s) (ht : t < s.pcs.length) (hu : urgent s t = true) (hstep : (l, s') ∈ stepT res s t) :
    l = none ∧ nf s' = nf s ∧ nu s' < nu s := by
  have h := mem_stepT.mp hstep
  cases ConcAcceptC17.stepT_urgent_internal res s t hu _ hstep
  have hT := hg.good.thread t
  unfold ThreadOk at hT
  have hW : willDone s' = willDone s := willDone_step hg.good ht h
  have hfr : s'.fres = s.fres := h.fres
  refine ⟨rfl, nf_congr s' s _ hW rfl h.length_eq (fun u _ => ?_) (fun hw => ?_) ?_ h.invoked hfr, ?_⟩
  · by_cases e : u = t
    · rw [e, h.pc_self ht]
      exact nfPc_nextPc hg.good hu _
    · rw [h.pc_ne ht e]
  · -- the mutex moves at `lock` and `unlock`, where `done` is set
    rcases h.mu with ⟨hpc, _, _⟩ | ⟨hpc, _⟩ | ⟨_, _, e⟩
    · unfold urgent at hu
      rw [hpc] at hu
      cases (willDone_of_done (Bool.and_eq_true_iff.mp hu).2).symm.trans hw
    · rw [hpc] at hT
      cases (willDone_of_done hT.2).symm.trans hw
    · exact e
  · -- the fields are written at `assign`, with the recorded result
    rw [hfr]
    rcases h.fields with e | ⟨r, hpc, e⟩
    · rw [e]
    · rw [hpc] at hT
      rw [e, willDone_of_fres hg.good hT.2.2.2, hT.2.2.2]
      rfl
  · unfold nu
    rw [h.pcs]
    exact sum_set_lt _ _ _ ht (wt_nextPc hu _)

theorem urgent_nf (s : State) (t : Nat) : urgent (nf s) t = false := by
  unfold urgent
  rw [nf_pc]
  cases hD : willDone s
  · cases s.pc t
    -- waiting at `Lock` is not urgent while `done` is not set
    case fast | lock =>
      show ((nf s).mu == none && willDone s) = false
      rw [hD]
      exact Bool.and_false _
    all_goals rfl
  · cases s.pc t <;> rfl

/-- the program counters that are urgent whatever the shared state -/
theorem not_urgent_pc (hu : urgent s t = false) {p : Pc} (hpc : s.pc t = p) :
    match p with
    | .fast | .check | .assign _ | .store | .unlock => False
    | _ => True := by
  unfold urgent at hu
  rw [hpc] at hu
  cases p
  case fast | check | assign | store | unlock => cases hu
  all_goals trivial

/-- normalisation leaves a goroutine without urgent step where it is (at `Lock`: unless `done` is about to be set) -/
theorem nfPc_of_not_urgent (hu : urgent s t = false) (hl : s.pc t = .lock → willDone s = false) :
    nfPc (willDone s) (s.pc t) = s.pc t := by
  cases hpc : s.pc t
  case lock =>
    rw [hl hpc]
    rfl
  case idle | callF | inF | read | returned => rfl
  case fast | check | assign | store | unlock => exact (not_urgent_pc hu hpc).elim

theorem nf_fix (x : State) (hg : GoodX x) (hn : ∀ t, urgent x t = false) : nf x = x := by
  have hW : willDone x = x.done := by
    unfold willDone
    cases x.mu with
    | none => exact Bool.or_false _
    | some w =>
      show (x.done || isAS (x.pc w)) = x.done
      cases hpc : x.pc w
      case assign | store =>
        have h3 := hn w
        unfold urgent at h3
        rw [hpc] at h3
        cases h3
      all_goals exact Bool.or_false _
  -- once `done` is set the mutex is free: a holder past `callF`/`inF` would be urgent, one inside them contradicts `done`
  have hmu : x.done = true → x.mu = none := by
    intro hd
    cases hm : x.mu with
    | none => rfl
    | some w =>
      have h1 := hg.holder w hm
      have h2 := hg.good.thread w
      have h3 := hn w
      unfold ThreadOk at h2
      unfold urgent at h3
      cases hpc : x.pc w <;> rw [hpc] at h1
      case check | assign | store | unlock =>
        rw [hpc] at h3
        cases h3
      case callF | inF =>
        rw [hpc] at h2
        cases h2.2.1.symm.trans hd
      all_goals cases h1
  apply state_ext
  · exact nf_len x
  · intro u _
    rw [nf_pc]
    refine nfPc_of_not_urgent (hn u) fun hpc => hW.trans ?_
    cases hd : x.done
    · rfl
    · have h3 := hn u
      unfold urgent at h3
      rw [hpc, hmu hd, hd] at h3
      cases h3
  · exact hW
  · show (if willDone x = true then none else x.mu) = x.mu
    rw [hW]
    cases hd : x.done
    · rfl
    · exact (hmu hd).symm
  · show (if willDone x = true then x.fres.getD x.fields else x.fields) = x.fields
    rw [hW]
    cases hd : x.done
    · rfl
    · rw [(hg.good.doneT hd).2]
      rfl
  · rfl
  · rfl

theorem stepT_urgent_ne_nil (res : Nat → List Int) (s : State) (t : Nat) (h : urgent s t = true) :
    stepT res s t ≠ [] := by
  unfold urgent at h
  obtain ⟨_, _, hs⟩ := Step.enabled res (s := s) (t := t) (fun e => by rw [e] at h; cases h)
    (fun e => by rw [e] at h; exact (by simpa using h : s.mu = none ∧ _).1)
  exact List.ne_nil_of_mem (mem_stepT.mpr hs)

theorem pick_eq_none_iff (x : State) : pick x = none ↔ ∀ t, urgent x t = false := by
  unfold pick
  rw [List.findSome?_eq_none_iff]
  constructor
  · intro h t
    by_cases ht : t < x.pcs.length
    · have := h t (List.mem_range.2 ht)
      cases hu : urgent x t
      · rfl
      · simp only [hu, if_true, Option.map_eq_none_iff, List.head?_eq_none_iff] at this
        exact absurd this (stepT_urgent_ne_nil _ x t hu)
    · unfold urgent
      rw [pc_ge x t (Nat.le_of_not_lt ht)]
  · intro hn t _
    simp [hn t]

end TypVerif.Lemmas.OnceRed
