import TypVerif.Lemmas.ConcAccept
import TypVerif.Drv.C10
/-
C10 judge: what one round of the hash-set closure does (`closureRound_props`): it adds exactly the `norm`s of the internal
`succJ`-successors of the frontier states.  From that the abstract soundness invariant `closure_inv`; the completeness of a closure
that was not cut short is in `PubSubRedAccept`.  Also: the transition system is monotone in the environment menu.
-/
namespace TypVerif.Lemmas.ConcAcceptC10
open TypVerif TypVerif.Conc TypVerif.Model.PubSub TypVerif.Drv.C10

/-- the body of one round of `Drv.C10.closure` under a name (`closure_succ_cons`) -/
def closureRound (cfg : Cfg) (seen : Std.HashSet State) (frontier : List State) : Std.HashSet State × List State :=
  frontier.foldl (fun (acc : Std.HashSet State × List State) s =>
    (succJ cfg s).foldl (fun (acc : Std.HashSet State × List State) p =>
      match p.1 with
      | some _ => acc
      | none =>
        let s' := norm p.2
        if acc.1.contains s' then acc else (acc.1.insert s', s' :: acc.2)) acc) (seen, [])

theorem closure_zero (cfg : Cfg) (seen : Std.HashSet State) (fr : List State) : closure cfg 0 seen fr = seen := by
  unfold closure; rfl

theorem closure_nil (cfg : Cfg) (n : Nat) (seen : Std.HashSet State) : closure cfg n seen [] = seen := by
  cases n <;> (unfold closure; rfl)

theorem closure_succ_cons (cfg : Cfg) (n : Nat) (seen : Std.HashSet State) (x : State) (xs : List State) :
    closure cfg (n + 1) seen (x :: xs) =
      if seen.size > stateCap then seen else
        closure cfg n (closureRound cfg seen (x :: xs)).1 (closureRound cfg seen (x :: xs)).2 := by
  rw [closure] <;> first | rfl | (intro h; cases h)

def addSucc (acc : Std.HashSet State × List State) (p : Option Event × State) : Std.HashSet State × List State :=
  match p.1 with
  | some _ => acc
  | none =>
    let s' := norm p.2
    if acc.1.contains s' then acc else (acc.1.insert s', s' :: acc.2)

/-- a round is one fold over all successors of the frontier -/
theorem closureRound_eq (cfg : Cfg) (seen : Std.HashSet State) (fr : List State) :
    closureRound cfg seen fr = (fr.flatMap (succJ cfg)).foldl addSucc (seen, []) :=
  List.foldl_flatMap.symm

/-- the accumulator of a round, relative to the set `seen0` the round started with; `S` holds of what may be added -/
structure RoundInv (seen0 : Std.HashSet State) (S : State → Prop) (acc : Std.HashSet State × List State) : Prop where
  mono : ∀ t, t ∈ seen0 → t ∈ acc.1
  lst : ∀ t ∈ acc.2, t ∈ acc.1
  new : ∀ t, t ∈ acc.1 → t ∈ seen0 ∨ t ∈ acc.2
  src : ∀ t ∈ acc.2, S t

theorem addSucc_props {seen0 : Std.HashSet State} {S : State → Prop} {acc : Std.HashSet State × List State}
    (p : Option Event × State) (h : RoundInv seen0 S acc) (hS : p.1 = none → S (norm p.2)) :
    RoundInv seen0 S (addSucc acc p) ∧ (∀ t, t ∈ acc.1 → t ∈ (addSucc acc p).1) ∧
      (p.1 = none → norm p.2 ∈ (addSucc acc p).1) := by
  obtain ⟨l, u⟩ := p
  cases l with
  | some e => exact ⟨h, fun _ ht => ht, fun hn => by cases hn⟩
  | none =>
    simp only [addSucc]
    by_cases hc : acc.1.contains (norm u) = true
    · rw [if_pos hc]
      exact ⟨h, fun _ ht => ht, fun _ => Std.HashSet.mem_iff_contains.2 hc⟩
    · rw [if_neg hc]
      refine ⟨⟨?_, ?_, ?_, ?_⟩, ?_, ?_⟩
      · intro t ht; exact Std.HashSet.mem_insert.2 (Or.inr (h.mono t ht))
      · intro t ht
        rcases List.mem_cons.1 ht with e | ht'
        · rw [e]; exact Std.HashSet.mem_insert.2 (Or.inl BEq.rfl)
        · exact Std.HashSet.mem_insert.2 (Or.inr (h.lst t ht'))
      · intro t ht
        rcases Std.HashSet.mem_insert.1 ht with e | ht'
        · exact Or.inr (by rw [← eq_of_beq e]; exact List.mem_cons_self)
        · rcases h.new t ht' with h1 | h1
          · exact Or.inl h1
          · exact Or.inr (List.mem_cons_of_mem _ h1)
      · intro t ht
        rcases List.mem_cons.1 ht with e | ht'
        · rw [e]; exact hS rfl
        · exact h.src t ht'
      · intro t ht; exact Std.HashSet.mem_insert.2 (Or.inr ht)
      · intro _; exact Std.HashSet.mem_insert.2 (Or.inl BEq.rfl)

theorem addSuccs_props {seen0 : Std.HashSet State} {S : State → Prop} (l : List (Option Event × State))
    (acc : Std.HashSet State × List State) (h : RoundInv seen0 S acc) (hS : ∀ p ∈ l, p.1 = none → S (norm p.2)) :
    RoundInv seen0 S (l.foldl addSucc acc) ∧ (∀ t, t ∈ acc.1 → t ∈ (l.foldl addSucc acc).1) ∧
      (∀ p ∈ l, p.1 = none → norm p.2 ∈ (l.foldl addSucc acc).1) := by
  induction l generalizing acc with
  | nil => exact ⟨h, fun _ ht => ht, fun p hp => nomatch hp⟩
  | cons x l ih =>
    obtain ⟨g1, g2, g3⟩ := addSucc_props x h (hS x List.mem_cons_self)
    obtain ⟨k1, k2, k3⟩ := ih (addSucc acc x) g1 (fun p hp => hS p (List.mem_cons_of_mem _ hp))
    refine ⟨k1, fun t ht => k2 t (g2 t ht), fun p hp hn => ?_⟩
    rcases List.mem_cons.1 hp with e | hp
    · rw [e] at hn ⊢; exact k2 _ (g3 hn)
    · exact k3 p hp hn

theorem closureRound_props (cfg : Cfg) (seen : Std.HashSet State) (fr : List State) :
    RoundInv seen (fun t => ∃ s ∈ fr, ∃ u, (none, u) ∈ succJ cfg s ∧ norm u = t) (closureRound cfg seen fr) ∧
      (∀ s ∈ fr, ∀ u, (none, u) ∈ succJ cfg s → norm u ∈ (closureRound cfg seen fr).1) := by
  rw [closureRound_eq]
  obtain ⟨g1, _, g3⟩ := addSuccs_props (S := fun t => ∃ s ∈ fr, ∃ u, (none, u) ∈ succJ cfg s ∧ norm u = t) (fr.flatMap (succJ cfg)) (seen, [])
    ⟨fun _ ht => ht, fun t ht => (nomatch ht), fun t ht => Or.inl ht, fun t ht => (nomatch ht)⟩ (fun p hp hn => by
      obtain ⟨s, hs, hps⟩ := List.mem_flatMap.1 hp
      obtain ⟨l, u⟩ := p
      have hn : l = none := hn
      subst hn
      exact ⟨s, hs, u, hps, rfl⟩)
  exact ⟨g1, fun s hs u hu => g3 (none, u) (List.mem_flatMap.2 ⟨s, hs, hu⟩) rfl⟩

theorem closureRound_inv (cfg : Cfg) (P Q : State → Prop)
    (hstep : ∀ t u, Q t → (none, u) ∈ succJ cfg t → Q (norm u) ∧ P (norm u))
    (seen : Std.HashSet State) (frontier : List State)
    (hseen : ∀ t, t ∈ seen → P t) (hfr : ∀ t ∈ frontier, Q t) :
    (∀ t, t ∈ (closureRound cfg seen frontier).1 → P t) ∧ (∀ t ∈ (closureRound cfg seen frontier).2, Q t) := by
  obtain ⟨h, _⟩ := closureRound_props cfg seen frontier
  have hnew : ∀ t ∈ (closureRound cfg seen frontier).2, Q t ∧ P t := fun t ht => by
    obtain ⟨s, hs, u, hu, rfl⟩ := h.src t ht
    exact hstep s u (hfr s hs) hu
  refine ⟨fun t ht => ?_, fun t ht => (hnew t ht).1⟩
  rcases h.new t ht with h1 | h1
  · exact hseen t h1
  · exact (hnew t h1).2

/-- abstract soundness of the closure: `P` holds of the result if it holds of the initial set, `Q` holds of the initial
frontier, and the `norm` of an internal `succJ` successor of a `Q`-state satisfies both `Q` and `P`
(the closure only ever inserts such states, and only ever expands frontier states) -/
theorem closure_inv (cfg : Cfg) (P Q : State → Prop)
    (hstep : ∀ t u, Q t → (none, u) ∈ succJ cfg t → Q (norm u) ∧ P (norm u)) :
    ∀ (n : Nat) (seen : Std.HashSet State) (frontier : List State),
      (∀ t, t ∈ seen → P t) → (∀ t ∈ frontier, Q t) → ∀ t, t ∈ closure cfg n seen frontier → P t := by
  intro n
  induction n with
  | zero => intro seen fr hseen _ t ht; rw [closure_zero] at ht; exact hseen t ht
  | succ n ih =>
    intro seen fr hseen hfr t ht
    cases fr with
    | nil => rw [closure_nil] at ht; exact hseen t ht
    | cons x xs =>
      rw [closure_succ_cons] at ht
      split at ht
      · exact hseen t ht
      · obtain ⟨h1, h2⟩ := closureRound_inv cfg P Q hstep seen (x :: xs) hseen hfr
        exact ih _ _ h1 h2 t ht

theorem mem_foldl_insert_iff (l : List State) (acc : Std.HashSet State) (t : State) :
    t ∈ l.foldl (fun (acc : Std.HashSet State) s => acc.insert s) acc ↔ t ∈ acc ∨ t ∈ l := by
  have e : l.foldl (fun (acc : Std.HashSet State) s => acc.insert s) acc = acc.insertMany l := by
    induction l generalizing acc with
    | nil => rfl
    | cons y ys ih => rw [List.foldl_cons, ih, Std.HashSet.insertMany_cons]
  rw [e, Std.HashSet.mem_insertMany_list, List.contains_iff_mem]

/-- the hash set from which `advance cfg ss e` starts its closure: the `norm`s of the `e`-successors of the states of `ss` -/
def seeds (cfg : Cfg) (ss : List State) (e : Event) : Std.HashSet State :=
  (ss.flatMap (fun s => (succ { cfg with env := [e] } s).filterMap
    (fun p => if p.1 == some e then some (norm p.2) else none))).foldl (fun acc s => acc.insert s) {}

theorem advance_eq (cfg : Cfg) (ss : List State) (e : Event) :
    advance cfg ss e = (closure { cfg with env := [e] } fuel (seeds cfg ss e) (seeds cfg ss e).toList).toList := rfl

theorem mem_seeds {cfg : Cfg} {ss : List State} {e : Event} {x : State} :
    x ∈ seeds cfg ss e ↔ ∃ s ∈ ss, ∃ x', (some e, x') ∈ succ { cfg with env := [e] } s ∧ norm x' = x := by
  unfold seeds
  rw [mem_foldl_insert_iff]
  constructor
  · rintro (h | hx)
    · exact absurd h Std.HashSet.not_mem_empty
    · obtain ⟨s, hs, hx⟩ := List.mem_flatMap.1 hx
      obtain ⟨⟨l, x'⟩, hp, hpe⟩ := List.mem_filterMap.1 hx
      split at hpe
      · rename_i heq
        have hl : l = some e := eq_of_beq heq
        subst hl
        exact ⟨s, hs, x', hp, Option.some.inj hpe⟩
      · cases hpe
  · rintro ⟨s, hs, x', hp, rfl⟩
    refine .inr (List.mem_flatMap.2 ⟨s, hs, List.mem_filterMap.2 ⟨(some e, x'), hp, ?_⟩⟩)
    rw [if_pos BEq.rfl]

/-- the invocation events: the only events the environment can issue -/
def isInv : Event → Bool
  | .sub _ _ | .mkchan _ | .withonly _ _ _ | .pubinv _ _ _ _ | .allow _ _ | .unsubinv _ _ _ | .unsuballinv _ _ => true
  | _ => false

theorem envStep_none_of_not_isInv (cfg : Cfg) (s : State) (e : Event) (h : isInv e = false) : envStep cfg s e = none := by
  cases e <;> simp [isInv] at h <;> rfl

theorem envStep_env (cfg : Cfg) (E : List Event) (s : State) (e : Event) :
    envStep { cfg with env := E } s e = envStep cfg s e := by
  cases e <;> rfl

theorem stepTask_env (cfg : Cfg) (E : List Event) (s : State) (i : Nat) (t : Task) :
    stepTask { cfg with env := E } s i t = stepTask cfg s i t := by
  cases t <;> first | rfl | (rename_i c; cases c <;> rfl)

theorem taskSteps_env (cfg : Cfg) (E : List Event) (s : State) (i : Nat) :
    taskSteps { cfg with env := E } s i = taskSteps cfg s i := by
  unfold taskSteps
  split
  · rfl
  · exact stepTask_env cfg E s i _

/-- the menu matters for the steps of the environment only -/
theorem succ_env_change (cfg : Cfg) (E1 E2 : List Event) (s : State) (p : Option Event × State)
    (henv : p ∈ envSteps { cfg with env := E1 } s → p ∈ envSteps { cfg with env := E2 } s)
    (hp : p ∈ succ { cfg with env := E1 } s) : p ∈ succ { cfg with env := E2 } s := by
  cases hx : s.exited with
  | true => simp [succ, hx] at hp
  | false =>
    cases hm : s.panicked with
    | some m =>
      simp only [succ, hx, hm, Bool.false_eq_true, ↓reduceIte] at hp ⊢
      exact hp
    | none =>
      simp only [succ, hx, hm, Bool.false_eq_true, ↓reduceIte] at hp ⊢
      rcases List.mem_append.1 hp with hp | hp
      · rcases List.mem_append.1 hp with hp | hp
        · rcases List.mem_append.1 hp with hp | hp
          · exact List.mem_append_left _ (List.mem_append_left _ (List.mem_append_left _ (henv hp)))
          · exact List.mem_append_left _ (List.mem_append_left _ (List.mem_append_right _ hp))
        · exact List.mem_append_left _ (List.mem_append_right _ hp)
      · exact List.mem_append_right _ hp

theorem succ_env_mono (cfg : Cfg) (E1 E2 : List Event)
    (h : ∀ e ∈ E1, e ∈ E2 ∨ isInv e = false) (s : State) (p : Option Event × State)
    (hp : p ∈ succ { cfg with env := E1 } s) : p ∈ succ { cfg with env := E2 } s := by
  refine succ_env_change cfg E1 E2 s p (fun hp => ?_) hp
  unfold envSteps at hp ⊢
  obtain ⟨e, he, hpe⟩ := List.mem_filterMap.1 hp
  simp only [envStep_env] at hpe ⊢
  rcases h e he with h2 | h2
  · exact List.mem_filterMap.2 ⟨e, h2, hpe⟩
  · rw [envStep_none_of_not_isInv cfg s e h2] at hpe; cases hpe

theorem exec_env_mono (cfg : Cfg) (E1 E2 : List Event)
    (h : ∀ e ∈ E1, e ∈ E2 ∨ isInv e = false) {a b : State} {ls : List (Option Event)}
    (hex : Exec (sys { cfg with env := E1 }) a ls b) : Exec (sys { cfg with env := E2 }) a ls b :=
  Exec.map id (fun _ => True) (fun s l s' _ hm => succ_env_mono cfg E1 E2 h s (l, s') hm) hex fun _ _ => trivial

end TypVerif.Lemmas.ConcAcceptC10
