import TypVerif.Lemmas.C17DrvCompletePad
/-
Completeness of the fold the C17 driver performs (`ConcAcceptC17.jfold`): the invariant and the theorem.

The model runs `N` goroutines from the start; the judge only knows the goroutines that have shown an event.  `DInv` relates
the judge state `j` (its `n`, its state set) and the model state `s` through the projection `p` of `s` to the first `j.n`
goroutines: `s = padTo N p` (all other goroutines are idle), `p` has `j.n` goroutines, and the judge's set covers `p`
(`CoverD`: every state `red` reaches internally from `nf p` within the remaining budget is in the set).

* an internal step of the model is a step of a goroutine `< j.n` (an idle goroutine has no internal step): it is a step of `p`,
  and `OnceRed.sim_tau` applies.
* a visible step `e` of goroutine `t`: the judge pads to `n' = max j.n (t+1)`; `padTo n' p` is the projection to `n'`
  goroutines and the padded set covers it (`dinv_grow`, from `padTo_padTo` and `cover_pad`), the step is a step of
  `padTo n' p` with the result function `resOf e` the judge chooses (a `fend` of `t` shows `res t`), and `OnceRed.sim_vis` +
  `stepEvent_complete` apply.

The C17 judge itself (`Drv.C17.step` folded over the lines, `ConcAcceptC17.runLines`) decides membership in the trace set of
the model exactly: `ConcAcceptC17.judge_ok_iff` reduces its verdict to the arity check and the fold `jfold`, which is sound
and complete; the arity check passes on every event of the model when all functions return tuples of the arity
(`exec_arityOk`).
-/
namespace TypVerif.Lemmas.C17Drv
open TypVerif TypVerif.Conc TypVerif.Model.Once TypVerif.Drv.C17 TypVerif.Lemmas.Once TypVerif.Lemmas.OnceRed
open TypVerif.Lemmas.ConcAcceptC17 TypVerif.Proto

structure DInv (N : Nat) (j : JS) (s p : State) : Prop where
  pad : s = padTo N p
  le : p.pcs.length ≤ N
  len : p.pcs.length = j.n
  good : GoodX p
  cover : CoverD j.ss p

theorem dinv_tau (N : Nat) (res : Nat → List Int) (j : JS) (s p s1 : State) (h : DInv N j s p)
    (hm : (none, s1) ∈ succ res s) : ∃ p1, DInv N j s1 p1 := by
  obtain ⟨hpad, hle, hlen, hg, hc⟩ := h
  subst hpad
  rcases succ_pad_inv res N p none s1 hm with ⟨p1, hp1, hs1⟩ | ⟨t, _, hl⟩
  · have hm' : (none, p1) ∈ succ cres p := succ_res res cres p none p1 hp1 (by intro t r hl; cases hl)
    have hl1 := OncePanic.len_step hp1
    refine ⟨p1, hs1, hl1 ▸ hle, hl1.trans hlen, goodX_step res p none p1 hg hp1, ?_⟩
    · obtain ⟨k0, ht0, hk0⟩ := sim_tau 0 0 cres p p1 hg hm'
      exact Covers.tau hc ht0 hk0
  · cases hl

/-- the judge may pad its states to any `n'` up to `N`: the projection is padded with it -/
theorem dinv_grow (N : Nat) (j : JS) (s p : State) (n' : Nat) (h1 : j.n ≤ n') (h2 : n' ≤ N) (h : DInv N j s p) :
    DInv N { n := n', ss := if n' > j.n then j.ss.map (padTo n') else j.ss } s (padTo n' p) := by
  obtain ⟨hpad, _, hlen, hg, hc⟩ := h
  have hl : (padTo n' p).pcs.length = n' := padTo_len n' p (hlen ▸ h1)
  refine ⟨hpad.trans (padTo_padTo n' N p h2).symm, Nat.le_trans (Nat.le_of_eq hl) h2, hl, goodX_pad n' p hg, ?_⟩
  show CoverD (if n' > j.n then j.ss.map (padTo n') else j.ss) (padTo n' p)
  split
  · exact cover_pad n' j.ss p hg hc
  · rw [padTo_of_le n' p (hlen ▸ Nat.le_of_not_lt ‹_›)]
    exact hc

theorem dinv_vis (N a fuel : Nat) (hf : 3 ≤ fuel) (res : Nat → List Int) (j : JS) (s p : State) (e : Event)
    (s1 : State) (h : DInv N j s p) (hm : (some e, s1) ∈ succ res s) :
    ∃ p1, DInv N (jstep a fuel j e) s1 p1 := by
  obtain ⟨t, ht, hst⟩ := mem_succ.1 hm
  have htid : Event.tid e = t := (mem_stepT.mp hst).tid
  have htN : t < N := by
    rw [h.pad, padTo_len N p h.le] at ht
    exact ht
  have hjN : j.n ≤ N := h.len ▸ h.le
  unfold jstep
  simp only
  generalize hn' : (if Event.tid e + 1 > j.n then Event.tid e + 1 else j.n) = n'
  have hn1 : j.n ≤ n' ∧ t < n' ∧ n' ≤ N := by
    rw [← hn', htid]
    split <;> omega
  obtain ⟨hpad, hle, hlen, hg, hc⟩ := dinv_grow N j s p n' hn1.1 hn1.2.2 h
  subst hpad
  have htq : t < (padTo n' p).pcs.length := hlen ▸ hn1.2.1
  obtain ⟨p1, hp1, hs1⟩ := stepT_pad_inv res N (padTo n' p) t _ s1 htq hst
  -- the judge steps with `resOf e`; a `fend` of `t` shows `res t`, so the step is one of that system too
  have hm1 : (some e, p1) ∈ succ (resOf e) (padTo n' p) := by
    refine succ_res res (resOf e) _ _ _ (mem_succ.2 ⟨t, htq, hp1⟩) ?_
    intro u r hl
    cases hl
    exact (mem_stepT.mp hst).fend_inv.2.2.1
  obtain ⟨r1, hr1, ht1⟩ := sim_vis n' a (resOf e) (padTo n' p) p1 e hg hm1
  have hlen1 := (mem_stepT.mp hp1).length_eq
  have hb := bud_le p1
  exact ⟨p1, hs1, hlen1 ▸ hle, hlen1.trans hlen, goodX_step _ _ _ _ hg hm1,
    covers_indep n' a (resOf e) 0 0 cres
      ((covers_indep 0 0 cres n' a (resOf e) hc).stepEvent hr1 ht1 (by omega))⟩

theorem dinv_exec (N a fuel : Nat) (hf : 3 ≤ fuel) (res : Nat → List Int) {s s' : State}
    {ls : List (Option Event)} (h : Exec (sys N a res) s ls s') :
    ∀ j p, DInv N j s p → ∃ p', DInv N ((visible ls).foldl (jstep a fuel) j) s' p' := by
  intro j p hd
  exact Exec.fold_inv (fun j s => ∃ p, DInv N j s p) (jstep a fuel)
    (fun j s s1 ⟨p, hd⟩ hm => dinv_tau N res j s p s1 hd hm)
    (fun j s e s1 ⟨p, hd⟩ hm => dinv_vis N a fuel hf res j s p e s1 hd hm) h j ⟨p, hd⟩

theorem red_succ_init0 (n a : Nat) (res : Nat → List Int) (a0 : Nat) : (red n a res).succ (init 0 a0) = [] := by
  have hp : pick (init 0 a0) = none := rfl
  rw [red_succ_none _ _ _ _ hp]
  rfl

theorem tauN_stuck {sys : Sys} {k : Nat} {z x : sys.State} (h : TauN sys k z x) (h0 : sys.succ z = []) : x = z := by
  cases h with
  | refl => rfl
  | step hm _ =>
    rw [h0] at hm
    cases hm

theorem dinv_init (N a : Nat) : DInv N { n := 0, ss := [init 0 a] } (init N a) (init 0 a) := by
  refine ⟨(padTo_init 0 N a (Nat.zero_le _)).symm, Nat.zero_le _, rfl, goodX_init 0 a, ?_⟩
  intro x k _ ht
  rw [nf_init] at ht
  exact List.mem_singleton.2 (tauN_stuck ht (red_succ_init0 0 0 cres a))

/-- the judge state after the visible trace of a model execution covers (the projection of) the state reached -/
theorem jfold_complete (N arity fuel : Nat) (hf : 3 ≤ fuel) (res : Nat → List Int) (ls : List (Option Event))
    (s : State) (h : Exec (sys N arity res) (init N arity) ls s) :
    ∃ p, s = padTo N p ∧ p.pcs.length = (jfold arity fuel (visible ls)).n ∧
      nf p ∈ (jfold arity fuel (visible ls)).ss := by
  obtain ⟨p, hd⟩ := dinv_exec N arity fuel hf res h _ _ (dinv_init N arity)
  exact ⟨p, hd.pad, hd.len, Covers.self hd.cover⟩

/-- the fold the driver performs never empties its state set on a visible trace of the model -/
theorem driver_accept_complete (N arity fuel : Nat) (hf : 3 ≤ fuel) (res : Nat → List Int)
    (ls : List (Option Event)) (s : State) (h : Exec (sys N arity res) (init N arity) ls s) :
    (jfold arity fuel (visible ls)).ss ≠ [] := by
  obtain ⟨p, _, _, hmem⟩ := jfold_complete N arity fuel hf res ls s h
  intro h0
  rw [h0] at hmem
  cases hmem

def AOk (arity : Nat) (s : State) : Prop :=
  s.fields.length = arity ∧ ∀ u r, s.pc u = .assign r → r.length = arity

theorem aok_step (arity : Nat) (res : Nat → List Int) (hres : ∀ t, (res t).length = arity) (s : State)
    (l : Option Event) (s' : State) (h : AOk arity s) (hm : (l, s') ∈ succ res s) :
    AOk arity s' ∧ ∀ e, l = some e → arityOk arity e = true := by
  obtain ⟨t, ht, hs⟩ := step_of_succ hm
  obtain ⟨hf, hp⟩ := h
  refine ⟨⟨?_, fun u r hu => ?_⟩, fun e he => ?_⟩
  · cases hs with
    | assign hpc => exact hp t _ hpc
    | _ => exact hf
  · by_cases e : u = t
    · rw [e, hs.pc_self ht] at hu
      rw [nextPc_eq_assign hu]
      exact hres t
    · rw [hs.pc_ne ht e] at hu
      exact hp u r hu
  · subst he
    cases hs with
    | call | fstart => rfl
    | fend => exact beq_iff_eq.2 (hres t)
    | ret => exact beq_iff_eq.2 hf

theorem aok_init (n arity : Nat) : AOk arity (init n arity) := by
  refine ⟨by simp [init], ?_⟩
  intro u r hu
  rw [init_pc] at hu
  cases hu

theorem exec_arityOk (n arity : Nat) (res : Nat → List Int) (hres : ∀ t, (res t).length = arity)
    {s s' : State} {ls : List (Option Event)} (h : Exec (sys n arity res) s ls s') :
    AOk arity s → ∀ e ∈ visible ls, arityOk arity e = true :=
  fun hok e he => Exec.labels (sys := sys n arity res) (AOk arity) (fun l => ∀ e, l = some e → arityOk arity e = true)
    (fun s l s' hs hm => aok_step arity res hres s l s' hs hm) h hok (some e) (mem_visible.1 he) e rfl

/-- the judge decides exactly: not rejected = visible trace of an execution of the model, all events of the arity -/
theorem judge_accept_iff (st0 : St) (a : Int) (impl0 : String) (lines : List (List Val × String))
    (tr : List Event) (hparse : lines.map (fun l => lineEvent a.toNat l.1) = tr.map some) :
    (runLines (step st0 [.w "once", .i a] impl0).1 lines).rejected = false ↔
      (∃ (N : Nat) (res : Nat → List Int) (ls : List (Option Event)) (s : State),
        Exec (sys N a.toNat res) (init N a.toNat) ls s ∧ visible ls = tr) ∧
      ∀ e ∈ tr, arityOk a.toNat e = true := by
  refine (judge_ok_iff st0 a impl0 lines tr hparse).trans ⟨?_, ?_⟩
  · rintro ⟨har, hne⟩
    exact ⟨driver_accept_sound a.toNat closureFuel tr hne, har⟩
  · rintro ⟨⟨N, res, ls, s, hex, rfl⟩, har⟩
    exact ⟨har, driver_accept_complete N a.toNat closureFuel (by decide) res ls s hex⟩

/-- completeness of the C17 judge itself: after the header line `once a`, lines that stand for the visible trace of an
execution of the model are never rejected when every function returns a tuple of the arity of the scenario -/
theorem judge_accept_complete (st0 : St) (a : Int) (impl0 : String) (lines : List (List Val × String))
    (tr : List Event) (hparse : lines.map (fun l => lineEvent a.toNat l.1) = tr.map some)
    (N : Nat) (res : Nat → List Int) (hres : ∀ t, (res t).length = a.toNat) (ls : List (Option Event)) (s : State)
    (hex : Exec (sys N a.toNat res) (init N a.toNat) ls s) (hv : visible ls = tr) :
    (runLines (step st0 [.w "once", .i a] impl0).1 lines).rejected = false := by
  refine (judge_accept_iff st0 a impl0 lines tr hparse).2 ⟨⟨N, res, ls, s, hex, hv⟩, ?_⟩
  rw [← hv]
  exact exec_arityOk N a.toNat res hres hex (aok_init N a.toNat)

end TypVerif.Lemmas.C17Drv
