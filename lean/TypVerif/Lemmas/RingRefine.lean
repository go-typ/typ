import TypVerif.Lemmas.RingLinkStep
import TypVerif.Lemmas.RingLoops
import TypVerif.Lemmas.RingAlloc
/-
C06, ring half: the pointer model of `lists/ring.go` refines the abstract `container/ring` world.
-/
namespace TypVerif.Lemmas.Ring
open TypVerif.Model TypVerif.Model.Ring TypVerif.Spec.RingOp TypVerif.Spec.RingSeq

/-- a line guarded by the handle check: both sides answer `"badref"` and keep their state when it fails -/
theorem guarded {h : RHeap} {w : RWorld} (wf : RingWF h w) {c c' : Prop} [Decidable c] [Decidable c']
    (hc : c ↔ c') {a : RHeap × Res} {b : RWorld × Res} (hab : c → RingWF a.1 b.1 ∧ a.2 = b.2) :
    RingWF (if c then a else (h, .panic "badref")).1 (if c' then b else (w, .panic "badref")).1 ∧
      (if c then a else (h, .panic "badref")).2 = (if c' then b else (w, .panic "badref")).2 := by
  by_cases h1 : c
  · rw [if_pos h1, if_pos (hc.1 h1)]; exact hab h1
  · rw [if_neg h1, if_neg (fun h2 => h1 (hc.2 h2))]; exact ⟨wf, rfl⟩

theorem step_sim {h : RHeap} {w : RWorld} (wf : RingWF h w) (op : Op) :
    RingWF (Model.Ring.step h op).1 (Spec.RingSeq.step w op).1 ∧
      (Model.Ring.step h op).2 = (Spec.RingSeq.step w op).2 := by
  have hlt : ∀ r, r < h.size ↔ r < w.size := fun r => by rw [wf.size_eq]
  cases op with
  | new n =>
    by_cases hn : n ≤ 0
    · simp only [Model.Ring.step, Spec.RingSeq.step, NewRing, if_pos hn]
      exact ⟨wf, trivial⟩
    · simp only [Model.Ring.step, Spec.RingSeq.step, if_neg hn]
      exact ⟨(NewRing_spec wf hn).1, congrArg Res.ref (NewRing_spec wf hn).2⟩
  | zero => exact ⟨zero_spec wf, congrArg (fun x => Res.ref (some x)) wf.size_eq⟩
  | next r =>
    cases r with
    | none => exact ⟨wf, rfl⟩
    | some r =>
      -- `simp only [step]` first: unifying `guarded` with the folded `let (h', x) := Next h r` unfolds `Next`, and
      -- `rw [Next_spec]` finds nothing; the same wherever a line is such a `let`
      simp only [Model.Ring.step, Spec.RingSeq.step]
      refine guarded wf (hlt r) fun hr => ?_
      rw [Next_spec wf hr]
      exact ⟨(wf_lazy wf hr).1, rfl⟩
  | prev r =>
    cases r with
    | none => exact ⟨wf, rfl⟩
    | some r =>
      simp only [Model.Ring.step, Spec.RingSeq.step]
      refine guarded wf (hlt r) fun hr => ?_
      rw [Prev_spec wf hr]
      exact ⟨(wf_lazy wf hr).1, rfl⟩
  | move r n =>
    cases r with
    | none => exact ⟨wf, rfl⟩
    | some r =>
      simp only [Model.Ring.step, Spec.RingSeq.step]
      refine guarded wf (hlt r) fun hr => ?_
      rw [(Move_spec wf hr n).1]
      exact ⟨(wf_lazy wf hr).1, rfl⟩
  | link r s =>
    cases r with
    | none => exact ⟨wf, rfl⟩
    | some r =>
      refine guarded wf (by rw [wf.size_eq]) fun hr => ?_
      obtain ⟨g, e, wfg⟩ := Link_spec wf hr.1 s hr.2
      rw [e]
      exact ⟨wfg, rfl⟩
  | unlink r n =>
    cases r with
    | none =>
      simp only [Model.Ring.step, Spec.RingSeq.step]
      split <;> exact ⟨wf, rfl⟩
    | some r =>
      simp only [Model.Ring.step, Spec.RingSeq.step]
      refine guarded wf (hlt r) fun hr => ?_
      obtain ⟨g, e, wfg⟩ := Unlink_spec wf hr n
      rw [e]
      exact ⟨wfg, rfl⟩
  | len r =>
    cases r with
    | none => exact ⟨wf, rfl⟩
    | some r =>
      refine guarded wf (hlt r) fun hr => ?_
      rw [Len_spec wf hr]
      exact ⟨(wf_lazy wf hr).1, rfl⟩
  | doAll r =>
    cases r with
    | none => exact ⟨wf, rfl⟩
    | some r =>
      refine guarded wf (hlt r) fun hr => ?_
      rw [Do_spec wf hr]
      exact ⟨(wf_lazy wf hr).1, rfl⟩
  | fwd r fuel =>
    cases r with
    | none => exact ⟨wf, rfl⟩
    | some r =>
      simp only [Model.Ring.step, Spec.RingSeq.step]
      refine guarded wf (hlt r) fun hr => ?_
      cases fuel with
      | zero => exact ⟨wf, rfl⟩
      | succ fuel => rw [Fwd_spec wf hr]; exact ⟨(wf_lazy wf hr).1, rfl⟩
  | bwd r fuel =>
    cases r with
    | none => exact ⟨wf, rfl⟩
    | some r =>
      refine guarded wf (hlt r) fun hr => ?_
      cases fuel with
      | zero => exact ⟨wf, rfl⟩
      | succ fuel => rw [Bwd_spec wf hr]; exact ⟨(wf_lazy wf hr).1, rfl⟩

theorem wf_empty : RingWF RHeap.empty RWorld.empty where
  size_eq := rfl
  world := ⟨by simp [RWorld.empty], by intro i; simp [RWorld.empty], rfl, by intro c hc; cases hc⟩
  value_eq := by intro i hi; exact absurd hi (Nat.not_lt_zero i)
  good := by intro c hc; cases hc
  fresh := by intro i _; exact ⟨nx_empty i, pv_empty i, val_empty i⟩

def runModel : RHeap → List Op → List Res
  | _, [] => []
  | h, op :: ops => (Model.Ring.step h op).2 :: runModel (Model.Ring.step h op).1 ops

def runSpec : RWorld → List Op → List Res
  | _, [] => []
  | w, op :: ops => (Spec.RingSeq.step w op).2 :: runSpec (Spec.RingSeq.step w op).1 ops

def finalHeap : RHeap → List Op → RHeap
  | h, [] => h
  | h, op :: ops => finalHeap (Model.Ring.step h op).1 ops

def finalWorld : RWorld → List Op → RWorld
  | w, [] => w
  | w, op :: ops => finalWorld (Spec.RingSeq.step w op).1 ops

theorem run_sim : ∀ (ops : List Op) (h : RHeap) (w : RWorld), RingWF h w →
    RingWF (finalHeap h ops) (finalWorld w ops) ∧ runModel h ops = runSpec w ops := by
  intro ops
  induction ops with
  | nil => intro h w wf; exact ⟨wf, rfl⟩
  | cons op ops ih =>
    intro h w wf
    obtain ⟨wf1, e⟩ := step_sim wf op
    obtain ⟨wf2, e2⟩ := ih _ _ wf1
    exact ⟨wf2, by simp only [runModel, runSpec, e, e2]⟩

theorem ring_wf : ∀ ops : List Op, RingWF (finalHeap RHeap.empty ops) (finalWorld RWorld.empty ops) :=
  fun ops => (run_sim ops _ _ wf_empty).1

/-- every operation sequence produces the same observations in the pointer model of `lists.Ring`
and in the abstract `container/ring` world (in particular the model never panics with `"fuel"`). -/
theorem ring_refines : ∀ ops : List Op, runModel RHeap.empty ops = runSpec RWorld.empty ops :=
  fun ops => (run_sim ops _ _ wf_empty).2

/-- where the specification panics: `"badref"` for a handle never issued, `"nilfunc"` only for the
nil-receiver calls that dereference `r` -/
theorem spec_panic_cases {w : RWorld} {op : Op} {msg : String} (h : (Spec.RingSeq.step w op).2 = .panic msg) :
    msg = "badref" ∨ msg = "nilfunc" ∧
      (op = .next none ∨ op = .prev none ∨ (∃ n, op = .move none n) ∨ (∃ s, op = .link none s) ∨
        (∃ n, op = .unlink none n ∧ 0 < n)) := by
  have bad : ∀ {c : Prop} [Decidable c] {a : RWorld × Res}, (∀ m, a.2 ≠ .panic m) →
      (if c then a else (w, Res.panic "badref")).2 = .panic msg → msg = "badref" := by
    intro c _ a ha h
    split at h
    · exact absurd h (ha msg)
    · exact (Res.panic.inj h).symm
  cases op with
  | new n =>
    simp only [Spec.RingSeq.step] at h
    split at h <;> cases h
  | zero => cases h
  | next r =>
    cases r with
    | none => exact Or.inr ⟨(Res.panic.inj h).symm, Or.inl rfl⟩
    | some r => exact Or.inl (bad (fun _ h => Res.noConfusion h) h)
  | prev r =>
    cases r with
    | none => exact Or.inr ⟨(Res.panic.inj h).symm, Or.inr (Or.inl rfl)⟩
    | some r => exact Or.inl (bad (fun _ h => Res.noConfusion h) h)
  | move r n =>
    cases r with
    | none => exact Or.inr ⟨(Res.panic.inj h).symm, Or.inr (Or.inr (Or.inl ⟨n, rfl⟩))⟩
    | some r => exact Or.inl (bad (fun _ h => Res.noConfusion h) h)
  | link r s =>
    cases r with
    | none => exact Or.inr ⟨(Res.panic.inj h).symm, Or.inr (Or.inr (Or.inr (Or.inl ⟨s, rfl⟩)))⟩
    | some r => exact Or.inl (bad (fun _ h => Res.noConfusion h) h)
  | unlink r n =>
    cases r with
    | none =>
      by_cases hn : n ≤ 0
      · simp only [Spec.RingSeq.step, if_pos hn] at h
        cases h
      · simp only [Spec.RingSeq.step, if_neg hn] at h
        exact Or.inr ⟨(Res.panic.inj h).symm, Or.inr (Or.inr (Or.inr (Or.inr ⟨n, rfl, Int.lt_of_not_ge hn⟩)))⟩
    | some r => exact Or.inl (bad (fun _ h => Res.noConfusion h) h)
  | len r =>
    cases r with
    | none => cases h
    | some r => exact Or.inl (bad (fun _ h => Res.noConfusion h) h)
  | doAll r =>
    cases r with
    | none => cases h
    | some r => exact Or.inl (bad (fun _ h => Res.noConfusion h) h)
  | fwd r f =>
    cases r with
    | none => cases h
    | some r => exact Or.inl (bad (fun _ h => Res.noConfusion h) h)
  | bwd r f =>
    cases r with
    | none => cases h
    | some r => exact Or.inl (bad (fun _ h => Res.noConfusion h) h)

theorem spec_panic {w : RWorld} {op : Op} {msg : String} (h : (Spec.RingSeq.step w op).2 = .panic msg) :
    msg = "nilfunc" ∨ msg = "badref" :=
  (spec_panic_cases h).elim Or.inr fun h => Or.inl h.1

theorem spec_nilfunc {w : RWorld} {op : Op} (h : (Spec.RingSeq.step w op).2 = .panic "nilfunc") :
    op = .next none ∨ op = .prev none ∨ (∃ n, op = .move none n) ∨ (∃ s, op = .link none s) ∨
      (∃ n, op = .unlink none n ∧ 0 < n) :=
  (spec_panic_cases h).elim (fun e => absurd e (by decide)) And.right

theorem runSpec_panic : ∀ (ops : List Op) (w : RWorld) (msg : String), Res.panic msg ∈ runSpec w ops →
    msg = "nilfunc" ∨ msg = "badref" := by
  intro ops
  induction ops with
  | nil => intro w msg h; cases h
  | cons op ops ih =>
    intro w msg h
    simp only [runSpec, List.mem_cons] at h
    rcases h with h | h
    · exact spec_panic h.symm
    · exact ih _ _ h

end TypVerif.Lemmas.Ring
