import TypVerif.Lemmas.ListLinked
/-
The straight-line pointer surgeries of list.go as pure heap transformers, the proof that the monadic
model code computes exactly them when no nil pointer is dereferenced, and their effect on the views.
-/
namespace TypVerif.Lemmas.LinkedList
open TypVerif.Spec.ListOp
open TypVerif.Spec.Seq
open TypVerif.Model
open TypVerif.Model.LinkedList

/-- `e.prev = at; e.next = at.next; e.prev.next = e; e.next.prev = e` -/
def linkH (h : Heap) (e : ElemId) (at' : Ptr) : Heap :=
  (((h.setPrev (.elem e) at').setNext (.elem e) (h.next at')).setNext at' (.elem e)).setPrev (h.next at') (.elem e)

/-- `e.prev.next = e.next; e.next.prev = e.prev` -/
def unlinkH (h : Heap) (e : ElemId) : Heap :=
  (h.setNext (h.prev (.elem e)) (h.next (.elem e))).setPrev (h.next (.elem e)) (h.prev (.elem e))

def insertH (h : Heap) (l : ListId) (e : ElemId) (at' : Ptr) : Heap :=
  ((linkH h e at').setList e (some l)).setLen l (h.len l + 1)

def removeH (h : Heap) (l : ListId) (e : ElemId) : Heap :=
  ((((unlinkH h e).setNext (.elem e) .null).setPrev (.elem e) .null).setList e none).setLen l (h.len l - 1)

def moveH (h : Heap) (e : ElemId) (at' : Ptr) : Heap := linkH (unlinkH h e) e at'

/-! ### views -/

theorem next_linkH (h : Heap) (e : ElemId) {at' : Ptr} (hat : at' ≠ .null) (x : Ptr) :
    (linkH h e at').next x = if x = at' then .elem e else if x = .elem e then h.next at' else h.next x := by
  simp only [linkH, next_setPrev, next_setNext _ _ hat, next_setNext _ _ (elem_ne_null e), upd_apply]

theorem prev_linkH (h : Heap) (e : ElemId) (at' : Ptr) (hn : h.next at' ≠ .null) (x : Ptr) :
    (linkH h e at').prev x = if x = h.next at' then .elem e else if x = .elem e then at' else h.prev x := by
  simp only [linkH, prev_setNext, prev_setPrev _ _ hn, prev_setPrev _ _ (elem_ne_null e), upd_apply]

@[simp] theorem listOf_linkH (h : Heap) (e : ElemId) (at' : Ptr) : (linkH h e at').listOf = h.listOf := by
  simp [linkH]
@[simp] theorem value_linkH (h : Heap) (e : ElemId) (at' : Ptr) : (linkH h e at').value = h.value := by
  simp [linkH]
@[simp] theorem len_linkH (h : Heap) (e : ElemId) (at' : Ptr) : (linkH h e at').len = h.len := by
  simp [linkH]
@[simp] theorem nextElem_linkH (h : Heap) (e : ElemId) (at' : Ptr) : (linkH h e at').nextElem = h.nextElem := by
  simp [linkH]

theorem next_unlinkH (h : Heap) (e : ElemId) (hp : h.prev (.elem e) ≠ .null) (x : Ptr) :
    (unlinkH h e).next x = if x = h.prev (.elem e) then h.next (.elem e) else h.next x := by
  simp only [unlinkH, next_setPrev, next_setNext _ _ hp, upd_apply]

theorem prev_unlinkH (h : Heap) (e : ElemId) (hn : h.next (.elem e) ≠ .null) (x : Ptr) :
    (unlinkH h e).prev x = if x = h.next (.elem e) then h.prev (.elem e) else h.prev x := by
  simp only [unlinkH, prev_setNext, prev_setPrev _ _ hn, upd_apply]

@[simp] theorem listOf_unlinkH (h : Heap) (e : ElemId) : (unlinkH h e).listOf = h.listOf := by
  simp [unlinkH]
@[simp] theorem value_unlinkH (h : Heap) (e : ElemId) : (unlinkH h e).value = h.value := by
  simp [unlinkH]
@[simp] theorem len_unlinkH (h : Heap) (e : ElemId) : (unlinkH h e).len = h.len := by
  simp [unlinkH]
@[simp] theorem nextElem_unlinkH (h : Heap) (e : ElemId) : (unlinkH h e).nextElem = h.nextElem := by
  simp [unlinkH]

/-! ### the monadic code computes the pure transformers -/

/-- The four statements `e.prev = at; e.next = at.next; e.prev.next = e; e.next.prev = e`, wherever
they stand in a block: they run the rest `k` of the block on `linkH h e at`. -/
theorem link_bind {α : Type} (k : M α) (h : Heap) (e : ElemId) {at' : Ptr}
    (hat : at' ≠ .null) (hn : h.next at' ≠ .null) (hne : at' ≠ .elem e) :
    (do setPrev (.elem e) at'
        let n ← getNext at'
        setNext (.elem e) n
        let p ← getPrev (.elem e)
        setNext p (.elem e)
        let n ← getNext (.elem e)
        setPrev n (.elem e)
        k) h = k (linkH h e at') := by
  rw [bind_ok (setPrev_ok _ _ (elem_ne_null e)), bind_ok (getNext_ok _ hat), next_setPrev]
  rw [bind_ok (setNext_ok _ _ (elem_ne_null e)), bind_ok (getPrev_ok _ (elem_ne_null e))]
  -- `e.prev` is `at`
  rw [prev_setNext, prev_setPrev _ _ (elem_ne_null e), upd_same]
  rw [bind_ok (setNext_ok _ _ hat), bind_ok (getNext_ok _ (elem_ne_null e))]
  -- `e.next` is still the old `at.next`, as `at` is not `e`
  rw [next_setNext _ _ hat, upd_ne _ _ hne.symm, next_setNext _ _ (elem_ne_null e), upd_same]
  rw [bind_ok (setPrev_ok _ _ hn)]
  rfl

/-- The two statements `e.prev.next = e.next; e.next.prev = e.prev`, likewise. -/
theorem unlink_bind {α : Type} (k : M α) (h : Heap) (e : ElemId)
    (hp : h.prev (.elem e) ≠ .null) (hn : h.next (.elem e) ≠ .null) (hpe : h.prev (.elem e) ≠ .elem e) :
    (do let p ← getPrev (.elem e)
        let n ← getNext (.elem e)
        setNext p n
        let n ← getNext (.elem e)
        let p ← getPrev (.elem e)
        setPrev n p
        k) h = k (unlinkH h e) := by
  rw [bind_ok (getPrev_ok _ (elem_ne_null e)), bind_ok (getNext_ok _ (elem_ne_null e))]
  rw [bind_ok (setNext_ok _ _ hp)]
  rw [bind_ok (getNext_ok _ (elem_ne_null e)), bind_ok (getPrev_ok _ (elem_ne_null e))]
  -- the first write is to `e.prev`, not to `e`: `e.next` and `e.prev` read as before
  rw [next_setNext _ _ hp, upd_ne _ _ hpe.symm, prev_setNext]
  rw [bind_ok (setPrev_ok _ _ hn)]
  rfl

theorem insert_run (h : Heap) (l : ListId) (e : ElemId) {at' : Ptr}
    (hat : at' ≠ .null) (hn : h.next at' ≠ .null) (hne : at' ≠ .elem e) :
    LinkedList.insert l e at' h = .ok (.elem e) (insertH h l e at') := by
  unfold LinkedList.insert
  rw [link_bind _ h e hat hn hne]
  simp [bind_run, insertH]

theorem remove_run (h : Heap) (l : ListId) (e : ElemId)
    (hp : h.prev (.elem e) ≠ .null) (hn : h.next (.elem e) ≠ .null) (hpe : h.prev (.elem e) ≠ .elem e) :
    remove l e h = .ok () (removeH h l e) := by
  unfold remove
  rw [unlink_bind _ h e hp hn hpe]
  rw [bind_ok (setNext_ok _ _ (elem_ne_null e))]
  rw [bind_ok (setPrev_ok _ _ (elem_ne_null e))]
  simp [bind_run, removeH]

theorem move_same (h : Heap) (l : ListId) (e : ElemId) : move l e (.elem e) h = .ok () h := by
  simp [move]

theorem move_run (h : Heap) (l : ListId) (e : ElemId) {at' : Ptr} (hne : at' ≠ .elem e)
    (hp : h.prev (.elem e) ≠ .null) (hn : h.next (.elem e) ≠ .null) (hpe : h.prev (.elem e) ≠ .elem e)
    (hat : at' ≠ .null) (hn2 : (unlinkH h e).next at' ≠ .null) :
    move l e at' h = .ok () (moveH h e at') := by
  unfold move
  rw [if_neg (fun hh => hne hh.symm), unlink_bind _ h e hp hn hpe]
  -- `move` ends with the last write of the link; as a block it is that write followed by `pure ()`
  simpa only [bind_pure_unit, pure_run, moveH] using link_bind (pure ()) (unlinkH h e) e hat hn2 hne

end TypVerif.Lemmas.LinkedList
