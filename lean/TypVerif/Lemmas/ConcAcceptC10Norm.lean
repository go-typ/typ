import TypVerif.Lemmas.ConcAccept
import TypVerif.Drv.C10
/-
The judge's `norm` (erase the ghost logs) is a bisimulation quotient.  No step reads the logs; steps only append to them.
So every step function commutes with prefixing the logs (`pre`): `taskSteps_pre`, `succ_pre`.  A function that commutes
with `pre` cannot tell states of equal `norm` apart (`steps_norm_eq`, via `pre_norm : pre s.delivered s.timedOut (norm s) = s`),
which gives `succ_norm_eq` (`C10.succ_norm` and `C10.succ_norm_conv` are its readings at `norm s` and `s`) and, along executions,
`exec_norm_eq`.
-/
namespace TypVerif.Lemmas.ConcAcceptC10
open TypVerif TypVerif.Conc TypVerif.Model.PubSub TypVerif.Drv.C10

def pre (d o : List (Nat × Nat × Chan)) (s : State) : State :=
  { s with delivered := d ++ s.delivered, timedOut := o ++ s.timedOut }

def preP (d o : List (Nat × Nat × Chan)) (p : Option Event × State) : Option Event × State := (p.1, pre d o p.2)

section
variable (d o : List (Nat × Nat × Chan)) (s : State)

@[simp] theorem pre_objs : (pre d o s).objs = s.objs := rfl
@[simp] theorem pre_chans : (pre d o s).chans = s.chans := rfl
@[simp] theorem pre_wgs : (pre d o s).wgs = s.wgs := rfl
@[simp] theorem pre_tasks : (pre d o s).tasks = s.tasks := rfl
@[simp] theorem pre_pids : (pre d o s).pids = s.pids := rfl
@[simp] theorem pre_panicked : (pre d o s).panicked = s.panicked := rfl
@[simp] theorem pre_exited : (pre d o s).exited = s.exited := rfl
@[simp] theorem pre_obj (x : Nat) : (pre d o s).obj x = s.obj x := rfl
@[simp] theorem pre_validObj (x : Nat) : (pre d o s).validObj x = s.validObj x := rfl
@[simp] theorem pre_nameTaken (c : Chan) : nameTaken (pre d o s) c = nameTaken s c := rfl

theorem pre_setTask (i : Nat) (t : Task) : (pre d o s).setTask i t = pre d o (s.setTask i t) := rfl
theorem pre_setObj (i : Nat) (x : ObjSt) : (pre d o s).setObj i x = pre d o (s.setObj i x) := rfl
theorem pre_spawn (ts : List Task) : (pre d o s).spawn ts = pre d o (s.spawn ts) := rfl
theorem pre_rlock (x : Nat) : (pre d o s).rlock x = pre d o (s.rlock x) := rfl
theorem pre_runlock (x : Nat) : (pre d o s).runlock x = pre d o (s.runlock x) := rfl
theorem pre_announce (x : Nat) : (pre d o s).announce x = pre d o (s.announce x) := rfl
theorem pre_panic (m : String) : (pre d o s).panic m = pre d o (s.panic m) := rfl
theorem pre_logTimeout (it : Item) : (pre d o s).logTimeout it = pre d o (s.logTimeout it) := by
  simp [pre, State.logTimeout, List.append_assoc]
/- In the equations below the step functions are unfolded on both sides and `List.map`/`Option.map` is pushed inside the `if`s on the
right (`apply_ite`); what is left agrees by computation, since every field a guard reads is the same in `pre d o s` as in `s`. -/

theorem pre_wgDone (w : Nat) : wgDone (pre d o s) w = pre d o (wgDone s w) := by
  simp only [wgDone, apply_ite (pre d o)]
  rfl

def mapSent (f : State → State) : SendRes → SendRes
  | .blocked => .blocked
  | .panic => .panic
  | .sent s' => .sent (f s')

theorem sendTo_pre (it : Item) : sendTo (pre d o s) it = mapSent (pre d o) (sendTo s it) := by
  simp only [sendTo, pre_chans]
  cases getChan s.chans it.c with
  | none => rfl
  | some ch =>
    simp only [apply_ite (mapSent (pre d o))]
    simp only [mapSent, pre, List.append_assoc]

theorem stepSend_pre (cfg : Cfg) (it : Item) (cb : Bool) (fin setCb : State → State)
    (hfin : ∀ x, fin (pre d o x) = pre d o (fin x)) (hcb : ∀ x, setCb (pre d o x) = pre d o (setCb x)) :
    stepSend cfg (pre d o s) it cb fin setCb = (stepSend cfg s it cb fin setCb).map (preP d o) := by
  simp only [stepSend, sendTo_pre, pre_logTimeout, hcb, List.map_append, apply_ite (List.map (preP d o))]
  cases sendTo s it <;> simp only [mapSent, hfin] <;> rfl

theorem stepTask_pre (cfg : Cfg) (i : Nat) (t : Task) :
    stepTask cfg (pre d o s) i t = (stepTask cfg s i t).map (preP d o) := by
  cases t with
  | pubStart p ob v evs =>
    simp only [stepTask, stepPubStart, pre_obj, apply_ite (List.map (preP d o))]
    cases mkItems p evs (s.obj ob).subs <;> rfl
  | syncLoop p ob work cb =>
    cases work with
    | nil => rfl
    | cons it rest =>
      unfold stepTask stepSyncLoop
      exact stepSend_pre d o s cfg it cb _ _ (fun x => by cases rest <;> rfl) (fun _ => rfl)
  | asyncSend ob it cb =>
    unfold stepTask stepAsyncSend
    exact stepSend_pre d o s cfg it cb _ _ (fun _ => rfl) (fun _ => rfl)
  | wgSend ob w it cb =>
    unfold stepTask stepWgSend
    exact stepSend_pre d o s cfg it cb _ _ (fun x => by rw [pre_wgDone, pre_setTask]) (fun _ => rfl)
  | uaWait u ob =>
    simp only [stepTask, stepUaWait, pre_obj, pre_chans, apply_ite (List.map (preP d o))]
    cases closeAll s.chans (s.obj ob).subs <;> rfl
  | unsubStart u ob c => cases c <;> rfl
  | waitWg | asyncStart | subWait | unsubWait | woStart =>
    simp only [stepTask, stepWaitWg, stepAsyncStart, stepSubWait, stepUnsubWait, stepWoStart, apply_ite (List.map (preP d o))]
    rfl
  | _ => rfl

end

theorem taskSteps_pre (cfg : Cfg) (d o) (s : State) (i : Nat) :
    taskSteps cfg (pre d o s) i = (taskSteps cfg s i).map (preP d o) := by
  simp only [taskSteps, pre_tasks]
  cases s.tasks[i]? with
  | none => rfl
  | some t => exact stepTask_pre d o s cfg i t

theorem recvSteps_pre (d o) (s : State) (ch : ChanSt) :
    recvSteps (pre d o s) ch = (recvSteps s ch).map (preP d o) := by
  unfold recvSteps
  cases ch.holding <;> cases ch.buf <;> simp only [apply_ite (List.map (preP d o))] <;> rfl

theorem envStep_pre (cfg : Cfg) (d o) (s : State) (e : Event) :
    envStep cfg (pre d o s) e = (envStep cfg s e).map (pre d o) := by
  cases e <;> simp only [envStep, apply_ite (Option.map (pre d o))] <;> rfl

theorem envSteps_pre (cfg : Cfg) (d o) (s : State) :
    envSteps cfg (pre d o s) = (envSteps cfg s).map (preP d o) := by
  unfold envSteps
  rw [List.map_filterMap]
  congr 1
  funext e
  rw [envStep_pre]
  cases envStep cfg s e <;> rfl

theorem exitSteps_pre (d o) (s : State) :
    exitSteps (pre d o s) = (exitSteps s).map (preP d o) := rfl

theorem succ_pre (cfg : Cfg) (d o) (s : State) : succ cfg (pre d o s) = (succ cfg s).map (preP d o) := by
  have ht : taskSteps cfg (pre d o s) = fun i => (taskSteps cfg s i).map (preP d o) := funext (taskSteps_pre cfg d o s)
  have hr : recvSteps (pre d o s) = fun ch => (recvSteps s ch).map (preP d o) := funext (recvSteps_pre d o s)
  simp only [succ, pre_exited, pre_panicked, pre_tasks, pre_chans, ht, hr, envSteps_pre, exitSteps_pre,
    apply_ite (List.map (preP d o))]
  cases s.panicked with
  | some m => rfl
  | none => simp only [List.map_append, List.map_flatMap, List.map_nil]

theorem norm_pre (d o) (s : State) : norm (pre d o s) = norm s := rfl
theorem pre_norm (s : State) : pre s.delivered s.timedOut (norm s) = s := by
  cases s; simp [pre, norm]
theorem norm_norm (s : State) : norm (norm s) = norm s := rfl

theorem steps_norm_eq {F : State → Steps} (hF : ∀ d o s, F (pre d o s) = (F s).map (preP d o))
    {a a' b : State} {l : Option Event} (h : norm a = norm a') (hs : (l, b) ∈ F a) :
    ∃ b', (l, b') ∈ F a' ∧ norm b' = norm b := by
  rw [← pre_norm a, hF, List.mem_map] at hs
  obtain ⟨⟨l0, b0⟩, hm, heq⟩ := hs
  cases heq
  have e := hF a'.delivered a'.timedOut (norm a')
  rw [pre_norm, ← h] at e
  exact ⟨pre a'.delivered a'.timedOut b0, e ▸ List.mem_map.2 ⟨(l0, b0), hm, rfl⟩, rfl⟩

/-- `norm` is a bisimulation quotient -/
theorem succ_norm_eq {cfg : Cfg} {a a' b : State} {l : Option Event} (h : norm a = norm a')
    (hs : (l, b) ∈ succ cfg a) : ∃ b', (l, b') ∈ succ cfg a' ∧ norm b' = norm b :=
  steps_norm_eq (succ_pre cfg) h hs

theorem taskSteps_norm_eq {cfg : Cfg} {a a' b : State} {l : Option Event} {i : Nat} (h : norm a = norm a')
    (hs : (l, b) ∈ taskSteps cfg a i) : ∃ b', (l, b') ∈ taskSteps cfg a' i ∧ norm b' = norm b :=
  steps_norm_eq (F := (taskSteps cfg · i)) (fun d o s => taskSteps_pre cfg d o s i) h hs

theorem exec_norm_eq {cfg : Cfg} {a a' b : State} {ls : List (Option Event)} (h : norm a = norm a')
    (hex : Exec (sys cfg) a ls b) : ∃ b', Exec (sys cfg) a' ls b' ∧ norm b' = norm b :=
  Exec.rel_map (i' := (sys cfg).init) (succ' := succ cfg) (fun s t => norm t = norm s) (fun _ => True)
    (fun _ _ _ _ _ ht hm => succ_norm_eq (cfg := cfg) ht.symm hm) hex (fun _ _ => trivial) a' h.symm

#print axioms taskSteps_pre
#print axioms succ_pre
#print axioms norm_pre
#print axioms pre_norm
#print axioms norm_norm
#print axioms succ_norm_eq
#print axioms taskSteps_norm_eq
#print axioms exec_norm_eq

end TypVerif.Lemmas.ConcAcceptC10
