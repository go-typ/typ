import TypVerif.Lemmas.ObjAcceptLin
/-
The ObjLin judge (`Drv.ObjLin.step`, closure fuel 24) on histories of SINGLE operations (the lines covered by
`ObjAcceptLin.MapLine` / `SetLine`): `map_track` / `set_track` carry the invariant `ObjTrack.Inv` along the fold of the real
`step`, from the line specifications `stepMap_spec` / `stepSet_spec`.  The state sets (`ms`; `cs`, with no composite in
progress) are stepped on every event line whatever the flag says, so they are tracked unconditionally (`live := True`); the
flag `violated` is `none` only if the history is linearizable, and `not-linearizable` only if it is not, provided every
invocation line is by a goroutine `< 24` (`InvBelow 24 lines`; this includes the skipped `inv t range` / `inv t len` lines,
which raise the judge's number of goroutines too).
-/
namespace TypVerif.Lemmas.ObjCompleteLin
open TypVerif TypVerif.Conc TypVerif.Model TypVerif.Proto TypVerif.Drv.ObjLin TypVerif.Lemmas.ObjAccept
open TypVerif.Lemmas.ObjAcceptLin TypVerif.Lemmas.ObjComplete TypVerif.Lemmas.ObjTrack

def InvBelow (k : Nat) (lines : List (List Val × String)) : Prop :=
  ∀ l ∈ lines, ∀ (t : Int) (rest : List Val), l.1 = .w "inv" :: .i t :: rest → t.toNat < k

theorem inv_lin_line {Op Res α : Type} {fuel : Nat} {T : List (AtomicObj.Event Op Res) → Nat → List α → Prop}
    {L : List (AtomicObj.Event Op Res) → Prop} {G : Nat → List α → AtomicObj.Event Op Res → List α}
    (hT : Tracks fuel T L G) {B : Prop} {toks : List Val} {oe : Option (AtomicObj.Event Op Res)}
    {tr : List (AtomicObj.Event Op Res)} {n n' : Nat} {ss ss' : List α} {v v' : Option String}
    (h : Inv fuel T L B tr n ss True (v = none) (v = some "not-linearizable"))
    (hinv : B → ∀ (t : Int) (rest : List Val), toks = .w "inv" :: .i t :: rest → t.toNat < fuel)
    (hl : LinStep G toks oe n n' ss ss' v v') :
    Inv fuel T L B (tr ++ oe.toList) n' ss' True (v' = none) (v' = some "not-linearizable") := by
  obtain ⟨w, hv, hw⟩ := hl.flag
  refine h.line hT ?_ hl.lt (fun hB => ⟨hB, fun hf => ?_⟩) id (fun _ => hl.ss)
    (fun h0 => ((hw.or hv).1 h0).imp_right fun h1 e he => ⟨trivial, h1 e he⟩)
    (fun h0 => ((hw.or hv).2 h0).imp_right fun h1 => h1.2.imp fun e h2 => ⟨h2.1, trivial, h2.2⟩)
  · rcases hl.n with rfl | ⟨_, _, _, rfl⟩
    · exact Nat.le_refl _
    · exact Nat.le_max_left _ _
  · rcases hl.n with rfl | ⟨t, rest, ht, rfl⟩
    · exact hf
    · exact Nat.max_le.2 ⟨hf, hinv hB t rest ht⟩

/-! ### map mode -/

/-- the map-mode judge state after the history `tr` -/
def MC (B : Prop) (tr : List MEvent) (st : St) : Prop :=
  st.mode = 1 ∧ Inv closureFuel (Track MapObj.mapSpec closureFuel) (AtomicObj.Linearizable MapObj.mapSpec) B tr st.n
    st.ms True (st.violated = none) (st.violated = some "not-linearizable")

/-- **map mode**: the state set and the flag after the header `cmap` and covered lines standing for `tr` -/
theorem map_track (j0 : JSt) (impl0 : String) (lines : List (List Val × String)) (tr : List MEvent)
    (hl : Lines MapLine lines tr) :
    MC (InvBelow closureFuel lines) tr (runLines (step j0 [.w "cmap"] impl0).1 lines).st := by
  have h := runLines_inv (R := fun tr j => MC (InvBelow closureFuel lines) tr j.st) hl (fun l hmem oe hP tr0 j hc => by
    rw [step_map j l.1 l.2 oe hc.1 hP]
    obtain ⟨hm, hs⟩ := stepMap_spec j.st l.1 oe hP
    exact ⟨hm.trans hc.1, inv_lin_line (track_tracks MapObj.mapSpec closureFuel) hc.2 (fun hB => hB l hmem) hs⟩) []
    (step j0 [.w "cmap"] impl0).1 ⟨rfl, Inv.init MapObj.mapSpec closureFuel _ _ _ _ nofun⟩
  rw [List.nil_append] at h
  exact h

/-! ### set mode -/

theorem mem_compClosure (n : Nat) (fuel : Nat) : ∀ (cs : List CSt) (c : CSt), c ∈ cs → c ∈ compClosure n fuel cs := by
  induction fuel with
  | zero => intro cs c h; exact h
  | succ fuel ih =>
    intro cs c h
    rw [compClosure]
    split
    · exact h
    · exact ih _ c (Conc.mem_dedup (List.mem_append_left _ h))

/-- the set-mode state set contains (with no composite in progress) the judge's state of every state that any
`AtomicObj.sys setSpec menu N` can be in after exhibiting `tr` -/
def FullC (n0 : Nat) (tr : List SEvent) (cs : List CSt) : Prop :=
  ∀ (N : Nat) (menu : List MapObj.SOp) (ls : List (Option SEvent)) (s : SSt),
    Exec (AtomicObj.sys MapObj.setSpec menu N) (AtomicObj.init MapObj.setSpec N) ls s → visible ls = tr →
      IdleFrom n0 s ∧ ({ s := proj n0 s, prog := [] } : CSt) ∈ cs

theorem liftStep_fullC (n0 n : Nat) (hn : n0 ≤ n) (hf : n ≤ closureFuel) {tr : List SEvent} {cs : List CSt}
    (e : SEvent) (he : ∀ t op, e = .inv t op → t < n) (h : FullC n0 tr cs) :
    FullC n (tr ++ [e]) (liftStep n cs e) := by
  intro N menu ls s hex hv
  obtain ⟨ls0, s0, s1, taus, h0, hv0, hm, h1, hv1⟩ := exec_split_last hex tr e hv
  obtain ⟨hi0, hmem0⟩ := h N menu ls0 s0 h0 hv0
  obtain ⟨hi, hx⟩ : IdleFrom n s ∧ proj n s ∈ stepObj MapObj.setSpec n [proj n0 s0] e :=
    stepObjF_complete MapObj.setSpec closureFuel menu N n0 n hn hf hm hi0 he (List.mem_singleton.2 rfl)
      (OnceRed.TauN.of_exec h1 hv1)
  refine ⟨hi, ?_⟩
  unfold liftStep
  apply mem_compClosure
  apply Conc.mem_dedup
  exact List.mem_flatMap.2 ⟨⟨proj n0 s0, []⟩, mem_compClosure _ _ _ _ hmem0, List.mem_map.2 ⟨proj n s, hx, rfl⟩⟩

def TrackC (tr : List SEvent) (n : Nat) (cs : List CSt) : Prop :=
  CRel tr cs ∧ (n ≤ closureFuel → ∃ n0, n0 ≤ n ∧ FullC n0 tr cs)

theorem trackC_init : TrackC [] 0 [{ s := AtomicObj.init MapObj.setSpec 0, prog := [] }] := by
  refine ⟨crel_init, fun _ => ⟨0, Nat.le_refl _, fun N menu ls s hex hv => ?_⟩⟩
  obtain ⟨hi, hmem⟩ := full_init MapObj.setSpec 0 N menu ls s hex hv
  have he : (proj 0 s : SSt) = AtomicObj.init MapObj.setSpec 0 := List.mem_singleton.1 hmem
  exact ⟨hi, List.mem_singleton.2 (congrArg (fun x => ({ s := x, prog := [] } : CSt)) he)⟩

theorem trackC_tracks : Tracks closureFuel TrackC (AtomicObj.Linearizable MapObj.setSpec) liftStep where
  step e h hn he := ⟨liftStep_crel _ _ _ e h.1, fun hf => (h.2 (Nat.le_trans hn hf)).elim fun n0 h0 =>
    ⟨_, Nat.le_refl _, liftStep_fullC n0 _ (Nat.le_trans h0.1 hn) hf e he.lt h0.2⟩⟩
  mono h hn := ⟨h.1, fun hf => (h.2 (Nat.le_trans hn hf)).imp fun _ h0 => ⟨Nat.le_trans h0.1 hn, h0.2⟩⟩
  sound h hne := (List.exists_mem_of_ne_nil _ hne).elim fun c hc =>
    acc_linearizable MapObj.setSpec (h.1 c hc).2 (List.cons_ne_nil _ _)
  complete h hf hl := by
    obtain ⟨_, _, hfull⟩ := h.2 hf
    obtain ⟨N, menu, ls, s, hex, hv⟩ := exec_of_linearizable MapObj.setSpec hl
    exact List.ne_nil_of_mem (hfull N menu ls s hex hv).2
  pre := linearizable_prefix MapObj.setSpec

def SC (B : Prop) (tr : List SEvent) (st : St) (cs : List CSt) : Prop :=
  st.mode = 2 ∧ OnlyLen st ∧ Inv closureFuel TrackC (AtomicObj.Linearizable MapObj.setSpec) B tr st.n cs True
    (st.violated = none) (st.violated = some "not-linearizable")

/-- **set mode**: the state set and the flag after the header `cset` and covered lines standing for `tr` -/
theorem set_track (j0 : JSt) (impl0 : String) (lines : List (List Val × String)) (tr : List SEvent)
    (hl : Lines SetLine lines tr) :
    SC (InvBelow closureFuel lines) tr (runLines (step j0 [.w "cset"] impl0).1 lines).st
      (runLines (step j0 [.w "cset"] impl0).1 lines).cs := by
  have h := runLines_inv (R := fun tr j => SC (InvBelow closureFuel lines) tr j.st j.cs) hl
    (fun l hmem oe hP tr0 j hc => by
      obtain ⟨hst, hcs⟩ := step_set j l.1 l.2 oe hc.1 hP
      rw [hst, hcs]
      obtain ⟨hm, hol, hs⟩ := stepSet_spec j.st j.cs l.1 oe hP hc.2.1
      exact ⟨hm.trans hc.1, hol, inv_lin_line trackC_tracks hc.2.2 (fun hB => hB l hmem) hs⟩) []
    (step j0 [.w "cset"] impl0).1 ⟨rfl, nofun, fun _ => trackC_init,
      fun _ => trackC_tracks.sound trackC_init (List.cons_ne_nil _ _), nofun, fun _ => Nat.zero_le _⟩
  rw [List.nil_append] at h
  exact h

end TypVerif.Lemmas.ObjCompleteLin
