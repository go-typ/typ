import TypVerif.Lemmas.PubSubLogFresh
/-
Call-local bookkeeping.  A call is identified by its snapshot step `s0 → s1`: task `i` of `s0` is
`pubStart p o v evs` and the step changes it; the items of the call are `mkItems p evs (s0.obj o).subs`,
their keys `callKeys p evs (s0.obj o).subs`.  From `s1` on (along any execution):
`CallLe`: (pending items with key k) + (log entries k) ≤ (occurrences of k in the call's keys), for every key of `p`;
`CallEq`: equality, as long as no `sendAsync` goroutine of `p` exists (PubSync / PubWait variants).
-/
namespace TypVerif.Lemmas.PubSubLog
open TypVerif TypVerif.Model.PubSub TypVerif.Lemmas.PubSubSafe
open PubSubStep (lt_length_of_getElem?)

theorem bstep_changed {cfg : Cfg} {s s' : State} {i : Nat} {t : Task} (h : BStep cfg s s')
    (hi : s.tasks[i]? = some t) (hne : s'.tasks[i]? ≠ s.tasks[i]?) : TSum cfg s s' i t := by
  have hlt := lt_length_of_getElem? hi
  rcases h with ⟨ts, hs⟩ | ⟨j, t0, hj, hT⟩
  · rw [hs.tasks, List.getElem?_append_left hlt] at hne
    exact absurd rfl hne
  · by_cases hij : j = i
    · subst hij
      cases hi.symm.trans hj
      exact hT
    · obtain ⟨t', new, dl, tl, _, h1, _⟩ := hT
      rw [h1, getElem?_set_append_ne _ _ _ _ _ hij hlt] at hne
      exact absurd rfl hne

/-- the successor of the stepping task sits at its position -/
theorem tsum_next {cfg : Cfg} {s s' : State} {i : Nat} {t : Task} (hi : s.tasks[i]? = some t)
    (h : TSum cfg s s' i t) : ∃ t' new dl tl, TStep cfg s t t' new dl tl ∧ s'.tasks[i]? = some t' ∧
      s'.delivered = s.delivered ++ dl ∧ s'.timedOut = s.timedOut ++ tl := by
  obtain ⟨t', new, dl, tl, h1, h2, h3, h4, _⟩ := h
  exact ⟨t', new, dl, tl, h1, h2 ▸ getElem?_set_append_self _ _ _ _ (lt_length_of_getElem? hi), h3, h4⟩

/-- what a step does to the task at position `i`: nothing, or one transition of that task -/
theorem bstep_at {cfg : Cfg} {s s' : State} {i : Nat} {t : Task} (h : BStep cfg s s')
    (hi : s.tasks[i]? = some t) : s'.tasks[i]? = some t ∨
      ∃ t' new dl tl, TStep cfg s t t' new dl tl ∧ s'.tasks[i]? = some t' ∧
        s'.delivered = s.delivered ++ dl ∧ s'.timedOut = s.timedOut ++ tl := by
  by_cases hne : s'.tasks[i]? = s.tasks[i]?
  · exact .inl (hne.trans hi)
  · exact .inr (tsum_next hi (bstep_changed h hi hne))

structure CallLe (p : Nat) (keys : List Key) (s : State) : Prop where
  used : p ∈ s.pids
  started : nPS p s = 0
  le : ∀ k : Key, k.1 = p → cP k s + cL k s ≤ keys.count k

structure CallEq (p : Nat) (keys : List Key) (s : State) : Prop where
  used : p ∈ s.pids
  started : nPS p s = 0
  noAsync : nAS p s = 0
  eq : ∀ k : Key, k.1 = p → cP k s + cL k s = keys.count k

theorem callLe_bstep {cfg : Cfg} {p : Nat} {keys : List Key} {s s' : State} (hc : CallLe p keys s)
    (h : BStep cfg s s') : CallLe p keys s' := by
  refine ⟨bstep_pids h hc.used, bstep_nPS_zero h hc.used hc.started, fun k hk => ?_⟩
  subst hk
  have := (bstep_counts h k hc.started).1
  have := hc.le k rfl
  omega

theorem callEq_bstep {cfg : Cfg} {p : Nat} {keys : List Key} {s s' : State} (hc : CallEq p keys s)
    (h : BStep cfg s s') : CallEq p keys s' := by
  refine ⟨bstep_pids h hc.used, bstep_nPS_zero h hc.used hc.started, bstep_nAS_zero h hc.started hc.noAsync,
    fun k hk => ?_⟩
  subst hk
  have := (bstep_counts h k hc.started).2.1 hc.noAsync
  have := hc.eq k rfl
  omega

theorem CallEq.toLe {p : Nat} {keys : List Key} {s : State} (h : CallEq p keys s) : CallLe p keys s :=
  ⟨h.used, h.started, fun k hk => Nat.le_of_eq (h.eq k hk)⟩

theorem nAS_zero_of_cP {p : Nat} {s : State} (h : ∀ k : Key, k.1 = p → cP k s = 0) : nAS p s = 0 := by
  rw [nAS, List.countP_eq_zero]
  intro t ht hq
  obtain ⟨it, hit, hp⟩ := pend_of_isAsyncStart hq
  exact cP_zero_iff.mp h t ht it hit hp

/-- the snapshot step `s0 → s1` of the call at position `i` (`snapshot_of_step`); `used`, `zero0`, `one0` are what `fresh0` says of `p`
while its call waits, spelt out for the users -/
structure Snapshot (cfg : Cfg) (s0 s1 : State) (i p o : Nat) (v : Variant) (evs : List Int) : Prop where
  fresh0 : Fresh s0
  at0 : s0.tasks[i]? = some (.pubStart p o v evs)
  used : p ∈ s0.pids
  zero0 : ∀ k : Key, k.1 = p → cP k s0 + cL k s0 = 0
  one0 : nPS p s0 = 1
  trans : ∃ t' new, TStep cfg s0 (.pubStart p o v evs) t' new [] [] ∧ s1.tasks = s0.tasks.set i t' ++ new ∧
    t' ≠ .pubStart p o v evs
  delivered : s1.delivered = s0.delivered
  timedOut : s1.timedOut = s0.timedOut
  pids : s1.pids = s0.pids

/-- the three shapes of the snapshot step -/
theorem tstep_pubStart {cfg : Cfg} {s : State} {p o : Nat} {v : Variant} {evs : List Int} {t' : Task}
    {new : List Task} {dl tl : List Key} (h : TStep cfg s (.pubStart p o v evs) t' new dl tl) :
    dl = [] ∧ tl = [] ∧
    ((v.isSync = true ∧ t' = syncNext p o (mkItems p evs (s.obj o).subs) ∧ new = []) ∨
     (v.isSync = false ∧ v.isWait = true ∧ t' = .waitWg p o s.wgs.length ∧
       new = (mkItems p evs (s.obj o).subs).map (fun it => .wgSend o s.wgs.length it false)) ∨
     (v.isSync = false ∧ v.isWait = false ∧ t' = .pubRet p ∧
       new = (mkItems p evs (s.obj o).subs).map (fun it => .asyncStart o it))) := by
  cases h with
  | stuck _ hn => cases hn
  | ctl c1 c2 => cases c1
  | pubSync _ _ _ _ hv => exact ⟨rfl, rfl, .inl ⟨hv, rfl, rfl⟩⟩
  | pubWait _ _ _ _ hv hw => exact ⟨rfl, rfl, .inr (.inl ⟨hv, hw, rfl, rfl⟩)⟩
  | pubAsync _ _ _ _ hv hw => exact ⟨rfl, rfl, .inr (.inr ⟨hv, hw, rfl, rfl⟩)⟩

theorem snapshot_of_step {cfg : Cfg} {s0 s1 : State} {i p o : Nat} {v : Variant} {evs : List Int}
    {l : Option Event} (hr : Conc.Reachable (sys cfg) s0) (hi : s0.tasks[i]? = some (.pubStart p o v evs))
    (h01 : (l, s1) ∈ succ cfg s0) (hsnap : s1.tasks[i]? ≠ s0.tasks[i]?) : Snapshot cfg s0 s1 i p o v evs := by
  have hf := fresh_reachable cfg s0 hr
  obtain ⟨t', new, dl, tl, hT, h1, h2, h3, h4⟩ := bstep_changed (succ_bstep h01) hi hsnap
  have hpos : 0 < nPS p s0 := List.countP_pos_iff.mpr ⟨_, List.mem_of_getElem? hi, beq_self_eq_true p⟩
  have hle := hf.le1 p
  have hone : nPS p s0 = 1 := by omega
  have hused : p ∈ s0.pids := Classical.byContradiction fun hnu => by have := hf.unused p hnu; omega
  have hne : t' ≠ .pubStart p o v evs := fun e => by
    have := (tstep_tasks hT).1
    rw [e] at this
    cases this
  obtain ⟨rfl, rfl, _⟩ := tstep_pubStart hT
  exact ⟨hf, hi, hused, hf.zero p (Or.inr hone), hone, ⟨t', new, hT, h1, hne⟩, h2.trans (List.append_nil _),
    h3.trans (List.append_nil _), h4⟩

theorem Snapshot.counts {cfg : Cfg} {s0 s1 : State} {i p o : Nat} {v : Variant} {evs : List Int}
    (h : Snapshot cfg s0 s1 i p o v evs) :
    nPS p s1 = 0 ∧ p ∈ s1.pids ∧
    ∀ k : Key, k.1 = p → cP k s1 = (callKeys p evs (s0.obj o).subs).count k ∧ cL k s1 = 0 := by
  obtain ⟨t', new, hT, h1, hne⟩ := h.trans
  refine ⟨?_, h.pids ▸ h.used, fun k hk => ?_⟩
  · have := task_nPS h.at0 hT h1 p
    rw [if_pos (show isPubStart p (.pubStart p o v evs) = true from beq_self_eq_true p), h.one0] at this
    omega
  · obtain ⟨_, b, _⟩ := task_counts h.at0 hT h1 (h.delivered.trans (List.append_nil _).symm)
      (h.timedOut.trans (List.append_nil _).symm) k
    have hz := h.zero0 k hk
    have hb := b rfl
    have hg : gain s0 (.pubStart p o v evs) k = (callKeys p evs (s0.obj o).subs).count k := rfl
    have hl : cL k s1 = cL k s0 := by rw [cL, logs, h.delivered, h.timedOut]; rfl
    omega

theorem Snapshot.callLe {cfg : Cfg} {s0 s1 : State} {i p o : Nat} {v : Variant} {evs : List Int}
    (h : Snapshot cfg s0 s1 i p o v evs) : CallLe p (callKeys p evs (s0.obj o).subs) s1 := by
  obtain ⟨a, b, c⟩ := h.counts
  exact ⟨b, a, fun k hk => by have := c k hk; omega⟩

/-- PubSync / PubWait variants: no `sendAsync` goroutine of `p` exists, so nothing is ever dropped -/
theorem Snapshot.callEq {cfg : Cfg} {s0 s1 : State} {i p o : Nat} {v : Variant} {evs : List Int}
    (h : Snapshot cfg s0 s1 i p o v evs) (hv : v.isSync = true ∨ v.isWait = true) :
    CallEq p (callKeys p evs (s0.obj o).subs) s1 := by
  obtain ⟨a, b, c⟩ := h.counts
  refine ⟨b, a, ?_, fun k hk => by have := c k hk; omega⟩
  obtain ⟨t', new, hT, h1, _⟩ := h.trans
  have hna0 : nAS p s0 = 0 := nAS_zero_of_cP (fun k hk => by have := h.zero0 k hk; omega)
  rw [nAS, List.countP_eq_zero]
  intro x hx
  rw [h1] at hx
  rcases mem_set_append hx with rfl | hx | hx
  · rcases (tstep_pubStart hT).2.2 with ⟨_, rfl, _⟩ | ⟨_, _, rfl, _⟩ | ⟨_, _, rfl, _⟩
    · exact Bool.eq_false_iff.mp ((syncNext_not_start p o _).2 p)
    · exact Bool.false_ne_true
    · exact Bool.false_ne_true
  · exact List.countP_eq_zero.mp hna0 x hx
  · rcases (tstep_pubStart hT).2.2 with ⟨_, _, rfl⟩ | ⟨_, _, _, rfl⟩ | ⟨hs, hw, _⟩
    · cases hx
    · obtain ⟨_, _, rfl⟩ := List.mem_map.mp hx
      exact Bool.false_ne_true
    · rcases hv with hv | hv
      · rw [hs] at hv; cases hv
      · rw [hw] at hv; cases hv

end TypVerif.Lemmas.PubSubLog
