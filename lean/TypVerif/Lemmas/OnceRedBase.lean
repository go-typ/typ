import TypVerif.Lemmas.OncePanicBase
import TypVerif.Lemmas.ConcAcceptC17
/-
Completeness of the reduction `Drv.C17.red` (every visible trace of `Model.Once.sys` is one of `red`): basic definitions.

* `GoodX` : the invariant `Lemmas.Once.Good` plus "the goroutine recorded in `mu` is at a program counter at which it
  holds the mutex".
* `nf` : the explicit normal form of a state under urgent steps (what `normalize` computes with enough fuel).
* `nu` : a measure that every urgent step decreases; it is at most `4` per goroutine, below the fuel `4 * n + 8` of `normalize`.
-/
namespace TypVerif.Lemmas.OnceRed
open TypVerif TypVerif.Conc TypVerif.Model.Once TypVerif.Drv.C17 TypVerif.Lemmas.Once

def holds : Pc → Bool
  | .check | .callF | .inF | .assign _ | .store | .unlock => true
  | _ => false

structure GoodX (s : State) : Prop where
  good : Good s
  holder : ∀ w, s.mu = some w → holds (s.pc w) = true

theorem goodX_init (n a : Nat) : GoodX (init n a) :=
  ⟨good_init n a, fun _ h => nomatch h⟩

theorem goodX_step (res : Nat → List Int) (s : State) (l : Option Event) (s' : State)
    (hg : GoodX s) (hmem : (l, s') ∈ succ res s) : GoodX s' :=
  let ⟨_, ht, h⟩ := step_of_succ hmem
  ⟨good_step res s l s' hg.good hmem, OncePanic.holder_step hg.holder ht h⟩

theorem goodX_reachable (n a : Nat) (res : Nat → List Int) :
    ∀ s, Reachable (sys n a res) s → GoodX s :=
  Conc.invariant (sys n a res) GoodX (goodX_init n a) (fun s l s' h hm => goodX_step res s l s' h hm)

theorem goodX_exec (n a : Nat) (res : Nat → List Int) {s s' : State} {ls : List (Option Event)}
    (h : Exec (sys n a res) s ls s') (hg : GoodX s) : GoodX s' :=
  Exec.invariant (sys := sys n a res) GoodX (goodX_step res) h hg

def isAS : Pc → Bool
  | .assign _ | .store => true
  | _ => false

/-- `done` will be set by urgent steps alone -/
def willDone (s : State) : Bool :=
  s.done || (match s.mu with
    | some w => isAS (s.pc w)
    | none => false)

def nfPc (D : Bool) : Pc → Pc
  | .fast | .lock => if D then .read else .lock
  | .check => if D then .read else .callF
  | .assign _ | .store | .unlock => .read
  | p => p

/- when `done` is about to be set the winner's pending `assign` counts as executed, so `fields` already shows the
recorded result `fres` -/
def nf (s : State) : State :=
  { pcs := s.pcs.map (nfPc (willDone s)), done := willDone s,
    mu := if willDone s then none else s.mu,
    fields := if willDone s then s.fres.getD s.fields else s.fields,
    invoked := s.invoked, fres := s.fres }

theorem nfPc_idle (D : Bool) : nfPc D .idle = .idle := rfl

theorem pc_map (l : List Pc) (f : Pc → Pc) (hf : f .idle = .idle) (t : Nat) :
    (l.map f).getD t .idle = f (l.getD t .idle) := by
  simp only [List.getD_eq_getElem?_getD, List.getElem?_map]
  cases l[t]? <;> simp [hf]

theorem nf_pc (s : State) (t : Nat) : (nf s).pc t = nfPc (willDone s) (s.pc t) := by
  unfold State.pc nf
  exact pc_map _ _ (nfPc_idle _) t

theorem nf_len (s : State) : (nf s).pcs.length = s.pcs.length := by simp [nf]

theorem pcs_ext (a b : List Pc) (hl : a.length = b.length)
    (h : ∀ t, t < a.length → a.getD t .idle = b.getD t .idle) : a = b := by
  apply List.ext_getElem hl
  intro i h1 h2
  have := h i h1
  simpa [List.getD_eq_getElem?_getD, h1, h2] using this

theorem state_ext (a b : State) (hl : a.pcs.length = b.pcs.length)
    (hpc : ∀ t, t < a.pcs.length → a.pc t = b.pc t) (hd : a.done = b.done) (hm : a.mu = b.mu)
    (hf : a.fields = b.fields) (hi : a.invoked = b.invoked) (hr : a.fres = b.fres) : a = b := by
  cases a; cases b
  simp only [State.mk.injEq]
  exact ⟨pcs_ext _ _ hl hpc, hd, hm, hf, hi, hr⟩

theorem nfPc_idem (D : Bool) (p : Pc) : nfPc D (nfPc D p) = nfPc D p := by
  cases p <;> cases D <;> rfl

theorem isAS_nfPc (D : Bool) (p : Pc) : isAS (nfPc D p) = false := by
  cases p <;> cases D <;> rfl

theorem nfPc_true_false (p : Pc) (h : p ≠ .check) : nfPc true (nfPc false p) = nfPc true p := by
  cases p <;> first | rfl | exact absurd rfl h

/-- weights fall along `nextPc`: fast 4 → lock 3 → check 2 → unlock 1, and assign 3 → store 2 → unlock 1 -/
def wt : Pc → Nat
  | .fast => 4
  | .lock => 3
  | .check => 2
  | .assign _ => 3
  | .store => 2
  | .unlock => 1
  | _ => 0

def nu (s : State) : Nat := (s.pcs.map wt).sum

theorem sum_set_lt (l : List Pc) (t : Nat) (p : Pc) (ht : t < l.length) (h : wt p < wt (l.getD t .idle)) :
    ((l.set t p).map wt).sum < (l.map wt).sum := by
  induction l generalizing t with
  | nil => exact absurd ht (Nat.not_lt_zero _)
  | cons x xs ih =>
    cases t with
    | zero =>
      exact Nat.add_lt_add_right (h : wt p < wt x) (xs.map wt).sum
    | succ t =>
      exact Nat.add_lt_add_left (ih t (Nat.lt_of_succ_lt_succ ht) h) (wt x)

theorem sum_wt_le (l : List Pc) : (l.map wt).sum ≤ 4 * l.length := by
  induction l with
  | nil => exact Nat.le_refl 0
  | cons x xs ih =>
    have : wt x ≤ 4 := by cases x <;> exact Nat.le_of_ble_eq_true rfl
    show wt x + (xs.map wt).sum ≤ 4 * (xs.length + 1)
    rw [Nat.mul_add_one, Nat.add_comm (4 * xs.length)]
    exact Nat.add_le_add this ih

theorem nu_le (s : State) : nu s ≤ 4 * s.pcs.length := sum_wt_le _

end TypVerif.Lemmas.OnceRed
