import TypVerif.Lemmas.RingLinked
/-
The four pointer writes of `Link` (`r.next = s; s.prev = r; n.prev = p; p.next = n`) on the view level:
merging two rings and splitting one ring.
-/
namespace TypVerif.Lemmas.Ring
open TypVerif.Spec.RingOp

theorem linked_upd4 {nx pv : PF} {l : List RingId} {a1 a2 b1 b2 : RingId} (v1 v2 u1 u2)
    (h1 : a1 ∉ l.dropLast) (h2 : a2 ∉ l.dropLast) (h3 : b1 ∉ l.tail) (h4 : b2 ∉ l.tail)
    (h : Linked nx pv l) : Linked (upd (upd nx a1 v1) a2 v2) (upd (upd pv b1 u1) b2 u2) l :=
  linked_upd_pv b2 u2 h4 (linked_upd_pv b1 u1 h3 (linked_upd_nx a2 v2 h2 (linked_upd_nx a1 v1 h1 h)))

/-- the four writes of `Link` on two disjoint paths `X` (from `n`) and `Y` (from `s`) that end in `p` and `r`, in either
order: both stay linked, and `r → s`, `p → n` are links -/
theorem link_paths {nx pv : PF} {X Y : List RingId} {r s n p : RingId}
    (hX : Linked nx pv X) (hY : Linked nx pv Y) (nd : (X ++ Y).Nodup)
    (hn : X.head? = some n) (hs : Y.head? = some s)
    (hl : X.getLast? = some p ∧ Y.getLast? = some r ∨ X.getLast? = some r ∧ Y.getLast? = some p) :
    Linked (upd (upd nx r (some s)) p (some n)) (upd (upd pv s (some r)) n (some p)) X ∧
    Linked (upd (upd nx r (some s)) p (some n)) (upd (upd pv s (some r)) n (some p)) Y ∧
    (upd (upd nx r (some s)) p (some n) r = some s ∧ upd (upd pv s (some r)) n (some p) s = some r) ∧
    (upd (upd nx r (some s)) p (some n) p = some n ∧ upd (upd pv s (some r)) n (some p) n = some p) := by
  obtain ⟨ndX, ndY, dj⟩ := List.nodup_append.1 nd
  have nX : n ∈ X := List.mem_of_mem_head? hn
  have sY : s ∈ Y := List.mem_of_mem_head? hs
  have ends : ∀ {a b}, X.getLast? = some a → Y.getLast? = some b →
      a ≠ b ∧ (a ∉ X.dropLast ∧ b ∉ X.dropLast) ∧ a ∉ Y.dropLast ∧ b ∉ Y.dropLast := fun ha hb =>
    ⟨dj _ (List.mem_of_getLast? ha) _ (List.mem_of_getLast? hb),
      ⟨not_mem_dropLast_of_nodup ndX ha, not_mem_dropLast fun h => dj _ h _ (List.mem_of_getLast? hb) rfl⟩,
      not_mem_dropLast fun h => dj _ (List.mem_of_getLast? ha) _ h rfl, not_mem_dropLast_of_nodup ndY hb⟩
  have rp : r ≠ p ∧ (r ∉ X.dropLast ∧ p ∉ X.dropLast) ∧ r ∉ Y.dropLast ∧ p ∉ Y.dropLast := by
    rcases hl with ⟨h1, h2⟩ | ⟨h1, h2⟩
    · exact ⟨(ends h1 h2).1.symm, (ends h1 h2).2.1.symm, (ends h1 h2).2.2.symm⟩
    · exact ends h1 h2
  exact ⟨linked_upd4 _ _ _ _ rp.2.1.1 rp.2.1.2 (not_mem_tail fun h => dj s h s sY rfl) (not_mem_tail_of_nodup ndX hn) hX,
    linked_upd4 _ _ _ _ rp.2.2.1 rp.2.2.2 (not_mem_tail_of_nodup ndY hs) (not_mem_tail fun h => dj n nX n h rfl) hY,
    ⟨by rw [upd_ne _ _ rp.1, upd_same], by rw [upd_ne _ _ (dj n nX s sY).symm, upd_same]⟩, upd_same _ _ _, upd_same _ _ _⟩

/-- rings `r :: R` and `s :: S` merged into `r :: s :: S ++ R` -/
theorem link_diff {nx pv : PF} {r s n p : RingId} {R S : List RingId}
    (hR : Linked nx pv (r :: R ++ [r])) (hS : Linked nx pv (s :: S ++ [s]))
    (nd : ((r :: R) ++ (s :: S)).Nodup)
    (hn : nx r = some n) (hp : pv s = some p) :
    Linked (upd (upd nx r (some s)) p (some n)) (upd (upd pv s (some r)) n (some p))
      (r :: (s :: S ++ R) ++ [r]) := by
  have nhead : (R ++ [r]).head? = some n := by rw [← hn, linked_head hR]; cases R <;> rfl
  have plast : (s :: S).getLast? = some p := by
    rw [← hp, linked_last hS, List.getLast?_cons, List.getLastD_eq_getLast?]
  obtain ⟨LX, LY, e1, e2⟩ := link_paths ((linked_append nx pv [r] (R ++ [r])).1 hR).2.1
    ((linked_append nx pv (s :: S) [s]).1 hS).1 (((List.perm_append_singleton r R).append_right _).nodup_iff.2 nd)
    nhead rfl (Or.inr ⟨List.getLast?_concat, plast⟩)
  have e : (r :: (s :: S ++ R) ++ [r]) = [r] ++ ((s :: S) ++ (R ++ [r])) := by simp
  rw [e]
  exact linked_join trivial (linked_join LY LX plast nhead e2) rfl rfl e1

theorem link_same_nil {nx pv : PF} {r s n p : RingId} {T : List RingId}
    (h : Linked nx pv (r :: s :: T)) (hn : nx r = some n) (hp : pv s = some p) :
    upd (upd nx r (some s)) p (some n) = nx ∧ upd (upd pv s (some r)) n (some p) = pv := by
  have h1 := h.1; have h2 := h.2.1
  rw [hn] at h1; rw [hp] at h2
  cases h1; cases h2
  rw [upd_eq_self nx r _ hn, upd_eq_self nx r _ hn, upd_eq_self pv s _ hp, upd_eq_self pv s _ hp]
  exact ⟨rfl, rfl⟩

/-- ring `r :: A ++ …s…` (closed form `r :: A ++ s :: T`, so `T` ends in `r`) split into `r :: s…` (closed form `r :: s :: T`)
and the ring `A`; for `A = []` nothing is cut off and nothing changes. -/
theorem link_same {nx pv : PF} {r s n p : RingId} {A T : List RingId}
    (h : Linked nx pv (r :: A ++ s :: T)) (nd : (A ++ s :: T).Nodup) (hl : (s :: T).getLast? = some r)
    (hn : nx r = some n) (hp : pv s = some p) :
    Linked (upd (upd nx r (some s)) p (some n)) (upd (upd pv s (some r)) n (some p)) (r :: s :: T) ∧
    Linked (upd (upd nx r (some s)) p (some n)) (upd (upd pv s (some r)) n (some p)) (A ++ A.take 1) := by
  obtain ⟨LrA, LsT, J⟩ := (linked_append nx pv (r :: A) (s :: T)).1 h
  cases A with
  | nil =>
    obtain ⟨e1, e2⟩ := link_same_nil (T := T) h hn hp
    rw [e1, e2]
    exact ⟨h, trivial⟩
  | cons a A' =>
    cases hn.symm.trans LrA.1
    have plast : (n :: A').getLast? = some p := by
      rw [← hp, (J _ s (List.getLast?_cons_cons.trans List.getLast?_cons) rfl).2, List.getLast?_cons]
    obtain ⟨LX, LY, e1, e2⟩ := link_paths LrA.2.2 LsT nd rfl rfl (Or.inl ⟨plast, hl⟩)
    exact ⟨⟨e1.1, e1.2, LY⟩, linked_join LX trivial plast rfl e2⟩

end TypVerif.Lemmas.Ring
