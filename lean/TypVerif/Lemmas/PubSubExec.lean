import TypVerif.Model.PubSub
import TypVerif.Lemmas.ConcAccept
/-
Explicit executions of the PubSub model: a path is a list of indices into `succ`.
-/
namespace TypVerif.Lemmas.PubSubExec
open TypVerif TypVerif.Model.PubSub

def runPath (cfg : Cfg) : State → List Nat → Option State
  | s, [] => some s
  | s, k :: ks =>
    match (succ cfg s)[k]? with
    | none => none
    | some p => runPath cfg p.2 ks

/-- the labels along the path (internal steps, `none`, included) -/
def labelsPath (cfg : Cfg) : State → List Nat → List (Option Event)
  | _, [] => []
  | s, k :: ks =>
    match (succ cfg s)[k]? with
    | none => []
    | some p => p.1 :: labelsPath cfg p.2 ks

theorem runPath_exec (cfg : Cfg) : ∀ (ks : List Nat) (s s' : State),
    runPath cfg s ks = some s' → Conc.Exec (sys cfg) s (labelsPath cfg s ks) s'
  | [], s, s', h => by
    simp [runPath] at h; subst h; exact Conc.Exec.nil (sys := sys cfg) s
  | k :: ks, s, s', h => by
    simp only [runPath] at h
    simp only [labelsPath]
    cases hk : (succ cfg s)[k]? with
    | none => simp [hk] at h
    | some p =>
      simp only [hk] at h
      have hm : (p.1, p.2) ∈ (sys cfg).succ s := List.mem_of_getElem? hk
      exact Conc.Exec.cons hm (runPath_exec cfg ks p.2 s' h)

theorem runPath_reachable (cfg : Cfg) (ks : List Nat) (s s' : State) (hr : Conc.Reachable (sys cfg) s)
    (h : runPath cfg s ks = some s') : Conc.Reachable (sys cfg) s' :=
  (runPath_exec cfg ks s s' h).reachable hr

theorem eq_some_getD {α} {o : Option α} (h : o.isSome = true) (d : α) : o = some (o.getD d) := by
  cases o with
  | none => cases h
  | some a => rfl

end TypVerif.Lemmas.PubSubExec
