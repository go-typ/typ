import TypVerif.Lemmas.SmcStepDefs
import TypVerif.Lemmas.SmcMaps
/-
C04 concurrent half: the "quiet" steps — steps of a goroutine that do not change `entries/readM/amended/dirty`
(pure control steps, reads, lock acquisition, unlock, the non-promoting `missStep`) and are not linearization
steps.  Plus the two visible steps (`idle`: invocation, `ret`: response), which do not touch the shared state at all.

`R_step` is the one assembly of `R` for every step, internal or visible, given what `witness` prescribes (`WitnessIs`,
`SmcAbs`).  `R_effect` takes what the step does to the shared data as an `Effect` (`SmcMaps`) followed by a `Tail`
(`unlock` / `missStep`); `R_lin_ret`, `R_quiet_same` and `Quiet.toR` (`R_effect` without effect) are cases of it.
-/
namespace TypVerif.Lemmas.Smc
open TypVerif.Model TypVerif.Model.SyncMapConc TypVerif.Model.RelObj
open TypVerif.Model.SyncMap (alookup ainsert aerase akeys)

set_option linter.unusedSectionVars false

variable {K V : Type} [DecidableEq K] [DecidableEq V]

section
variable {s : State K V} {a : AState K V} {t : Tid}

def MuStep (sh' sh : Shared K V) (t : Tid) : Prop :=
  sh'.mu = sh.mu ∨ (sh.mu = none ∧ sh'.mu = some t) ∨ (sh.mu = some t ∧ sh'.mu = none)

namespace MuStep

theorem own_iff {sh' sh : Shared K V} {t u : Tid} (h : MuStep sh' sh t) (hu : u ≠ t) :
    Own sh' u ↔ Own sh u := by
  unfold Own
  rcases h with h | ⟨h1, h2⟩ | ⟨h1, h2⟩
  · rw [h]
  · rw [h1, h2]
    constructor
    · intro h3; exact absurd (Option.some.inj h3).symm hu
    · intro h3; cases h3
  · rw [h1, h2]
    constructor
    · intro h3; cases h3
    · intro h3; exact absurd (Option.some.inj h3).symm hu

theorem of_eq {sh' sh : Shared K V} {t : Tid} (h : sh'.mu = sh.mu) : MuStep sh' sh t := Or.inl h
theorem lock {sh : Shared K V} {t : Tid} (h : sh.mu = none) : MuStep { sh with mu := some t } sh t :=
  Or.inr (Or.inl ⟨h, rfl⟩)
theorem unlock {sh' sh : Shared K V} {t : Tid} (h : Own sh t) (h' : sh'.mu = none) : MuStep sh' sh t :=
  Or.inr (Or.inr ⟨h, h'⟩)

end MuStep

theorem MuStep.bound {sh1 sh' : Shared K V} (h : MuStep sh' sh1 t) (h1 : sh1.mu = s.sh.mu) (hR : R s a)
    (ht : t < s.pcs.length) (u : Tid) (hu : sh'.mu = some u) : u < s.pcs.length := by
  rcases h with h | ⟨_, h2⟩ | ⟨_, h2⟩
  · exact hR.g.muBound u (h1 ▸ h ▸ hu)
  · rw [h2] at hu; cases hu; exact ht
  · rw [h2] at hu; cases hu

/-- what a step of `t` does after its `Effect` on `sh1`: the entries and maps are kept, the mutex moves at most from or
to `t` — nothing, `lock`, `unlock`, the non-promoting `missStep`, or `missStep` then `unlock` -/
structure Tail (sh1 : Shared K V) (t : Tid) (sh' : Shared K V) : Prop where
  data : SameData sh' sh1
  fault : sh'.fault = sh1.fault
  mu : MuStep sh' sh1 t

namespace Tail
variable {sh : Shared K V}

theorem refl (sh : Shared K V) (t : Tid) : Tail sh t sh := ⟨.refl _, rfl, .of_eq rfl⟩
theorem lock (h : sh.mu = none) : Tail sh t { sh with mu := some t } := ⟨sameData_mu_update _ _, rfl, .lock h⟩
-- before `Tail.unlock` and `Tail.missStep`, which shadow the model's functions in this namespace
theorem unlock_missStep (h : Own sh t) : Tail sh t (unlock (missStep sh).1) :=
  ⟨sameData_unlock_missStep_fst _, rfl, .unlock h rfl⟩
theorem unlock (h : Own sh t) : Tail sh t (unlock sh) := ⟨sameData_unlock _, rfl, .unlock h rfl⟩
theorem missStep (sh : Shared K V) (t : Tid) : Tail sh t (missStep sh).1 := ⟨sameData_missStep_fst _, rfl, .of_eq rfl⟩

end Tail

/-- a step of `t` that keeps `t`'s unprocessed pairs keeps everybody's -/
theorem unprocessed_sub_setPc (ht : t < s.pcs.length) {sh' : Shared K V} {pc' : Pc K V}
    (hunp : unprocPc (s.pc t) ⊆ unprocPc pc') : unprocessed s ⊆ unprocessed (setPc s t sh' pc') := by
  intro p hp
  obtain ⟨u, hu⟩ := mem_unprocessed.mp hp
  rw [mem_unprocessed_setPc]
  by_cases hut : u = t
  · subst hut; exact Or.inl ⟨ht, hunp hu⟩
  · exact Or.inr ⟨u, hut, hu⟩

/-- The one assembly of `R` after a step of `t` to `(sh', pc')` labelled `l`.  `hw` says what `witness` prescribes; the
caller supplies the shared-state invariant, the abstraction equation, `T` for `t` itself (for its abstract pc `q`
before the final observation) and for everybody else (after it: the witness only adds to their `seen` lists), and that
`t` has unlinked nothing new — or, at the unlink itself, nothing that anybody else has. -/
theorem R_step (hR : R s a) (ht : t < s.pcs.length) {l : Option (SyncMapConc.Event K V)} {obj' : K → Option V}
    {q : APc K V} (hw : WitnessIs s t l a obj' q) {sh' : Shared K V} {pc' : Pc K V}
    (hGS : GS sh' (unprocessed (setPc s t sh' pc')))
    (hmu : ∀ u, sh'.mu = some u → u < s.pcs.length)
    (habs : ∀ k, obj' k = absOf sh' k)
    (hself : T sh' t pc' q)
    (hoth : ∀ u, u ≠ t → T sh' u (s.pc u) (observePc obj' (a.pcs u)))
    (hunl : ∀ e ∈ unlinkedPc pc' q, e ∈ unlinkedPc (s.pc t) (a.pcs t) ∨
      ∀ u, u ≠ t → u < s.pcs.length → e ∉ unlinkedPc (s.pc u) (a.pcs u)) :
    R (setPc s t sh' pc') (witness s t l a) := by
  refine ⟨(G_iff _ _).mpr ⟨hGS, fun u hu => (setPc_pcs_length ..).symm ▸ hmu u hu,
    hR.g.unlinked_setPc sh' (fun u hu => ?_) fun e he => hunl e ?_⟩, fun k => ?_, fun u => ?_, obs_witness _ _ _ _⟩
  · rw [hw.others hu, unlinkedPc_observePc]
  · rwa [unlinkedPc_seenLe hw.self] at he
  · exact (congrFun hw.obj k).trans (habs k)
  · by_cases hut : u = t
    · subst hut
      rw [pc_setPc_self ht]
      exact T_mono hself hw.self
    · rw [pc_setPc_ne hut, hw.others hut]
      exact hoth u hut

/-- the step changes the shared data by an `Effect`, then at most `mu` / `misses` (a `Tail`) -/
theorem R_effect (hR : R s a) (ht : t < s.pcs.length) {l : Option (SyncMapConc.Event K V)} {obj' : K → Option V}
    {q : APc K V} (hw : WitnessIs s t l a obj' q) {sh1 sh' : Shared K V} {pc' : Pc K V}
    (hE : Effect s a t sh1 (unprocessed s) obj')
    (hmu1 : sh1.mu = s.sh.mu)
    (hT : Tail sh1 t sh')
    (hself : T sh' t pc' q)
    (hunp : unprocPc (s.pc t) ⊆ unprocPc pc')
    (hunl : unlinkedPc pc' q ⊆ unlinkedPc (s.pc t) (a.pcs t)) : R (setPc s t sh' pc') (witness s t l a) :=
  R_step hR ht hw
    ((hE.gs.of_sameData hT.data (hT.fault.trans hE.gs.nofault)).weaken (unprocessed_sub_setPc ht hunp))
    (hT.mu.bound hmu1 hR ht) (fun k => (hE.abs k).trans (absOf_congr hT.data k).symm) hself
    (fun u hu => (T_congr hT.data (hT.mu.own_iff hu) _ _).mpr (T_observePc (hE.thr u hu) obj'))
    fun _ he => Or.inl (hunl he)

/-- the same for a step that leaves the shared data alone -/
theorem R_effect_same (hR : R s a) (ht : t < s.pcs.length) {l : Option (SyncMapConc.Event K V)} {q : APc K V}
    (hw : WitnessIs s t l a a.obj q) {sh' : Shared K V} {pc' : Pc K V} (hT : Tail s.sh t sh')
    (hself : T sh' t pc' q) (hunp : unprocPc (s.pc t) ⊆ unprocPc pc')
    (hunl : unlinkedPc pc' q ⊆ unlinkedPc (s.pc t) (a.pcs t)) : R (setPc s t sh' pc') (witness s t l a) :=
  R_effect hR ht hw (.refl hR t) rfl hT hself hunp hunl

/-- the shared state is untouched: a pure control step that is not a linearization step (`.tau`), or a visible step
(`.vis`) -/
theorem R_quiet_same (hR : R s a) (ht : t < s.pcs.length) {l : Option (SyncMapConc.Event K V)} {q : APc K V}
    (hw : WitnessIs s t l a a.obj q)
    {pc' : Pc K V} (hself : T s.sh t pc' q) (hunp : unprocPc (s.pc t) ⊆ unprocPc pc')
    (hunl : unlinkedPc pc' q ⊆ unlinkedPc (s.pc t) (a.pcs t)) :
    R (setPc s t s.sh pc') (witness s t l a) :=
  R_effect_same hR ht hw (.refl _ _) hself hunp hunl

theorem subset_of_eq_nil {α : Type} {l l' : List α} (h : l = []) : l ⊆ l' := h ▸ List.nil_subset l'

/-- a `pc` at which even a goroutine whose call has taken effect has unlinked nothing (`rfl` for a concrete `pc`) -/
theorem unlinkedPc_eq_nil_of_done {pc : Pc K V} (hpc : unlinkedPc pc (.done .range .done) = []) (q : APc K V) :
    unlinkedPc pc q = [] := by
  unfold unlinkedPc at hpc ⊢
  split
  · cases hpc
  · cases hpc
  · cases hpc
  · rfl

/-- what the step of `t` from `pc` to `(sh', pc')` has to satisfy to be quiet: the shared state changes by a `Tail`,
`t`'s own invariant holds at `pc'` (for its abstract pc before observation) and `t` has unlinked nothing new -/
structure Quiet (s : State K V) (a : AState K V) (t : Tid) (pc : Pc K V) (sh' : Shared K V) (pc' : Pc K V) :
    Prop where
  tail : Tail s.sh t sh'
  self : T sh' t pc' (a.pcs t)
  unl : unlinkedPc pc' (a.pcs t) ⊆ unlinkedPc pc (a.pcs t)

namespace Quiet

theorem toR {pc pc' : Pc K V} {sh' : Shared K V} (h : Quiet s a t pc sh' pc') (hR : R s a)
    (ht : t < s.pcs.length) (hpc : s.pc t = pc) (hlin : isLin s.sh pc (a.pcs t) = false)
    (hunp : unprocPc pc = []) : R (setPc s t sh' pc') (witness s t none a) := by
  subst hpc
  exact R_effect_same hR ht (.tau hlin) h.tail h.self (subset_of_eq_nil hunp) h.unl

theorem of_tail {pc pc' : Pc K V} {sh' : Shared K V} (hT : Tail s.sh t sh') (hself : T sh' t pc' (a.pcs t))
    (hunl : unlinkedPc pc' (.done .range .done) = []) : Quiet s a t pc sh' pc' :=
  ⟨hT, hself, subset_of_eq_nil (unlinkedPc_eq_nil_of_done hunl _)⟩

theorem same {pc pc' : Pc K V} (hself : T s.sh t pc' (a.pcs t))
    (hunl : unlinkedPc pc' (.done .range .done) = []) : Quiet s a t pc s.sh pc' :=
  .of_tail (.refl _ _) hself hunl

end Quiet

theorem retOk_of_pend_mem {p : APc K V} {op : Op K V} {r : Res K V} (hp : Pend p op) (hr : r ∈ seenOf p) :
    RetOk p r := by
  cases p with
  | idle => exact hp.elim
  | done op' r' => exact hp.elim
  | pending op' seen => exact hr

theorem DoneWith.retOk {p : APc K V} {f : Op K V → Bool} {r : Res K V} (h : DoneWith p f r) : RetOk p r := by
  cases p with
  | idle => exact h.elim
  | pending op' seen => exact h.elim
  | done op' r' => exact h.2

namespace Obs

theorem retOk {obj : K → Option V} {apcs : Nat → APc K V} (h : Obs obj apcs) {t : Tid} {op : Op K V}
    {r : Res K V} (hp : Pend (apcs t) op) (hr : pureRes obj op = some r) : RetOk (apcs t) r :=
  retOk_of_pend_mem hp ((h.obsPc t).mem_seenOf hp hr)

end Obs

theorem T_ret_iff {sh : Shared K V} {t : Tid} {r : Res K V} {p : APc K V} (hr : ∀ l, r ≠ .pairs l) :
    T sh t (.ret r) p ↔ RetOk p r ∧ ¬ Own sh t := by
  cases r with
  | pairs l => exact absurd rfl (hr l)
  | done => exact Iff.rfl
  | val o => exact Iff.rfl
  | pair w b => exact Iff.rfl

theorem T_rangeNext_iff {sh : Shared K V} {t : Tid} {todo : List (K × EId)} {acc : List (K × V)} {p : APc K V} :
    T sh t (rangeNext todo acc) p ↔ IsIdle p ∧ ¬ Own sh t ∧ RangeHold sh todo acc := by
  cases todo with
  | nil => rw [rangeNext_nil, RangeHold.nil_iff]; exact Iff.rfl
  | cons q todo => exact Iff.rfl

theorem noneRes_ne_pairs (d : Bool) (l : List (K × V)) : (noneRes d : Res K V) ≠ .pairs l := by
  cases d <;> nofun

theorem pureRes_ladOp_none {obj : K → Option V} {d : Bool} {k : K} (h : obj k = none) :
    pureRes obj (ladOp d k) = some (noneRes d) := by
  cases d <;> simp [ladOp, noneRes, pureRes, h]

/-- at `delLoad` only a goroutine whose call has taken effect has unlinked an entry -/
theorem Pend.unlinkedPc_delLoad {q : APc K V} {op : Op K V} (h : Pend q op) (d : Bool) (k : K) (e : EId) :
    unlinkedPc (.delLoad d k e : Pc K V) q = [] := by
  cases q with
  | done => exact h.elim
  | _ => rfl

theorem unlinkedPc_delCas (d : Bool) (k : K) (e : EId) (p : Ptr V) (q : APc K V) :
    unlinkedPc (.delCas d k e p) q = unlinkedPc (.delLoad d k e) q := by
  cases q <;> rfl

theorem unlinkedPc_ret (r : Res K V) (q : APc K V) : unlinkedPc (.ret r : Pc K V) q = [] :=
  unlinkedPc_eq_nil_of_done rfl q

theorem unlinkedPc_rangeNext (todo : List (K × EId)) (acc : List (K × V)) (q : APc K V) :
    unlinkedPc (rangeNext todo acc) q = [] := by
  cases todo <;> exact unlinkedPc_eq_nil_of_done rfl q

theorem unlinkedPc_loadAfter (k : K) (e : Option EId) (q : APc K V) :
    unlinkedPc (loadAfter k e : Pc K V) q = [] := by
  cases e <;> exact unlinkedPc_eq_nil_of_done rfl q

theorem R_lin_ret (hR : R s a) (ht : t < s.pcs.length) {op : Op K V} {σ' : K → Option V} {r : Res K V}
    (hpend : Pend (a.pcs t) op) (hlin : isLin s.sh (s.pc t) (a.pcs t) = true)
    (happ : applyOp a.obj op = [(σ', r)]) (hr : ∀ l, r ≠ .pairs l)
    {sh1 sh' : Shared K V} (hE : Effect s a t sh1 (unprocessed s) σ') (hmu1 : sh1.mu = s.sh.mu)
    (hT : Tail sh1 t sh') (hno : ¬ Own sh' t)
    (hunp : unprocPc (s.pc t) = []) : R (setPc s t sh' (.ret r)) (witness s t none a) :=
  R_effect hR ht (.lin hlin hpend happ) hE hmu1 hT ((T_ret_iff hr).mpr ⟨rfl, hno⟩)
    (subset_of_eq_nil hunp) (subset_of_eq_nil (unlinkedPc_ret _ _))

/-- the owner of the mutex is not inside the `dirtyLocked` loop: nobody is -/
theorem GS_nil_of_own (hR : R s a) (ho : Own s.sh t) (hp : unprocPc (s.pc t) = []) : GS s.sh [] :=
  unprocessed_eq_nil_of_own hR.thr ho hp ▸ hR.g.gs

end

variable [Inhabited V] {menu : List (Op K V)} {s : State K V} {a : AState K V} {t : Tid}

/-- the frame of the per-pc lemmas: `pc` is neither `idle`, `ret` nor a loop head, so the only step of `t` is `exec` -/
theorem stepOK_exec {pc : Pc K V} (hR : R s a) (ht : t < s.pcs.length) (hpc : s.pc t = pc)
    (hi : pc ≠ .idle) (hr : ∀ r, pc ≠ .ret r) (hpk : picks pc = [])
    (h : ∀ sh' pc', exec s.sh t pc = some (sh', pc') → R (setPc s t sh' pc') (witness s t none a)) :
    StepOK menu s a t := by
  subst hpc
  exact stepOK_of_internal hR ht hi hr h fun c hc => by rw [hpk] at hc; cases hc

theorem stepOK_quiet {pc : Pc K V} (hR : R s a) (ht : t < s.pcs.length) (hpc : s.pc t = pc)
    (hi : pc ≠ .idle) (hr : ∀ r, pc ≠ .ret r) (hpk : picks pc = []) (hlin : isLin s.sh pc (a.pcs t) = false)
    (hunp : unprocPc pc = [])
    (h : ∀ sh' pc', exec s.sh t pc = some (sh', pc') → Quiet s a t pc sh' pc') : StepOK menu s a t :=
  stepOK_exec hR ht hpc hi hr hpk fun sh' pc' hex => (h sh' pc' hex).toR hR ht hpc hlin hunp

/-- `m.mu.Lock()`: enabled when the mutex is free; `t` goes on at `next` as its owner.  All five `lock` hooks -/
theorem stepOK_lock {pc next : Pc K V} (hR : R s a) (ht : t < s.pcs.length) (hpc : s.pc t = pc)
    (hi : pc ≠ .idle) (hr : ∀ r, pc ≠ .ret r) (hpk : picks pc = []) (hlin : isLin s.sh pc (a.pcs t) = false)
    (hunp : unprocPc pc = []) (hex : exec s.sh t pc = lockStep s.sh t next)
    (hself : T s.sh t pc (a.pcs t) → T { s.sh with mu := some t } t next (a.pcs t))
    (hunl : unlinkedPc next (.done .range .done) = []) : StepOK menu s a t :=
  stepOK_quiet hR ht hpc hi hr hpk hlin hunp fun sh' pc' h => by
    rw [hex] at h
    obtain ⟨hm, rfl, rfl⟩ := lockStep_eq_some_iff.mp h
    exact .of_tail (.lock hm) (hself (hpc ▸ hR.thr t)) hunl

theorem stepOK_idle (hR : R s a) (ht : t < s.pcs.length) (hpc : s.pc t = .idle) : StepOK menu s a t := by
  have hT := hpc ▸ hR.thr t
  have hunp : unprocPc (s.pc t) ⊆ [] := hpc ▸ List.Subset.refl _
  intro l s' hmem
  rcases mem_stepT_iff.mp hmem with ⟨_, op, hop, rfl, rfl⟩ | ⟨r, h, _⟩ | ⟨h, _⟩
  · by_cases hrange : op = .range
    · subst hrange
      exact ⟨sim_silent s hR.idle_of_le rfl rfl, R_quiet_same hR ht (.vis _ rfl) hT hunp (List.nil_subset _)⟩
    · refine ⟨sim_inv s hR.idle_of_le ht (isIdle_iff.mp hT.1) hrange,
        R_quiet_same hR ht (.vis _ (witness_pcs_inv_self s t t a hrange)) ?_ hunp
          (subset_of_eq_nil (unlinkedPc_eq_nil_of_done rfl _))⟩
      cases op <;> first | exact ⟨rfl, hT.2⟩ | exact absurd rfl hrange
  · rw [hpc] at h; cases h
  · exact absurd hpc h

theorem stepOK_ret {r : Res K V} (hR : R s a) (ht : t < s.pcs.length) (hpc : s.pc t = .ret r) :
    StepOK menu s a t := by
  have hT := hpc ▸ hR.thr t
  have hunp : unprocPc (s.pc t) ⊆ [] := hpc ▸ List.Subset.refl _
  intro l s' hmem
  rcases mem_stepT_iff.mp hmem with ⟨h, _⟩ | ⟨r', h, rfl, rfl⟩ | ⟨_, h, _⟩
  · rw [hpc] at h; cases h
  · rw [hpc] at h
    cases h
    by_cases hr : ∀ l, r ≠ .pairs l
    · rw [T_ret_iff hr] at hT
      exact ⟨sim_res s hR.idle_of_le ht hT.1 hr,
        R_quiet_same hR ht (.vis (q := .idle) _ (witness_pcs_res_self s t t a hr)) ⟨trivial, hT.2⟩ hunp (List.nil_subset _)⟩
    · obtain ⟨l, rfl⟩ := Classical.not_forall_not.mp hr
      exact ⟨sim_silent s hR.idle_of_le rfl rfl,
        R_quiet_same hR ht (.vis _ rfl) ⟨hT.1, hT.2.1⟩ hunp (List.nil_subset _)⟩
  · exact absurd hpc (h r)

theorem stepOK_start {op : Op K V} (hR : R s a) (ht : t < s.pcs.length) (hpc : s.pc t = .start op) :
    StepOK menu s a t := by
  have hT := hpc ▸ hR.thr t
  refine stepOK_quiet hR ht hpc nofun (fun _ => nofun) rfl rfl rfl fun sh' pc' hex => ?_
  -- whatever the call, the step only moves `t` to the first hook, where `T` says what it says at `start`
  cases op <;> cases hex <;> exact .same hT rfl

theorem stepOK_loadRead1 {k : K} (hR : R s a) (ht : t < s.pcs.length) (hpc : s.pc t = .loadRead1 k) :
    StepOK menu s a t := by
  have hT := hpc ▸ hR.thr t
  refine stepOK_quiet hR ht hpc nofun (fun _ => nofun) rfl rfl rfl ?_
  dsimp only [exec]
  cases hr : alookup k s.sh.readM with
  | some e =>
    rintro _ _ ⟨⟩
    exact .same ⟨hT.1, hT.2, hR.g.gs.read_lt_length hr, Or.inl (Cur_of_read hr)⟩ rfl
  | none =>
    cases ha : s.sh.amended with
    | true => rintro _ _ ⟨⟩; exact .same hT rfl
    | false =>
      rintro _ _ ⟨⟩
      refine .same ⟨hR.obs.retOk hT.1 ?_, hT.2⟩ rfl
      rw [pureRes_load, hR.abs k, absOf_of_not_amended hr ha]

theorem stepOK_loadPtr {k : K} {e : EId} (hR : R s a) (ht : t < s.pcs.length) (hpc : s.pc t = .loadPtr k e) :
    StepOK menu s a t := by
  obtain ⟨hpend, hown, hlt, hhold⟩ := hpc ▸ hR.thr t
  refine stepOK_quiet hR ht hpc nofun (fun _ => nofun) rfl rfl rfl ?_
  rintro _ _ ⟨⟩
  refine .same ⟨?_, hown⟩ (unlinkedPc_ret _ _)
  rcases hhold with hc | ⟨hdead, hs⟩ | ⟨horph, hs, hv⟩
  · apply hR.obs.retOk hpend
    rw [pureRes_load, hR.abs k, hR.g.gs.absOf_cur hc]
  · rw [hdead.value?]
    exact retOk_of_pend_mem hpend hs
  · cases hval : (getP s.sh e).value? with
    | none => exact retOk_of_pend_mem hpend hs
    | some v => rw [hval] at hv; exact retOk_of_pend_mem hpend hv

theorem stepOK_loadRead2 {k : K} (hR : R s a) (ht : t < s.pcs.length) (hpc : s.pc t = .loadRead2 k) :
    StepOK menu s a t := by
  have hT := hpc ▸ hR.thr t
  refine stepOK_quiet hR ht hpc nofun (fun _ => nofun) rfl rfl rfl ?_
  dsimp only [exec]
  cases hr : alookup k s.sh.readM with
  | some e =>
    rintro _ _ ⟨⟩
    exact .of_tail (.unlock hT.2)
      ⟨hT.1, Own_unlock _ _, hR.g.gs.read_lt_length hr, Or.inl (Cur_of_read hr)⟩ rfl
  | none =>
    cases ha : s.sh.amended with
    | true =>
      cases hm : (missStep s.sh).2 with
      | true =>
        rintro _ _ ⟨⟩
        exact .of_tail (.missStep _ _)
          ⟨hT.1, ⟨hT.2, ha, hR.g.gs.dirty_isSome_of_amended ha⟩, hr, rfl⟩ rfl
      | false =>
        rintro _ _ ⟨⟩
        refine .of_tail (.unlock_missStep hT.2) ?_
          (unlinkedPc_loadAfter _ _ _)
        cases hdm : alookup k (dirtyMap s.sh) with
        | some e => exact ⟨hT.1, Own_unlock _ _, hR.g.gs.dirty_lt_length hdm, Or.inl (Cur_of_dirty hr hdm)⟩
        | none =>
          refine ⟨hR.obs.retOk hT.1 ?_, Own_unlock _ _⟩
          rw [pureRes_load, hR.abs k, absOf_of_none_none hr hdm]
    | false =>
      rintro _ _ ⟨⟩
      refine .of_tail (.unlock hT.2) ⟨hR.obs.retOk hT.1 ?_, Own_unlock _ _⟩
        (unlinkedPc_ret _ _)
      rw [pureRes_load, hR.abs k, absOf_of_not_amended hr ha]

theorem stepOK_storeRead1 {k : K} {v : V} (hR : R s a) (ht : t < s.pcs.length) (hpc : s.pc t = .storeRead1 k v) :
    StepOK menu s a t := by
  have hT := hpc ▸ hR.thr t
  refine stepOK_quiet hR ht hpc nofun (fun _ => nofun) rfl rfl rfl ?_
  dsimp only [exec]
  cases hr : alookup k s.sh.readM with
  | some e =>
    rintro _ _ ⟨⟩
    exact .same ⟨hT.1, hT.2, hR.g.gs.read_lt_length hr, Or.inl hr⟩ rfl
  | none => rintro _ _ ⟨⟩; exact .same hT rfl

theorem stepOK_tryStoreLoad {k : K} {v : V} {e : EId} (hR : R s a) (ht : t < s.pcs.length)
    (hpc : s.pc t = .tryStoreLoad k v e) : StepOK menu s a t := by
  have hT := hpc ▸ hR.thr t
  refine stepOK_quiet hR ht hpc nofun (fun _ => nofun) rfl rfl rfl ?_
  dsimp only [exec]
  cases hx : (getP s.sh e).isExpunged with
  | true => rintro _ _ ⟨⟩; exact .same ⟨hT.1, hT.2.1⟩ rfl
  | false => rintro _ _ ⟨⟩; exact .same ⟨hT.1, hT.2.1, hT.2.2, hx⟩ rfl

theorem stepOK_losRead1 {k : K} {v : V} (hR : R s a) (ht : t < s.pcs.length) (hpc : s.pc t = .losRead1 k v) :
    StepOK menu s a t := by
  have hT := hpc ▸ hR.thr t
  refine stepOK_quiet hR ht hpc nofun (fun _ => nofun) rfl rfl rfl ?_
  dsimp only [exec]
  cases hr : alookup k s.sh.readM with
  | some e =>
    rintro _ _ ⟨⟩
    exact .same ⟨hT.1, hT.2, hR.g.gs.read_lt_length hr, Or.inl hr⟩ rfl
  | none => rintro _ _ ⟨⟩; exact .same hT rfl

theorem stepOK_ladRead1 {d : Bool} {k : K} (hR : R s a) (ht : t < s.pcs.length) (hpc : s.pc t = .ladRead1 d k) :
    StepOK menu s a t := by
  have hT := hpc ▸ hR.thr t
  refine stepOK_quiet hR ht hpc nofun (fun _ => nofun) rfl rfl rfl ?_
  dsimp only [exec]
  cases hr : alookup k s.sh.readM with
  | some e =>
    rintro _ _ ⟨⟩
    exact ⟨.refl _ _, ⟨hT.2, Or.inl ⟨hT.1, hR.g.gs.read_lt_length hr, Or.inl hr⟩⟩,
      subset_of_eq_nil (hT.1.unlinkedPc_delLoad ..)⟩
  | none =>
    cases ha : s.sh.amended with
    | true => rintro _ _ ⟨⟩; exact .same hT rfl
    | false =>
      rintro _ _ ⟨⟩
      refine .same ((T_ret_iff (noneRes_ne_pairs d)).mpr ⟨hR.obs.retOk hT.1 (pureRes_ladOp_none ?_), hT.2⟩)
        (unlinkedPc_ret _ _)
      rw [hR.abs k, absOf_of_not_amended hr ha]

theorem stepOK_delLoad {d : Bool} {k : K} {e : EId} (hR : R s a) (ht : t < s.pcs.length)
    (hpc : s.pc t = .delLoad d k e) : StepOK menu s a t := by
  have hT := hpc ▸ hR.thr t
  -- `delete()` loaded nil or expunged: it answers "absent"
  have absent : (getP s.sh e).value? = none → Quiet s a t (.delLoad d k e) s.sh (.ret (noneRes d)) := by
    intro hv
    refine .same ((T_ret_iff (noneRes_ne_pairs d)).mpr ⟨?_, hT.1⟩) (unlinkedPc_ret _ _)
    rcases hT.2 with ⟨hpend, _, hr | ⟨_, hs⟩⟩ | hu
    · apply hR.obs.retOk hpend (pureRes_ladOp_none ?_)
      rw [hR.abs k, absOf_of_read hr, hv]
    · exact retOk_of_pend_mem hpend hs
    · obtain ⟨w, hw, _⟩ := hu.spec
      rw [hv] at hw; cases hw
  refine stepOK_quiet hR ht hpc nofun (fun _ => nofun) rfl rfl rfl ?_
  dsimp only [exec]
  cases hp : getP s.sh e with
  | val i w =>
    rintro _ _ ⟨⟩
    exact ⟨.refl _ _, ⟨hT, rfl, fun _ => by rw [hp]; exact same_self _⟩,
      by rw [unlinkedPc_delCas]; exact List.Subset.refl _⟩
  | nil => rintro _ _ ⟨⟩; exact absent (by rw [hp]; rfl)
  | expunged => rintro _ _ ⟨⟩; exact absent (by rw [hp]; rfl)

theorem stepOK_rangeRead1 (hR : R s a) (ht : t < s.pcs.length) (hpc : s.pc t = .rangeRead1) :
    StepOK menu s a t := by
  have hT := hpc ▸ hR.thr t
  refine stepOK_quiet hR ht hpc nofun (fun _ => nofun) rfl rfl rfl ?_
  dsimp only [exec]
  cases ha : s.sh.amended with
  | true => rintro _ _ ⟨⟩; exact .same hT rfl
  | false =>
    rintro _ _ ⟨⟩
    exact .same (T_rangeNext_iff.mpr ⟨hT.1, hT.2, RangeHold.snapshot rfl hR.g.keysR hR.g.boundR⟩)
      (unlinkedPc_rangeNext _ _ _)

theorem stepOK_rangeLoad {todo : List (K × EId)} {acc : List (K × V)} {k' : K} {e' : EId}
    (hR : R s a) (ht : t < s.pcs.length) (hpc : s.pc t = .rangeLoad todo acc k' e') : StepOK menu s a t := by
  have hT := hpc ▸ hR.thr t
  have next : ∀ acc' : List (K × V), RangeHold s.sh todo acc' →
      Quiet s a t (.rangeLoad todo acc k' e') s.sh (rangeNext todo acc') :=
    fun _ hacc => .same (T_rangeNext_iff.mpr ⟨hT.1, hT.2.1, hacc⟩) (unlinkedPc_rangeNext _ _ _)
  refine stepOK_quiet hR ht hpc nofun (fun _ => nofun) rfl rfl rfl ?_
  dsimp only [exec]
  cases hp : getP s.sh e' with
  | val i w => rintro _ _ ⟨⟩; exact next _ (hT.2.2.push w)
  | nil => rintro _ _ ⟨⟩; exact next _ hT.2.2.skip
  | expunged => rintro _ _ ⟨⟩; exact next _ hT.2.2.skip

theorem stepOK_dirtyPick {c : NewCtx} {k : K} {v : V} {rm todo : List (K × EId)}
    (hR : R s a) (ht : t < s.pcs.length) (hpc : s.pc t = .dirtyPick c k v rm todo) : StepOK menu s a t := by
  have hT := hR.thr t
  rw [hpc] at hT
  have hlin : isLin s.sh (s.pc t) (a.pcs t) = false := by rw [hpc]; rfl
  apply stepOK_of_internal hR ht (by rw [hpc]; nofun) (by rw [hpc]; exact fun _ => nofun)
    (fun _ _ hex => by rw [hpc] at hex; cases hex)
  intro x hx
  rw [hpc] at hx
  obtain ⟨p, hp, rfl⟩ := mem_picks_dirtyPick.mp hx
  refine R_quiet_same hR ht (.tau hlin) ⟨hT.1, hT.2.1, hT.2.2.pick hp⟩ ?_ ?_
  · intro q hq
    rw [hpc] at hq
    exact (mem_cons_aerase hT.2.2.1 (e := p.2) hp).mpr hq
  · exact subset_of_eq_nil (unlinkedPc_eq_nil_of_done rfl _)

theorem stepOK_rangePick {todo : List (K × EId)} {acc : List (K × V)}
    (hR : R s a) (ht : t < s.pcs.length) (hpc : s.pc t = .rangePick todo acc) : StepOK menu s a t := by
  have hT := hR.thr t
  rw [hpc] at hT
  have hlin : isLin s.sh (s.pc t) (a.pcs t) = false := by rw [hpc]; rfl
  apply stepOK_of_internal hR ht (by rw [hpc]; nofun) (by rw [hpc]; exact fun _ => nofun)
    (fun _ _ hex => by rw [hpc] at hex; cases hex)
  intro x hx
  rw [hpc] at hx
  obtain ⟨p, hp, rfl⟩ := mem_picks_rangePick.mp hx
  refine R_quiet_same hR ht (.tau hlin) ⟨hT.1, hT.2.1, hT.2.2.pick hp⟩ ?_ ?_
  · rw [hpc]; exact List.nil_subset _
  · exact subset_of_eq_nil (unlinkedPc_eq_nil_of_done rfl _)

end TypVerif.Lemmas.Smc
