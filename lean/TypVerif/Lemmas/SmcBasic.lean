import TypVerif.Lemmas.SmcWitness
import TypVerif.Lemmas.SmcGS
import TypVerif.Lemmas.SyncMapAssoc
import TypVerif.Lemmas.ListSet
/-
C04 concurrent half, the library under every other `Smc*` file.  Its centre is `T_transfer`: what `T sh u pc a` depends on;
every argument about a goroutine other than the stepping one is an instance of it (`T_mono`, `KeepRead.T_bystander`, `T_congr`).
Within a section the lemmas that need no decidable equality come first, then those that compare keys, then values.
-/
namespace TypVerif.Lemmas.Smc
open TypVerif.Model TypVerif.Model.SyncMapConc TypVerif.Model.RelObj
open TypVerif.Model.SyncMap (alookup ainsert aerase akeys)
open TypVerif.Lemmas.SyncMap


section Assoc
variable {K β : Type}

@[simp] theorem akeys_nil : akeys ([] : List (K × β)) = [] := rfl

@[simp] theorem akeys_cons (p : K × β) (l : List (K × β)) : akeys (p :: l) = p.1 :: akeys l := rfl

@[simp] theorem akeys_append (l l' : List (K × β)) : akeys (l ++ l') = akeys l ++ akeys l' := by
  simp [akeys]

theorem mem_akeys_iff {k : K} {l : List (K × β)} : k ∈ akeys l ↔ ∃ e, (k, e) ∈ l := by
  unfold akeys
  constructor
  · intro h
    obtain ⟨p, hp, rfl⟩ := List.mem_map.mp h
    exact ⟨p.2, hp⟩
  · rintro ⟨e, he⟩
    exact List.mem_map.mpr ⟨(k, e), he, rfl⟩

theorem mem_akeys_of_mem {k : K} {e : β} {l : List (K × β)} (h : (k, e) ∈ l) : k ∈ akeys l :=
  mem_akeys_iff.mpr ⟨e, h⟩

theorem mem_akeys_of_mem' {p : K × β} {l : List (K × β)} (h : p ∈ l) : p.1 ∈ akeys l :=
  List.mem_map.mpr ⟨p, h, rfl⟩

variable [DecidableEq K]

theorem mem_iff_alookup {l : List (K × β)} (hn : (akeys l).Nodup) {k : K} {e : β} :
    (k, e) ∈ l ↔ alookup k l = some e :=
  ⟨alookup_of_mem hn, mem_of_alookup⟩

theorem mem_iff_alookup' {l : List (K × β)} (hn : (akeys l).Nodup) {p : K × β} :
    p ∈ l ↔ alookup p.1 l = some p.2 := by
  obtain ⟨k, e⟩ := p
  exact mem_iff_alookup hn

theorem alookup_of_mem' {l : List (K × β)} (hn : (akeys l).Nodup) {p : K × β} (h : p ∈ l) :
    alookup p.1 l = some p.2 :=
  (mem_iff_alookup' hn).mp h

theorem mem_akeys_of_alookup {k : K} {e : β} {l : List (K × β)} (h : alookup k l = some e) : k ∈ akeys l :=
  mem_akeys_of_mem (mem_of_alookup h)

theorem mem_akeys_iff_alookup {k : K} {l : List (K × β)} : k ∈ akeys l ↔ ∃ e, alookup k l = some e := by
  rw [← alookup_isSome_iff]
  cases alookup k l <;> simp

theorem mem_unique {l : List (K × β)} (hn : (akeys l).Nodup) {k : K} {e e' : β} (h : (k, e) ∈ l) (h' : (k, e') ∈ l) :
    e = e' := by
  have h1 := alookup_of_mem hn h
  have h2 := alookup_of_mem hn h'
  rw [h1] at h2
  exact Option.some.inj h2

theorem alookup_append (k : K) (l l' : List (K × β)) :
    alookup k (l ++ l') = (alookup k l).orElse (fun _ => alookup k l') := by
  induction l with
  | nil => simp
  | cons p rest ih =>
    obtain ⟨k0, b0⟩ := p
    simp only [List.cons_append, alookup_cons]
    by_cases h : k = k0
    · simp [h]
    · simp [h, ih]

theorem alookup_append_single (k k' : K) (b : β) (l : List (K × β)) :
    alookup k (l ++ [(k', b)]) = match alookup k l with
      | some x => some x
      | none => if k = k' then some b else none := by
  rw [alookup_append]
  cases alookup k l <;> simp [alookup_cons]

theorem akeys_ainsert_eq_of_none {k : K} {b : β} {l : List (K × β)} (h : alookup k l = none) :
    akeys (ainsert k b l) = akeys l ++ [k] := by
  rw [ainsert_of_none h]; simp

theorem mem_akeys_ainsert {k k' : K} {b : β} {l : List (K × β)} :
    k' ∈ akeys (ainsert k b l) ↔ k' = k ∨ k' ∈ akeys l := by
  rw [← alookup_isSome_iff, ← alookup_isSome_iff, alookup_ainsert]
  by_cases h : k' = k <;> simp [h]

theorem mem_ainsert_of_none {k : K} {b : β} {l : List (K × β)} (h : alookup k l = none) {p : K × β} :
    p ∈ ainsert k b l ↔ p ∈ l ∨ p = (k, b) := by
  rw [ainsert_of_none h]; simp

theorem mem_ainsert {k k' : K} {b b' : β} {l : List (K × β)} (hn : (akeys l).Nodup) :
    (k', b') ∈ ainsert k b l ↔ (k' = k ∧ b' = b) ∨ (k' ≠ k ∧ (k', b') ∈ l) := by
  rw [mem_iff_alookup (nodup_ainsert hn), alookup_ainsert, mem_iff_alookup hn]
  by_cases h : k' = k
  · simp [h, eq_comm]
  · simp [h]

theorem mem_aerase' {k : K} {l : List (K × β)} {p : K × β} : p ∈ aerase k l ↔ p ∈ l ∧ p.1 ≠ k := by
  unfold aerase
  simp [List.mem_filter]

theorem mem_of_mem_aerase {k : K} {l : List (K × β)} {p : K × β} (h : p ∈ aerase k l) : p ∈ l :=
  (mem_aerase'.mp h).1

theorem aerase_sublist (k : K) (l : List (K × β)) : (aerase k l).Sublist l := by
  unfold aerase
  exact List.filter_sublist

theorem akeys_aerase_sublist (k : K) (l : List (K × β)) : (akeys (aerase k l)).Sublist (akeys l) :=
  (aerase_sublist k l).map _

theorem mem_akeys_aerase {k k' : K} {l : List (K × β)} : k' ∈ akeys (aerase k l) ↔ k' ∈ akeys l ∧ k' ≠ k := by
  rw [← alookup_isSome_iff, ← alookup_isSome_iff, alookup_aerase]
  by_cases h : k' = k <;> simp [h]

@[simp] theorem alookup_aerase_self (k : K) (l : List (K × β)) : alookup k (aerase k l) = none := by
  rw [alookup_aerase]; simp

theorem alookup_aerase_ne {k k' : K} (h : k' ≠ k) (l : List (K × β)) : alookup k' (aerase k l) = alookup k' l := by
  rw [alookup_aerase]; simp [h]

theorem aerase_of_none {k : K} {l : List (K × β)} (h : alookup k l = none) : aerase k l = l := by
  unfold aerase
  rw [List.filter_eq_self]
  intro p hp
  have : p.1 ≠ k := by
    intro h1
    have := (alookup_eq_none_iff k l).mp h
    exact this (h1 ▸ mem_akeys_of_mem' hp)
  simp [this]

@[simp] theorem aerase_nil (k : K) : aerase k ([] : List (K × β)) = [] := rfl

theorem aerase_cons_self (k : K) (b : β) (l : List (K × β)) : aerase k ((k, b) :: l) = aerase k l := by
  simp [aerase]

theorem aerase_cons_ne {k k' : K} (h : k' ≠ k) (b : β) (l : List (K × β)) :
    aerase k ((k', b) :: l) = (k', b) :: aerase k l := by
  simp [aerase, h]

theorem length_aerase_le (k : K) (l : List (K × β)) : (aerase k l).length ≤ l.length :=
  (aerase_sublist k l).length_le

theorem perm_cons_aerase {k : K} {e : β} {l : List (K × β)} (hn : (akeys l).Nodup) (h : (k, e) ∈ l) :
    ((k, e) :: aerase k l).Perm l := by
  induction l with
  | nil => simp at h
  | cons p rest ih =>
    obtain ⟨k0, b0⟩ := p
    simp only [akeys_cons, List.nodup_cons] at hn
    by_cases h1 : k0 = k
    · subst h1
      have hb : e = b0 := by
        rcases List.mem_cons.mp h with h2 | h2
        · exact (Prod.mk.inj h2).2
        · exact absurd (mem_akeys_of_mem h2) hn.1
      subst hb
      rw [aerase_cons_self, aerase_of_none ((alookup_eq_none_iff _ _).mpr hn.1)]
    · rw [aerase_cons_ne h1]
      have h2 : (k, e) ∈ rest := by
        rcases List.mem_cons.mp h with h2 | h2
        · exact absurd (Prod.mk.inj h2).1.symm h1
        · exact h2
      exact (List.Perm.swap _ _ _).trans ((ih hn.2 h2).cons _)

theorem length_aerase_of_mem {k : K} {l : List (K × β)} (hn : (akeys l).Nodup) (h : k ∈ akeys l) :
    (aerase k l).length + 1 = l.length :=
  have ⟨_, he⟩ := mem_akeys_iff.mp h
  (perm_cons_aerase hn he).length_eq

theorem mem_cons_aerase {k : K} {e : β} {l : List (K × β)} (hn : (akeys l).Nodup) (h : (k, e) ∈ l) {p : K × β} :
    p ∈ (k, e) :: aerase k l ↔ p ∈ l :=
  (perm_cons_aerase hn h).mem_iff

theorem mem_akeys_cons_aerase {k k' : K} {e : β} {l : List (K × β)} (h : (k, e) ∈ l) :
    k' ∈ akeys ((k, e) :: aerase k l) ↔ k' ∈ akeys l := by
  simp only [akeys_cons, List.mem_cons, mem_akeys_aerase]
  constructor
  · rintro (h1 | h1)
    · exact h1 ▸ mem_akeys_of_mem h
    · exact h1.1
  · intro h1
    by_cases h2 : k' = k
    · exact Or.inl h2
    · exact Or.inr ⟨h1, h2⟩

theorem alookup_cons_aerase {k : K} {e : β} {l : List (K × β)} (hn : (akeys l).Nodup) (h : (k, e) ∈ l) (k' : K) :
    alookup k' ((k, e) :: aerase k l) = alookup k' l := by
  rw [alookup_cons, alookup_aerase]
  by_cases h1 : k' = k
  · subst h1; simp [alookup_of_mem hn h]
  · simp [h1]

theorem akeys_perm_cons_aerase {k : K} {e : β} {l : List (K × β)} (hn : (akeys l).Nodup) (h : (k, e) ∈ l) :
    (akeys ((k, e) :: aerase k l)).Perm (akeys l) :=
  (perm_cons_aerase hn h).map _

end Assoc


section Vals
variable {K : Type}

@[simp] theorem vals_nil : vals ([] : List (K × EId)) = [] := rfl

@[simp] theorem vals_cons (p : K × EId) (l : List (K × EId)) : vals (p :: l) = p.2 :: vals l := rfl

@[simp] theorem vals_append (l l' : List (K × EId)) : vals (l ++ l') = vals l ++ vals l' := by
  simp [vals]

@[simp] theorem length_vals (l : List (K × EId)) : (vals l).length = l.length := by simp [vals]

@[simp] theorem length_akeys {β : Type} (l : List (K × β)) : (akeys l).length = l.length := by simp [akeys]

theorem mem_vals_iff {e : EId} {l : List (K × EId)} : e ∈ vals l ↔ ∃ k, (k, e) ∈ l := by
  unfold vals
  constructor
  · intro h
    obtain ⟨p, hp, rfl⟩ := List.mem_map.mp h
    exact ⟨p.1, hp⟩
  · rintro ⟨k, hk⟩
    exact List.mem_map.mpr ⟨(k, e), hk, rfl⟩

theorem mem_vals_of_mem {k : K} {e : EId} {l : List (K × EId)} (h : (k, e) ∈ l) : e ∈ vals l :=
  mem_vals_iff.mpr ⟨k, h⟩

theorem mem_vals_of_mem' {p : K × EId} {l : List (K × EId)} (h : p ∈ l) : p.2 ∈ vals l :=
  List.mem_map.mpr ⟨p, h, rfl⟩

theorem not_mem_of_not_mem_vals {k : K} {e : EId} {l : List (K × EId)} (h : e ∉ vals l) : (k, e) ∉ l :=
  fun h1 => h (mem_vals_of_mem h1)

theorem key_unique_of_mem {l : List (K × EId)} (hv : (vals l).Nodup) {k k' : K} {e : EId}
    (h : (k, e) ∈ l) (h' : (k', e) ∈ l) : k = k' := by
  induction l with
  | nil => simp at h
  | cons p rest ih =>
    simp only [vals_cons, List.nodup_cons] at hv
    rcases List.mem_cons.mp h with h1 | h1 <;> rcases List.mem_cons.mp h' with h2 | h2
    · rw [← h2] at h1; exact (Prod.mk.inj h1).1
    · subst h1; exact absurd (mem_vals_of_mem h2) hv.1
    · subst h2; exact absurd (mem_vals_of_mem h1) hv.1
    · exact ih hv.2 h1 h2

variable [DecidableEq K]

theorem mem_vals_of_alookup {k : K} {e : EId} {l : List (K × EId)} (h : alookup k l = some e) : e ∈ vals l :=
  mem_vals_of_mem (mem_of_alookup h)

theorem mem_vals_iff_alookup {e : EId} {l : List (K × EId)} (hn : (akeys l).Nodup) :
    e ∈ vals l ↔ ∃ k, alookup k l = some e := by
  rw [mem_vals_iff]
  constructor
  · rintro ⟨k, hk⟩; exact ⟨k, alookup_of_mem hn hk⟩
  · rintro ⟨k, hk⟩; exact ⟨k, mem_of_alookup hk⟩

theorem alookup_inj {l : List (K × EId)} (hv : (vals l).Nodup) {k k' : K} {e : EId}
    (h : alookup k l = some e) (h' : alookup k' l = some e) : k = k' :=
  key_unique_of_mem hv (mem_of_alookup h) (mem_of_alookup h')

theorem vals_ainsert_of_none {k : K} {e : EId} {l : List (K × EId)} (h : alookup k l = none) :
    vals (ainsert k e l) = vals l ++ [e] := by
  rw [ainsert_of_none h]; simp

theorem mem_vals_ainsert_of_none {k : K} {e e' : EId} {l : List (K × EId)} (h : alookup k l = none) :
    e' ∈ vals (ainsert k e l) ↔ e' ∈ vals l ∨ e' = e := by
  rw [vals_ainsert_of_none h]; simp

/-- without any hypothesis: an insertion adds at most `e` -/
theorem mem_vals_ainsert {k : K} {e e' : EId} {l : List (K × EId)} (h : e' ∈ vals (ainsert k e l)) :
    e' = e ∨ e' ∈ vals l := by
  induction l with
  | nil => simp [ainsert] at h; exact Or.inl h
  | cons p rest ih =>
    obtain ⟨k0, b0⟩ := p
    unfold ainsert at h
    by_cases h1 : k = k0
    · simp only [h1, if_true, vals_cons, List.mem_cons] at h
      rcases h with h | h
      · exact Or.inl h
      · exact Or.inr (by simp [h])
    · simp only [h1, if_false, vals_cons, List.mem_cons] at h
      rcases h with h | h
      · exact Or.inr (by simp [h])
      · rcases ih h with h2 | h2
        · exact Or.inl h2
        · exact Or.inr (by simp [h2])

theorem mem_vals_ainsert_self (k : K) (e : EId) (l : List (K × EId)) : e ∈ vals (ainsert k e l) :=
  mem_vals_of_alookup (k := k) (by rw [alookup_ainsert]; simp)

theorem nodup_vals_ainsert_of_none {k : K} {e : EId} {l : List (K × EId)} (h : alookup k l = none)
    (he : e ∉ vals l) (hv : (vals l).Nodup) : (vals (ainsert k e l)).Nodup := by
  rw [vals_ainsert_of_none h, List.nodup_append]
  refine ⟨hv, by simp, ?_⟩
  intro a ha b hb
  simp only [List.mem_singleton] at hb
  subst hb
  intro hab
  exact he (hab ▸ ha)

theorem nodup_akeys_ainsert {β : Type} {k : K} {b : β} {l : List (K × β)} (hn : (akeys l).Nodup) :
    (akeys (ainsert k b l)).Nodup :=
  nodup_ainsert hn

theorem vals_aerase_sublist (k : K) (l : List (K × EId)) : (vals (aerase k l)).Sublist (vals l) :=
  (aerase_sublist k l).map _

theorem mem_vals_of_mem_vals_aerase {k : K} {e : EId} {l : List (K × EId)} (h : e ∈ vals (aerase k l)) : e ∈ vals l :=
  (vals_aerase_sublist k l).subset h

theorem nodup_vals_aerase {k : K} {l : List (K × EId)} (hv : (vals l).Nodup) : (vals (aerase k l)).Nodup :=
  (vals_aerase_sublist k l).nodup hv

theorem nodup_akeys_aerase {β : Type} {k : K} {l : List (K × β)} (hn : (akeys l).Nodup) : (akeys (aerase k l)).Nodup :=
  nodup_aerase hn

theorem mem_vals_aerase {k : K} {e : EId} {l : List (K × EId)} :
    e ∈ vals (aerase k l) ↔ ∃ k', k' ≠ k ∧ (k', e) ∈ l := by
  rw [mem_vals_iff]
  constructor
  · rintro ⟨k', hk'⟩
    have := mem_aerase'.mp hk'
    exact ⟨k', this.2, this.1⟩
  · rintro ⟨k', h1, h2⟩
    exact ⟨k', mem_aerase'.mpr ⟨h2, h1⟩⟩

theorem not_mem_vals_aerase_of_alookup {k : K} {e : EId} {l : List (K × EId)} (hv : (vals l).Nodup)
    (h : alookup k l = some e) : e ∉ vals (aerase k l) := by
  rw [mem_vals_aerase]
  rintro ⟨k', h1, h2⟩
  exact h1 (key_unique_of_mem hv h2 (mem_of_alookup h))

theorem mem_vals_aerase_of_ne {k : K} {e e' : EId} {l : List (K × EId)} (hn : (akeys l).Nodup)
    (h : alookup k l = some e) (hne : e' ≠ e) (h' : e' ∈ vals l) : e' ∈ vals (aerase k l) := by
  rw [mem_vals_aerase]
  obtain ⟨k', hk'⟩ := mem_vals_iff.mp h'
  refine ⟨k', ?_, hk'⟩
  intro h1
  subst h1
  exact hne (mem_unique hn hk' (mem_of_alookup h))

theorem mem_vals_cons_aerase {k : K} {e e' : EId} {l : List (K × EId)} (hn : (akeys l).Nodup) (h : (k, e) ∈ l) :
    e' ∈ vals ((k, e) :: aerase k l) ↔ e' ∈ vals l :=
  ((perm_cons_aerase hn h).map _).mem_iff

theorem nodup_vals_cons_aerase {k : K} {e : EId} {l : List (K × EId)} (hn : (akeys l).Nodup) (hv : (vals l).Nodup)
    (h : (k, e) ∈ l) : (vals ((k, e) :: aerase k l)).Nodup :=
  ((perm_cons_aerase hn h).map _).nodup_iff.mpr hv

end Vals


section Prim
variable {K V : Type}

@[simp] theorem setP_entries (sh : Shared K V) (e : EId) (p : Ptr V) : (setP sh e p).entries = sh.entries.set e p := rfl

@[simp] theorem setP_readM (sh : Shared K V) (e : EId) (p : Ptr V) : (setP sh e p).readM = sh.readM := rfl

@[simp] theorem setP_amended (sh : Shared K V) (e : EId) (p : Ptr V) : (setP sh e p).amended = sh.amended := rfl

@[simp] theorem setP_dirty (sh : Shared K V) (e : EId) (p : Ptr V) : (setP sh e p).dirty = sh.dirty := rfl

@[simp] theorem setP_misses (sh : Shared K V) (e : EId) (p : Ptr V) : (setP sh e p).misses = sh.misses := rfl

@[simp] theorem setP_mu (sh : Shared K V) (e : EId) (p : Ptr V) : (setP sh e p).mu = sh.mu := rfl

@[simp] theorem setP_nextPtr (sh : Shared K V) (e : EId) (p : Ptr V) : (setP sh e p).nextPtr = sh.nextPtr := rfl

@[simp] theorem setP_fault (sh : Shared K V) (e : EId) (p : Ptr V) : (setP sh e p).fault = sh.fault := rfl

@[simp] theorem setP_zst (sh : Shared K V) (e : EId) (p : Ptr V) : (setP sh e p).zst = sh.zst := rfl

@[simp] theorem storeVal_entries (sh : Shared K V) (e : EId) (v : V) : (storeVal sh e v).entries = sh.entries.set e (.val (freshId sh) v) := rfl

@[simp] theorem storeVal_readM (sh : Shared K V) (e : EId) (v : V) : (storeVal sh e v).readM = sh.readM := rfl

@[simp] theorem storeVal_amended (sh : Shared K V) (e : EId) (v : V) : (storeVal sh e v).amended = sh.amended := rfl

@[simp] theorem storeVal_dirty (sh : Shared K V) (e : EId) (v : V) : (storeVal sh e v).dirty = sh.dirty := rfl

@[simp] theorem storeVal_misses (sh : Shared K V) (e : EId) (v : V) : (storeVal sh e v).misses = sh.misses := rfl

@[simp] theorem storeVal_mu (sh : Shared K V) (e : EId) (v : V) : (storeVal sh e v).mu = sh.mu := rfl

@[simp] theorem storeVal_nextPtr (sh : Shared K V) (e : EId) (v : V) : (storeVal sh e v).nextPtr = sh.nextPtr + 1 := rfl

@[simp] theorem storeVal_fault (sh : Shared K V) (e : EId) (v : V) : (storeVal sh e v).fault = sh.fault := rfl

@[simp] theorem storeVal_zst (sh : Shared K V) (e : EId) (v : V) : (storeVal sh e v).zst = sh.zst := rfl

@[simp] theorem unlock_entries (sh : Shared K V) : (unlock sh).entries = sh.entries := rfl

@[simp] theorem unlock_readM (sh : Shared K V) : (unlock sh).readM = sh.readM := rfl

@[simp] theorem unlock_amended (sh : Shared K V) : (unlock sh).amended = sh.amended := rfl

@[simp] theorem unlock_dirty (sh : Shared K V) : (unlock sh).dirty = sh.dirty := rfl

@[simp] theorem unlock_misses (sh : Shared K V) : (unlock sh).misses = sh.misses := rfl

@[simp] theorem unlock_mu (sh : Shared K V) : (unlock sh).mu = none := rfl

@[simp] theorem unlock_nextPtr (sh : Shared K V) : (unlock sh).nextPtr = sh.nextPtr := rfl

@[simp] theorem unlock_fault (sh : Shared K V) : (unlock sh).fault = sh.fault := rfl

@[simp] theorem unlock_zst (sh : Shared K V) : (unlock sh).zst = sh.zst := rfl

@[simp] theorem promote_entries (sh : Shared K V) : (promote sh).entries = sh.entries := rfl

@[simp] theorem promote_readM (sh : Shared K V) : (promote sh).readM = dirtyMap sh := rfl

@[simp] theorem promote_amended (sh : Shared K V) : (promote sh).amended = false := rfl

@[simp] theorem promote_dirty (sh : Shared K V) : (promote sh).dirty = none := rfl

@[simp] theorem promote_misses (sh : Shared K V) : (promote sh).misses = 0 := rfl

@[simp] theorem promote_mu (sh : Shared K V) : (promote sh).mu = sh.mu := rfl

@[simp] theorem promote_nextPtr (sh : Shared K V) : (promote sh).nextPtr = sh.nextPtr := rfl

@[simp] theorem promote_fault (sh : Shared K V) : (promote sh).fault = sh.fault := rfl

@[simp] theorem promote_zst (sh : Shared K V) : (promote sh).zst = sh.zst := rfl

@[simp] theorem missStep_fst_entries (sh : Shared K V) : (missStep sh).1.entries = sh.entries := rfl

@[simp] theorem missStep_fst_readM (sh : Shared K V) : (missStep sh).1.readM = sh.readM := rfl

@[simp] theorem missStep_fst_amended (sh : Shared K V) : (missStep sh).1.amended = sh.amended := rfl

@[simp] theorem missStep_fst_dirty (sh : Shared K V) : (missStep sh).1.dirty = sh.dirty := rfl

@[simp] theorem missStep_fst_misses (sh : Shared K V) : (missStep sh).1.misses = sh.misses + 1 := rfl

@[simp] theorem missStep_fst_mu (sh : Shared K V) : (missStep sh).1.mu = sh.mu := rfl

@[simp] theorem missStep_fst_nextPtr (sh : Shared K V) : (missStep sh).1.nextPtr = sh.nextPtr := rfl

@[simp] theorem missStep_fst_fault (sh : Shared K V) : (missStep sh).1.fault = sh.fault := rfl

@[simp] theorem missStep_fst_zst (sh : Shared K V) : (missStep sh).1.zst = sh.zst := rfl

@[simp] theorem missStep_snd (sh : Shared K V) :
    (missStep sh).2 = !(decide (sh.misses + 1 < (dirtyMap sh).length)) := rfl

theorem missStep_fst_eq (sh : Shared K V) : (missStep sh).1 = { sh with misses := sh.misses + 1 } := rfl

@[simp] theorem setP_entries_length (sh : Shared K V) (e : EId) (p : Ptr V) :
    (setP sh e p).entries.length = sh.entries.length := by simp

@[simp] theorem storeVal_entries_length (sh : Shared K V) (e : EId) (v : V) :
    (storeVal sh e v).entries.length = sh.entries.length := by simp

theorem dirtyMap_of_some {sh : Shared K V} {d : List (K × EId)} (h : sh.dirty = some d) : dirtyMap sh = d := by
  simp [dirtyMap, h]

theorem dirtyMap_of_none {sh : Shared K V} (h : sh.dirty = none) : dirtyMap sh = [] := by
  simp [dirtyMap, h]

theorem dirty_eq_some_dirtyMap {sh : Shared K V} (h : sh.dirty.isSome = true) : sh.dirty = some (dirtyMap sh) := by
  unfold dirtyMap; cases hd : sh.dirty <;> simp [hd] at h ⊢

theorem dirty_isSome_of_mem_dirtyMap {sh : Shared K V} {p : K × EId} (h : p ∈ dirtyMap sh) : sh.dirty.isSome = true := by
  unfold dirtyMap at h; cases hd : sh.dirty <;> simp [hd] at h ⊢

theorem dirty_isSome_of_mem_vals_dirtyMap {sh : Shared K V} {e : EId} (h : e ∈ vals (dirtyMap sh)) :
    sh.dirty.isSome = true := by
  obtain ⟨k, hk⟩ := mem_vals_iff.mp h
  exact dirty_isSome_of_mem_dirtyMap hk

theorem dirtyMap_congr {sh sh' : Shared K V} (h : sh'.dirty = sh.dirty) : dirtyMap sh' = dirtyMap sh := by
  unfold dirtyMap; rw [h]

@[simp] theorem dirtyMap_setP (sh : Shared K V) (e : EId) (p : Ptr V) : dirtyMap (setP sh e p) = dirtyMap sh := rfl

@[simp] theorem dirtyMap_storeVal (sh : Shared K V) (e : EId) (v : V) : dirtyMap (storeVal sh e v) = dirtyMap sh := rfl

@[simp] theorem dirtyMap_unlock (sh : Shared K V) : dirtyMap (unlock sh) = dirtyMap sh := rfl

@[simp] theorem dirtyMap_missStep_fst (sh : Shared K V) : dirtyMap (missStep sh).1 = dirtyMap sh := rfl

@[simp] theorem dirtyMap_promote (sh : Shared K V) : dirtyMap (promote sh) = [] := rfl

/-! record updates performed inline by `exec` -/

@[simp] theorem dirtyMap_mu_update (sh : Shared K V) (m : Option Tid) : dirtyMap { sh with mu := m } = dirtyMap sh := rfl

@[simp] theorem dirtyMap_dirty_nil (sh : Shared K V) : dirtyMap { sh with dirty := some [] } = [] := rfl

@[simp] theorem dirtyMap_dirty_update (sh : Shared K V) (d : List (K × EId)) : dirtyMap { sh with dirty := some d } = d := rfl

@[simp] theorem dirtyMap_readStore_update (sh : Shared K V) (rm : List (K × EId)) (b : Bool) :
    dirtyMap { sh with readM := rm, amended := b } = dirtyMap sh := rfl

@[simp] theorem dirtyMap_misses_update (sh : Shared K V) (n : Nat) : dirtyMap { sh with misses := n } = dirtyMap sh := rfl

@[simp] theorem dirtyMap_fault_update (sh : Shared K V) (b : Bool) : dirtyMap { sh with fault := b } = dirtyMap sh := rfl

@[simp] theorem dirtyMap_rangeStore_update (sh : Shared K V) (dm : List (K × EId)) :
    dirtyMap { sh with readM := dm, amended := false, dirty := none, misses := 0 } = [] := rfl

/-- the inline promotion of `Range` is `promote` (its `T` says `dm = dirtyMap sh`) -/
theorem promote_eq (sh : Shared K V) :
    promote sh = { sh with readM := dirtyMap sh, amended := false, dirty := none, misses := 0 } := rfl

theorem getP_congr {sh sh' : Shared K V} (h : sh'.entries = sh.entries) (e : EId) : getP sh' e = getP sh e := by
  unfold getP; rw [h]

theorem getP_eq_getElem {sh : Shared K V} {e : EId} (h : e < sh.entries.length) : getP sh e = sh.entries[e] := by
  simp [getP, List.getD_eq_getElem?_getD, h]

theorem getP_of_le {sh : Shared K V} {e : EId} (h : sh.entries.length ≤ e) : getP sh e = .nil := by
  simp [getP, List.getD_eq_getElem?_getD, h]

theorem lt_length_of_getP_ne_nil {sh : Shared K V} {e : EId} (h : getP sh e ≠ .nil) : e < sh.entries.length := by
  apply Classical.byContradiction
  intro h1
  exact h (getP_of_le (Nat.le_of_not_lt h1))

theorem getP_setP (sh : Shared K V) (e e' : EId) (p : Ptr V) :
    getP (setP sh e p) e' = if e' = e ∧ e < sh.entries.length then p else getP sh e' :=
  getD_set sh.entries e e' p .nil

theorem getP_setP_self {sh : Shared K V} {e : EId} (h : e < sh.entries.length) (p : Ptr V) : getP (setP sh e p) e = p := by
  rw [getP_setP]; simp [h]

theorem getP_setP_ne {sh : Shared K V} {e e' : EId} (h : e' ≠ e) (p : Ptr V) : getP (setP sh e p) e' = getP sh e' := by
  rw [getP_setP]; simp [h]

theorem getP_storeVal (sh : Shared K V) (e e' : EId) (v : V) :
    getP (storeVal sh e v) e' = if e' = e ∧ e < sh.entries.length then .val (freshId sh) v else getP sh e' :=
  getP_setP sh e e' (.val (freshId sh) v)

theorem getP_storeVal_self {sh : Shared K V} {e : EId} (h : e < sh.entries.length) (v : V) :
    getP (storeVal sh e v) e = .val (freshId sh) v := by
  rw [getP_storeVal]; simp [h]

theorem getP_storeVal_ne {sh : Shared K V} {e e' : EId} (h : e' ≠ e) (v : V) : getP (storeVal sh e v) e' = getP sh e' := by
  rw [getP_storeVal]; simp [h]

@[simp] theorem getP_unlock (sh : Shared K V) (e' : EId) : getP (unlock sh) e' = getP sh e' := rfl

@[simp] theorem getP_promote (sh : Shared K V) (e' : EId) : getP (promote sh) e' = getP sh e' := rfl

@[simp] theorem getP_missStep_fst (sh : Shared K V) (e' : EId) : getP (missStep sh).1 e' = getP sh e' := rfl

@[simp] theorem getP_mu_update (sh : Shared K V) (m : Option Tid) (e : EId) : getP { sh with mu := m } e = getP sh e := rfl

@[simp] theorem getP_dirty_update (sh : Shared K V) (d : Option (List (K × EId))) (e : EId) :
    getP { sh with dirty := d } e = getP sh e := rfl

@[simp] theorem getP_readStore_update (sh : Shared K V) (rm : List (K × EId)) (b : Bool) (e : EId) :
    getP { sh with readM := rm, amended := b } e = getP sh e := rfl

@[simp] theorem getP_misses_update (sh : Shared K V) (n : Nat) (e : EId) : getP { sh with misses := n } e = getP sh e := rfl

@[simp] theorem getP_fault_update (sh : Shared K V) (b : Bool) (e : EId) : getP { sh with fault := b } e = getP sh e := rfl

@[simp] theorem getP_rangeStore_update (sh : Shared K V) (dm : List (K × EId)) (e : EId) :
    getP { sh with readM := dm, amended := false, dirty := none, misses := 0 } e = getP sh e := rfl

@[simp] theorem freshId_setP (sh : Shared K V) (e : EId) (p : Ptr V) : freshId (setP sh e p) = freshId sh := rfl

@[simp] theorem freshId_unlock (sh : Shared K V) : freshId (unlock sh) = freshId sh := rfl

@[simp] theorem freshId_promote (sh : Shared K V) : freshId (promote sh) = freshId sh := rfl

@[simp] theorem freshId_missStep_fst (sh : Shared K V) : freshId (missStep sh).1 = freshId sh := rfl

@[simp] theorem freshId_mu_update (sh : Shared K V) (m : Option Tid) : freshId { sh with mu := m } = freshId sh := rfl

theorem freshId_storeVal (sh : Shared K V) (e : EId) (v : V) :
    freshId (storeVal sh e v) = if sh.zst then 0 else sh.nextPtr + 1 := rfl

@[simp] theorem setPc_sh (s : State K V) (t : Tid) (sh : Shared K V) (pc : Pc K V) : (setPc s t sh pc).sh = sh := rfl

@[simp] theorem setPc_pcs (s : State K V) (t : Tid) (sh : Shared K V) (pc : Pc K V) :
    (setPc s t sh pc).pcs = s.pcs.set t pc := rfl

theorem setPc_pcs_length (s : State K V) (t : Tid) (sh : Shared K V) (pc : Pc K V) :
    (setPc s t sh pc).pcs.length = s.pcs.length := by simp

theorem pc_setPc (s : State K V) (t u : Tid) (sh : Shared K V) (pc : Pc K V) :
    (setPc s t sh pc).pc u = if u = t ∧ t < s.pcs.length then pc else s.pc u :=
  getD_set s.pcs t u pc .idle

theorem pc_setPc_self {s : State K V} {t : Tid} (h : t < s.pcs.length) (sh : Shared K V) (pc : Pc K V) :
    (setPc s t sh pc).pc t = pc := by
  rw [pc_setPc]; simp [h]

theorem pc_setPc_ne {s : State K V} {t u : Tid} (h : u ≠ t) (sh : Shared K V) (pc : Pc K V) :
    (setPc s t sh pc).pc u = s.pc u := by
  rw [pc_setPc]; simp [h]

theorem pc_of_le {s : State K V} {u : Tid} (h : s.pcs.length ≤ u) : s.pc u = .idle := by
  simp [State.pc, List.getD_eq_getElem?_getD, h]

theorem pc_eq_getElem {s : State K V} {u : Tid} (h : u < s.pcs.length) : s.pc u = s.pcs[u] := by
  simp [State.pc, List.getD_eq_getElem?_getD, h]

theorem lt_length_of_pc_ne_idle {s : State K V} {u : Tid} (h : s.pc u ≠ .idle) : u < s.pcs.length := by
  apply Classical.byContradiction
  intro h1
  exact h (pc_of_le (Nat.le_of_not_lt h1))

@[simp] theorem isVal_nil : isVal (Ptr.nil : Ptr V) = false := rfl

@[simp] theorem isVal_expunged : isVal (Ptr.expunged : Ptr V) = false := rfl

@[simp] theorem isVal_val (i : Nat) (v : V) : isVal (Ptr.val i v) = true := rfl

@[simp] theorem value?_nil : (Ptr.nil : Ptr V).value? = none := rfl

@[simp] theorem value?_expunged : (Ptr.expunged : Ptr V).value? = none := rfl

@[simp] theorem value?_val (i : Nat) (v : V) : (Ptr.val i v).value? = some v := rfl

@[simp] theorem isExpunged_nil : (Ptr.nil : Ptr V).isExpunged = false := rfl

@[simp] theorem isExpunged_expunged : (Ptr.expunged : Ptr V).isExpunged = true := rfl

@[simp] theorem isExpunged_val (i : Nat) (v : V) : (Ptr.val i v).isExpunged = false := rfl

@[simp] theorem isNil_nil : (Ptr.nil : Ptr V).isNil = true := rfl

@[simp] theorem isNil_expunged : (Ptr.expunged : Ptr V).isNil = false := rfl

@[simp] theorem isNil_val (i : Nat) (v : V) : (Ptr.val i v).isNil = false := rfl

theorem isNil_iff {p : Ptr V} : p.isNil = true ↔ p = .nil := by cases p <;> simp

theorem isExpunged_iff {p : Ptr V} : p.isExpunged = true ↔ p = .expunged := by cases p <;> simp

theorem isVal_iff {p : Ptr V} : isVal p = true ↔ ∃ i v, p = .val i v := by cases p <;> simp

theorem isVal_iff_value? {p : Ptr V} : isVal p = true ↔ ∃ v, p.value? = some v := by cases p <;> simp

theorem value?_eq_some_iff {p : Ptr V} {v : V} : p.value? = some v ↔ ∃ i, p = .val i v := by cases p <;> simp

theorem not_isExpunged_of_isVal {p : Ptr V} (h : isVal p = true) : p.isExpunged = false := by cases p <;> simp at h ⊢

theorem not_isExpunged_of_isNil {p : Ptr V} (h : p.isNil = true) : p.isExpunged = false := by cases p <;> simp at h ⊢

theorem not_isNil_of_isVal {p : Ptr V} (h : isVal p = true) : p.isNil = false := by cases p <;> simp at h ⊢

theorem value?_none_of_isExpunged {p : Ptr V} (h : p.isExpunged = true) : p.value? = none := by cases p <;> simp at h ⊢

theorem value?_none_of_isNil {p : Ptr V} (h : p.isNil = true) : p.value? = none := by cases p <;> simp at h ⊢

theorem isVal_eq_value?_isSome (p : Ptr V) : isVal p = p.value?.isSome := rfl

theorem same_isExpunged {p q : Ptr V} (h : p.same q = true) : p.isExpunged = q.isExpunged := by
  cases p <;> cases q <;> simp [Ptr.same] at h ⊢

theorem same_isNil {p q : Ptr V} (h : p.same q = true) : p.isNil = q.isNil := by
  cases p <;> cases q <;> simp [Ptr.same] at h ⊢

theorem same_isVal {p q : Ptr V} (h : p.same q = true) : isVal p = isVal q := by
  cases p <;> cases q <;> simp [Ptr.same] at h ⊢

@[simp] theorem same_self (p : Ptr V) : p.same p = true := by cases p <;> simp [Ptr.same]

/-! ### `setDirty`, `delDirty`, `addNew`: the primitives that compare keys -/
variable [DecidableEq K]

@[simp] theorem setDirty_entries (sh : Shared K V) (k : K) (e : EId) : (setDirty sh k e).entries = sh.entries := by unfold setDirty; cases sh.dirty <;> simp

@[simp] theorem setDirty_readM (sh : Shared K V) (k : K) (e : EId) : (setDirty sh k e).readM = sh.readM := by unfold setDirty; cases sh.dirty <;> simp

@[simp] theorem setDirty_amended (sh : Shared K V) (k : K) (e : EId) : (setDirty sh k e).amended = sh.amended := by unfold setDirty; cases sh.dirty <;> simp

@[simp] theorem setDirty_dirty (sh : Shared K V) (k : K) (e : EId) : (setDirty sh k e).dirty = sh.dirty.map (ainsert k e) := by unfold setDirty; cases sh.dirty <;> simp

@[simp] theorem setDirty_misses (sh : Shared K V) (k : K) (e : EId) : (setDirty sh k e).misses = sh.misses := by unfold setDirty; cases sh.dirty <;> simp

@[simp] theorem setDirty_mu (sh : Shared K V) (k : K) (e : EId) : (setDirty sh k e).mu = sh.mu := by unfold setDirty; cases sh.dirty <;> simp

@[simp] theorem setDirty_nextPtr (sh : Shared K V) (k : K) (e : EId) : (setDirty sh k e).nextPtr = sh.nextPtr := by unfold setDirty; cases sh.dirty <;> simp

@[simp] theorem setDirty_fault (sh : Shared K V) (k : K) (e : EId) : (setDirty sh k e).fault = (sh.fault || sh.dirty.isNone) := by unfold setDirty; cases sh.dirty <;> simp

@[simp] theorem setDirty_zst (sh : Shared K V) (k : K) (e : EId) : (setDirty sh k e).zst = sh.zst := by unfold setDirty; cases sh.dirty <;> simp

@[simp] theorem delDirty_entries (sh : Shared K V) (k : K) : (delDirty sh k).entries = sh.entries := rfl

@[simp] theorem delDirty_readM (sh : Shared K V) (k : K) : (delDirty sh k).readM = sh.readM := rfl

@[simp] theorem delDirty_amended (sh : Shared K V) (k : K) : (delDirty sh k).amended = sh.amended := rfl

@[simp] theorem delDirty_dirty (sh : Shared K V) (k : K) : (delDirty sh k).dirty = sh.dirty.map (aerase k) := rfl

@[simp] theorem delDirty_misses (sh : Shared K V) (k : K) : (delDirty sh k).misses = sh.misses := rfl

@[simp] theorem delDirty_mu (sh : Shared K V) (k : K) : (delDirty sh k).mu = sh.mu := rfl

@[simp] theorem delDirty_nextPtr (sh : Shared K V) (k : K) : (delDirty sh k).nextPtr = sh.nextPtr := rfl

@[simp] theorem delDirty_fault (sh : Shared K V) (k : K) : (delDirty sh k).fault = sh.fault := rfl

@[simp] theorem delDirty_zst (sh : Shared K V) (k : K) : (delDirty sh k).zst = sh.zst := rfl

@[simp] theorem addNew_entries (sh : Shared K V) (k : K) (v : V) : (addNew sh k v).entries = sh.entries ++ [.val (freshId sh) v] := by simp [addNew]

@[simp] theorem addNew_readM (sh : Shared K V) (k : K) (v : V) : (addNew sh k v).readM = sh.readM := by simp [addNew]

@[simp] theorem addNew_amended (sh : Shared K V) (k : K) (v : V) : (addNew sh k v).amended = sh.amended := by simp [addNew]

@[simp] theorem addNew_dirty (sh : Shared K V) (k : K) (v : V) : (addNew sh k v).dirty = sh.dirty.map (ainsert k sh.entries.length) := by simp [addNew]

@[simp] theorem addNew_misses (sh : Shared K V) (k : K) (v : V) : (addNew sh k v).misses = sh.misses := by simp [addNew]

@[simp] theorem addNew_mu (sh : Shared K V) (k : K) (v : V) : (addNew sh k v).mu = sh.mu := by simp [addNew]

@[simp] theorem addNew_nextPtr (sh : Shared K V) (k : K) (v : V) : (addNew sh k v).nextPtr = sh.nextPtr + 1 := by simp [addNew]

@[simp] theorem addNew_fault (sh : Shared K V) (k : K) (v : V) : (addNew sh k v).fault = (sh.fault || sh.dirty.isNone) := by simp [addNew]

@[simp] theorem addNew_zst (sh : Shared K V) (k : K) (v : V) : (addNew sh k v).zst = sh.zst := by simp [addNew]

@[simp] theorem addNew_entries_length (sh : Shared K V) (k : K) (v : V) :
    (addNew sh k v).entries.length = sh.entries.length + 1 := by simp

theorem dirty_isSome_of_alookup_dirtyMap {sh : Shared K V} {k : K} {e : EId} (h : alookup k (dirtyMap sh) = some e) :
    sh.dirty.isSome = true :=
  dirty_isSome_of_mem_dirtyMap (mem_of_alookup h)

@[simp] theorem dirtyMap_delDirty (sh : Shared K V) (k : K) : dirtyMap (delDirty sh k) = aerase k (dirtyMap sh) := by
  unfold dirtyMap; cases h : sh.dirty <;> simp [delDirty, h]

theorem dirtyMap_setDirty (sh : Shared K V) (k : K) (e : EId) :
    dirtyMap (setDirty sh k e) = if sh.dirty.isSome then ainsert k e (dirtyMap sh) else [] := by
  unfold dirtyMap; cases h : sh.dirty <;> simp [h]

theorem dirtyMap_setDirty_of_some {sh : Shared K V} {d : List (K × EId)} (h : sh.dirty = some d) (k : K) (e : EId) :
    dirtyMap (setDirty sh k e) = ainsert k e d := by
  simp [dirtyMap, h]

theorem dirtyMap_setDirty_of_isSome {sh : Shared K V} (h : sh.dirty.isSome = true) (k : K) (e : EId) :
    dirtyMap (setDirty sh k e) = ainsert k e (dirtyMap sh) := by
  rw [dirtyMap_setDirty, h]; simp

theorem dirtyMap_addNew (sh : Shared K V) (k : K) (v : V) :
    dirtyMap (addNew sh k v) = if sh.dirty.isSome then ainsert k sh.entries.length (dirtyMap sh) else [] := by
  unfold dirtyMap; cases h : sh.dirty <;> simp [h]

theorem dirtyMap_addNew_of_some {sh : Shared K V} {d : List (K × EId)} (h : sh.dirty = some d) (k : K) (v : V) :
    dirtyMap (addNew sh k v) = ainsert k sh.entries.length d := by
  simp [dirtyMap, h]

theorem dirtyMap_addNew_of_isSome {sh : Shared K V} (h : sh.dirty.isSome = true) (k : K) (v : V) :
    dirtyMap (addNew sh k v) = ainsert k sh.entries.length (dirtyMap sh) := by
  rw [dirtyMap_addNew, h]; simp

theorem setDirty_of_some {sh : Shared K V} {d : List (K × EId)} (h : sh.dirty = some d) (k : K) (e : EId) :
    setDirty sh k e = { sh with dirty := some (ainsert k e d) } := by
  unfold setDirty; rw [h]

theorem setDirty_of_none {sh : Shared K V} (h : sh.dirty = none) (k : K) (e : EId) :
    setDirty sh k e = { sh with fault := true } := by
  unfold setDirty; rw [h]

theorem setDirty_fault_of_isSome {sh : Shared K V} (h : sh.dirty.isSome = true) (k : K) (e : EId) :
    (setDirty sh k e).fault = sh.fault := by
  cases hd : sh.dirty <;> simp [hd] at h ⊢

theorem addNew_fault_of_isSome {sh : Shared K V} (h : sh.dirty.isSome = true) (k : K) (v : V) :
    (addNew sh k v).fault = sh.fault := by
  cases hd : sh.dirty <;> simp [hd] at h ⊢

theorem setDirty_dirty_isSome (sh : Shared K V) (k : K) (e : EId) : (setDirty sh k e).dirty.isSome = sh.dirty.isSome := by
  simp

theorem addNew_dirty_isSome (sh : Shared K V) (k : K) (v : V) : (addNew sh k v).dirty.isSome = sh.dirty.isSome := by
  simp

theorem delDirty_dirty_isSome (sh : Shared K V) (k : K) : (delDirty sh k).dirty.isSome = sh.dirty.isSome := by
  simp

@[simp] theorem getP_setDirty (sh : Shared K V) (k : K) (e e' : EId) : getP (setDirty sh k e) e' = getP sh e' :=
  getP_congr (by simp) e'

@[simp] theorem getP_delDirty (sh : Shared K V) (k : K) (e' : EId) : getP (delDirty sh k) e' = getP sh e' := rfl

theorem getP_addNew (sh : Shared K V) (k : K) (v : V) (e' : EId) :
    getP (addNew sh k v) e' = if e' = sh.entries.length then .val (freshId sh) v else getP sh e' := by
  have h : getP (addNew sh k v) e' = (sh.entries ++ [Ptr.val (freshId sh) v]).getD e' .nil := by
    unfold getP; rw [addNew_entries]
  rw [h]
  unfold getP
  simp only [List.getD_eq_getElem?_getD]
  by_cases h1 : e' < sh.entries.length
  · rw [List.getElem?_append_left h1]
    have : ¬ e' = sh.entries.length := Nat.ne_of_lt h1
    simp [this]
  · by_cases h2 : e' = sh.entries.length
    · subst h2; simp
    · have h3 : sh.entries.length < e' := Nat.lt_of_le_of_ne (Nat.le_of_not_lt h1) (Ne.symm h2)
      have h4 : (sh.entries ++ [Ptr.val (freshId sh) v])[e']? = none :=
        List.getElem?_eq_none (by simp; omega)
      have h5 : sh.entries[e']? = none := List.getElem?_eq_none (by omega)
      rw [h4, h5]; simp [h2]

theorem getP_addNew_of_lt {sh : Shared K V} {e' : EId} (h : e' < sh.entries.length) (k : K) (v : V) :
    getP (addNew sh k v) e' = getP sh e' := by
  rw [getP_addNew]; simp [Nat.ne_of_lt h]

theorem getP_addNew_ne {sh : Shared K V} {e' : EId} (h : e' ≠ sh.entries.length) (k : K) (v : V) :
    getP (addNew sh k v) e' = getP sh e' := by
  rw [getP_addNew]; simp [h]

@[simp] theorem getP_addNew_new (sh : Shared K V) (k : K) (v : V) :
    getP (addNew sh k v) sh.entries.length = .val (freshId sh) v := by
  rw [getP_addNew]; simp

@[simp] theorem freshId_setDirty (sh : Shared K V) (k : K) (e : EId) : freshId (setDirty sh k e) = freshId sh := by
  simp [freshId]

@[simp] theorem freshId_delDirty (sh : Shared K V) (k : K) : freshId (delDirty sh k) = freshId sh := rfl

theorem freshId_addNew (sh : Shared K V) (k : K) (v : V) :
    freshId (addNew sh k v) = if sh.zst then 0 else sh.nextPtr + 1 := by
  simp [freshId]

end Prim


section Frame
variable {K V : Type}

/-- `sh'` and `sh` have the same entries and the same maps; they may differ in `mu`, `misses`, `nextPtr`, `fault`,
`zst` (lock, unlock, the non-promoting `missStep`) -/
structure SameData (sh' sh : Shared K V) : Prop where
  entries : sh'.entries = sh.entries
  readM : sh'.readM = sh.readM
  amended : sh'.amended = sh.amended
  dirty : sh'.dirty = sh.dirty

theorem SameData.refl (sh : Shared K V) : SameData sh sh := ⟨rfl, rfl, rfl, rfl⟩

theorem SameData.symm {sh sh' : Shared K V} (h : SameData sh' sh) : SameData sh sh' :=
  ⟨h.entries.symm, h.readM.symm, h.amended.symm, h.dirty.symm⟩

theorem SameData.trans {sh sh' sh'' : Shared K V} (h : SameData sh'' sh') (h' : SameData sh' sh) : SameData sh'' sh :=
  ⟨h.entries.trans h'.entries, h.readM.trans h'.readM, h.amended.trans h'.amended, h.dirty.trans h'.dirty⟩

theorem SameData.getP {sh sh' : Shared K V} (h : SameData sh' sh) (e : EId) : getP sh' e = getP sh e :=
  getP_congr h.entries e

theorem SameData.dirtyMap {sh sh' : Shared K V} (h : SameData sh' sh) : dirtyMap sh' = dirtyMap sh :=
  dirtyMap_congr h.dirty

theorem SameData.length {sh sh' : Shared K V} (h : SameData sh' sh) : sh'.entries.length = sh.entries.length := by
  rw [h.entries]

@[simp] theorem sameData_unlock (sh : Shared K V) : SameData (unlock sh) sh := ⟨rfl, rfl, rfl, rfl⟩

@[simp] theorem sameData_mu_update (sh : Shared K V) (m : Option Tid) : SameData { sh with mu := m } sh :=
  ⟨rfl, rfl, rfl, rfl⟩

@[simp] theorem sameData_missStep_fst (sh : Shared K V) : SameData (missStep sh).1 sh := ⟨rfl, rfl, rfl, rfl⟩

@[simp] theorem sameData_unlock_missStep_fst (sh : Shared K V) : SameData (unlock (missStep sh).1) sh :=
  ⟨rfl, rfl, rfl, rfl⟩

@[simp] theorem sameData_misses_update (sh : Shared K V) (n : Nat) : SameData { sh with misses := n } sh :=
  ⟨rfl, rfl, rfl, rfl⟩

@[simp] theorem sameData_fault_update (sh : Shared K V) (b : Bool) : SameData { sh with fault := b } sh :=
  ⟨rfl, rfl, rfl, rfl⟩

theorem SameData.unlock_left {sh sh' : Shared K V} (h : SameData sh' sh) : SameData (unlock sh') sh :=
  (sameData_unlock sh').trans h

theorem Dead_congr {sh sh' : Shared K V} (h : SameData sh' sh) (e : EId) : Dead sh' e ↔ Dead sh e := by
  unfold Dead; rw [h.getP, h.readM, h.dirtyMap]

theorem Orphan_congr {sh sh' : Shared K V} (h : SameData sh' sh) (e : EId) : Orphan sh' e ↔ Orphan sh e := by
  unfold Orphan; rw [h.getP, h.readM, h.dirtyMap]

theorem Own_unlock (sh : Shared K V) (t : Tid) : ¬ Own (unlock sh) t := by simp [Own]

@[simp] theorem Own_mu_update (sh : Shared K V) (m : Option Tid) (t : Tid) : Own { sh with mu := m } t ↔ m = some t :=
  Iff.rfl

@[simp] theorem Own_setP (sh : Shared K V) (e : EId) (p : Ptr V) (t : Tid) : Own (setP sh e p) t ↔ Own sh t := Iff.rfl

@[simp] theorem Own_storeVal (sh : Shared K V) (e : EId) (v : V) (t : Tid) : Own (storeVal sh e v) t ↔ Own sh t :=
  Iff.rfl

@[simp] theorem Own_promote (sh : Shared K V) (t : Tid) : Own (promote sh) t ↔ Own sh t := Iff.rfl

@[simp] theorem Own_missStep_fst (sh : Shared K V) (t : Tid) : Own (missStep sh).1 t ↔ Own sh t := Iff.rfl

theorem Own_congr {sh sh' : Shared K V} (h : sh'.mu = sh.mu) (t : Tid) : Own sh' t ↔ Own sh t := by
  unfold Own; rw [h]

variable [DecidableEq K]

/-- the abstraction only looks at `readM`, `amended`, `dirtyMap` and the pointers -/
theorem absOf_congr' {sh sh' : Shared K V} (hr : sh'.readM = sh.readM) (ha : sh'.amended = sh.amended)
    (hd : dirtyMap sh' = dirtyMap sh) (hg : ∀ e, getP sh' e = getP sh e) (k : K) : absOf sh' k = absOf sh k := by
  unfold absOf
  rw [hr, ha, hd]
  cases alookup k sh.readM with
  | some e => simp [hg]
  | none => simp only [hg]

theorem absOf_congr {sh sh' : Shared K V} (h : SameData sh' sh) (k : K) : absOf sh' k = absOf sh k :=
  absOf_congr' h.readM h.amended h.dirtyMap h.getP k

@[simp] theorem absOf_unlock (sh : Shared K V) (k : K) : absOf (unlock sh) k = absOf sh k := rfl

@[simp] theorem absOf_mu_update (sh : Shared K V) (m : Option Tid) (k : K) : absOf { sh with mu := m } k = absOf sh k := rfl

@[simp] theorem absOf_missStep_fst (sh : Shared K V) (k : K) : absOf (missStep sh).1 k = absOf sh k := rfl

theorem absOf_of_read {sh : Shared K V} {k : K} {e : EId} (h : alookup k sh.readM = some e) :
    absOf sh k = (getP sh e).value? := by
  simp [absOf, h]

theorem absOf_of_not_amended {sh : Shared K V} {k : K} (h : alookup k sh.readM = none) (ha : sh.amended = false) :
    absOf sh k = none := by
  simp [absOf, h, ha]

theorem absOf_of_dirty {sh : Shared K V} {k : K} {e : EId} (h : alookup k sh.readM = none) (ha : sh.amended = true)
    (hd : alookup k (dirtyMap sh) = some e) : absOf sh k = (getP sh e).value? := by
  simp [absOf, h, ha, hd]

theorem absOf_of_none_none {sh : Shared K V} {k : K} (h : alookup k sh.readM = none)
    (hd : alookup k (dirtyMap sh) = none) : absOf sh k = none := by
  simp [absOf, h, hd]

theorem absOf_of_read_none {sh : Shared K V} {k : K} (h : alookup k sh.readM = none) :
    absOf sh k = if sh.amended then (alookup k (dirtyMap sh)).bind (fun e => (getP sh e).value?) else none := by
  simp [absOf, h]

theorem Cur_congr {sh sh' : Shared K V} (h : SameData sh' sh) (k : K) (e : EId) : Cur sh' k e ↔ Cur sh k e := by
  unfold Cur; rw [h.readM, h.dirtyMap]

@[simp] theorem Own_setDirty (sh : Shared K V) (k : K) (e : EId) (t : Tid) : Own (setDirty sh k e) t ↔ Own sh t := by
  simp [Own]

@[simp] theorem Own_delDirty (sh : Shared K V) (k : K) (t : Tid) : Own (delDirty sh k) t ↔ Own sh t := Iff.rfl

@[simp] theorem Own_addNew (sh : Shared K V) (k : K) (v : V) (t : Tid) : Own (addNew sh k v) t ↔ Own sh t := by
  simp [Own]

end Frame


section Entry
variable {K V : Type}

theorem Dead.not_orphan {sh : Shared K V} {e : EId} (h : Dead sh e) : ¬ Orphan sh e := by
  intro h1; have := h.1; rw [h1.1] at this; cases this

theorem Orphan.not_dead {sh : Shared K V} {e : EId} (h : Orphan sh e) : ¬ Dead sh e :=
  fun h1 => h1.not_orphan h

theorem Dead.value? {sh : Shared K V} {e : EId} (h : Dead sh e) : (getP sh e).value? = none :=
  value?_none_of_isExpunged h.1

theorem Dead.lt_length {sh : Shared K V} {e : EId} (h : Dead sh e) : e < sh.entries.length :=
  lt_length_of_getP_ne_nil (by intro h1; have := h.1; rw [h1] at this; cases this)

theorem dead_or_orphan {sh : Shared K V} {e : EId} (hr : e ∉ vals sh.readM) (hd : e ∉ vals (dirtyMap sh)) :
    Dead sh e ∨ Orphan sh e := by
  cases h : (getP sh e).isExpunged
  · exact Or.inr ⟨h, hr, hd⟩
  · exact Or.inl ⟨h, hr, hd⟩

variable [DecidableEq K]

theorem Dead.alookup_read_ne {sh : Shared K V} {e : EId} (h : Dead sh e) (k : K) : alookup k sh.readM ≠ some e :=
  fun h1 => h.2.1 (mem_vals_of_alookup h1)

theorem Dead.alookup_dirty_ne {sh : Shared K V} {e : EId} (h : Dead sh e) (k : K) :
    alookup k (dirtyMap sh) ≠ some e :=
  fun h1 => h.2.2 (mem_vals_of_alookup h1)

theorem Orphan.alookup_read_ne {sh : Shared K V} {e : EId} (h : Orphan sh e) (k : K) : alookup k sh.readM ≠ some e :=
  fun h1 => h.2.1 (mem_vals_of_alookup h1)

theorem Orphan.alookup_dirty_ne {sh : Shared K V} {e : EId} (h : Orphan sh e) (k : K) :
    alookup k (dirtyMap sh) ≠ some e :=
  fun h1 => h.2.2 (mem_vals_of_alookup h1)

theorem Cur.unique {sh : Shared K V} {k : K} {e e' : EId} (h : Cur sh k e) (h' : Cur sh k e') : e = e' := by
  rcases h with h | ⟨h1, h2⟩ <;> rcases h' with h' | ⟨h1', h2'⟩
  · rw [h] at h'; exact Option.some.inj h'
  · rw [h] at h1'; cases h1'
  · rw [h'] at h1; cases h1
  · rw [h2] at h2'; exact Option.some.inj h2'

theorem Cur.mem_vals {sh : Shared K V} {k : K} {e : EId} (h : Cur sh k e) :
    e ∈ vals sh.readM ∨ e ∈ vals (dirtyMap sh) := by
  rcases h with h | ⟨_, h2⟩
  · exact Or.inl (mem_vals_of_alookup h)
  · exact Or.inr (mem_vals_of_alookup h2)

theorem Cur.not_dead {sh : Shared K V} {k : K} {e : EId} (h : Cur sh k e) : ¬ Dead sh e := by
  intro hd
  rcases h.mem_vals with h1 | h1
  · exact hd.2.1 h1
  · exact hd.2.2 h1

theorem Cur.not_orphan {sh : Shared K V} {k : K} {e : EId} (h : Cur sh k e) : ¬ Orphan sh e := by
  intro hd
  rcases h.mem_vals with h1 | h1
  · exact hd.2.1 h1
  · exact hd.2.2 h1

theorem Cur_of_read {sh : Shared K V} {k : K} {e : EId} (h : alookup k sh.readM = some e) : Cur sh k e := Or.inl h

theorem Cur_of_dirty {sh : Shared K V} {k : K} {e : EId} (h : alookup k sh.readM = none)
    (hd : alookup k (dirtyMap sh) = some e) : Cur sh k e := Or.inr ⟨h, hd⟩

theorem Cur_iff_of_read {sh : Shared K V} {k : K} {e e' : EId} (h : alookup k sh.readM = some e) :
    Cur sh k e' ↔ e' = e := by
  constructor
  · intro h1; exact h1.unique (Cur_of_read h)
  · rintro rfl; exact Cur_of_read h

theorem Cur_iff_of_read_none {sh : Shared K V} {k : K} {e' : EId} (h : alookup k sh.readM = none) :
    Cur sh k e' ↔ alookup k (dirtyMap sh) = some e' := by
  simp [Cur, h]

theorem StoreTarget.cur {sh : Shared K V} {k : K} {e : EId} (h : StoreTarget sh k e) : Cur sh k e := by
  rcases h with h | h
  · exact Or.inl h.1
  · exact Or.inr h

theorem HoldRead.lt_length {sh : Shared K V} {k : K} {e : EId} (h : HoldRead sh k e) : e < sh.entries.length := h.1

theorem HoldDel.lt_length {sh : Shared K V} {d : Bool} {k : K} {e : EId} {a : APc K V} (h : HoldDel sh d k e a) :
    e < sh.entries.length := h.1

theorem HoldLoad.lt_length {sh : Shared K V} {k : K} {e : EId} {a : APc K V} (h : HoldLoad sh k e a) :
    e < sh.entries.length := h.1

/-- what the builder's `T` (`Building`) says about the unprocessed pairs: the side condition of the `GS` lemmas of `SmcEntry`
and `SmcMaps` that speak of all pairs of `read.m`; `unprocessed_spec` discharges it -/
abbrev UOk (sh : Shared K V) (U : List (K × EId)) : Prop :=
  ∀ p ∈ U, p ∈ sh.readM ∧ alookup p.1 (dirtyMap sh) = none ∧ p.2 ∉ vals (dirtyMap sh) ∧
    (getP sh p.2).isExpunged = false

theorem Building_nil (sh : Shared K V) : Building sh [] := by
  refine ⟨by simp, ?_⟩
  intro p hp; cases hp

theorem Building.tail {sh : Shared K V} {p : K × EId} {u : List (K × EId)} (h : Building sh (p :: u)) :
    Building sh u := by
  refine ⟨?_, fun q hq => h.2 q (List.mem_cons_of_mem _ hq)⟩
  have := h.1
  simp only [akeys_cons, List.nodup_cons] at this
  exact this.2

theorem Building.head {sh : Shared K V} {p : K × EId} {u : List (K × EId)} (h : Building sh (p :: u)) :
    p ∈ sh.readM ∧ alookup p.1 (dirtyMap sh) = none ∧ p.2 ∉ vals (dirtyMap sh) ∧ (getP sh p.2).isExpunged = false :=
  h.2 p (List.mem_cons_self ..)

theorem Building.head_not_mem {sh : Shared K V} {p : K × EId} {u : List (K × EId)} (h : Building sh (p :: u)) :
    p ∉ u := by
  have := h.1
  simp only [akeys_cons, List.nodup_cons] at this
  exact fun h1 => this.1 (mem_akeys_of_mem' h1)

/-- the choice made at `dirtyPick` (`picks`) -/
theorem Building.pick {sh : Shared K V} {u : List (K × EId)} (h : Building sh u) {p : K × EId} (hp : p ∈ u) :
    Building sh ((p.1, p.2) :: aerase p.1 u) := by
  refine ⟨(akeys_perm_cons_aerase h.1 hp).nodup_iff.mpr h.1, ?_⟩
  intro q hq
  exact h.2 q ((mem_cons_aerase h.1 hp).mp hq)

/-- past the loop: the callback keys are pairwise distinct -/
theorem RangeHold.nil_iff {sh : Shared K V} {acc : List (K × V)} :
    RangeHold sh [] acc ↔ (acc.map Prod.fst).Nodup := by
  unfold RangeHold
  constructor
  · intro h; simpa using h.1
  · intro h; exact ⟨by simpa using h, fun p hp => by cases hp⟩

/-- loop entry: the snapshot is the current `read.m` -/
theorem RangeHold.snapshot {sh : Shared K V} {rm : List (K × EId)} (hrm : rm = sh.readM) (hn : (akeys rm).Nodup)
    (hb : ∀ p ∈ rm, p.2 < sh.entries.length) : RangeHold sh rm [] := by
  refine ⟨by simpa using hn, fun p hp => ⟨hb p hp, Or.inl ?_⟩⟩
  rw [← hrm]
  exact alookup_of_mem' hn hp

/-- the choice made at `rangePick` (`picks`) -/
theorem RangeHold.pick {sh : Shared K V} {todo : List (K × EId)} {acc : List (K × V)} (h : RangeHold sh todo acc)
    {p : K × EId} (hp : p ∈ todo) : RangeHold sh ((p.1, p.2) :: aerase p.1 todo) acc := by
  have hn : (akeys todo).Nodup := (List.nodup_append.mp h.1).1
  refine ⟨?_, fun q hq => h.2 q ((mem_cons_aerase hn hp).mp hq)⟩
  exact (((akeys_perm_cons_aerase hn hp).append_right (acc.map Prod.fst)).nodup_iff).mpr h.1

/-- `rangeLoad` found nil/expunged: the key is skipped -/
theorem RangeHold.skip {sh : Shared K V} {k' : K} {e' : EId} {todo : List (K × EId)} {acc : List (K × V)}
    (h : RangeHold sh ((k', e') :: todo) acc) : RangeHold sh todo acc := by
  refine ⟨?_, fun q hq => h.2 q (List.mem_cons_of_mem _ hq)⟩
  have := h.1
  simp only [akeys_cons, List.cons_append, List.nodup_cons] at this
  exact this.2

/-- `rangeLoad` found a value: the callback is called with `(k', w)` -/
theorem RangeHold.push {sh : Shared K V} {k' : K} {e' : EId} {todo : List (K × EId)} {acc : List (K × V)}
    (h : RangeHold sh ((k', e') :: todo) acc) (w : V) : RangeHold sh todo (acc ++ [(k', w)]) := by
  refine ⟨?_, fun q hq => h.2 q (List.mem_cons_of_mem _ hq)⟩
  have h1 := h.1
  simp only [akeys_cons, List.cons_append] at h1
  simp only [List.map_append, List.map_cons, List.map_nil, ← List.append_assoc]
  exact (List.perm_append_singleton k' (akeys todo ++ acc.map Prod.fst)).nodup_iff.mpr h1

theorem RangeHold.head {sh : Shared K V} {k' : K} {e' : EId} {todo : List (K × EId)} {acc : List (K × V)}
    (h : RangeHold sh ((k', e') :: todo) acc) : HoldRead sh k' e' :=
  h.2 (k', e') (List.mem_cons_self ..)

variable [DecidableEq V]

theorem Unlinker.lt_length {sh : Shared K V} {d : Bool} {k : K} {e : EId} {a : APc K V} (h : Unlinker sh d k e a) :
    e < sh.entries.length := h.1

/-- the unlinked entry holds a value, the unlinker's call has taken effect with that value -/
theorem Unlinker.spec {sh : Shared K V} {d : Bool} {k : K} {e : EId} {a : APc K V} (h : Unlinker sh d k e a) :
    ∃ v, (getP sh e).value? = some v ∧ DoneWith a (isOp (ladOp d k)) (delRes d v) := by
  obtain ⟨_, _, _, h4⟩ := h
  cases hv : (getP sh e).value? with
  | none => rw [hv] at h4; exact h4.elim
  | some v => rw [hv] at h4; exact ⟨v, rfl, h4⟩

theorem Unlinker.done {sh : Shared K V} {d : Bool} {k : K} {e : EId} {a : APc K V} (h : Unlinker sh d k e a) :
    ∃ op r, a = .done op r := by
  obtain ⟨v, _, hd⟩ := h.spec
  cases a with
  | done op r => exact ⟨op, r, rfl⟩
  | idle => exact False.elim hd
  | pending _ _ => exact False.elim hd

theorem Unlinker.orphan {sh : Shared K V} {d : Bool} {k : K} {e : EId} {a : APc K V} (h : Unlinker sh d k e a) :
    Orphan sh e := by
  obtain ⟨v, hv, _⟩ := h.spec
  refine ⟨?_, h.2.1, h.2.2.1⟩
  cases hp : getP sh e <;> simp [hp] at hv ⊢

theorem Unlinker_iff {sh : Shared K V} {d : Bool} {k : K} {e : EId} {a : APc K V} :
    Unlinker sh d k e a ↔ e < sh.entries.length ∧ e ∉ vals sh.readM ∧ e ∉ vals (dirtyMap sh) ∧
      ∃ v, (getP sh e).value? = some v ∧ DoneWith a (isOp (ladOp d k)) (delRes d v) := by
  constructor
  · intro h; exact ⟨h.1, h.2.1, h.2.2.1, h.spec⟩
  · rintro ⟨h1, h2, h3, v, hv, hd⟩
    refine ⟨h1, h2, h3, ?_⟩
    rw [hv]; exact hd

end Entry

section GFacts
variable {K V : Type}
/- The letters name the clause of `GS`/`G` a fact comes from: (A) `keysR`/`valsR`/`keysD`/`valsD` (both maps are injective),
(B) `readDirty`, (C) `dirtySub`, (D) `dirtyLive`, (E) `s1`. -/

variable [DecidableEq K]
variable {sh : Shared K V} {U : List (K × EId)}
variable {s : State K V} {apcs : Nat → APc K V}

/-- (A) -/
theorem GS.mem_read_iff (g : GS sh U) {k : K} {e : EId} : (k, e) ∈ sh.readM ↔ alookup k sh.readM = some e :=
  mem_iff_alookup g.keysR

theorem GS.mem_dirty_iff {sh : Shared K V} {U : List (K × EId)} (g : GS sh U) {k : K} {e : EId} :
    (k, e) ∈ dirtyMap sh ↔ alookup k (dirtyMap sh) = some e :=
  mem_iff_alookup g.keysD

theorem GS.read_lt_length (g : GS sh U) {k : K} {e : EId} (h : alookup k sh.readM = some e) :
    e < sh.entries.length :=
  g.boundR _ (mem_of_alookup h)

theorem GS.dirty_lt_length (g : GS sh U) {k : K} {e : EId} (h : alookup k (dirtyMap sh) = some e) :
    e < sh.entries.length :=
  g.boundD _ (mem_of_alookup h)

theorem GS.vals_read_lt_length (g : GS sh U) {e : EId} (h : e ∈ vals sh.readM) : e < sh.entries.length := by
  obtain ⟨k, hk⟩ := mem_vals_iff.mp h
  exact g.boundR _ hk

theorem GS.vals_dirty_lt_length (g : GS sh U) {e : EId} (h : e ∈ vals (dirtyMap sh)) : e < sh.entries.length := by
  obtain ⟨k, hk⟩ := mem_vals_iff.mp h
  exact g.boundD _ hk

/-- a freshly allocated entry (`addNew`) is in neither map -/
theorem GS.length_not_mem_vals_read {sh : Shared K V} {U : List (K × EId)} (g : GS sh U) :
    sh.entries.length ∉ vals sh.readM :=
  fun h => Nat.lt_irrefl _ (g.vals_read_lt_length h)

theorem GS.length_not_mem_vals_dirty (g : GS sh U) : sh.entries.length ∉ vals (dirtyMap sh) :=
  fun h => Nat.lt_irrefl _ (g.vals_dirty_lt_length h)

/-- (B), live half -/
theorem GS.read_live_in_dirty (g : GS sh U) {k : K} {e : EId} (h : alookup k sh.readM = some e) (hu : (k, e) ∉ U)
    (hl : (getP sh e).isExpunged = false) (hd : sh.dirty.isSome = true) : alookup k (dirtyMap sh) = some e := by
  have := g.readDirty (k, e) (mem_of_alookup h) hu
  simp only [hl] at this
  exact this hd

/-- (B), expunged half -/
theorem GS.read_expunged_not_in_dirty (g : GS sh U) {k : K} {e : EId} (h : alookup k sh.readM = some e)
    (hu : (k, e) ∉ U) (hx : (getP sh e).isExpunged = true) :
    sh.dirty.isSome = true ∧ alookup k (dirtyMap sh) = none ∧ e ∉ vals (dirtyMap sh) := by
  have := g.readDirty (k, e) (mem_of_alookup h) hu
  simp only [hx, if_true] at this
  exact this

/-- (B): a processed `read.m` entry the dirty map holds sits there under the same key and is live -/
theorem GS.read_dirty_same_key_of_processed (g : GS sh U) {k k' : K} {e : EId} (h : alookup k sh.readM = some e)
    (hu : (k, e) ∉ U) (hd : alookup k' (dirtyMap sh) = some e) : k' = k ∧ (getP sh e).isExpunged = false := by
  cases hx : (getP sh e).isExpunged with
  | true => exact absurd (mem_vals_of_alookup hd) (g.read_expunged_not_in_dirty h hu hx).2.2
  | false =>
    have h1 := g.read_live_in_dirty h hu hx (dirty_isSome_of_alookup_dirtyMap hd)
    exact ⟨alookup_inj g.valsD hd h1, rfl⟩

/-- (C) -/
theorem GS.dirty_none_of_not_amended (g : GS sh U) (ha : sh.amended = false) {k : K}
    (h : alookup k sh.readM = none) : alookup k (dirtyMap sh) = none := by
  cases hd : alookup k (dirtyMap sh) with
  | none => rfl
  | some e => rw [g.dirtySub ha (k, e) (mem_of_alookup hd)] at h; cases h

/-- (C) -/
theorem GS.amended_of_dirty_only {sh : Shared K V} {U : List (K × EId)} (hG : GS sh U) {k : K} {e : EId}
    (h : alookup k sh.readM = none) (hd : alookup k (dirtyMap sh) = some e) : sh.amended = true := by
  cases ha : sh.amended with
  | true => rfl
  | false => rw [hG.dirty_none_of_not_amended ha h] at hd; cases hd

theorem GS.cur_lt_length {sh : Shared K V} {U : List (K × EId)} (hG : GS sh U) {k : K} {e : EId} (h : Cur sh k e) :
    e < sh.entries.length := by
  rcases h with h | ⟨_, h⟩
  · exact hG.read_lt_length h
  · exact hG.dirty_lt_length h

theorem GS.absOf_cur {sh : Shared K V} {U : List (K × EId)} (hG : GS sh U) {k : K} {e : EId} (h : Cur sh k e) :
    absOf sh k = (getP sh e).value? := by
  rcases h with h | ⟨h1, h2⟩
  · exact absOf_of_read h
  · exact absOf_of_dirty h1 (hG.amended_of_dirty_only h1 h2) h2

/-- (D) -/
theorem GS.dirty_only_isVal (g : GS sh U) {k : K} {e : EId} (h : alookup k sh.readM = none)
    (hd : alookup k (dirtyMap sh) = some e) : isVal (getP sh e) = true :=
  g.dirtyLive (k, e) (mem_of_alookup hd) h

/-- (E) -/
theorem GS.dirty_isSome_of_amended {sh : Shared K V} {U : List (K × EId)} (g : GS sh U) (ha : sh.amended = true) :
    sh.dirty.isSome = true := by
  cases hd : sh.dirty with
  | some d => rfl
  | none => rw [g.s1 hd] at ha; cases ha

/-- a dirty-only entry is not in `read.m` at all (given that no pair of `read.m` holding it is unprocessed) -/
theorem GS.dirty_only_not_in_read (g : GS sh U) {k : K} {e : EId} (h : alookup k sh.readM = none)
    (hd : alookup k (dirtyMap sh) = some e) (hu : ∀ k', (k', e) ∉ U) : e ∉ vals sh.readM := by
  intro hm
  obtain ⟨k', hk'⟩ := (mem_vals_iff_alookup g.keysR).mp hm
  obtain ⟨h1, _⟩ := g.read_dirty_same_key_of_processed hk' (hu k') hd
  subst h1
  rw [h] at hk'; cases hk'

/-- every entry of the dirty map is live (nobody is inside the `dirtyLocked` loop) -/
theorem GS.dirty_not_expunged {sh : Shared K V} (g : GS sh []) {k : K} {e : EId}
    (hd : alookup k (dirtyMap sh) = some e) : (getP sh e).isExpunged = false := by
  cases hr : alookup k sh.readM with
  | none => exact not_isExpunged_of_isVal (g.dirty_only_isVal hr hd)
  | some e2 =>
    cases hx : (getP sh e2).isExpunged with
    | true =>
      have := (g.read_expunged_not_in_dirty hr (by simp) hx).2.1
      rw [this] at hd; cases hd
    | false =>
      have h1 := g.read_live_in_dirty hr (by simp) hx (dirty_isSome_of_alookup_dirtyMap hd)
      rw [hd] at h1
      cases h1
      exact hx

/-- (E) no dirty map: no entry of `read.m` is expunged, if none of the unprocessed ones is -/
theorem GS.no_expunged_of_dirty_none (g : GS sh U) (hd : sh.dirty = none)
    (hU : ∀ p ∈ U, (getP sh p.2).isExpunged = false) {p : K × EId} (hp : p ∈ sh.readM) :
    (getP sh p.2).isExpunged = false := by
  by_cases hpU : p ∈ U
  · exact hU p hpU
  · cases hx : (getP sh p.2).isExpunged with
    | false => rfl
    | true =>
      have := g.readDirty p hp hpU
      simp only [hx, if_true] at this
      rw [hd] at this
      simp at this

theorem GS.of_sameData {sh' : Shared K V} (g : GS sh U) (hd : SameData sh' sh) (hf : sh'.fault = false) :
    GS sh' U where
  keysR := by rw [hd.readM]; exact g.keysR
  valsR := by rw [hd.readM]; exact g.valsR
  keysD := by rw [hd.dirtyMap]; exact g.keysD
  valsD := by rw [hd.dirtyMap]; exact g.valsD
  boundR := by rw [hd.readM, hd.entries]; exact g.boundR
  boundD := by rw [hd.dirtyMap, hd.entries]; exact g.boundD
  s1 := by rw [hd.dirty, hd.amended]; exact g.s1
  nofault := hf
  readDirty := by
    intro p hp hu
    rw [hd.readM] at hp
    have := g.readDirty p hp hu
    rw [hd.getP, hd.dirty, hd.dirtyMap]
    exact this
  dirtySub := by rw [hd.amended, hd.dirtyMap, hd.readM]; exact g.dirtySub
  dirtyLive := by
    rw [hd.dirtyMap, hd.readM]
    intro p hp h
    rw [hd.getP]
    exact g.dirtyLive p hp h

theorem GS_sameData_iff {sh sh' : Shared K V} (hd : SameData sh' sh) (hf : sh'.fault = sh.fault)
    (U : List (K × EId)) : GS sh' U ↔ GS sh U :=
  ⟨fun g => g.of_sameData hd.symm (by rw [← hf]; exact g.nofault),
   fun g => g.of_sameData hd (by rw [hf]; exact g.nofault)⟩

/-! ### the same for `G`, whose unprocessed pairs are those of the state (through `G.gs`) -/

/-- (A) -/
theorem G.mem_read_iff (g : G s apcs) {k : K} {e : EId} : (k, e) ∈ s.sh.readM ↔ alookup k s.sh.readM = some e :=
  g.gs.mem_read_iff

theorem G.mem_dirty_iff (g : G s apcs) {k : K} {e : EId} :
    (k, e) ∈ dirtyMap s.sh ↔ alookup k (dirtyMap s.sh) = some e :=
  g.gs.mem_dirty_iff

theorem G.mem_read_iff' (g : G s apcs) {p : K × EId} : p ∈ s.sh.readM ↔ alookup p.1 s.sh.readM = some p.2 :=
  mem_iff_alookup' g.keysR

theorem G.mem_dirty_iff' (g : G s apcs) {p : K × EId} :
    p ∈ dirtyMap s.sh ↔ alookup p.1 (dirtyMap s.sh) = some p.2 :=
  mem_iff_alookup' g.keysD

/-- (A) -/
theorem G.entry_one_key_read (g : G s apcs) {k k' : K} {e : EId} (h : alookup k s.sh.readM = some e)
    (h' : alookup k' s.sh.readM = some e) : k = k' :=
  alookup_inj g.valsR h h'

theorem G.cur_lt_length (g : G s apcs) {k : K} {e : EId} (h : Cur s.sh k e) : e < s.sh.entries.length :=
  g.gs.cur_lt_length h

/-- a freshly allocated entry (`addNew`) is in neither map -/
theorem G.length_not_mem_vals_read (g : G s apcs) : s.sh.entries.length ∉ vals s.sh.readM :=
  g.gs.length_not_mem_vals_read

theorem G.length_not_mem_vals_dirty (g : G s apcs) : s.sh.entries.length ∉ vals (dirtyMap s.sh) :=
  g.gs.length_not_mem_vals_dirty

set_option linter.unusedVariables false in -- `hl` is not needed
/-- (B): live `read.m[k] = e`, processed, and `dirty[k'] = e` give `k' = k`.
(Without `hu` this is not a consequence of `G` alone: `G.readDirty` says nothing about unprocessed pairs; for those
use `T`'s `Building`: `unprocessed_spec`.) -/
theorem G.read_live_dirty_key (g : G s apcs) {k k' : K} {e : EId} (h : alookup k s.sh.readM = some e)
    (hu : (k, e) ∉ unprocessed s) (hl : (getP s.sh e).isExpunged = false) (hd : alookup k' (dirtyMap s.sh) = some e) :
    k' = k :=
  (g.gs.read_dirty_same_key_of_processed h hu hd).1

/-- (B): a processed `read.m` entry in the dirty map: `dirty[k] = e` exactly -/
theorem G.read_in_dirty (g : G s apcs) {k : K} {e : EId} (h : alookup k s.sh.readM = some e)
    (hu : (k, e) ∉ unprocessed s) (hd : e ∈ vals (dirtyMap s.sh)) : alookup k (dirtyMap s.sh) = some e := by
  obtain ⟨k', hk'⟩ := (mem_vals_iff_alookup g.keysD).mp hd
  obtain ⟨h1, _⟩ := g.gs.read_dirty_same_key_of_processed h hu hk'
  exact h1 ▸ hk'

/-- (B): the dirty map agrees with a processed `read.m` key, or lacks it because the entry is expunged -/
theorem G.dirty_of_read (g : G s apcs) {k : K} {e : EId} (h : alookup k s.sh.readM = some e)
    (hu : (k, e) ∉ unprocessed s) (hd : s.sh.dirty.isSome = true) :
    alookup k (dirtyMap s.sh) = if (getP s.sh e).isExpunged then none else some e := by
  cases hx : (getP s.sh e).isExpunged with
  | true => exact (g.gs.read_expunged_not_in_dirty h hu hx).2.1
  | false => exact g.gs.read_live_in_dirty h hu hx hd

/-- (C) -/
theorem G.dirty_none_of_not_amended (g : G s apcs) (ha : s.sh.amended = false) {k : K}
    (h : alookup k s.sh.readM = none) : alookup k (dirtyMap s.sh) = none :=
  g.gs.dirty_none_of_not_amended ha h

theorem G.not_amended_of_dirty_none (g : G s apcs) (hd : s.sh.dirty = none) : s.sh.amended = false := g.s1 hd

theorem G.dirty_isSome_of_expunged (g : G s apcs) {k : K} {e : EId} (h : alookup k s.sh.readM = some e)
    (hu : (k, e) ∉ unprocessed s) (hx : (getP s.sh e).isExpunged = true) : s.sh.dirty.isSome = true :=
  (g.gs.read_expunged_not_in_dirty h hu hx).1

/-- a dirty-only entry is not in `read.m` at all (given that no pair of `read.m` holding it is unprocessed) -/
theorem G.dirty_only_not_in_read (g : G s apcs) {k : K} {e : EId} (h : alookup k s.sh.readM = none)
    (hd : alookup k (dirtyMap s.sh) = some e) (hu : ∀ k', (k', e) ∉ unprocessed s) : e ∉ vals s.sh.readM :=
  g.gs.dirty_only_not_in_read h hd hu

theorem G.same_key_of_both (g : G s apcs) {k k' : K} {e : EId} (h : alookup k s.sh.readM = some e)
    (hd : alookup k' (dirtyMap s.sh) = some e) (hu : (k, e) ∉ unprocessed s) : k' = k :=
  (g.gs.read_dirty_same_key_of_processed h hu hd).1

theorem G.not_fault (g : G s apcs) : s.sh.fault = false := g.nofault

theorem G.not_own_of_le (g : G s apcs) {t : Tid} (h : s.pcs.length ≤ t) : ¬ Own s.sh t :=
  fun h1 => Nat.lt_irrefl _ (Nat.lt_of_lt_of_le (g.muBound t h1) h)

theorem G.absOf_isSome_of_dirty_only (g : G s apcs) {k : K} {e : EId} (h : alookup k s.sh.readM = none)
    (hd : alookup k (dirtyMap s.sh) = some e) : ∃ v, absOf s.sh k = some v := by
  rw [g.gs.absOf_cur (Cur_of_dirty h hd)]
  exact isVal_iff_value?.mp (g.gs.dirty_only_isVal h hd)

set_option linter.unusedVariables false in -- `g` is not needed
theorem G.absOf_none_of_no_cur (g : G s apcs) {k : K} (h : alookup k s.sh.readM = none)
    (hd : alookup k (dirtyMap s.sh) = none) : absOf s.sh k = none :=
  absOf_of_none_none h hd

theorem G.unlinked_ne (g : G s apcs) {t u : Tid} (ht : t < s.pcs.length) (hu : u < s.pcs.length) (hne : t ≠ u)
    {e e' : EId} (h : e ∈ unlinkedPc (s.pc t) (apcs t)) (h' : e' ∈ unlinkedPc (s.pc u) (apcs u)) : e ≠ e' :=
  fun h1 => g.unlinked t u ht hu hne e h (h1 ▸ h')

end GFacts


section OwnLock
variable {K V : Type}

theorem Own.unique {sh : Shared K V} {t u : Tid} (h : Own sh t) (h' : Own sh u) : t = u := by
  unfold Own at h h'
  rw [h] at h'
  exact Option.some.inj h'

theorem Own_iff {sh : Shared K V} {t : Tid} : Own sh t ↔ sh.mu = some t := Iff.rfl

theorem Own_of_mu_some {sh : Shared K V} {t u : Tid} (h : sh.mu = some t) : Own sh u ↔ u = t := by
  unfold Own; rw [h]; simp [eq_comm]

theorem not_Own_of_ne {sh : Shared K V} {t u : Tid} (h : Own sh t) (hne : u ≠ t) : ¬ Own sh u :=
  fun h' => hne (h'.unique h)

/-- the pcs at which a goroutine holds `m.mu` (for `losLoad/losCas/losLoad2`: in the two slow contexts) -/
def lockedPc : Pc K V → Bool
  | .loadRead2 _ => true
  | .loadMiss _ _ => true
  | .storeRead2 _ _ => true
  | .storeUnexp _ _ _ => true
  | .storeLocked _ _ _ => true
  | .dirtyRead _ _ _ _ => true
  | .dirtyPick _ _ _ _ _ => true
  | .expLoad _ _ _ _ _ _ _ => true
  | .expCas _ _ _ _ _ _ _ => true
  | .expLoad2 _ _ _ _ _ _ _ => true
  | .readStore _ _ _ _ => true
  | .losLoad c _ _ _ => decide (c ≠ .fast)
  | .losCas c _ _ _ => decide (c ≠ .fast)
  | .losLoad2 c _ _ _ => decide (c ≠ .fast)
  | .losRead2 _ _ => true
  | .losUnexp _ _ _ => true
  | .losMiss _ _ => true
  | .ladRead2 _ _ => true
  | .ladMiss _ _ _ => true
  | .rangeRead2 => true
  | .rangeStore _ => true
  | _ => false

theorem Promoting.own {sh : Shared K V} {t : Tid} (h : Promoting sh t) : Own sh t := h.1

variable [DecidableEq K]

theorem LosHold.own_iff {sh : Shared K V} {t : Tid} {c : LosCtx} {k : K} {e : EId} (h : LosHold sh t c k e) :
    Own sh t ↔ c ≠ .fast := by
  cases c <;> simp only [LosHold] at h <;> simp [h.1]

theorem NewTail.own {sh : Shared K V} {t : Tid} {c : NewCtx} {k : K} {v : V} {rm : List (K × EId)} {a : APc K V}
    (h : NewTail sh t c k v rm a) : Own sh t := h.2.1

variable [DecidableEq V]

theorem DelHold.not_own {sh : Shared K V} {t : Tid} {d : Bool} {k : K} {e : EId} {a : APc K V}
    (h : DelHold sh t d k e a) : ¬ Own sh t := h.1

/-- `T` determines whether the goroutine holds the mutex -/
theorem T.own_iff {sh : Shared K V} {t : Tid} {pc : Pc K V} {a : APc K V} (h : T sh t pc a) :
    Own sh t ↔ lockedPc pc = true := by
  have no : ¬ Own sh t → (Own sh t ↔ false = true) := fun n => ⟨fun o => absurd o n, Bool.noConfusion⟩
  have yes : Own sh t → (Own sh t ↔ true = true) := fun o => ⟨fun _ => rfl, fun _ => o⟩
  have los : ∀ {c k e}, LosHold sh t c k e → (Own sh t ↔ decide (c ≠ .fast) = true) := fun h =>
    h.own_iff.trans decide_eq_true_iff.symm
  cases pc with
  | idle => exact no h.2
  | start op => cases op <;> exact no h.2
  | ret r =>
    cases r with
    | pairs l => exact no h.2.1
    | _ => exact no h.2
  | loadRead1 k => exact no h.2
  | loadLock k => exact no h.2
  | loadRead2 k => exact yes h.2
  | loadMiss k e => exact yes h.2.1.own
  | loadPtr k e => exact no h.2.1
  | storeRead1 k v => exact no h.2
  | tryStoreLoad k v e => exact no h.2.1
  | tryStoreCas k v e p => exact no h.2.1
  | storeLock k v => exact no h.2
  | storeRead2 k v => exact yes h.2
  | storeUnexp k v e => exact yes h.2.1
  | storeLocked k v e => exact yes h.2.1
  | dirtyRead c k v rm => exact yes h.1.own
  | dirtyPick c k v rm todo => exact yes h.1.own
  | expLoad c k v rm todo k' e' => exact yes h.1.own
  | expCas c k v rm todo k' e' => exact yes h.1.own
  | expLoad2 c k v rm todo k' e' => exact yes h.1.own
  | readStore c k v rm => exact yes h.1.own
  | losRead1 k v => exact no h.2
  | losLoad c k v e => exact los h.2
  | losCas c k v e => exact los h.2
  | losLoad2 c k v e => exact los h.2
  | losLock k v => exact no h.2
  | losRead2 k v => exact yes h.2
  | losUnexp k v e => exact yes h.2.1
  | losMiss k r => exact yes h.2.2.own
  | ladRead1 d k => exact no h.2
  | ladLock d k => exact no h.2
  | ladRead2 d k => exact yes h.2
  | ladMiss d k e => exact yes h.1.own
  | delLoad d k e => exact no h.not_own
  | delCas d k e p => exact no h.1.not_own
  | rangeRead1 => exact no h.2
  | rangeLock => exact no h.2
  | rangeRead2 => exact yes h.2
  | rangeStore dm => exact yes h.2.1.own
  | rangePick todo acc => exact no h.2.1
  | rangeLoad todo acc k' e' => exact no h.2.1

theorem T.own_of_locked {sh : Shared K V} {t : Tid} {pc : Pc K V} {a : APc K V} (h : T sh t pc a)
    (hl : lockedPc pc = true) : Own sh t :=
  h.own_iff.mpr hl

set_option linter.unusedVariables false in -- `hi` is not needed
theorem T.not_own_of_not_locked {sh : Shared K V} {t : Tid} {pc : Pc K V} {a : APc K V} (h : T sh t pc a)
    (hi : pc ≠ .idle) (hl : lockedPc pc = false) : ¬ Own sh t :=
  fun o => Bool.false_ne_true (hl.symm.trans (h.own_iff.mp o))

set_option linter.unusedVariables false in -- `hi` is not needed
theorem T.locked_of_own {sh : Shared K V} {t : Tid} {pc : Pc K V} {a : APc K V} (h : T sh t pc a)
    (hi : pc ≠ .idle) (ho : Own sh t) : lockedPc pc = true :=
  h.own_iff.mp ho

theorem locked_unique {sh : Shared K V} {t u : Tid} {pc pc' : Pc K V} {a a' : APc K V} (h : T sh t pc a)
    (h' : T sh u pc' a') (hl : lockedPc pc = true) (hl' : lockedPc pc' = true) : t = u :=
  (h.own_of_locked hl).unique (h'.own_of_locked hl')

end OwnLock

section Unproc
variable {K V : Type}

@[simp] theorem unprocPc_idle : unprocPc (Pc.idle : Pc K V) = [] := rfl

/-- no bound on `u` is needed: beyond `pcs` the pc is `idle` -/
theorem mem_unprocessed {s : State K V} {p : K × EId} : p ∈ unprocessed s ↔ ∃ u, p ∈ unprocPc (s.pc u) := by
  unfold unprocessed
  rw [List.mem_flatMap]
  constructor
  · rintro ⟨pc, hpc, hp⟩
    obtain ⟨u, hu, rfl⟩ := List.getElem_of_mem hpc
    exact ⟨u, by rw [pc_eq_getElem hu]; exact hp⟩
  · rintro ⟨u, hp⟩
    have hu : u < s.pcs.length := lt_length_of_pc_ne_idle fun h => by rw [h] at hp; cases hp
    rw [pc_eq_getElem hu] at hp
    exact ⟨s.pcs[u], List.getElem_mem hu, hp⟩

theorem unprocessed_eq_nil_iff {s : State K V} : unprocessed s = [] ↔ ∀ u, unprocPc (s.pc u) = [] := by
  constructor
  · intro h u
    cases hu : unprocPc (s.pc u) with
    | nil => rfl
    | cons p rest =>
      have : p ∈ unprocessed s := mem_unprocessed.mpr ⟨u, by rw [hu]; exact List.mem_cons_self ..⟩
      rw [h] at this; cases this
  · intro h
    cases hu : unprocessed s with
    | nil => rfl
    | cons p rest =>
      have : p ∈ unprocessed s := by rw [hu]; exact List.mem_cons_self ..
      obtain ⟨u, hp⟩ := mem_unprocessed.mp this
      rw [h u] at hp; cases hp

theorem mem_unprocessed_setPc {s : State K V} {t : Tid} {sh : Shared K V} {pc : Pc K V} {p : K × EId} :
    p ∈ unprocessed (setPc s t sh pc) ↔
      (t < s.pcs.length ∧ p ∈ unprocPc pc) ∨ ∃ u, u ≠ t ∧ p ∈ unprocPc (s.pc u) := by
  rw [mem_unprocessed]
  constructor
  · rintro ⟨u, hp⟩
    rw [pc_setPc] at hp
    by_cases h : u = t ∧ t < s.pcs.length
    · rw [if_pos h] at hp; exact Or.inl ⟨h.2, hp⟩
    · rw [if_neg h] at hp
      by_cases h1 : u = t
      · subst h1
        have : ¬ u < s.pcs.length := fun h2 => h ⟨rfl, h2⟩
        rw [pc_of_le (Nat.le_of_not_lt this)] at hp; cases hp
      · exact Or.inr ⟨u, h1, hp⟩
  · rintro (⟨ht, hp⟩ | ⟨u, hne, hp⟩)
    · exact ⟨t, by rw [pc_setPc_self ht]; exact hp⟩
    · exact ⟨u, by rw [pc_setPc_ne hne]; exact hp⟩

variable [DecidableEq K] [DecidableEq V]
variable {s : State K V} {apcs : Nat → APc K V}

/-- what `T` says at the four pcs inside the `dirtyLocked` loop -/
theorem T.builder {sh : Shared K V} {t : Tid} {pc : Pc K V} {a : APc K V} (h : T sh t pc a)
    (hu : unprocPc pc ≠ []) :
    Own sh t ∧ sh.amended = false ∧ sh.dirty.isSome = true ∧ Building sh (unprocPc pc) := by
  have nt : ∀ {c k v rm}, NewTail sh t c k v rm a → Own sh t ∧ sh.amended = false := fun n => ⟨n.own, n.2.2.2.1⟩
  cases pc with
  | dirtyPick c k v rm todo => exact ⟨(nt h.1).1, (nt h.1).2, h.2⟩
  | expLoad c k v rm todo k' e' => exact ⟨(nt h.1).1, (nt h.1).2, h.2⟩
  | expCas c k v rm todo k' e' => exact ⟨(nt h.1).1, (nt h.1).2, h.2⟩
  | expLoad2 c k v rm todo k' e' => exact ⟨(nt h.1).1, (nt h.1).2, h.2⟩
  | _ => exact absurd rfl hu

theorem T.building {sh : Shared K V} {t : Tid} {pc : Pc K V} {a : APc K V} (h : T sh t pc a) :
    Building sh (unprocPc pc) :=
  if hu : unprocPc pc = [] then hu ▸ Building_nil sh else (h.builder hu).2.2.2

theorem T.dirty_isSome_of_unprocPc {sh : Shared K V} {t : Tid} {pc : Pc K V} {a : APc K V} (h : T sh t pc a)
    (hu : unprocPc pc ≠ []) : sh.dirty.isSome = true :=
  (h.builder hu).2.2.1

/-- a goroutine that does not hold the mutex is not inside the `dirtyLocked` loop -/
theorem T.unprocPc_eq_nil {sh : Shared K V} {t : Tid} {pc : Pc K V} {a : APc K V} (h : T sh t pc a)
    (hno : ¬ Own sh t) : unprocPc pc = [] :=
  Decidable.byContradiction fun hu => hno (h.builder hu).1

theorem unprocessed_eq_nil_of_mu_none (hT : ∀ u, T s.sh u (s.pc u) (apcs u)) (hm : s.sh.mu = none) :
    unprocessed s = [] :=
  unprocessed_eq_nil_iff.mpr fun u => (hT u).unprocPc_eq_nil fun h => nomatch hm.symm.trans h

theorem mem_unprocessed_of_own (hT : ∀ u, T s.sh u (s.pc u) (apcs u)) {t : Tid} (ho : Own s.sh t) {p : K × EId} :
    p ∈ unprocessed s ↔ p ∈ unprocPc (s.pc t) := by
  rw [mem_unprocessed]
  constructor
  · rintro ⟨u, hp⟩
    by_cases hut : u = t
    · exact hut ▸ hp
    · rw [(hT u).unprocPc_eq_nil (not_Own_of_ne ho hut)] at hp; cases hp
  · intro hp; exact ⟨t, hp⟩

theorem mem_unprocessed_of_mu_some (hT : ∀ u, T s.sh u (s.pc u) (apcs u)) {t : Tid} (hm : s.sh.mu = some t)
    {p : K × EId} : p ∈ unprocessed s ↔ p ∈ unprocPc (s.pc t) :=
  mem_unprocessed_of_own hT hm

theorem unprocessed_eq_nil_of_own (hT : ∀ u, T s.sh u (s.pc u) (apcs u)) {t : Tid} (ho : Own s.sh t)
    (hp : unprocPc (s.pc t) = []) : unprocessed s = [] :=
  unprocessed_eq_nil_iff.mpr fun u =>
    Decidable.byContradiction fun hu => hu (((hT u).builder hu).1.unique ho ▸ hp)

theorem unprocessed_eq_nil_of_amended (hT : ∀ u, T s.sh u (s.pc u) (apcs u)) (ha : s.sh.amended = true) :
    unprocessed s = [] :=
  unprocessed_eq_nil_iff.mpr fun u =>
    Decidable.byContradiction fun hu => Bool.false_ne_true (((hT u).builder hu).2.1.symm.trans ha)

/-- what is known about an unprocessed pair (from the builder's `T`) -/
theorem unprocessed_spec (hT : ∀ u, T s.sh u (s.pc u) (apcs u)) {p : K × EId} (hp : p ∈ unprocessed s) :
    p ∈ s.sh.readM ∧ alookup p.1 (dirtyMap s.sh) = none ∧ p.2 ∉ vals (dirtyMap s.sh) ∧
      (getP s.sh p.2).isExpunged = false := by
  obtain ⟨u, hu⟩ := mem_unprocessed.mp hp
  exact (hT u).building.2 p hu

/-- a dirty-only entry is not in `read.m` (no side condition once `T` is available) -/
theorem dirty_only_not_in_read_of_T (g : G s apcs) (hT : ∀ u, T s.sh u (s.pc u) (apcs u)) {k : K} {e : EId}
    (h : alookup k s.sh.readM = none) (hd : alookup k (dirtyMap s.sh) = some e) : e ∉ vals s.sh.readM :=
  g.dirty_only_not_in_read h hd fun _ hu => (unprocessed_spec hT hu).2.2.1 (mem_vals_of_alookup hd)

/-- (E) with `T`: no dirty map ⇒ no entry of `read.m` is expunged -/
theorem no_expunged_of_dirty_none (g : G s apcs) (hT : ∀ u, T s.sh u (s.pc u) (apcs u)) (hd : s.sh.dirty = none)
    {k : K} {e : EId} (h : alookup k s.sh.readM = some e) : (getP s.sh e).isExpunged = false :=
  g.gs.no_expunged_of_dirty_none hd (fun _ hp => (unprocessed_spec hT hp).2.2.2) (mem_of_alookup h)

/-- an expunged entry of `read.m` is in the dirty map under no key (processed or not) -/
theorem read_expunged_not_in_dirty_of_T (g : G s apcs) (hT : ∀ u, T s.sh u (s.pc u) (apcs u)) {k : K} {e : EId}
    (h : alookup k s.sh.readM = some e) (hx : (getP s.sh e).isExpunged = true) :
    s.sh.dirty.isSome = true ∧ alookup k (dirtyMap s.sh) = none ∧ e ∉ vals (dirtyMap s.sh) := by
  apply g.gs.read_expunged_not_in_dirty h _ hx
  intro hu
  have := (unprocessed_spec hT hu).2.2.2
  simp only at this
  rw [hx] at this; cases this

/-- the stepping goroutine is the owner: afterwards exactly its new pairs are unprocessed -/
theorem mem_unprocessed_setPc_of_own (hT : ∀ u, T s.sh u (s.pc u) (apcs u)) {t : Tid} (ho : Own s.sh t)
    (ht : t < s.pcs.length) {sh : Shared K V} {pc : Pc K V} {p : K × EId} :
    p ∈ unprocessed (setPc s t sh pc) ↔ p ∈ unprocPc pc := by
  rw [mem_unprocessed_setPc]
  constructor
  · rintro (⟨_, hp⟩ | ⟨u, hne, hp⟩)
    · exact hp
    · rw [(hT u).unprocPc_eq_nil (not_Own_of_ne ho hne)] at hp; cases hp
  · intro hp; exact Or.inl ⟨ht, hp⟩

end Unproc


section Seen
variable {K V : Type}

/-- `a'` is `a`, except that the `seen` list of a pending goroutine may have grown -/
def SeenLe (a a' : APc K V) : Prop :=
  match a with
  | .pending op seen => ∃ seen', a' = .pending op seen' ∧ seen ⊆ seen'
  | _ => a' = a

@[simp] theorem SeenLe.refl (a : APc K V) : SeenLe a a := by
  cases a with
  | pending op seen => exact ⟨seen, rfl, fun _ h => h⟩
  | idle => rfl
  | done op r => rfl

/-- to prove something of `SeenLe a a'`: `a' = a`, or both are pending with the same operation -/
theorem SeenLe.elim {motive : APc K V → APc K V → Prop} {a a' : APc K V} (h : SeenLe a a') (same : motive a a)
    (grow : ∀ op seen seen', seen ⊆ seen' → motive (.pending op seen) (.pending op seen')) : motive a a' := by
  cases a with
  | pending op seen => obtain ⟨seen', rfl, hs⟩ := h; exact grow op seen seen' hs
  | idle => cases h; exact same
  | done op r => cases h; exact same

theorem SeenLe.trans {a a' a'' : APc K V} (h : SeenLe a a') (h' : SeenLe a' a'') : SeenLe a a'' := by
  cases a with
  | pending op seen =>
    obtain ⟨seen', rfl, hs⟩ := h
    obtain ⟨seen'', rfl, hs'⟩ := h'
    exact ⟨seen'', rfl, fun _ hx => hs' (hs hx)⟩
  | idle => cases h; exact h'
  | done op r => cases h; exact h'

@[simp] theorem SeenLe_idle_iff {a' : APc K V} : SeenLe (.idle : APc K V) a' ↔ a' = .idle := Iff.rfl

@[simp] theorem SeenLe_done_iff {op : Op K V} {r : Res K V} {a' : APc K V} :
    SeenLe (.done op r : APc K V) a' ↔ a' = .done op r := Iff.rfl

theorem SeenLe_pending_iff {op : Op K V} {seen : List (Res K V)} {a' : APc K V} :
    SeenLe (.pending op seen : APc K V) a' ↔ ∃ seen', a' = .pending op seen' ∧ seen ⊆ seen' := Iff.rfl

theorem SeenLe_pending_pending {op : Op K V} {seen seen' : List (Res K V)} (h : seen ⊆ seen') :
    SeenLe (.pending op seen : APc K V) (.pending op seen') := ⟨seen', rfl, h⟩

theorem SeenLe_pending_cons (op : Op K V) (seen : List (Res K V)) (r : Res K V) :
    SeenLe (.pending op seen : APc K V) (.pending op (r :: seen)) :=
  ⟨r :: seen, rfl, fun _ h => List.mem_cons_of_mem _ h⟩

theorem SeenLe_iff {a a' : APc K V} :
    SeenLe a a' ↔ (∀ op seen, a = .pending op seen → ∃ seen', a' = .pending op seen' ∧ seen ⊆ seen') ∧
      (a = .idle → a' = .idle) ∧ (∀ op r, a = .done op r → a' = .done op r) := by
  cases a <;> simp [SeenLe]

theorem SeenLe.mem_seenOf {a a' : APc K V} (h : SeenLe a a') {r : Res K V} (hr : r ∈ seenOf a) : r ∈ seenOf a' :=
  h.elim (motive := fun a a' => r ∈ seenOf a → r ∈ seenOf a') id (fun _ _ _ hs hr => hs hr) hr

theorem SeenLe.pend_iff {a a' : APc K V} (h : SeenLe a a') (op : Op K V) : Pend a' op ↔ Pend a op :=
  h.elim (motive := fun a a' => Pend a' op ↔ Pend a op) Iff.rfl fun _ _ _ _ => Iff.rfl

theorem SeenLe.pend {a a' : APc K V} (h : SeenLe a a') {op : Op K V} (hp : Pend a op) : Pend a' op :=
  (h.pend_iff op).mpr hp

theorem SeenLe.isIdle {a a' : APc K V} (h : SeenLe a a') (hp : IsIdle a) : IsIdle a' :=
  h.elim (motive := fun a a' => IsIdle a → IsIdle a') id (fun _ _ _ _ => id) hp

theorem SeenLe.doneWith_iff {a a' : APc K V} (h : SeenLe a a') (f : Op K V → Bool) (r : Res K V) :
    DoneWith a' f r ↔ DoneWith a f r :=
  h.elim (motive := fun a a' => DoneWith a' f r ↔ DoneWith a f r) Iff.rfl fun _ _ _ _ => Iff.rfl

theorem SeenLe.doneWith {a a' : APc K V} (h : SeenLe a a') {f : Op K V → Bool} {r : Res K V} (hp : DoneWith a f r) :
    DoneWith a' f r :=
  (h.doneWith_iff f r).mpr hp

theorem SeenLe.retOk {a a' : APc K V} (h : SeenLe a a') {r : Res K V} (hp : RetOk a r) : RetOk a' r :=
  h.elim (motive := fun a a' => RetOk a r → RetOk a' r) id (fun _ _ _ hs hp => hs hp) hp

theorem SeenLe.isPending_eq {a a' : APc K V} (h : SeenLe a a') : isPending a' = isPending a :=
  h.elim (motive := fun a a' => isPending a' = isPending a) rfl fun _ _ _ _ => rfl

theorem SeenLe.eq_of_not_pending {a a' : APc K V} (h : SeenLe a a') (hp : isPending a = false) : a' = a :=
  h.elim (motive := fun a a' => isPending a = false → a' = a) (fun _ => rfl) (fun _ _ _ _ hp => nomatch hp) hp

theorem unlinkedPc_seenLe {a a' : APc K V} (h : SeenLe a a') (pc : Pc K V) : unlinkedPc pc a' = unlinkedPc pc a :=
  h.elim (motive := fun a a' => unlinkedPc pc a' = unlinkedPc pc a) rfl fun _ _ _ _ => by
    cases pc with
    | ladMiss d k e => cases e <;> rfl
    | _ => rfl

/-- What the holder of the mutex reads of the shared state: `mu`, `read.m`, `amended`, the dirty map, and which
entries are not expunged. -/
structure OwnerView (sh' sh : Shared K V) : Prop where
  mu : sh'.mu = sh.mu
  readM : sh'.readM = sh.readM
  amended : sh'.amended = sh.amended
  dirty : sh'.dirty = sh.dirty
  live : ∀ e, (getP sh e).isExpunged = false → (getP sh' e).isExpunged = false

namespace OwnerView
variable {sh sh' : Shared K V}

theorem refl (sh : Shared K V) : OwnerView sh sh := ⟨rfl, rfl, rfl, rfl, fun _ => id⟩

theorem own (h : OwnerView sh' sh) {u : Tid} (ho : Own sh u) : Own sh' u := h.mu.trans ho

theorem dirtyMap (h : OwnerView sh' sh) : dirtyMap sh' = dirtyMap sh := dirtyMap_congr h.dirty

theorem promoting (h : OwnerView sh' sh) {u : Tid} (hp : Promoting sh u) : Promoting sh' u :=
  ⟨h.own hp.1, h.amended.trans hp.2.1, h.dirty ▸ hp.2.2⟩

end OwnerView

variable [DecidableEq K]

/-- the two shapes held from a `read` snapshot survive a change that keeps `read.m`, the allocated entries and the
dead entries -/
theorem HoldRead.mono {sh sh' : Shared K V} {k : K} {e : EId} (h : HoldRead sh k e)
    (hl : sh.entries.length ≤ sh'.entries.length) (hr : sh'.readM = sh.readM) (hd : Dead sh e → Dead sh' e) :
    HoldRead sh' k e :=
  ⟨Nat.lt_of_lt_of_le h.1 hl, h.2.imp (fun h1 => hr ▸ h1) hd⟩

theorem HoldDel.mono {sh sh' : Shared K V} {d : Bool} {k : K} {e : EId} {a a' : APc K V} (h : HoldDel sh d k e a)
    (hs : SeenLe a a') (hl : sh.entries.length ≤ sh'.entries.length) (hr : sh'.readM = sh.readM)
    (hd : Dead sh e → Dead sh' e) : HoldDel sh' d k e a' :=
  ⟨Nat.lt_of_lt_of_le h.1 hl, h.2.imp (fun h1 => hr ▸ h1) fun h1 => ⟨hd h1.1, hs.mem_seenOf h1.2⟩⟩

/-- `HoldLoad` case by case: the entry stays current, stays dead, or stays an orphan that shows no new value -/
theorem HoldLoad.mono {sh sh' : Shared K V} {k : K} {e : EId} {a a' : APc K V} (h : HoldLoad sh k e a)
    (hs : SeenLe a a') (hl : sh.entries.length ≤ sh'.entries.length) (hcur : Cur sh k e → HoldLoad sh' k e a')
    (hd : Dead sh e → Dead sh' e)
    (ho : Orphan sh e → Orphan sh' e ∧ ∀ v, (getP sh' e).value? = some v → (getP sh e).value? = some v) :
    HoldLoad sh' k e a' := by
  rcases h.2 with h1 | ⟨h1, h2⟩ | ⟨h1, h2, h3⟩
  · exact hcur h1
  · exact ⟨Nat.lt_of_lt_of_le h.1 hl, Or.inr (Or.inl ⟨hd h1, hs.mem_seenOf h2⟩)⟩
  · refine ⟨Nat.lt_of_lt_of_le h.1 hl, Or.inr (Or.inr ⟨(ho h1).1, hs.mem_seenOf h2, ?_⟩)⟩
    cases hv : (getP sh' e).value? with
    | none => trivial
    | some v => rw [(ho h1).2 v hv] at h3; exact hs.mem_seenOf h3

/-- `G` depends on the abstract pcs only through `unlinkedPc` -/
theorem G_congr_apcs {s : State K V} {apcs apcs' : Nat → APc K V} (g : G s apcs)
    (h : ∀ t, t < s.pcs.length → unlinkedPc (s.pc t) (apcs' t) = unlinkedPc (s.pc t) (apcs t)) : G s apcs' :=
  { g with
    unlinked := by
      intro t u ht hu hne e he
      rw [h t ht] at he
      rw [h u hu]
      exact g.unlinked t u ht hu hne e he }

theorem G_seenLe {s : State K V} {apcs apcs' : Nat → APc K V} (g : G s apcs) (h : ∀ t, SeenLe (apcs t) (apcs' t)) :
    G s apcs' :=
  G_congr_apcs g fun t _ => unlinkedPc_seenLe (h t) _

namespace OwnerView
variable {sh sh' : Shared K V}

theorem storeTarget (h : OwnerView sh' sh) {k : K} {e : EId} (hp : StoreTarget sh k e) : StoreTarget sh' k e :=
  hp.imp (fun h1 => ⟨h.readM ▸ h1.1, h.live e h1.2⟩) (fun h1 => ⟨h.readM ▸ h1.1, h.dirtyMap ▸ h1.2⟩)

theorem building (h : OwnerView sh' sh) {l : List (K × EId)} (hp : Building sh l) : Building sh' l :=
  ⟨hp.1, fun q hq =>
    have h1 := hp.2 q hq
    ⟨h.readM ▸ h1.1, h.dirtyMap ▸ h1.2.1, h.dirtyMap ▸ h1.2.2.1, h.live _ h1.2.2.2⟩⟩

theorem newTail (h : OwnerView sh' sh) {u : Tid} {c : NewCtx} {k : K} {v : V} {rm : List (K × EId)} {a a' : APc K V}
    (hs : SeenLe a a') (hp : NewTail sh u c k v rm a) : NewTail sh' u c k v rm a' :=
  ⟨hs.pend hp.1, h.own hp.2.1, hp.2.2.1.trans h.readM.symm, h.amended.trans hp.2.2.2.1, h.readM ▸ hp.2.2.2.2⟩

end OwnerView

variable [DecidableEq V]

theorem SeenLe_observePc (obj : K → Option V) (a : APc K V) : SeenLe a (observePc obj a) := by
  cases a with
  | idle => rfl
  | done op r => rfl
  | pending op seen =>
    simp only [observePc]
    cases pureRes obj op with
    | none => exact SeenLe.refl _
    | some r =>
      simp only
      split
      · exact SeenLe.refl _
      · exact SeenLe_pending_cons op seen r

@[simp] theorem pend_observePc {obj : K → Option V} {p : APc K V} {op : Op K V} :
    Pend (observePc obj p) op ↔ Pend p op :=
  (SeenLe_observePc obj p).pend_iff op

@[simp] theorem doneWith_observePc {obj : K → Option V} {p : APc K V} {f : Op K V → Bool} {r : Res K V} :
    DoneWith (observePc obj p) f r ↔ DoneWith p f r :=
  (SeenLe_observePc obj p).doneWith_iff f r

@[simp] theorem isPending_observePc {obj : K → Option V} {p : APc K V} :
    isPending (observePc obj p) = isPending p :=
  (SeenLe_observePc obj p).isPending_eq

theorem seenOf_observePc_mono {obj : K → Option V} {p : APc K V} {r : Res K V}
    (h : r ∈ seenOf p) : r ∈ seenOf (observePc obj p) :=
  (SeenLe_observePc obj p).mem_seenOf h

theorem SeenLe.unlinker {a a' : APc K V} (h : SeenLe a a') {sh : Shared K V} {d : Bool} {k : K} {e : EId}
    (hp : Unlinker sh d k e a) : Unlinker sh d k e a' := by
  simp only [Unlinker_iff, h.doneWith_iff] at hp ⊢
  exact hp

/-- What `T sh u pc a` depends on.  A goroutine that holds the mutex needs what `OwnerView` lists; one that does
not needs the four "hold" shapes to survive.  An entry it has unlinked keeps its pointer (`delCas` compares it).
The abstract pc may have seen more. -/
theorem T_transfer {sh sh' : Shared K V} {u : Tid} {pc : Pc K V} {a a' : APc K V}
    (hT : T sh u pc a) (hs : SeenLe a a') (hown : Own sh u → OwnerView sh' sh) (hno : ¬ Own sh u → ¬ Own sh' u)
    (hHR : ∀ k e, HoldRead sh k e → HoldRead sh' k e)
    (hHL : ∀ k e, Pend a (.load k) → HoldLoad sh k e a → HoldLoad sh' k e a')
    (hHD : ∀ d k e, Pend a (ladOp d k) → HoldDel sh d k e a → HoldDel sh' d k e a')
    (hUL : ∀ d k e, e ∈ unlinkedPc pc a → Unlinker sh d k e a →
      Unlinker sh' d k e a' ∧ getP sh' e = getP sh e) :
    T sh' u pc a' := by
  have idle : IsIdle a ∧ ¬ Own sh u → IsIdle a' ∧ ¬ Own sh' u := fun h => ⟨hs.isIdle h.1, hno h.2⟩
  have pend : ∀ op, Pend a op ∧ ¬ Own sh u → Pend a' op ∧ ¬ Own sh' u := fun _ h => ⟨hs.pend h.1, hno h.2⟩
  have pendO : ∀ op, Pend a op ∧ Own sh u → Pend a' op ∧ Own sh' u := fun _ h => ⟨hs.pend h.1, (hown h.2).own h.2⟩
  have ret : ∀ r, RetOk a r ∧ ¬ Own sh u → RetOk a' r ∧ ¬ Own sh' u := fun _ h => ⟨hs.retOk h.1, hno h.2⟩
  have los : ∀ {c k e}, LosHold sh u c k e → LosHold sh' u c k e := by
    intro c k e h
    cases c with
    | fast => exact ⟨hno h.1, hHR k e h.2⟩
    | slowRead => have o := hown h.1; exact ⟨o.own h.1, o.readM ▸ h.2.1, o.live e h.2.2⟩
    | slowDirty => have o := hown h.1; exact ⟨o.own h.1, o.readM ▸ h.2.1, o.dirtyMap ▸ h.2.2⟩
  -- a goroutine whose call has taken effect (`a` is `done`) at `delLoad`/`delCas` has `e` in `unlinkedPc`
  have del : ∀ {d k e}, (∀ op r, a = .done op r → e ∈ unlinkedPc pc a) → DelHold sh u d k e a →
      DelHold sh' u d k e a' := by
    intro d k e hm h
    refine ⟨hno h.1, h.2.imp (fun h => ⟨hs.pend h.1, hHD _ _ _ h.1 h.2⟩) (fun h1 => ?_)⟩
    obtain ⟨op, r, ha⟩ := h1.done
    exact (hUL d k e (hm op r ha) h1).1
  have range : ∀ {l acc}, RangeHold sh l acc → RangeHold sh' l acc := fun h =>
    ⟨h.1, fun p hp => hHR _ _ (h.2 p hp)⟩
  have tail : ∀ {c k v rm}, NewTail sh u c k v rm a → NewTail sh' u c k v rm a' ∧ OwnerView sh' sh :=
    fun h => ⟨(hown h.own).newTail hs h, hown h.own⟩
  -- the four pcs inside the `dirtyLocked` loop
  have build : ∀ {c k v rm l}, NewTail sh u c k v rm a ∧ sh.dirty.isSome = true ∧ Building sh l →
      NewTail sh' u c k v rm a' ∧ sh'.dirty.isSome = true ∧ Building sh' l :=
    fun h => have o := tail h.1; ⟨o.1, o.2.dirty ▸ h.2.1, o.2.building h.2.2⟩
  cases pc with
  | idle => exact idle hT
  | start op =>
    cases op with
    | range => exact idle hT
    | _ => exact pend _ hT
  | ret r =>
    cases r with
    | pairs l => exact And.intro (hs.isIdle hT.1) ⟨hno hT.2.1, hT.2.2⟩
    | _ => exact ret _ hT
  | loadRead1 k => exact pend _ hT
  | loadLock k => exact pend _ hT
  | loadRead2 k => exact pendO _ hT
  | loadMiss k e =>
    have o := hown hT.2.1.own
    exact And.intro (hs.pend hT.1) ⟨o.promoting hT.2.1, o.readM ▸ hT.2.2.1, o.dirtyMap ▸ hT.2.2.2⟩
  | loadPtr k e => exact And.intro (hs.pend hT.1) ⟨hno hT.2.1, hHL k e hT.1 hT.2.2⟩
  | storeRead1 k v => exact pend _ hT
  | tryStoreLoad k v e => exact And.intro (hs.pend hT.1) ⟨hno hT.2.1, hHR k e hT.2.2⟩
  | tryStoreCas k v e p => exact And.intro (hs.pend hT.1) ⟨hno hT.2.1, hHR k e hT.2.2.1, hT.2.2.2⟩
  | storeLock k v => exact pend _ hT
  | storeRead2 k v => exact pendO _ hT
  | storeUnexp k v e =>
    have o := hown hT.2.1
    exact And.intro (hs.pend hT.1) ⟨o.own hT.2.1, o.readM ▸ hT.2.2⟩
  | storeLocked k v e =>
    have o := hown hT.2.1
    exact And.intro (hs.pend hT.1) ⟨o.own hT.2.1, o.storeTarget hT.2.2⟩
  | dirtyRead c k v rm => exact And.intro (tail hT.1).1 ((tail hT.1).2.dirty ▸ hT.2)
  | dirtyPick c k v rm todo => exact build hT
  | expLoad c k v rm todo k' e' => exact build hT
  | expCas c k v rm todo k' e' => exact build hT
  | expLoad2 c k v rm todo k' e' => exact build hT
  | readStore c k v rm => exact And.intro (tail hT.1).1 ((tail hT.1).2.dirty ▸ hT.2)
  | losRead1 k v => exact pend _ hT
  | losLoad c k v e => exact And.intro (hs.pend hT.1) (los hT.2)
  | losCas c k v e => exact And.intro (hs.pend hT.1) (los hT.2)
  | losLoad2 c k v e => exact And.intro (hs.pend hT.1) (los hT.2)
  | losLock k v => exact pend _ hT
  | losRead2 k v => exact pendO _ hT
  | losUnexp k v e =>
    have o := hown hT.2.1
    exact And.intro (hs.pend hT.1) ⟨o.own hT.2.1, o.readM ▸ hT.2.2⟩
  | losMiss k r => exact And.intro (hs.doneWith hT.1) ⟨hT.2.1, (hown hT.2.2.own).promoting hT.2.2⟩
  | ladRead1 d k => exact pend _ hT
  | ladLock d k => exact pend _ hT
  | ladRead2 d k => exact pendO _ hT
  | ladMiss d k e =>
    have o := hown hT.1.own
    refine And.intro (o.promoting hT.1) ⟨o.readM ▸ hT.2.1, o.dirtyMap ▸ hT.2.2.1, ?_⟩
    cases e with
    | none => exact hs.pend hT.2.2.2
    | some e => exact (hUL d k e (List.mem_singleton_self e) hT.2.2.2).1
  | delLoad d k e => exact del (fun op r ha => ha ▸ List.mem_singleton_self e) hT
  | delCas d k e p =>
    have hm : ∀ op r, a = .done op r → e ∈ unlinkedPc (.delCas d k e p) a :=
      fun op r ha => ha ▸ List.mem_singleton_self e
    refine And.intro (del hm hT.1) ⟨hT.2.1, fun hu' => ?_⟩
    rcases hT.1.2 with ⟨h1, _⟩ | h1
    · -- still pending, so not done: not an unlinker, before or after
      obtain ⟨v, _, hdw⟩ := hu'.spec
      have hdw' := (hs.doneWith_iff _ _).mp hdw
      cases a with
      | pending op seen => exact hdw'.elim
      | _ => exact h1.elim
    · obtain ⟨op, r, ha⟩ := h1.done
      rw [(hUL d k e (hm op r ha) h1).2]
      exact hT.2.2 h1
  | rangeRead1 => exact idle hT
  | rangeLock => exact idle hT
  | rangeRead2 => exact And.intro (hs.isIdle hT.1) ((hown hT.2).own hT.2)
  | rangeStore dm =>
    have o := hown hT.2.1.own
    exact And.intro (hs.isIdle hT.1) ⟨o.promoting hT.2.1, o.dirtyMap ▸ hT.2.2⟩
  | rangePick todo acc => exact And.intro (hs.isIdle hT.1) ⟨hno hT.2.1, range hT.2.2⟩
  | rangeLoad todo acc k' e' => exact And.intro (hs.isIdle hT.1) ⟨hno hT.2.1, range hT.2.2⟩

theorem T_mono {sh : Shared K V} {t : Tid} {pc : Pc K V} {a a' : APc K V} (hT : T sh t pc a) (h : SeenLe a a') :
    T sh t pc a' :=
  T_transfer hT h (fun _ => .refl sh) id (fun _ _ => id)
    (fun _ _ _ hr => hr.mono h (Nat.le_refl _) (fun h1 => ⟨hr.1, Or.inl h1⟩) id fun h1 => ⟨h1, fun _ => id⟩)
    (fun _ _ _ _ hr => hr.mono h (Nat.le_refl _) rfl id)
    (fun _ _ _ _ hu => ⟨h.unlinker hu, rfl⟩)

theorem T_observePc {sh : Shared K V} {t : Tid} {pc : Pc K V} {a : APc K V} (hT : T sh t pc a) (obj : K → Option V) :
    T sh t pc (observePc obj a) :=
  T_mono hT (SeenLe_observePc obj a)

section KeepReadLemmas
set_option linter.unusedSectionVars false -- `DecidableEq K`, `V` are in scope for `T`; the lemmas about entries alone use neither

/-- `sh'` has the same `read.m`, the allocated entries keep their pointers, and no entry that was in neither map is in
the dirty map now -/
structure KeepRead (sh sh' : Shared K V) : Prop where
  readM : sh'.readM = sh.readM
  len : sh.entries.length ≤ sh'.entries.length
  ptr : ∀ e, e < sh.entries.length → getP sh' e = getP sh e
  out : ∀ e, e < sh.entries.length → e ∉ vals sh.readM → e ∉ vals (dirtyMap sh) → e ∉ vals (dirtyMap sh')

theorem KeepRead.dead {sh sh' : Shared K V} (h : KeepRead sh sh') {e : EId} (hd : Dead sh e) : Dead sh' e := by
  have hl := hd.lt_length
  refine ⟨?_, ?_, ?_⟩
  · rw [h.ptr e hl]; exact hd.1
  · rw [h.readM]; exact hd.2.1
  · exact h.out e hl hd.2.1 hd.2.2

theorem KeepRead.orphan {sh sh' : Shared K V} (h : KeepRead sh sh') {e : EId} (hl : e < sh.entries.length)
    (ho : Orphan sh e) : Orphan sh' e := by
  refine ⟨?_, ?_, ?_⟩
  · rw [h.ptr e hl]; exact ho.1
  · rw [h.readM]; exact ho.2.1
  · exact h.out e hl ho.2.1 ho.2.2

theorem KeepRead.unlinker {sh sh' : Shared K V} (h : KeepRead sh sh') {a a' : APc K V} (hs : SeenLe a a') {d : Bool}
    {k : K} {e : EId} (hr : Unlinker sh d k e a) : Unlinker sh' d k e a' := by
  rw [Unlinker_iff] at hr ⊢
  obtain ⟨h1, h2, h3, v, hv, hdw⟩ := hr
  refine ⟨Nat.lt_of_lt_of_le h1 h.len, ?_, h.out e h1 h2 h3, v, ?_, hs.doneWith hdw⟩
  · rw [h.readM]; exact h2
  · rw [h.ptr e h1]; exact hv

/-- `HoldLoad` survives, if the one shape that is not covered by `KeepRead` (current through the dirty map) does -/
theorem KeepRead.holdLoad {sh sh' : Shared K V} (h : KeepRead sh sh') {a a' : APc K V} (hs : SeenLe a a') {k : K}
    {e : EId} (hr : HoldLoad sh k e a)
    (hcur : alookup k sh.readM = none → alookup k (dirtyMap sh) = some e → HoldLoad sh' k e a') :
    HoldLoad sh' k e a' :=
  hr.mono hs h.len
    (fun h1 => h1.elim (fun h1 => ⟨Nat.lt_of_lt_of_le hr.1 h.len, Or.inl (Or.inl (h.readM ▸ h1))⟩)
      fun h1 => hcur h1.1 h1.2)
    h.dead fun h1 => ⟨h.orphan hr.1 h1, fun _ hv => h.ptr e hr.1 ▸ hv⟩

/-- `T` under a `KeepRead` change; `hcur` takes care of a pending Load whose entry is current through the dirty map -/
theorem KeepRead.T_bystander {sh sh' : Shared K V} (h : KeepRead sh sh') {u : Tid} {pc : Pc K V} {a a' : APc K V}
    (hT : T sh u pc a) (hs : SeenLe a a') (hown : Own sh u → OwnerView sh' sh) (hno : ¬ Own sh u → ¬ Own sh' u)
    (hcur : ∀ k e, Pend a (.load k) → e < sh.entries.length → alookup k sh.readM = none →
      alookup k (dirtyMap sh) = some e → HoldLoad sh' k e a') :
    T sh' u pc a' :=
  T_transfer hT hs hown hno (fun _ _ hr => hr.mono h.len h.readM h.dead)
    (fun k e hp hr => h.holdLoad hs hr (hcur k e hp hr.1)) (fun _ _ _ _ hr => hr.mono hs h.len h.readM h.dead)
    (fun _ _ e _ hr => ⟨h.unlinker hs hr, h.ptr e hr.lt_length⟩)

/-- … for a bystander, in the common case that keys which are only in the dirty map keep their entry -/
theorem KeepRead.T_bystander' {sh sh' : Shared K V} (h : KeepRead sh sh') {u : Tid} {pc : Pc K V} {a a' : APc K V}
    (hT : T sh u pc a) (hno : ¬ Own sh u) (hno' : ¬ Own sh' u) (hs : SeenLe a a')
    (hcur : ∀ k e, alookup k sh.readM = none → alookup k (dirtyMap sh) = some e →
      alookup k (dirtyMap sh') = some e) :
    T sh' u pc a' :=
  h.T_bystander hT hs (fun o => absurd o hno) (fun _ => hno') (fun k e _ hl h1 h2 =>
    ⟨Nat.lt_of_lt_of_le hl h.len, Or.inl (Or.inr ⟨by rw [h.readM]; exact h1, hcur k e h1 h2⟩)⟩)

/-- states with the same entries and maps: a `KeepRead` change in both directions -/
theorem SameData.keepRead {sh sh' : Shared K V} (h : SameData sh' sh) : KeepRead sh sh' :=
  ⟨h.readM, Nat.le_of_eq h.length.symm, fun e _ => h.getP e, fun _ _ _ hd => h.dirtyMap ▸ hd⟩

/-- `T` looks at entries, maps and at whether `t` itself holds the mutex -/
theorem T_congr {sh sh' : Shared K V} (h : SameData sh' sh) {t : Tid} (ho : Own sh' t ↔ Own sh t) (pc : Pc K V)
    (a : APc K V) : T sh' t pc a ↔ T sh t pc a := by
  have key : ∀ {sh sh' : Shared K V}, SameData sh' sh → (Own sh' t ↔ Own sh t) → T sh t pc a → T sh' t pc a :=
    fun h ho hT => h.keepRead.T_bystander hT (SeenLe.refl a)
      (fun o => ⟨(ho.mpr o).trans o.symm, h.readM, h.amended, h.dirty, fun e he => h.getP e ▸ he⟩)
      (fun hn o => hn (ho.mp o))
      (fun k e _ hl h1 h2 => ⟨h.length ▸ hl, Or.inl (Or.inr ⟨h.readM ▸ h1, h.dirtyMap ▸ h2⟩)⟩)
  exact ⟨key h.symm ho.symm, key h ho⟩

end KeepReadLemmas

@[simp] theorem unlinkedPc_observePc (obj : K → Option V) (pc : Pc K V) (a : APc K V) :
    unlinkedPc pc (observePc obj a) = unlinkedPc pc a :=
  unlinkedPc_seenLe (SeenLe_observePc obj a) pc

end Seen


section Steps
variable {K V : Type}

theorem lockStep_eq_some_iff {sh sh' : Shared K V} {t : Tid} {next pc' : Pc K V} :
    lockStep sh t next = some (sh', pc') ↔ sh.mu = none ∧ sh' = { sh with mu := some t } ∧ pc' = next := by
  unfold lockStep
  cases h : sh.mu with
  | none => simp [eq_comm]
  | some u => simp

theorem lockStep_of_mu_some {sh : Shared K V} {t u : Tid} (h : sh.mu = some u) (next : Pc K V) :
    lockStep sh t next = none := by
  unfold lockStep; rw [h]

theorem lockStep_of_mu_none {sh : Shared K V} {t : Tid} (h : sh.mu = none) (next : Pc K V) :
    lockStep sh t next = some ({ sh with mu := some t }, next) := by
  unfold lockStep; rw [h]

@[simp] theorem unprocPc_dirtyNext (c : NewCtx) (k : K) (v : V) (rm todo : List (K × EId)) :
    unprocPc (dirtyNext c k v rm todo) = todo := by
  unfold dirtyNext
  cases todo <;> rfl

@[simp] theorem unprocPc_rangeNext (todo : List (K × EId)) (acc : List (K × V)) :
    unprocPc (rangeNext todo acc) = [] := by
  unfold rangeNext; split <;> rfl

@[simp] theorem unprocPc_loadAfter (k : K) (e : Option EId) : unprocPc (loadAfter k e : Pc K V) = [] := by
  cases e <;> rfl

@[simp] theorem unprocPc_ladAfter (d : Bool) (k : K) (e : Option EId) : unprocPc (ladAfter d k e : Pc K V) = [] := by
  cases e <;> rfl

@[simp] theorem lockedPc_dirtyNext (c : NewCtx) (k : K) (v : V) (rm todo : List (K × EId)) :
    lockedPc (dirtyNext c k v rm todo) = true := by
  unfold dirtyNext; split <;> rfl

@[simp] theorem lockedPc_rangeNext (todo : List (K × EId)) (acc : List (K × V)) :
    lockedPc (rangeNext todo acc) = false := by
  unfold rangeNext; split <;> rfl

@[simp] theorem lockedPc_loadAfter (k : K) (e : Option EId) : lockedPc (loadAfter k e : Pc K V) = false := by
  cases e <;> rfl

@[simp] theorem lockedPc_ladAfter (d : Bool) (k : K) (e : Option EId) : lockedPc (ladAfter d k e : Pc K V) = false := by
  cases e <;> rfl

theorem dirtyNext_nil (c : NewCtx) (k : K) (v : V) (rm : List (K × EId)) :
    dirtyNext c k v rm [] = .readStore c k v rm := rfl

theorem dirtyNext_cons (c : NewCtx) (k : K) (v : V) (rm : List (K × EId)) (p : K × EId) (todo : List (K × EId)) :
    dirtyNext c k v rm (p :: todo) = .dirtyPick c k v rm (p :: todo) := rfl

theorem rangeNext_nil (acc : List (K × V)) : rangeNext ([] : List (K × EId)) acc = .ret (.pairs acc) := rfl

theorem rangeNext_cons (p : K × EId) (todo : List (K × EId)) (acc : List (K × V)) :
    rangeNext (p :: todo) acc = .rangePick (p :: todo) acc := rfl

variable [DecidableEq K]

theorem expDone_eq (sh : Shared K V) (p : Ptr V) (k' : K) (e' : EId) :
    expDone sh p k' e' = if p.isExpunged then sh else setDirty sh k' e' := rfl

@[simp] theorem expDone_entries (sh : Shared K V) (p : Ptr V) (k' : K) (e' : EId) :
    (expDone sh p k' e').entries = sh.entries := by unfold expDone; split <;> simp

@[simp] theorem expDone_readM (sh : Shared K V) (p : Ptr V) (k' : K) (e' : EId) :
    (expDone sh p k' e').readM = sh.readM := by unfold expDone; split <;> simp

@[simp] theorem expDone_amended (sh : Shared K V) (p : Ptr V) (k' : K) (e' : EId) :
    (expDone sh p k' e').amended = sh.amended := by unfold expDone; split <;> simp

@[simp] theorem expDone_mu (sh : Shared K V) (p : Ptr V) (k' : K) (e' : EId) :
    (expDone sh p k' e').mu = sh.mu := by unfold expDone; split <;> simp

@[simp] theorem expDone_misses (sh : Shared K V) (p : Ptr V) (k' : K) (e' : EId) :
    (expDone sh p k' e').misses = sh.misses := by unfold expDone; split <;> simp

@[simp] theorem expDone_nextPtr (sh : Shared K V) (p : Ptr V) (k' : K) (e' : EId) :
    (expDone sh p k' e').nextPtr = sh.nextPtr := by unfold expDone; split <;> simp

@[simp] theorem expDone_zst (sh : Shared K V) (p : Ptr V) (k' : K) (e' : EId) :
    (expDone sh p k' e').zst = sh.zst := by unfold expDone; split <;> simp

@[simp] theorem getP_expDone (sh : Shared K V) (p : Ptr V) (k' : K) (e' e : EId) :
    getP (expDone sh p k' e') e = getP sh e := by unfold expDone; split <;> simp

theorem expDone_dirty_isSome (sh : Shared K V) (p : Ptr V) (k' : K) (e' : EId) :
    (expDone sh p k' e').dirty.isSome = sh.dirty.isSome := by unfold expDone; split <;> simp

theorem expDone_fault_of_isSome {sh : Shared K V} (h : sh.dirty.isSome = true) (p : Ptr V) (k' : K) (e' : EId) :
    (expDone sh p k' e').fault = sh.fault := by
  unfold expDone; split
  · rfl
  · exact setDirty_fault_of_isSome h k' e'

theorem dirtyMap_expDone_of_isSome {sh : Shared K V} (h : sh.dirty.isSome = true) (p : Ptr V) (k' : K) (e' : EId) :
    dirtyMap (expDone sh p k' e') = if p.isExpunged then dirtyMap sh else ainsert k' e' (dirtyMap sh) := by
  unfold expDone; split
  · rfl
  · exact dirtyMap_setDirty_of_isSome h k' e'

theorem mem_stepT_iff [Inhabited V] {menu : List (Op K V)} {s s' : State K V} {t : Tid}
    {l : Option (SyncMapConc.Event K V)} :
    (l, s') ∈ stepT menu s t ↔
      (s.pc t = .idle ∧ ∃ op, op ∈ menu ∧ l = some (.inv t op) ∧ s' = setPc s t s.sh (.start op)) ∨
      (∃ r, s.pc t = .ret r ∧ l = some (.res t r) ∧ s' = setPc s t s.sh .idle) ∨
      (s.pc t ≠ .idle ∧ (∀ r, s.pc t ≠ .ret r) ∧ l = none ∧
        ((∃ sh' pc', exec s.sh t (s.pc t) = some (sh', pc') ∧ s' = setPc s t sh' pc') ∨
         (∃ c, c ∈ picks (s.pc t) ∧ s' = setPc s t s.sh c.2))) := by
  unfold stepT
  split
  · rename_i h
    simp only [h, List.mem_map, Prod.mk.injEq, true_and, ne_eq, not_true_eq_false, false_and, or_false,
      reduceCtorEq, exists_false]
    constructor
    · rintro ⟨op, hop, h1, h2⟩; exact ⟨op, hop, h1.symm, h2.symm⟩
    · rintro ⟨op, hop, h1, h2⟩; exact ⟨op, hop, h1.symm, h2.symm⟩
  · rename_i r h
    simp only [h, List.mem_singleton, Prod.mk.injEq, reduceCtorEq, false_and, Pc.ret.injEq, exists_eq_left',
      ne_eq, not_false_eq_true, true_and, false_or]
    constructor
    · rintro ⟨h1, h2⟩; exact Or.inl ⟨h1, h2⟩
    · rintro (⟨h1, h2⟩ | ⟨h1, _⟩)
      · exact ⟨h1, h2⟩
      · exact absurd rfl (h1 r)
  · rename_i hi hr
    have hi' : s.pc t ≠ .idle := hi
    have hr' : ∀ r, s.pc t ≠ .ret r := hr
    simp only [hi', false_and, false_or, ne_eq, not_false_eq_true, true_and]
    constructor
    · intro h
      rcases List.mem_append.mp h with h | h
      · cases he : exec s.sh t (s.pc t) with
        | none => rw [he] at h; cases h
        | some q =>
          obtain ⟨sh', pc'⟩ := q
          rw [he] at h
          simp only [List.mem_singleton, Prod.mk.injEq] at h
          exact Or.inr ⟨hr', h.1, Or.inl ⟨sh', pc', rfl, h.2⟩⟩
      · obtain ⟨c, hc, h1⟩ := List.mem_map.mp h
        simp only [Prod.mk.injEq] at h1
        exact Or.inr ⟨hr', h1.1.symm, Or.inr ⟨c, hc, h1.2.symm⟩⟩
    · rintro (⟨r, h1, _⟩ | ⟨_, hl, h⟩)
      · exact absurd h1 (hr' r)
      · subst hl
        apply List.mem_append.mpr
        rcases h with ⟨sh', pc', he, h1⟩ | ⟨c, hc, h1⟩
        · left; rw [he, h1]; simp
        · right; exact List.mem_map.mpr ⟨c, hc, by rw [h1]⟩

theorem mem_succ_iff [Inhabited V] {menu : List (Op K V)} {s : State K V}
    {x : Option (SyncMapConc.Event K V) × State K V} :
    x ∈ succ menu s ↔ ∃ t, t < s.pcs.length ∧ x ∈ stepT menu s t := by
  unfold succ
  simp only [List.mem_flatMap, List.mem_range]

theorem lt_length_of_exec [Inhabited V] {s : State K V} {t : Tid} {r : Shared K V × Pc K V}
    (hex : exec s.sh t (s.pc t) = some r) : t < s.pcs.length :=
  lt_length_of_pc_ne_idle fun h => by rw [h] at hex; cases hex

theorem mem_stepT_none_iff [Inhabited V] {menu : List (Op K V)} {s s' : State K V} {t : Tid} :
    (none, s') ∈ stepT menu s t ↔
      (∃ sh' pc', exec s.sh t (s.pc t) = some (sh', pc') ∧ s' = setPc s t sh' pc') ∨
        ∃ c, c ∈ picks (s.pc t) ∧ s' = setPc s t s.sh c.2 := by
  rw [mem_stepT_iff]
  constructor
  · rintro (⟨_, _, _, h, _⟩ | ⟨_, _, h, _⟩ | ⟨_, _, _, h⟩)
    · cases h
    · cases h
    · exact h
  · intro h
    refine .inr (.inr ⟨fun hi => ?_, fun r hr => ?_, rfl, h⟩)
    · rw [hi] at h
      rcases h with ⟨_, _, hex, _⟩ | ⟨_, hc, _⟩
      · cases hex
      · cases hc
    · rw [hr] at h
      rcases h with ⟨_, _, hex, _⟩ | ⟨_, hc, _⟩
      · cases hex
      · cases hc

theorem stepT_setPc [Inhabited V] {menu : List (Op K V)} {s s' : State K V} {t : Tid}
    {l : Option (SyncMapConc.Event K V)} (h : (l, s') ∈ stepT menu s t) : ∃ sh' pc', s' = setPc s t sh' pc' := by
  rcases mem_stepT_iff.mp h with ⟨_, _, _, _, h⟩ | ⟨_, _, _, h⟩ | ⟨_, _, _, ⟨_, _, _, h⟩ | ⟨_, _, h⟩⟩
  all_goals exact ⟨_, _, h⟩

theorem succ_of_exec [Inhabited V] {menu : List (Op K V)} {s : State K V} {t : Tid} {sh' : Shared K V} {pc' : Pc K V}
    (hex : exec s.sh t (s.pc t) = some (sh', pc')) : (none, setPc s t sh' pc') ∈ succ menu s :=
  mem_succ_iff.mpr ⟨t, lt_length_of_exec hex, mem_stepT_none_iff.mpr (.inl ⟨sh', pc', hex, rfl⟩)⟩

theorem stepT_pc_ne [Inhabited V] {menu : List (Op K V)} {s s' : State K V} {l : Option (SyncMapConc.Event K V)}
    {u t : Tid} (h : (l, s') ∈ stepT menu s u) (hne : t ≠ u) : s'.pc t = s.pc t := by
  obtain ⟨_, _, rfl⟩ := stepT_setPc h
  exact pc_setPc_ne hne _ _

theorem mem_picks_dirtyPick {c : NewCtx} {k : K} {v : V} {rm todo : List (K × EId)} {x : K × Pc K V} :
    x ∈ picks (.dirtyPick c k v rm todo) ↔
      ∃ p, p ∈ todo ∧ x = (p.1, .expLoad c k v rm (aerase p.1 todo) p.1 p.2) := by
  simp only [picks, List.mem_map]
  constructor
  · rintro ⟨p, hp, rfl⟩; exact ⟨p, hp, rfl⟩
  · rintro ⟨p, hp, rfl⟩; exact ⟨p, hp, rfl⟩

theorem mem_picks_rangePick {todo : List (K × EId)} {acc : List (K × V)} {x : K × Pc K V} :
    x ∈ picks (.rangePick todo acc) ↔ ∃ p, p ∈ todo ∧ x = (p.1, .rangeLoad (aerase p.1 todo) acc p.1 p.2) := by
  simp only [picks, List.mem_map]
  constructor
  · rintro ⟨p, hp, rfl⟩; exact ⟨p, hp, rfl⟩
  · rintro ⟨p, hp, rfl⟩; exact ⟨p, hp, rfl⟩

/-- the `unlinked` clause of `G` after a step of `t`: the others keep their unlinked entries, `t` keeps its own or
takes one that nobody else has -/
theorem G.unlinked_setPc {s : State K V} {apcs apcs' : Nat → APc K V} (g : G s apcs) {t : Tid} (sh : Shared K V)
    {pc : Pc K V}
    (hother : ∀ u, u ≠ t → unlinkedPc (s.pc u) (apcs' u) = unlinkedPc (s.pc u) (apcs u))
    (hself : ∀ e ∈ unlinkedPc pc (apcs' t), e ∈ unlinkedPc (s.pc t) (apcs t) ∨
      ∀ u, u ≠ t → u < s.pcs.length → e ∉ unlinkedPc (s.pc u) (apcs u)) :
    ∀ t' u, t' < (setPc s t sh pc).pcs.length → u < (setPc s t sh pc).pcs.length → t' ≠ u →
      ∀ e ∈ unlinkedPc ((setPc s t sh pc).pc t') (apcs' t'), e ∉ unlinkedPc ((setPc s t sh pc).pc u) (apcs' u) := by
  intro t' u ht' hu hne e he
  rw [setPc_pcs_length] at ht' hu
  by_cases h1 : t' = t
  · subst h1
    have hut : u ≠ t' := fun h => hne h.symm
    rw [pc_setPc_self ht'] at he
    rw [pc_setPc_ne hut, hother u hut]
    rcases hself e he with h2 | h2
    · exact g.unlinked t' u ht' hu hne e h2
    · exact h2 u hut hu
  · rw [pc_setPc_ne h1, hother t' h1] at he
    by_cases h2 : u = t
    · subst h2
      rw [pc_setPc_self hu]
      intro he'
      rcases hself e he' with h3 | h3
      · exact g.unlinked t' u ht' hu hne e he h3
      · exact h3 t' h1 ht' he
    · rw [pc_setPc_ne h2, hother u h2]
      exact g.unlinked t' u ht' hu hne e he

end Steps

end TypVerif.Lemmas.Smc
