import TypVerif.Lemmas.PubSubSafe
/-
The lock accounting of the PubSub model, for EVERY configuration (clones allowed): in every reachable state the RWMutex of every
object is `⟨number of tasks that hold its read lock, false, number of tasks inside its Lock()⟩` (`GInv.rw`, with `readsOn` / `waitsOn`
of `PubSubStep`).  The equality is not inductive by itself (`WithOnly` resets the lock of the object it constructs); `GInv` adds:
* every object a task refers to (`refOf`; for a `woStart w via c` that is `via`) exists and is `ready`;
* the `woStart w` tasks are at most one, and then `w` exists and is NOT `ready` (and none otherwise);
* object 0 exists and is `ready` (`Sub` is always invoked on object 0).
`GInv.sync` (a `syncLoop` task has a head item; `emptySync`) is carried along: it is kept by the same steps for the same reason, the
shape of the new task.  `GInv` only looks at `tasks` and `objs`.  `Live.writer` / `Live.waiting` / `Live.sync` (`PubSubLive`) and the
judge's `Good` (`PubSubRedLag`) are read off it.
-/
namespace TypVerif.Lemmas.PubSubLive
open TypVerif.Model.PubSub

def emptySync : Task → Bool
  | .syncLoop _ _ [] _ => true
  | _ => false

theorem emptySync_syncLoop {p o : Nat} {l : List Item} {cb : Bool} (h : l ≠ []) :
    emptySync (.syncLoop p o l cb) = false := by
  cases l with
  | nil => exact absurd rfl h
  | cons a b => rfl

end TypVerif.Lemmas.PubSubLive

namespace TypVerif.Lemmas.PubSubRed
open TypVerif TypVerif.Conc TypVerif.Model.PubSub
open PubSubStep (obj_of_objs_set obj_of_objs_append)
open PubSubLive (emptySync)

/-- for a `woStart w via c`: the object `via` it copies from, not the clone `w` it constructs -/
def refOf : Task → Option Nat
  | .pubStart _ o _ _ => some o
  | .syncLoop _ o _ _ => some o
  | .waitWg _ o _ => some o
  | .asyncStart o _ => some o
  | .asyncSend o _ _ => some o
  | .wgSend o _ _ _ => some o
  | .subStart o _ _ => some o
  | .subWait o _ _ => some o
  | .unsubStart _ o _ => some o
  | .unsubWait _ o _ => some o
  | .uaStart _ o => some o
  | .uaWait _ o => some o
  | .woStart _ o _ => some o
  | _ => none

structure GInv (x : State) : Prop where
  z : 0 < x.objs.length ∧ (x.obj 0).ready = true
  rw : ∀ o, (x.obj o).rw =
    ⟨x.tasks.countP (fun t => readsOn t == some o), false, x.tasks.countP (fun t => waitsOn t == some o)⟩
  ref : ∀ t ∈ x.tasks, ∀ o, refOf t = some o → o < x.objs.length ∧ (x.obj o).ready = true
  woc : ∀ w, x.tasks.countP (fun t => woOf t == some w) ≤ (if w < x.objs.length ∧ (x.obj w).ready = false then 1 else 0)
  sync : ∀ t ∈ x.tasks, emptySync t = false

theorem count_pos {x : State} {i : Nat} {t : Task} (k : Task → Option Nat) {o : Nat} (hi : x.tasks[i]? = some t) (h : k t = some o) :
    0 < x.tasks.countP (fun t => k t == some o) :=
  List.countP_pos_iff.mpr ⟨t, List.mem_of_getElem? hi, by simp [h]⟩

theorem readsOn_refOf {t : Task} {o : Nat} (h : readsOn t = some o) : refOf t = some o := by
  cases t <;> first | exact h | cases h

theorem waitsOn_refOf {t : Task} {o : Nat} (h : waitsOn t = some o) : refOf t = some o := by
  cases t <;> first | exact h | cases h

theorem unready_of_woStart {x : State} {w o : Nat} {c : Chan} (hG : GInv x) (hm : Task.woStart w o c ∈ x.tasks) :
    w < x.objs.length ∧ (x.obj w).ready = false := by
  have hle := hG.woc w
  by_cases hc : w < x.objs.length ∧ (x.obj w).ready = false
  · exact hc
  · rw [if_neg hc] at hle
    have : 0 < x.tasks.countP (fun t => woOf t == some w) := List.countP_pos_iff.mpr ⟨_, hm, beq_self_eq_true (some w)⟩
    omega

theorem ginv_init : GInv ({} : State) := by
  constructor <;> simp [State.obj]
  intro o; cases o <;> rfl

theorem countP_set_le {α} (p : α → Bool) (l : List α) (i : Nat) (t t' : α) (hi : l[i]? = some t)
    (h : p t' = true → p t = true) : (l.set i t').countP p ≤ l.countP p := by
  have h1 := PubSubSafe.countP_set_eq p l i t t' hi
  by_cases h2 : p t' = true
  · rw [if_pos h2, if_pos (h h2)] at h1; omega
  · rw [if_neg h2] at h1
    split at h1 <;> omega

theorem beq_some_imp {a b : Option Nat} {o : Nat} (h : a = some o → b = some o) :
    (a == some o) = true → (b == some o) = true := by
  intro h1
  have : a = some o := by simpa using h1
  simp [h this]

/-- how the steps below say that the new task refers to (constructs) nothing the old one did not -/
theorem some_of_none_or_eq {a b : Option Nat} (h : a = none ∨ a = b) (o : Nat) : a = some o → b = some o := by
  rcases h with h | h
  · rw [h]; exact nofun
  · rw [h]; exact id

/-- the lock of an object after a step of a task that stands at it as a reader (`a`) / a writer in `Lock()` (`b`) before the step and
(`a'`, `b'`) after it; the truncated subtractions are those of `RUnlock` / `Unlock` -/
def rwMove (rw : RW) (a' a b' b : Bool) : RW :=
  ⟨rw.readers + (if a' then 1 else 0) - (if a then 1 else 0), rw.writer, rw.waiting + (if b' then 1 else 0) - (if b then 1 else 0)⟩

theorem rwMove_same (rw : RW) (a b : Bool) : rwMove rw a a b b = rw := by
  simp only [rwMove, Nat.add_sub_cancel]

theorem ginv_task {s s' : State} {i : Nat} {t t' : Task} (hG : GInv s) (hi : s.tasks[i]? = some t)
    (htasks : s'.tasks = s.tasks.set i t')
    (hlen : s'.objs.length = s.objs.length)
    (hready : ∀ o, (s'.obj o).ready = (s.obj o).ready)
    (hrw : ∀ o, (s'.obj o).rw = rwMove (s.obj o).rw (readsOn t' == some o) (readsOn t == some o) (waitsOn t' == some o)
      (waitsOn t == some o))
    (href : ∀ o, refOf t' = some o → refOf t = some o)
    (hwo : ∀ w, woOf t' = some w → woOf t = some w) (he : emptySync t' = false := by rfl) :
    GInv s' := by
  have hm : t ∈ s.tasks := List.mem_of_getElem? hi
  refine ⟨?_, ?_, ?_, ?_, htasks ▸ forall_mem_set _ hG.sync he⟩
  · rw [hlen, hready]; exact hG.z
  · intro o
    have h1 := PubSubSafe.countP_set_eq (fun t => readsOn t == some o) s.tasks i t t' hi
    have h2 := PubSubSafe.countP_set_eq (fun t => waitsOn t == some o) s.tasks i t t' hi
    rw [hrw, htasks, hG.rw o]
    simp only [rwMove]
    congr 1 <;> omega
  · intro t'' hm'' o ho
    rw [hlen, hready]
    rw [htasks] at hm''
    rcases List.mem_or_eq_of_mem_set hm'' with h1 | h1
    · exact hG.ref t'' h1 o ho
    · subst h1; exact hG.ref t hm o (href o ho)
  · intro w
    rw [htasks, hlen, hready]
    exact Nat.le_trans (countP_set_le (fun t => woOf t == some w) s.tasks i t t' hi (beq_some_imp (hwo w))) (hG.woc w)

theorem ginv_pure {s s' : State} {i : Nat} {t t' : Task} (hG : GInv s) (hi : s.tasks[i]? = some t)
    (htasks : s'.tasks = s.tasks.set i t') (hobjs : s'.objs = s.objs)
    (hr : readsOn t' = readsOn t) (hw : waitsOn t' = waitsOn t)
    (href : refOf t' = none ∨ refOf t' = refOf t)
    (hwo : woOf t' = none ∨ woOf t' = woOf t) (he : emptySync t' = false := by rfl) :
    GInv s' := by
  have hobj : ∀ o, s'.obj o = s.obj o := fun o => by simp only [State.obj, hobjs]
  exact ginv_task hG hi htasks (by rw [hobjs]) (fun o => by rw [hobj]) (fun o => by rw [hobj, hr, hw, rwMove_same])
    (some_of_none_or_eq href) (some_of_none_or_eq hwo) he

theorem ginv_lock {s s' : State} {i : Nat} {t t' : Task} {o : Nat} {A : ObjSt}
    (hG : GInv s) (hi : s.tasks[i]? = some t)
    (htasks : s'.tasks = s.tasks.set i t') (hobjs : s'.objs = s.objs.set o A)
    (ho : refOf t = some o) (hA : A.ready = (s.obj o).ready)
    {a' a b' b : Bool} (hrw : A.rw = rwMove (s.obj o).rw a' a b' b)
    (ha' : readsOn t' = if a' then some o else none) (ha : readsOn t = if a then some o else none)
    (hb' : waitsOn t' = if b' then some o else none) (hb : waitsOn t = if b then some o else none)
    (href : refOf t' = none ∨ refOf t' = refOf t)
    (hwo : woOf t' = none ∨ woOf t' = woOf t) (he : emptySync t' = false := by rfl) :
    GInv s' := by
  have key : ∀ {k : Option Nat} {c : Bool} (o' : Nat), k = (if c then some o else none) →
      (k == some o') = (c && o == o') := fun {k c} o' h => by
    rw [h]; cases c <;> simp
  have hol : o < s.objs.length := (hG.ref t (List.mem_of_getElem? hi) o ho).1
  have hobj := obj_of_objs_set hobjs
  refine ginv_task hG hi htasks (by rw [hobjs, List.length_set]) ?_ ?_ (some_of_none_or_eq href) (some_of_none_or_eq hwo) he
  · intro o'
    rw [hobj]
    split
    · next e => rw [← e.1]; exact hA
    · rfl
  · intro o'
    rw [hobj, key o' ha', key o' ha, key o' hb', key o' hb]
    split
    · next e => rw [← e.1, hrw]; simp
    · next e =>
      rw [beq_false_of_ne (fun h => e ⟨h, hol⟩), Bool.and_false, Bool.and_false, Bool.and_false, Bool.and_false, rwMove_same]

theorem obj_of_length_le {s : State} {o : Nat} (h : s.objs.length ≤ o) : s.obj o = {} := by
  simp [State.obj, List.getD_eq_getElem?_getD, List.getElem?_eq_none h]

/-- no task refers to an object that is absent or not `ready`, so its counted lock is `{}`: what `WithOnly` writes when it
constructs it (`ginv_wo`) -/
theorem rw_of_invalid {s : State} (hG : GInv s) {o : Nat} (h : ¬ (o < s.objs.length ∧ (s.obj o).ready = true)) :
    (s.obj o).rw = {} := by
  have h0 : ∀ {k : Task → Option Nat}, (∀ {t o}, k t = some o → refOf t = some o) →
      s.tasks.countP (fun t => k t == some o) = 0 := fun hk =>
    List.countP_eq_zero.2 fun t ht hr => h (hG.ref t ht o (hk (beq_iff_eq.1 hr)))
  rw [hG.rw o, h0 readsOn_refOf, h0 waitsOn_refOf]

theorem ginv_wo {s s' : State} {i w o : Nat} {c : Chan} {A : ObjSt} (hG : GInv s) (hi : s.tasks[i]? = some (.woStart w o c))
    (htasks : s'.tasks = s.tasks.set i .done) (hobjs : s'.objs = s.objs.set w A) (hA : A.ready = true) (hArw : A.rw = {}) :
    GInv s' := by
  have hm : Task.woStart w o c ∈ s.tasks := List.mem_of_getElem? hi
  have hobj := obj_of_objs_set hobjs
  have hlen : s'.objs.length = s.objs.length := by rw [hobjs, List.length_set]
  have hset := PubSubSafe.countP_set_eq (fun t => woOf t == some w) s.tasks i _ Task.done hi
  have hw := unready_of_woStart hG hm
  -- a ready object is not `w`
  have hkeep : ∀ o', o' < s.objs.length ∧ (s.obj o').ready = true → s'.obj o' = s.obj o' := by
    intro o' h
    rw [hobj, if_neg]
    rintro ⟨rfl, -⟩
    exact Bool.false_ne_true (hw.2.symm.trans h.2)
  have hcnt : ∀ (k : Task → Option Nat), k (.woStart w o c) = none → k .done = none → ∀ o',
      (s.tasks.set i Task.done).countP (fun t => k t == some o') = s.tasks.countP (fun t => k t == some o') := by
    intro k hk hk' o'
    have := PubSubSafe.countP_set_eq (fun t => k t == some o') s.tasks i _ Task.done hi
    rw [hk, hk'] at this
    exact Nat.add_right_cancel this
  refine ⟨?_, ?_, ?_, ?_, htasks ▸ forall_mem_set _ hG.sync rfl⟩
  · rw [hlen, hobj]
    refine ⟨hG.z.1, ?_⟩
    split
    · exact hA
    · exact hG.z.2
  · intro o'
    rw [htasks, hcnt readsOn rfl rfl, hcnt waitsOn rfl rfl, ← hG.rw o', hobj]
    split
    · next e => rw [hArw, ← e.1, rw_of_invalid hG (fun h => Bool.false_ne_true (hw.2.symm.trans h.2))]
    · rfl
  · intro t ht o' ho'
    rw [htasks] at ht
    have hold : o' < s.objs.length ∧ (s.obj o').ready = true := by
      rcases List.mem_or_eq_of_mem_set ht with h1 | h1
      · exact hG.ref t h1 o' ho'
      · subst h1; cases ho'
    rw [hlen, hkeep o' hold]
    exact hold
  · intro w'
    rw [htasks, hlen]
    by_cases h : w = w'
    · subst h
      have hle := hG.woc w
      rw [if_pos hw] at hle
      rw [if_pos (show (woOf (Task.woStart w o c) == some w) = true from beq_self_eq_true _),
        if_neg (show ¬ (woOf Task.done == some w) = true from nofun)] at hset
      omega
    · have : s'.obj w' = s.obj w' := by rw [hobj, if_neg (fun hh => h hh.1)]
      rw [this]
      exact Nat.le_trans (countP_set_le (fun t => woOf t == some w') s.tasks i _ Task.done hi nofun) (hG.woc w')

theorem ginv_spawn {s s' : State} {ts : List Task} (hG : GInv s) (htasks : s'.tasks = s.tasks ++ ts) (hobjs : s'.objs = s.objs)
    (hts : ∀ t ∈ ts, readsOn t = none ∧ waitsOn t = none ∧ woOf t = none ∧ emptySync t = false ∧
      ∀ o, refOf t = some o → o < s.objs.length ∧ (s.obj o).ready = true) : GInv s' := by
  have hobj : ∀ o, s'.obj o = s.obj o := fun o => by simp only [State.obj, hobjs]
  refine ⟨?_, ?_, ?_, ?_, fun t ht => (List.mem_append.1 (htasks ▸ ht)).elim (hG.sync t) fun h => (hts t h).2.2.2.1⟩
  · rw [hobjs, hobj]; exact hG.z
  · intro o
    rw [htasks, hobj, List.countP_append, List.countP_append,
      (List.countP_eq_zero (l := ts)).2 (fun t ht => by rw [(hts t ht).1]; exact Bool.false_ne_true),
      (List.countP_eq_zero (l := ts)).2 (fun t ht => by rw [(hts t ht).2.1]; exact Bool.false_ne_true)]
    exact hG.rw o
  · intro t' ht' o ho
    rw [hobjs, hobj]
    rcases List.mem_append.1 (htasks ▸ ht') with h | h
    · exact hG.ref t' h o ho
    · exact (hts t' h).2.2.2.2 o ho
  · intro w
    rw [htasks, hobjs, hobj, List.countP_append, (List.countP_eq_zero (l := ts)).2 (fun t ht => by rw [(hts t ht).2.2.1]; exact Bool.false_ne_true)]
    exact hG.woc w

theorem ginv_spawn1 {s s' : State} {t : Task} (hG : GInv s) (htasks : s'.tasks = s.tasks ++ [t]) (hobjs : s'.objs = s.objs)
    (hr : readsOn t = none) (hw : waitsOn t = none) (hwo : woOf t = none)
    (href : ∀ o, refOf t = some o → o < s.objs.length ∧ (s.obj o).ready = true) (he : emptySync t = false := by rfl) :
    GInv s' :=
  ginv_spawn hG htasks hobjs (fun _ h => List.mem_singleton.1 h ▸ ⟨hr, hw, hwo, he, href⟩)

theorem ginv_congr {s s' : State} (hG : GInv s) (ht : s'.tasks = s.tasks) (ho : s'.objs = s.objs) : GInv s' :=
  ginv_spawn hG (ht.trans (List.append_nil _).symm) ho fun _ h => absurd h List.not_mem_nil

theorem ginv_withonly {s s' : State} {via : Nat} {c : Chan} {A : ObjSt} (hG : GInv s)
    (htasks : s'.tasks = s.tasks ++ [.woStart s.objs.length via c]) (hobjs : s'.objs = s.objs ++ [A])
    (hA : A.ready = false) (hArw : A.rw = {}) (hvia : via < s.objs.length ∧ (s.obj via).ready = true) : GInv s' := by
  have hobj := obj_of_objs_append hobjs
  have hlen : s'.objs.length = s.objs.length + 1 := by rw [hobjs]; simp
  have hnew : s'.obj s.objs.length = A := by
    simp [State.obj, hobjs]
  refine ⟨?_, ?_, ?_, ?_,
    fun t ht => (List.mem_append.1 (htasks ▸ ht)).elim (hG.sync t) fun h => List.mem_singleton.1 h ▸ rfl⟩
  · rw [hlen, hobj 0 hG.z.1]; exact ⟨Nat.succ_pos _, hG.z.2⟩
  · intro o
    rw [htasks, List.countP_append, List.countP_append]
    show _ = RW.mk (_ + 0) false (_ + 0)
    rw [Nat.add_zero, Nat.add_zero, ← hG.rw o]
    rcases Nat.lt_trichotomy o s.objs.length with h | h | h
    · rw [hobj o h]
    · rw [h, hnew, hArw, obj_of_length_le (Nat.le_refl _)]
    · rw [obj_of_length_le (Nat.le_of_lt h), obj_of_length_le (s := s') (by rw [hlen]; exact h)]
  · intro t ht o ho
    rw [htasks] at ht
    have hold : o < s.objs.length ∧ (s.obj o).ready = true := by
      rcases List.mem_append.1 ht with h | h
      · exact hG.ref t h o ho
      · rw [List.mem_singleton] at h; subst h
        simp only [refOf, Option.some.injEq] at ho; subst ho; exact hvia
    rw [hlen, hobj o hold.1]
    exact ⟨Nat.lt_succ_of_lt hold.1, hold.2⟩
  · intro w
    rw [htasks, List.countP_append, hlen, List.countP_singleton]
    have hle := hG.woc w
    by_cases he : s.objs.length = w
    · -- the new object: no older task constructs it, the new one does
      subst he
      rw [if_neg (fun hh => Nat.lt_irrefl _ hh.1)] at hle
      have e1 : (woOf (Task.woStart s.objs.length via c) == some s.objs.length) = true := beq_self_eq_true _
      rw [if_pos e1, hnew, if_pos (And.intro (Nat.lt_succ_self _) hA)]
      omega
    · have e0 : ¬ (woOf (Task.woStart s.objs.length via c) == some w) = true :=
        fun hh => he (Option.some.inj (eq_of_beq hh))
      rw [if_neg e0]
      by_cases h : w < s.objs.length
      · rw [hobj w h]
        refine Nat.le_trans hle ?_
        split
        · rw [if_pos ⟨Nat.lt_succ_of_lt ‹_ ∧ _›.1, ‹_ ∧ _›.2⟩]; exact Nat.le_refl _
        · exact Nat.zero_le _
      · rw [if_neg (fun hh => h hh.1)] at hle
        omega


open PubSubStep (Plain RwStep Sender TaskStep EnvStep Work Step sendTo_eq_sent step_of_mem_succ)

theorem ginv_fin {x : State} {i : Nat} {t tfin tcb : Task} {it : Item} {cb : Bool} {fin : State → State}
    (h : Sender i t it cb fin tfin tcb) (hG : GInv x) (hi : x.tasks[i]? = some t) : GInv (fin x) := by
  cases h with
  | syncLast p o it cb | async o it cb =>
    exact ginv_lock hG hi (o := o) rfl rfl rfl rfl (a' := false) (a := true) (b' := false) (b := false) rfl rfl rfl rfl rfl
      (.inl rfl) (.inl rfl)
  | syncMore p o it a rest cb => exact ginv_pure hG hi rfl rfl rfl rfl (.inr rfl) (.inr rfl)
  | wg o w it cb =>
    obtain ⟨ws, p, e⟩ := PubSubStep.wgDone_eq x w
    exact ginv_pure (t := .wgSend o w it cb) (ginv_congr hG (s' := wgDone x w) (by rw [e]) (by rw [e])) (by rw [e]; exact hi)
      rfl rfl rfl rfl (.inl rfl) (.inl rfl)

theorem ginv_taskStep {cfg : Cfg} {s s' : State} {i : Nat} {t : Task} (hG : GInv s) (hi : s.tasks[i]? = some t)
    (h : TaskStep cfg s i t s') : GInv s' := by
  cases h with
  | plain hp => cases hp <;> exact ginv_pure hG hi rfl rfl rfl rfl (.inl rfl) (.inl rfl)
  | rw o r hr =>
    cases hr with
    | pubSync _ _ _ _ _ hne =>
      exact ginv_lock hG hi (o := o) rfl rfl rfl rfl (a' := true) (a := false) (b' := false) (b := false) rfl rfl rfl rfl rfl
        (.inr rfl) (.inl rfl) (PubSubLive.emptySync_syncLoop hne)
    | asyncGo =>
      exact ginv_lock hG hi (o := o) rfl rfl rfl rfl (a' := true) (a := false) (b' := false) (b := false) rfl rfl rfl rfl rfl
        (.inr rfl) (.inl rfl)
    | waitRet =>
      exact ginv_lock hG hi (o := o) rfl rfl rfl rfl (a' := false) (a := true) (b' := false) (b := false) rfl rfl rfl rfl rfl
        (.inl rfl) (.inl rfl)
    | subLock | unsubLock | uaLock =>
      exact ginv_lock hG hi (o := o) rfl rfl rfl rfl (a' := false) (a := false) (b' := true) (b := false) rfl rfl rfl rfl rfl
        (.inr rfl) (.inl rfl)
    | unsubAbsent =>
      exact ginv_lock hG hi (o := o) rfl rfl rfl rfl (a' := false) (a := false) (b' := false) (b := true) rfl rfl rfl rfl rfl
        (.inl rfl) (.inl rfl)
  | pubWait p o v evs =>
    have ho := hG.ref _ (List.mem_of_getElem? hi) o rfl
    have hX : GInv ({ (s.rlock o) with wgs := s.wgs ++ [(mkItems p evs (s.obj o).subs).length] }.setTask i
        (.waitWg p o s.wgs.length)) :=
      ginv_lock hG hi (o := o) rfl rfl rfl rfl (a' := true) (a := false) (b' := false) (b := false) rfl rfl rfl rfl rfl
        (.inr rfl) (.inl rfl)
    refine ginv_spawn hX rfl rfl (fun n hn => ?_)
    obtain ⟨it, _, rfl⟩ := List.mem_map.1 hn
    refine ⟨rfl, rfl, rfl, rfl, fun o' ho' => ?_⟩
    cases ho'
    rw [State.setTask, State.rlock, State.setObj, List.length_set]
    exact ⟨ho.1, by rw [obj_of_objs_set (s := s) rfl, if_pos ⟨rfl, ho.1⟩]; exact ho.2⟩
  | pubAsync p o v evs =>
    have ho := hG.ref _ (List.mem_of_getElem? hi) o rfl
    have hX : GInv (s.setTask i (.pubRet p)) := ginv_pure hG hi rfl rfl rfl rfl (.inl rfl) (.inl rfl)
    refine ginv_spawn hX rfl rfl (fun n hn => ?_)
    obtain ⟨it, _, rfl⟩ := List.mem_map.1 hn
    refine ⟨rfl, rfl, rfl, rfl, fun o' ho' => ?_⟩
    cases ho'
    exact ho
  | sub o | unsub _ o | unsubAll _ o =>
    exact ginv_lock hG hi (o := o) rfl rfl rfl rfl (a' := false) (a := false) (b' := false) (b := true) rfl rfl rfl rfl rfl
      (.inl rfl) (.inl rfl)
  | unsubClosed | unsubAllClosed | sendClosed => exact ginv_congr hG rfl rfl
  | withOnly => exact ginv_wo hG hi rfl rfl rfl rfl
  | sendCb hsnd => exact ginv_fin hsnd hG hi
  | sent hsnd hst =>
    obtain ⟨f, _, rfl⟩ := sendTo_eq_sent hst
    exact ginv_fin hsnd (ginv_congr hG rfl rfl) hi
  | timeout hsnd =>
    -- the task with its callback pending is of the same kind
    cases hsnd <;> exact ginv_pure hG hi rfl rfl rfl rfl (.inr rfl) (.inr rfl)

theorem validObj_spec {s : State} {o : Nat} (h : s.validObj o = true) : o < s.objs.length ∧ (s.obj o).ready = true := by
  simpa [State.validObj] using h

theorem ginv_envStep {cfg : Cfg} {s s' : State} {e : Event} (hG : GInv s) (h : EnvStep cfg s e s') : GInv s' := by
  cases h with
  | sub => exact ginv_spawn1 hG rfl rfl rfl rfl rfl (fun o ho => by cases ho; exact hG.z)
  | mkchan | allow => exact ginv_congr hG rfl rfl
  | withonly via c _ hv => exact ginv_withonly hG (via := via) (c := c) rfl rfl rfl rfl (validObj_spec hv)
  | pubinv _ _ _ _ _ hv | unsubinv _ _ _ hv | unsuballinv _ _ hv =>
    exact ginv_spawn1 hG rfl rfl rfl rfl rfl (fun o ho => by cases ho; exact validObj_spec hv)

theorem ginv_succ {cfg : Cfg} {s s' : State} {l : Option Event} (hG : GInv s) (h : (l, s') ∈ succ cfg s) : GInv s' := by
  cases step_of_mem_succ h with
  | exit => exact ginv_congr hG rfl rfl
  | env he => exact ginv_envStep hG he
  | work hw =>
    cases hw with
    | task hi ht => exact ginv_taskStep hG hi ht
    | recv => exact ginv_congr hG rfl rfl

theorem ginv_reachable (cfg : Cfg) : ∀ x, Reachable (sys cfg) x → GInv x :=
  Conc.invariant (sys cfg) GInv ginv_init (fun _ _ _ hG h => ginv_succ hG h)

end TypVerif.Lemmas.PubSubRed

