import TypVerif.Lemmas.SortAdapters
import TypVerif.Spec.SortSpec
/-
The judge's functional specification for the stable-sort lines (`Spec.SortSpec.stableAsc/stableDesc`: order by key, then by
original index) is what the stability contract determines on a list tagged with original indices.
-/
namespace TypVerif.Lemmas.SortSpec
open TypVerif.Model TypVerif.Model.SortAdapters TypVerif.Spec.Order TypVerif.Spec.SortContract TypVerif.Spec.SortSpec
open TypVerif.Lemmas.SortAdapters

theorem tagged_pairwise (keys : List Int) : (tagged keys).Pairwise (fun a b => a.2 < b.2) := by
  rw [List.pairwise_iff_getElem]
  intro i j hi hj hij
  simp only [tagged, List.getElem_map, List.getElem_zipIdx]
  omega

theorem strictWeak_keyLess : StrictWeak keyLess where
  irrefl := by intro a; simp [keyLess]
  trans := by intro a b c; simp [keyLess]; omega
  negTrans := by intro a b c; simp [keyLess]; omega

/-- key-sorted + ties in input order + input tagged increasingly ⇒ `out` is pairwise `R`, for any `R` that holds of a pair in key
order whose tags increase when the keys tie (the lexicographic orders of `stable_eq_mergeSort`) -/
theorem lex_of_stable (less : Int × Int → Int × Int → Bool) (input out : List (Int × Int))
    (htag : input.Pairwise (fun a b => a.2 < b.2))
    (hsorted : IsSorted less out)
    (hst : ∀ x, out.filter (tied less x) = input.filter (tied less x))
    (R : Int × Int → Int × Int → Prop)
    (hR : ∀ a b, less b a = false → (tied less a b = true → a.2 < b.2) → R a b)
    (hirr : ∀ a, less a a = false) :
    out.Pairwise R := by
  apply List.pairwise_of_forall_sublist
  intro a b hab
  have h1 : less b a = false := List.Pairwise.forall_sublist hsorted hab
  apply hR a b h1
  intro ht
  have haa : tied less a a = true := by simp [tied, hirr a]
  have hf : [a, b].filter (tied less a) = [a, b] := by simp [List.filter, haa, ht]
  have hsub := hab.filter (tied less a)
  rw [hf, hst a] at hsub
  exact List.Pairwise.forall_sublist htag (hsub.trans List.filter_sublist)

/-- a list that is a stable sort by `less` of an index-tagged input is the merge sort of the input by any total order
`le` that holds whenever `less` does not order the pair the other way and ties are in index order -/
theorem stable_eq_mergeSort (less le : Int × Int → Int × Int → Bool) (input out : List (Int × Int))
    (htag : input.Pairwise (fun a b => a.2 < b.2)) (hperm : out.Perm input) (hsorted : IsSorted less out)
    (hst : ∀ x, out.filter (tied less x) = input.filter (tied less x)) (hirr : ∀ a, less a a = false)
    (hle : ∀ a b, less b a = false → (tied less a b = true → a.2 < b.2) → le a b = true)
    (htrans : ∀ a b c, le a b = true → le b c = true → le a c = true)
    (htotal : ∀ a b, (le a b || le b a) = true)
    (hanti : ∀ a b, le a b = true → le b a = true → a = b) :
    out = input.mergeSort le :=
  List.Perm.eq_of_pairwise (le := fun a b => le a b = true) (fun a b _ _ => hanti a b)
    (lex_of_stable less input out htag hsorted hst _ hle hirr)
    (List.pairwise_mergeSort htrans htotal input) (hperm.trans (List.mergeSort_perm _ _).symm)

theorem lexLe_trans (a b c : Int × Int) (h1 : lexLe a b = true) (h2 : lexLe b c = true) : lexLe a c = true := by
  simp only [lexLe, decide_eq_true_eq] at *; omega

theorem lexLe_total (a b : Int × Int) : (lexLe a b || lexLe b a) = true := by
  simp only [lexLe, Bool.or_eq_true, decide_eq_true_eq]; omega

theorem lexLe_antisymm (a b : Int × Int) (h1 : lexLe a b = true) (h2 : lexLe b a = true) : a = b := by
  simp only [lexLe, decide_eq_true_eq] at h1 h2
  apply Prod.ext <;> omega

/-- descending by key is ascending by the negated key -/
theorem lexGe_eq (a b : Int × Int) : lexGe a b = lexLe (-a.1, a.2) (-b.1, b.2) :=
  decide_eq_decide.2 (by omega)

theorem stable_asc_eq_spec {stableImpl : SortImpl} (hc : StableContract stableImpl) (keys : List Int) :
    sortStableFunc stableImpl (tagged keys) keyLess = stableAsc (tagged keys) := by
  obtain ⟨hperm, hsorted, hst⟩ := hc _ _ _ id keyLess strictWeak_keyLess (sortLess_consistent keyLess) (tagged keys)
  refine stable_eq_mergeSort keyLess lexLe _ _ (tagged_pairwise keys) hperm hsorted hst strictWeak_keyLess.irrefl
    ?_ lexLe_trans lexLe_total lexLe_antisymm
  intro a b h1 h2
  simp only [tied, keyLess, lexLe, decide_eq_false_iff_not, Bool.and_eq_true, Bool.not_eq_true',
    decide_eq_true_eq] at *
  omega

theorem stable_desc_eq_spec {stableImpl : SortImpl} (hc : StableContract stableImpl) (keys : List Int) :
    sortStableDescFunc stableImpl (tagged keys) keyLess = stableDesc (tagged keys) := by
  obtain ⟨hperm, hsorted, hst⟩ := hc _ _ _ id _ strictWeak_keyLess.flip
    (reverse_consistent (sortLess_consistent keyLess)) (tagged keys)
  refine stable_eq_mergeSort (fun a b => keyLess b a) lexGe _ _ (tagged_pairwise keys) hperm hsorted hst
    (fun a => strictWeak_keyLess.irrefl a) ?_ ?_ ?_ ?_
  · intro a b h1 h2
    simp only [tied, keyLess, lexGe, decide_eq_false_iff_not, Bool.and_eq_true, Bool.not_eq_true',
      decide_eq_true_eq] at *
    omega
  · intro a b c; rw [lexGe_eq, lexGe_eq, lexGe_eq]; exact lexLe_trans _ _ _
  · intro a b; rw [lexGe_eq, lexGe_eq]; exact lexLe_total _ _
  · intro a b h1 h2
    rw [lexGe_eq] at h1 h2
    have h := lexLe_antisymm _ _ h1 h2
    exact Prod.ext (Int.neg_inj.1 (Prod.mk.inj h).1) (Prod.mk.inj h).2

end TypVerif.Lemmas.SortSpec
