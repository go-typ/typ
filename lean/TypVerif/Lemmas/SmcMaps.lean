import TypVerif.Lemmas.SmcAbs
/-
C04 concurrent half: changes of `read` / `dirty` / `amended` / `mu` / `misses` made by the
OWNER of `mu`.  For each change
  (i)   the per-goroutine invariant `T` of a bystander (a goroutine that does not hold `mu`) is preserved (`T_*`),
  (ii)  the shared-state half `GS` of the global invariant is preserved (`GS_*`),
  (iii) `absOf` changes as stated (`absOf_*`),
and the three together are the `Effect` of the step on a state related by `R` (`*_effect`), which the assemblies of
`SmcQuiet` consume.  (ii) and (iii) speak about `Shared` data alone and need no decidable equality of values; the
sequential half (`SyncMapSteps`) rests on them too.  Every change is stated bare: a following `unlock` / `missStep` is the
`Tail` of `R_effect`.
-/
namespace TypVerif.Lemmas.Smc
open TypVerif.Model TypVerif.Model.SyncMapConc TypVerif.Model.RelObj
open TypVerif.Model.SyncMap (alookup ainsert aerase akeys)
open TypVerif.Lemmas.SyncMap

set_option linter.unusedSectionVars false

variable {K V : Type} [DecidableEq K] [DecidableEq V]

/-- what `GS.readDirty` says of one pair `p` of `read.m` (`x`: its entry is expunged) against a dirty map `d`
(`ds`: there is one) -/
def ReadDirty (x ds : Bool) (p : K × EId) (d : List (K × EId)) : Prop :=
  if x then ds = true ∧ alookup p.1 d = none ∧ p.2 ∉ vals d else (ds = true → alookup p.1 d = some p.2)

section
omit [DecidableEq V]

theorem ReadDirty.insert {x ds : Bool} {p : K × EId} {d : List (K × EId)} (h : ReadDirty x ds p d) {k : K} {e : EId}
    (hk : p.1 ≠ k) (he : p.2 ≠ e) : ReadDirty x ds p (ainsert k e d) := by
  have hl : alookup p.1 (ainsert k e d) = alookup p.1 d := by rw [alookup_ainsert, if_neg hk]
  cases x with
  | false => exact fun hs => hl.trans (h hs)
  | true => exact ⟨h.1, hl.trans h.2.1, fun hm => (mem_vals_ainsert hm).elim he h.2.2⟩

theorem ReadDirty.erase {x ds : Bool} {p : K × EId} {d : List (K × EId)} (h : ReadDirty x ds p d) {k : K}
    (hk : p.1 ≠ k) : ReadDirty x ds p (aerase k d) := by
  cases x with
  | false => exact fun hs => (alookup_aerase_ne hk d).trans (h hs)
  | true => exact ⟨h.1, (alookup_aerase_ne hk d).trans h.2.1, fun hm => h.2.2 (mem_vals_of_mem_vals_aerase hm)⟩

theorem fst_ne_and_snd_ne_of_ne {l : List (K × EId)} (hn : (akeys l).Nodup) (hv : (vals l).Nodup) {p q : K × EId}
    (hp : p ∈ l) (hq : q ∈ l) (hne : p ≠ q) : p.1 ≠ q.1 ∧ p.2 ≠ q.2 :=
  ⟨fun h => hne (Prod.ext h (mem_unique hn (show (p.1, p.2) ∈ l from hp) (h ▸ hq))),
   fun h => hne (Prod.ext (key_unique_of_mem hv (show (p.1, p.2) ∈ l from hp) (h ▸ hq)) h)⟩

end

/-- `Obs` for one abstract goroutine -/
def ObsPc (obj : K → Option V) (a : APc K V) : Prop :=
  ∀ op seen, a = .pending op seen → ∀ r, pureRes obj op = some r → r ∈ seen

omit [DecidableEq K] [DecidableEq V] in
theorem Obs.obsPc {obj : K → Option V} {apcs : Nat → APc K V} (h : Obs obj apcs) (u : Nat) : ObsPc obj (apcs u) :=
  fun op seen hp r hr => h u op seen hp r hr

omit [DecidableEq K] [DecidableEq V] in
theorem ObsPc.mem_seenOf {obj : K → Option V} {a : APc K V} (h : ObsPc obj a) {op : Op K V} (hp : Pend a op)
    {r : Res K V} (hr : pureRes obj op = some r) : r ∈ seenOf a := by
  cases a with
  | idle => exact hp.elim
  | done op' r' => exact hp.elim
  | pending op' seen =>
    have hp' : op' = op := hp
    subst hp'
    exact h op' seen rfl r hr

section
omit [DecidableEq V]

theorem ObsPc.load_seen {obj : K → Option V} {a : APc K V} (h : ObsPc obj a) {k : K} (hp : Pend a (.load k)) :
    Res.val (obj k) ∈ seenOf a :=
  h.mem_seenOf hp rfl

/-- a pending LoadAndDelete / Delete has seen "absent" if the key is absent now -/
theorem ObsPc.lad_seen {obj : K → Option V} {a : APc K V} (h : ObsPc obj a) {d : Bool} {k : K}
    (hp : Pend a (ladOp d k)) (hk : obj k = none) : noneRes d ∈ seenOf a := by
  apply h.mem_seenOf hp
  cases d <;> simp [ladOp, pureRes, hk, noneRes]

end

/-- What a step of `t` leaves for the others: every bystander's `T` in the new shared state `sh1`, `GS sh1 U` for the new
unprocessed list `U`, and `obj' = absOf sh1`.  The stepping goroutine's own `T` and `GT` are the caller's (`R_effect`). -/
structure Effect (s : State K V) (a : AState K V) (t : Tid) (sh1 : Shared K V) (U : List (K × EId))
    (obj' : K → Option V) : Prop where
  thr : ∀ u, u ≠ t → T sh1 u (s.pc u) (a.pcs u)
  gs : GS sh1 U
  abs : ∀ k, obj' k = absOf sh1 k

theorem Effect.refl {s : State K V} {a : AState K V} (hR : R s a) (t : Tid) :
    Effect s a t s.sh (unprocessed s) a.obj :=
  ⟨fun u _ => hR.thr u, hR.g.gs, hR.abs⟩

/-! ## 0. `mu` / `misses` only -/

/-- `T` of a goroutine that holds the mutex neither before nor after depends on the data part of the shared state
only: every bystander lemma of this section is an instance -/
theorem T_sameData_of_not_own {sh sh' : Shared K V} (hd : SameData sh' sh) {u : Tid} (hno : ¬ Own sh u)
    (hno' : ¬ Own sh' u) (pc : Pc K V) (a : APc K V) : T sh' u pc a ↔ T sh u pc a :=
  T_congr hd ⟨fun h => absurd h hno', fun h => absurd h hno⟩ pc a

theorem T_misses_iff (sh : Shared K V) (n : Nat) (u : Tid) (pc : Pc K V) (a : APc K V) :
    T { sh with misses := n } u pc a ↔ T sh u pc a :=
  T_congr (sameData_misses_update sh n) Iff.rfl pc a

theorem GS_lock_iff (sh : Shared K V) (t : Tid) (U : List (K × EId)) : GS { sh with mu := some t } U ↔ GS sh U :=
  GS_sameData_iff (sameData_mu_update sh (some t)) rfl U

theorem GS_misses_iff (sh : Shared K V) (n : Nat) (U : List (K × EId)) : GS { sh with misses := n } U ↔ GS sh U :=
  GS_sameData_iff (sameData_misses_update sh n) rfl U

@[simp] theorem absOf_misses_update (sh : Shared K V) (n : Nat) (k : K) : absOf { sh with misses := n } k = absOf sh k :=
  rfl
@[simp] theorem absOf_unlock_missStep_fst (sh : Shared K V) (k : K) : absOf (unlock (missStep sh).1) k = absOf sh k :=
  rfl

section
variable {s : State K V} {apcs : Nat → APc K V}

theorem bystanders_lock (hT : ∀ u, T s.sh u (s.pc u) (apcs u)) (hm : s.sh.mu = none) (t : Tid) :
    ∀ u, u ≠ t → T { s.sh with mu := some t } u (s.pc u) (apcs u) :=
  fun u hne => (T_sameData_of_not_own (sameData_mu_update s.sh (some t)) (fun h => Option.some_ne_none u ((Eq.symm h).trans hm))
    (fun h => hne (Option.some.inj h).symm) _ _).mpr (hT u)

/-- unlock by the owner `t` (in fact: by anybody) -/
theorem bystanders_unlock (hT : ∀ u, T s.sh u (s.pc u) (apcs u)) {t : Tid} (ho : Own s.sh t) :
    ∀ u, u ≠ t → T (unlock s.sh) u (s.pc u) (apcs u) :=
  fun u hne => (T_sameData_of_not_own (sameData_unlock s.sh) (not_Own_of_ne ho hne) (Own_unlock _ u) _ _).mpr (hT u)

theorem all_missStep (hT : ∀ u, T s.sh u (s.pc u) (apcs u)) :
    ∀ u, T (missStep s.sh).1 u (s.pc u) (apcs u) :=
  fun u => (T_congr (sameData_missStep_fst s.sh) Iff.rfl _ _).mpr (hT u)

theorem bystanders_unlock_missStep (hT : ∀ u, T s.sh u (s.pc u) (apcs u)) {t : Tid} (ho : Own s.sh t) :
    ∀ u, u ≠ t → T (unlock (missStep s.sh).1) u (s.pc u) (apcs u) :=
  fun u hne => (T_sameData_of_not_own (sameData_unlock_missStep_fst s.sh) (not_Own_of_ne ho hne) (Own_unlock _ u)
    _ _).mpr (hT u)
end

/-! ## 1. `dirty := some []` (dirtyRead) -/

theorem keepRead_dirtyInit (sh : Shared K V) : KeepRead sh { sh with dirty := some [] } where
  readM := rfl
  len := Nat.le_refl _
  ptr := fun _ _ => rfl
  out := fun e _ _ _ => by simp

theorem T_dirtyInit {sh : Shared K V} (hd : sh.dirty = none) {u : Tid} {pc : Pc K V} {a : APc K V}
    (hT : T sh u pc a) (hno : ¬ Own sh u) : T { sh with dirty := some [] } u pc a := by
  apply (keepRead_dirtyInit sh).T_bystander' hT hno hno (SeenLe.refl a)
  intro k e _ h2
  rw [dirtyMap_of_none hd] at h2
  simp at h2

section
omit [DecidableEq V]

/-- all of `read.m` is unprocessed now -/
theorem GS_dirtyInit {sh : Shared K V} {U U' : List (K × EId)} (g : GS sh U)
    (hU' : ∀ p ∈ sh.readM, p ∈ U') : GS { sh with dirty := some [] } U' where
  keysR := g.keysR
  valsR := g.valsR
  keysD := by simp
  valsD := by simp
  boundR := g.boundR
  boundD := by simp
  s1 := by intro h; cases h
  nofault := g.nofault
  readDirty := fun p hp hn => absurd (hU' p hp) hn
  dirtySub := by intro _ p hp; simp at hp
  dirtyLive := by intro p hp; simp at hp

theorem Building_dirtyInit {sh : Shared K V} {U : List (K × EId)} (g : GS sh U) (hd : sh.dirty = none)
    (hU : ∀ p ∈ U, (getP sh p.2).isExpunged = false) : Building { sh with dirty := some [] } sh.readM := by
  refine ⟨g.keysR, ?_⟩
  intro p hp
  refine ⟨hp, by simp, by simp, ?_⟩
  exact g.no_expunged_of_dirty_none hd hU hp

theorem absOf_dirtyInit {sh : Shared K V} (hd : sh.dirty = none) (k : K) :
    absOf { sh with dirty := some [] } k = absOf sh k :=
  absOf_congr' (sh := sh) (sh' := { sh with dirty := some [] }) rfl rfl (by rw [dirtyMap_of_none hd]; rfl)
    (fun _ => rfl) k

end

theorem dirtyInit_effect {s : State K V} {a : AState K V} {t : Tid} (hR : R s a) (ho : Own s.sh t)
    (hd : s.sh.dirty = none) : Effect s a t { s.sh with dirty := some [] } s.sh.readM a.obj :=
  ⟨fun u hu => T_dirtyInit hd (hR.thr u) (not_Own_of_ne ho hu), GS_dirtyInit hR.g.gs fun _ hp => hp,
    fun k => (hR.abs k).trans (absOf_dirtyInit hd k).symm⟩

/-! ## 2. `setDirty sh k' e'` of an unprocessed live pair (expLoaded / expDone, live case) -/

theorem keepRead_setDirty {sh : Shared K V} (hds : sh.dirty.isSome = true) {k' : K} {e' : EId}
    (hmr : (k', e') ∈ sh.readM) : KeepRead sh (setDirty sh k' e') where
  readM := setDirty_readM sh k' e'
  len := by rw [setDirty_entries]; exact Nat.le_refl _
  ptr := fun e _ => getP_setDirty sh k' e' e
  out := by
    intro e _ hr hd hm
    rw [dirtyMap_setDirty_of_isSome hds] at hm
    rcases mem_vals_ainsert hm with h | h
    · exact hr (h ▸ mem_vals_of_mem hmr)
    · exact hd h

/-- `setDirty` of a pair of `read.m`, seen by a goroutine that does not hold the mutex -/
theorem T_setDirty_of_mem_read {sh : Shared K V} (hds : sh.dirty.isSome = true) {k' : K} {e' : EId}
    (hmr : (k', e') ∈ sh.readM) {u : Tid} {pc : Pc K V} {a : APc K V} (hT : T sh u pc a) (hno : ¬ Own sh u) :
    T (setDirty sh k' e') u pc a := by
  apply (keepRead_setDirty hds hmr).T_bystander' hT hno (by rw [Own_setDirty]; exact hno) (SeenLe.refl a)
  intro k e h1 h2
  rw [dirtyMap_setDirty_of_isSome hds, alookup_ainsert]
  have hne : k ≠ k' := by
    intro h; subst h
    exact (alookup_eq_none_iff _ _).mp h1 (mem_akeys_of_mem hmr)
  simp [hne, h2]

section
omit [DecidableEq V]

theorem expDone_of_live (sh : Shared K V) {p : Ptr V} (hp : p.isExpunged = false) (k' : K) (e' : EId) :
    expDone sh p k' e' = setDirty sh k' e' := by
  unfold expDone; simp [hp]

end

theorem dirtyMap_setDirty_unproc {sh : Shared K V} (hds : sh.dirty.isSome = true) (k' : K) (e' : EId) :
    dirtyMap (setDirty sh k' e') = ainsert k' e' (dirtyMap sh) :=
  dirtyMap_setDirty_of_isSome hds k' e'

section
omit [DecidableEq V]

theorem GS_expDone {sh : Shared K V} {U U' : List (K × EId)} {k' : K} {e' : EId} (g : GS sh U)
    (hds : sh.dirty.isSome = true) (hm : (k', e') ∈ U) (hU : UOk sh U)
    (hU' : ∀ p, p ∈ U' ↔ p ∈ U ∧ p ≠ (k', e')) : GS (setDirty sh k' e') U' := by
  obtain ⟨hmr, hdn, hvn, hlive⟩ := hU _ hm
  simp only at hdn hvn hlive
  have hdm : dirtyMap (setDirty sh k' e') = ainsert k' e' (dirtyMap sh) := dirtyMap_setDirty_of_isSome hds k' e'
  have hrk : alookup k' sh.readM = some e' := g.mem_read_iff.mp hmr
  have hds' : (setDirty sh k' e').dirty.isSome = true := by rw [setDirty_dirty_isSome]; exact hds
  refine
    { keysR := by rw [setDirty_readM]; exact g.keysR
      valsR := by rw [setDirty_readM]; exact g.valsR
      keysD := by rw [hdm]; exact nodup_ainsert g.keysD
      valsD := by rw [hdm]; exact nodup_vals_ainsert_of_none hdn hvn g.valsD
      boundR := by rw [setDirty_readM, setDirty_entries]; exact g.boundR
      boundD := ?_
      s1 := ?_
      nofault := by rw [setDirty_fault_of_isSome hds]; exact g.nofault
      readDirty := ?_
      dirtySub := ?_
      dirtyLive := ?_ }
  · intro p hp
    rw [hdm, mem_ainsert_of_none hdn] at hp
    rw [setDirty_entries]
    rcases hp with h | h
    · exact g.boundD p h
    · subst h; exact g.boundR _ hmr
  · intro h
    rw [h] at hds'
    cases hds'
  · intro p hp hpU'
    rw [setDirty_readM] at hp
    rw [getP_setDirty, hds', hdm]
    by_cases hpU : p ∈ U
    · have hpe : p = (k', e') := Decidable.byContradiction fun hne => hpU' ((hU' p).mpr ⟨hpU, hne⟩)
      subst hpe
      simp only [hlive]
      simp [alookup_ainsert]
    · have hne := fst_ne_and_snd_ne_of_ne g.keysR g.valsR hp hmr (fun h => hpU (h ▸ hm))
      have h0 := g.readDirty p hp hpU
      rw [hds] at h0
      exact ReadDirty.insert h0 hne.1 hne.2
  · intro ha p hp
    rw [hdm, mem_ainsert_of_none hdn] at hp
    rw [setDirty_amended] at ha
    rw [setDirty_readM]
    rcases hp with h | h
    · exact g.dirtySub ha p h
    · subst h; exact hrk
  · intro p hp hn
    rw [hdm, mem_ainsert_of_none hdn] at hp
    rw [setDirty_readM] at hn
    rw [getP_setDirty]
    rcases hp with h | h
    · exact g.dirtyLive p h hn
    · subst h
      rw [hrk] at hn; cases hn

/-- the remaining unprocessed pairs are still as the builder's `T` wants them -/
theorem UOk_expDone {sh : Shared K V} {U₀ U U' : List (K × EId)} {k' : K} {e' : EId} (g : GS sh U₀)
    (hds : sh.dirty.isSome = true) (hm : (k', e') ∈ U) (hU : UOk sh U)
    (hU' : ∀ p, p ∈ U' ↔ p ∈ U ∧ p ≠ (k', e')) : UOk (setDirty sh k' e') U' := by
  obtain ⟨hmr, hdn, hvn, hlive⟩ := hU _ hm
  simp only at hdn hvn hlive
  intro p hp
  obtain ⟨hpU, hne⟩ := (hU' p).mp hp
  obtain ⟨h1, h2, h3, h4⟩ := hU p hpU
  obtain ⟨hne1, hne2⟩ := fst_ne_and_snd_ne_of_ne g.keysR g.valsR h1 hmr hne
  rw [setDirty_readM, dirtyMap_setDirty_of_isSome hds, getP_setDirty]
  refine ⟨h1, ?_, ?_, h4⟩
  · rw [alookup_ainsert]; simp [hne1, h2]
  · rw [mem_vals_ainsert_of_none hdn]
    intro h
    rcases h with h | h
    · exact h3 h
    · exact hne2 h

/-- not amended: the abstraction only looks at `read.m` -/
theorem absOf_setDirty_of_not_amended {sh : Shared K V} (ha : sh.amended = false) (k' : K) (e' : EId) (k : K) :
    absOf (setDirty sh k' e') k = absOf sh k := by
  unfold absOf
  rw [setDirty_readM, setDirty_amended, ha]
  cases alookup k sh.readM with
  | some e => simp
  | none => simp

/-- the pairs still to do after the head of the builder's list is done -/
theorem Building.mem_tail_iff {sh : Shared K V} {q : K × EId} {todo : List (K × EId)} (hb : Building sh (q :: todo))
    (p : K × EId) : p ∈ todo ↔ p ∈ q :: todo ∧ p ≠ q := by
  constructor
  · intro h
    refine ⟨List.mem_cons_of_mem _ h, ?_⟩
    intro hpq
    exact hb.head_not_mem (hpq ▸ h)
  · rintro ⟨h, hne⟩
    rcases List.mem_cons.mp h with h1 | h1
    · exact absurd h1 hne
    · exact h1

theorem Building_expDone {sh : Shared K V} {U₀ : List (K × EId)} (g : GS sh U₀) (hds : sh.dirty.isSome = true)
    {k' : K} {e' : EId} {todo : List (K × EId)} (hb : Building sh ((k', e') :: todo)) :
    Building (setDirty sh k' e') todo :=
  ⟨hb.tail.1, UOk_expDone g hds (List.mem_cons_self ..) hb.2 hb.mem_tail_iff⟩

/-- with the unprocessed set given as the builder's list -/
theorem GS_expDone_cons {sh : Shared K V} {k' : K} {e' : EId} {todo : List (K × EId)}
    (g : GS sh ((k', e') :: todo)) (hds : sh.dirty.isSome = true)
    (hb : Building sh ((k', e') :: todo)) : GS (setDirty sh k' e') todo :=
  GS_expDone g hds (List.mem_cons_self ..) hb.2 hb.mem_tail_iff

end

theorem expDone_effect {s : State K V} {a : AState K V} {t : Tid} (hR : R s a) (ho : Own s.sh t)
    (ha : s.sh.amended = false) (hds : s.sh.dirty.isSome = true) {k' : K} {e' : EId} {todo : List (K × EId)}
    (hun : unprocPc (s.pc t) = (k', e') :: todo) (hb : Building s.sh ((k', e') :: todo)) :
    Effect s a t (setDirty s.sh k' e') todo a.obj :=
  ⟨fun u hu => T_setDirty_of_mem_read hds hb.head.1 (hR.thr u) (not_Own_of_ne ho hu),
    GS_expDone_cons (hR.g.gs.congr fun _ => by rw [mem_unprocessed_of_own hR.thr ho, hun]) hds hb,
    fun k => (hR.abs k).trans (absOf_setDirty_of_not_amended ha k' e' k).symm⟩


/-! ## 3. `amended := true` (the `read.Store` of readStore) -/

/-- the state after `m.read.Store(readOnly{m: read.m, amended: true})` -/
abbrev setAmended (sh : Shared K V) : Shared K V := { sh with amended := true }

theorem keepRead_setAmended (sh : Shared K V) : KeepRead sh (setAmended sh) where
  readM := rfl
  len := Nat.le_refl _
  ptr := fun _ _ => rfl
  out := fun _ _ _ hd => hd

/-- the non-owner shapes of `T` do not look at `amended` -/
theorem T_setAmended {sh : Shared K V} {u : Tid} {pc : Pc K V} {a : APc K V} (hT : T sh u pc a) (hno : ¬ Own sh u) :
    T (setAmended sh) u pc a :=
  (keepRead_setAmended sh).T_bystander' hT hno hno (SeenLe.refl a) (fun _ _ _ h => h)

section
omit [DecidableEq V]

theorem GS_setAmended {sh : Shared K V} {U : List (K × EId)} (g : GS sh U) (hds : sh.dirty.isSome = true) :
    GS (setAmended sh) U where
  keysR := g.keysR
  valsR := g.valsR
  keysD := g.keysD
  valsD := g.valsD
  boundR := g.boundR
  boundD := g.boundD
  s1 := by
    intro h
    have h' : sh.dirty = none := h
    rw [h'] at hds; cases hds
  nofault := g.nofault
  readDirty := g.readDirty
  dirtySub := by intro h; cases h
  dirtyLive := g.dirtyLive

/-- not amended before: the dirty map holds nothing but `read.m` entries, so nothing becomes visible -/
theorem absOf_setAmended {sh : Shared K V} {U : List (K × EId)} (g : GS sh U) (ha : sh.amended = false) (k : K) :
    absOf (setAmended sh) k = absOf sh k := by
  cases hr : alookup k sh.readM with
  | some e =>
    rw [absOf_of_read hr, absOf_of_read (sh := setAmended sh) hr]
    rfl
  | none =>
    rw [absOf_of_not_amended hr ha]
    exact absOf_of_none_none (sh := setAmended sh) hr (g.dirty_none_of_not_amended ha hr)

end

theorem bystanders_setAmended {s : State K V} {apcs : Nat → APc K V} (hT : ∀ u, T s.sh u (s.pc u) (apcs u))
    {t : Tid} (ho : Own s.sh t) : ∀ u, u ≠ t → T (setAmended s.sh) u (s.pc u) (apcs u) :=
  fun u hne => T_setAmended (hT u) (not_Own_of_ne ho hne)

/-! ## 4. `addNew` (finishNew) -/

theorem dirtyMap_addNew_new {sh : Shared K V} (hds : sh.dirty.isSome = true) (k : K) (v : V) :
    dirtyMap (addNew sh k v) = ainsert k sh.entries.length (dirtyMap sh) :=
  dirtyMap_addNew_of_isSome hds k v

theorem keepRead_addNew {sh : Shared K V} (hds : sh.dirty.isSome = true) (k : K) (v : V) :
    KeepRead sh (addNew sh k v) where
  readM := addNew_readM sh k v
  len := by rw [addNew_entries_length]; exact Nat.le_succ _
  ptr := fun e he => getP_addNew_of_lt he k v
  out := by
    intro e he _ hd hm
    rw [dirtyMap_addNew_of_isSome hds] at hm
    rcases mem_vals_ainsert hm with h | h
    · exact Nat.lt_irrefl _ (h ▸ he)
    · exact hd h

/-- entries only grow, the new entry is in no bystander's hands -/
theorem T_addNew {sh : Shared K V} (hds : sh.dirty.isSome = true) {k : K} (hdk : alookup k (dirtyMap sh) = none)
    (v : V) {u : Tid} {pc : Pc K V} {a : APc K V} (hT : T sh u pc a) (hno : ¬ Own sh u) :
    T (addNew sh k v) u pc a := by
  apply (keepRead_addNew hds k v).T_bystander' hT hno (by rw [Own_addNew]; exact hno) (SeenLe.refl a)
  intro k2 e _ h2
  rw [dirtyMap_addNew_of_isSome hds, alookup_ainsert]
  have hne : k2 ≠ k := by
    intro h; subst h
    rw [hdk] at h2; cases h2
  simp [hne, h2]

section
omit [DecidableEq V]

theorem GS_addNew {sh : Shared K V} {U : List (K × EId)} (g : GS sh U) (hds : sh.dirty.isSome = true)
    (ha : sh.amended = true) {k : K} (hrk : alookup k sh.readM = none) (hdk : alookup k (dirtyMap sh) = none)
    (v : V) : GS (addNew sh k v) U := by
  have hdm : dirtyMap (addNew sh k v) = ainsert k sh.entries.length (dirtyMap sh) :=
    dirtyMap_addNew_of_isSome hds k v
  have hds' : (addNew sh k v).dirty.isSome = true := by rw [addNew_dirty_isSome]; exact hds
  refine
    { keysR := by rw [addNew_readM]; exact g.keysR
      valsR := by rw [addNew_readM]; exact g.valsR
      keysD := by rw [hdm]; exact nodup_ainsert g.keysD
      valsD := by rw [hdm]; exact nodup_vals_ainsert_of_none hdk g.length_not_mem_vals_dirty g.valsD
      boundR := ?_
      boundD := ?_
      s1 := ?_
      nofault := by rw [addNew_fault_of_isSome hds]; exact g.nofault
      readDirty := ?_
      dirtySub := ?_
      dirtyLive := ?_ }
  · intro p hp
    rw [addNew_readM] at hp
    rw [addNew_entries_length]
    exact Nat.lt_succ_of_lt (g.boundR p hp)
  · intro p hp
    rw [hdm, mem_ainsert_of_none hdk] at hp
    rw [addNew_entries_length]
    rcases hp with h | h
    · exact Nat.lt_succ_of_lt (g.boundD p h)
    · subst h; exact Nat.lt_succ_self _
  · intro h
    rw [h] at hds'
    cases hds'
  · intro p hp hpU
    rw [addNew_readM] at hp
    have hlt := g.boundR p hp
    rw [getP_addNew_of_lt hlt, hds', hdm]
    have h0 := g.readDirty p hp hpU
    rw [hds] at h0
    refine ReadDirty.insert h0 (fun h => ?_) (Nat.ne_of_lt hlt)
    rw [← h, alookup_of_mem' g.keysR hp] at hrk
    cases hrk
  · intro h
    rw [addNew_amended, ha] at h
    cases h
  · intro p hp hn
    rw [hdm, mem_ainsert_of_none hdk] at hp
    rw [addNew_readM] at hn
    rcases hp with h | h
    · rw [getP_addNew_of_lt (g.boundD p h)]
      exact g.dirtyLive p h hn
    · subst h
      rw [getP_addNew_new]
      rfl

theorem absOf_addNew {sh : Shared K V} {U : List (K × EId)} (g : GS sh U) (hds : sh.dirty.isSome = true)
    (ha : sh.amended = true) {k : K} (hrk : alookup k sh.readM = none) (v : V) (k2 : K) :
    absOf (addNew sh k v) k2 = if k2 = k then some v else absOf sh k2 := by
  unfold absOf
  rw [addNew_readM, addNew_amended, dirtyMap_addNew_of_isSome hds, alookup_ainsert, ha]
  by_cases h : k2 = k
  · subst h
    simp [hrk]
  · simp only [h, if_false]
    cases hr : alookup k2 sh.readM with
    | some e => simp only; rw [getP_addNew_of_lt (g.read_lt_length hr)]
    | none =>
      simp only [if_true]
      cases hd : alookup k2 (dirtyMap sh) with
      | none => rfl
      | some e => simp only [Option.bind_some]; rw [getP_addNew_of_lt (g.dirty_lt_length hd)]

theorem addNew_fault_false {sh : Shared K V} {U : List (K × EId)} (g : GS sh U) (hds : sh.dirty.isSome = true) (k : K) (v : V) :
    (addNew sh k v).fault = false := by
  rw [addNew_fault_of_isSome hds]; exact g.nofault

end

section
omit [DecidableEq V]

theorem finishNew_fst (sh : Shared K V) (c : NewCtx) (k : K) (v : V) : (finishNew sh c k v).1 = unlock (addNew sh k v) :=
  rfl
theorem finishNew_snd (sh : Shared K V) (c : NewCtx) (k : K) (v : V) : (finishNew sh c k v).2 = .ret (newRes c v) := rfl

end

/-- `amended` is already true: the new entry goes into the dirty map (`newTail` from `storeRead2` / `losRead2`) -/
theorem addNew_effect {s : State K V} {a : AState K V} {t : Tid} (hR : R s a) (ho : Own s.sh t)
    (hds : s.sh.dirty.isSome = true) (ha : s.sh.amended = true) {k : K} (hrk : alookup k s.sh.readM = none)
    (hdk : alookup k (dirtyMap s.sh) = none) (v : V) :
    Effect s a t (addNew s.sh k v) (unprocessed s) (put a.obj k v) :=
  ⟨fun u hu => T_addNew hds hdk v (hR.thr u) (not_Own_of_ne ho hu), GS_addNew hR.g.gs hds ha hrk hdk v,
    fun k2 => by rw [put_apply, absOf_addNew hR.g.gs hds ha hrk v k2, hR.abs k2]⟩

theorem absOf_finishNew_put {sh : Shared K V} {U : List (K × EId)} (g : GS sh U) (hds : sh.dirty.isSome = true)
    (ha : sh.amended = true) {k : K} (hrk : alookup k sh.readM = none) (c : NewCtx) (v : V) :
    absOf (finishNew sh c k v).1 = put (absOf sh) k v := by
  funext k2
  exact absOf_addNew g hds ha hrk v k2

/-! ### `finishNew`, form 2: `readStore` sets `amended` first (`sh.amended = false`, nobody inside the loop) -/

theorem setAmended_addNew_effect {s : State K V} {a : AState K V} {t : Tid} (hR : R s a) (ho : Own s.sh t)
    (hds : s.sh.dirty.isSome = true) (ha : s.sh.amended = false) {k : K} (hrk : alookup k s.sh.readM = none) (v : V) :
    Effect s a t (addNew (setAmended s.sh) k v) (unprocessed s) (put a.obj k v) :=
  have g := GS_setAmended hR.g.gs hds
  have hdk := hR.g.gs.dirty_none_of_not_amended ha hrk
  ⟨fun u hu => T_addNew (sh := setAmended s.sh) hds hdk v (T_setAmended (hR.thr u) (not_Own_of_ne ho hu))
      (not_Own_of_ne ho hu),
    GS_addNew g hds rfl hrk hdk v,
    fun k2 => by rw [put_apply, absOf_addNew g hds rfl hrk v k2, absOf_setAmended hR.g.gs ha, hR.abs k2]⟩

theorem absOf_finishNew_readStore_put {sh : Shared K V} {U : List (K × EId)} (g : GS sh U)
    (hds : sh.dirty.isSome = true) (ha : sh.amended = false) {k : K} (hrk : alookup k sh.readM = none) (c : NewCtx)
    (v : V) : absOf (finishNew { sh with readM := sh.readM, amended := true } c k v).1 = put (absOf sh) k v := by
  funext k2
  exact (absOf_addNew (sh := setAmended sh) (GS_setAmended g hds) hds rfl hrk v k2).trans
    (by rw [absOf_setAmended g ha]; rfl)

theorem finishNew_readStore_fault {sh : Shared K V} {U : List (K × EId)} (g : GS sh U) (hds : sh.dirty.isSome = true)
    (c : NewCtx) (k : K) (v : V) : (finishNew { sh with readM := sh.readM, amended := true } c k v).1.fault = false := by
  rw [finishNew_fst, unlock_fault]
  exact addNew_fault_false (sh := setAmended sh) (GS_setAmended g hds) hds k v


/-! ## 5. `delDirty` (the unlink of the slow path of LoadAndDelete / Delete)

Hypotheses: `GS sh []` (nobody is inside the `dirtyLocked` loop: `unprocessed_eq_nil_of_amended`), `read.m` lacks `k`.
`amended = true` is only needed for the `absOf` equations. -/

theorem keepRead_delDirty (sh : Shared K V) (k : K) : KeepRead sh (delDirty sh k) where
  readM := rfl
  len := Nat.le_refl _
  ptr := fun _ _ => rfl
  out := by
    intro e _ _ hd hm
    rw [dirtyMap_delDirty] at hm
    exact hd (mem_vals_of_mem_vals_aerase hm)

section
omit [DecidableEq V]

theorem unlink_entry_facts {sh : Shared K V} (g : GS sh []) (ha : sh.amended = true) {k : K}
    (hrk : alookup k sh.readM = none) {e : EId} (hd : alookup k (dirtyMap sh) = some e) :
    e < sh.entries.length ∧ e ∉ vals sh.readM ∧ e ∉ vals (dirtyMap (delDirty sh k)) ∧ isVal (getP sh e) = true ∧
      absOf sh k = (getP sh e).value? := by
  refine ⟨g.dirty_lt_length hd, g.dirty_only_not_in_read hrk hd (fun _ => List.not_mem_nil), ?_, g.dirty_only_isVal hrk hd,
    absOf_of_dirty hrk ha hd⟩
  rw [dirtyMap_delDirty]
  exact not_mem_vals_aerase_of_alookup g.valsD hd

theorem unlink_orphan {sh : Shared K V} (g : GS sh []) {k : K} (hrk : alookup k sh.readM = none) {e : EId}
    (hd : alookup k (dirtyMap sh) = some e) : Orphan (delDirty sh k) e := by
  refine ⟨?_, g.dirty_only_not_in_read hrk hd (fun _ => List.not_mem_nil), ?_⟩
  · rw [getP_delDirty]; exact not_isExpunged_of_isVal (g.dirty_only_isVal hrk hd)
  · rw [dirtyMap_delDirty]; exact not_mem_vals_aerase_of_alookup g.valsD hd

end

theorem absOf_of_unlink_none {sh : Shared K V} {k : K} (hrk : alookup k sh.readM = none)
    (hd : alookup k (dirtyMap sh) = none) : absOf sh k = none :=
  absOf_of_none_none hrk hd

/-- General form: `a'` is any abstract pc whose `seen` extends that of `a` and which, if it is
a pending `Load k` holding `dirty[k]`, has seen "absent".  Such a goroutine holds an orphan afterwards: it has seen the
old value (`hobs`, `habs`). -/
theorem T_unlink_gen {sh : Shared K V} (g : GS sh []) (ha : sh.amended = true) {k : K}
    (hrk : alookup k sh.readM = none) {obj : K → Option V} (habs : obj k = absOf sh k) {u : Tid} {pc : Pc K V}
    {a a' : APc K V} (hT : T sh u pc a) (hno : ¬ Own sh u) (hobs : ObsPc obj a) (hs : SeenLe a a')
    (hnone : ∀ e, Pend a (.load k) → alookup k (dirtyMap sh) = some e → Res.val none ∈ seenOf a') :
    T (delDirty sh k) u pc a' := by
  apply (keepRead_delDirty sh k).T_bystander hT hs (fun o => absurd o hno) (fun _ => hno)
  intro k2 e hp hl h1 h2
  by_cases hk : k2 = k
  · subst hk
    refine ⟨hl, Or.inr (Or.inr ⟨unlink_orphan g hrk h2, hnone e hp h2, ?_⟩)⟩
    rw [getP_delDirty]
    have hseen : Res.val (obj k2) ∈ seenOf a := hobs.load_seen hp
    rw [habs, absOf_of_dirty hrk ha h2] at hseen
    cases hv : (getP sh e).value? with
    | none => trivial
    | some v =>
      rw [hv] at hseen
      exact hs.mem_seenOf hseen
  · refine ⟨hl, Or.inl (Or.inr ⟨h1, ?_⟩)⟩
    rw [dirtyMap_delDirty, alookup_aerase_ne hk]
    exact h2

/-- `obj` is the abstract map before the step; the bystander's abstract pc has observed the map
after the deletion (as `witness` does when the step is the linearization step, i.e. `dirty[k]` exists). -/
theorem T_unlink {sh : Shared K V} (g : GS sh []) (ha : sh.amended = true) {k : K}
    (hrk : alookup k sh.readM = none) {obj : K → Option V} (habs : obj k = absOf sh k) {u : Tid} {pc : Pc K V}
    {a : APc K V} (hT : T sh u pc a) (hno : ¬ Own sh u) (hobs : ObsPc obj a) :
    T (delDirty sh k) u pc (observePc (del obj k) a) := by
  apply T_unlink_gen g ha hrk habs hT hno hobs (SeenLe_observePc _ a)
  intro e hp _
  apply mem_seenOf_observePc hp
  show some (Res.val (del obj k k)) = _
  rw [del_same]

/-- the dirty map lacks `k` too (`delete(m.dirty, k)` does nothing; not a linearization step): any `a'` with a
larger `seen` will do, no `Obs` needed -/
theorem T_unlink_none {sh : Shared K V} {k : K} (hd : alookup k (dirtyMap sh) = none) {u : Tid} {pc : Pc K V}
    {a a' : APc K V} (hT : T sh u pc a) (hno : ¬ Own sh u) (hs : SeenLe a a') : T (delDirty sh k) u pc a' := by
  apply (keepRead_delDirty sh k).T_bystander' hT hno hno hs
  intro k2 e _ h2
  have hk : k2 ≠ k := by
    intro h; subst h; rw [hd] at h2; cases h2
  rw [dirtyMap_delDirty, alookup_aerase_ne hk]
  exact h2

/-- the same with the abstraction equation for all keys -/
theorem T_unlink' {sh : Shared K V} (g : GS sh []) (ha : sh.amended = true) {k : K}
    (hrk : alookup k sh.readM = none) {obj : K → Option V} (habs : ∀ k, obj k = absOf sh k) {u : Tid} {pc : Pc K V}
    {a : APc K V} (hT : T sh u pc a) (hno : ¬ Own sh u) (hobs : ObsPc obj a) :
    T (delDirty sh k) u pc (observePc (del obj k) a) :=
  T_unlink g ha hrk (habs k) hT hno hobs

section
omit [DecidableEq V]

theorem GS_unlink {sh : Shared K V} (g : GS sh []) {k : K} (hrk : alookup k sh.readM = none) :
    GS (delDirty sh k) [] := by
  have hdm : dirtyMap (delDirty sh k) = aerase k (dirtyMap sh) := dirtyMap_delDirty sh k
  refine
    { keysR := g.keysR
      valsR := g.valsR
      keysD := by rw [hdm]; exact nodup_aerase g.keysD
      valsD := by rw [hdm]; exact nodup_vals_aerase g.valsD
      boundR := g.boundR
      boundD := ?_
      s1 := ?_
      nofault := g.nofault
      readDirty := ?_
      dirtySub := ?_
      dirtyLive := ?_ }
  · intro p hp
    rw [hdm] at hp
    exact g.boundD p (mem_of_mem_aerase hp)
  · intro h
    rw [delDirty_dirty] at h
    apply g.s1
    cases hd : sh.dirty with
    | none => rfl
    | some d => rw [hd] at h; cases h
  · intro p hp hpU
    have hp' : p ∈ sh.readM := hp
    rw [getP_delDirty, delDirty_dirty_isSome, hdm]
    refine ReadDirty.erase (g.readDirty p hp' hpU) (fun h => ?_)
    rw [← h, alookup_of_mem' g.keysR hp'] at hrk
    cases hrk
  · intro h p hp
    rw [hdm] at hp
    exact g.dirtySub h p (mem_of_mem_aerase hp)
  · intro p hp hn
    rw [hdm] at hp
    rw [getP_delDirty]
    exact g.dirtyLive p (mem_of_mem_aerase hp) hn

theorem absOf_unlink {sh : Shared K V} {k : K} (hrk : alookup k sh.readM = none) (k2 : K) :
    absOf (delDirty sh k) k2 = if k2 = k then none else absOf sh k2 := by
  unfold absOf
  rw [delDirty_readM, delDirty_amended, dirtyMap_delDirty]
  by_cases h : k2 = k
  · subst h
    simp [hrk]
  · simp only [h, if_false, alookup_aerase_ne h, getP_delDirty]

theorem absOf_unlink_del {sh : Shared K V} {k : K} (hrk : alookup k sh.readM = none) :
    absOf (delDirty sh k) = del (absOf sh) k := by
  funext k2
  rw [absOf_unlink hrk k2]
  rfl

end

theorem bystanders_unlink {s : State K V} {a : AState K V} (g : GS s.sh []) (hT : ∀ u, T s.sh u (s.pc u) (a.pcs u))
    (hObs : Obs a.obj a.pcs) (habs : ∀ k, a.obj k = absOf s.sh k) {t : Tid} (ho : Own s.sh t)
    (ha : s.sh.amended = true) {k : K} (hrk : alookup k s.sh.readM = none) :
    ∀ u, u ≠ t → T (delDirty s.sh k) u (s.pc u) (observePc (del a.obj k) (a.pcs u)) :=
  fun u hne => T_unlink g ha hrk (habs k) (hT u) (not_Own_of_ne ho hne) (hObs.obsPc u)

/-! The unlink composed with what `ladRead2` does next (`missStep`, possibly `unlock`), by `SameData`.  The step proofs take
the bare forms above and a `Tail`. -/

theorem T_unlink_missStep {sh : Shared K V} (g : GS sh []) (ha : sh.amended = true) {k : K}
    (hrk : alookup k sh.readM = none) {obj : K → Option V} (habs : obj k = absOf sh k) {u : Tid} {pc : Pc K V}
    {a : APc K V} (hT : T sh u pc a) (hno : ¬ Own sh u) (hobs : ObsPc obj a) :
    T (missStep (delDirty sh k)).1 u pc (observePc (del obj k) a) :=
  (T_congr (sameData_missStep_fst _) Iff.rfl _ _).mpr (T_unlink g ha hrk habs hT hno hobs)

theorem T_unlink_missStep_unlock {sh : Shared K V} (g : GS sh []) (ha : sh.amended = true) {k : K}
    (hrk : alookup k sh.readM = none) {obj : K → Option V} (habs : obj k = absOf sh k) {u : Tid} {pc : Pc K V}
    {a : APc K V} (hT : T sh u pc a) (hno : ¬ Own sh u) (hobs : ObsPc obj a) :
    T (unlock (missStep (delDirty sh k)).1) u pc (observePc (del obj k) a) :=
  (T_sameData_of_not_own (sameData_unlock_missStep_fst (delDirty sh k)) hno (Own_unlock _ u) _ _).mpr
    (T_unlink g ha hrk habs hT hno hobs)

theorem GS_unlink_missStep {sh : Shared K V} (g : GS sh []) {k : K} (hrk : alookup k sh.readM = none) :
    GS (missStep (delDirty sh k)).1 [] :=
  (GS_sameData_iff (sameData_missStep_fst _) rfl _).mpr (GS_unlink g hrk)

theorem GS_unlink_missStep_unlock {sh : Shared K V} (g : GS sh []) {k : K} (hrk : alookup k sh.readM = none) :
    GS (unlock (missStep (delDirty sh k)).1) [] :=
  (GS_sameData_iff (sameData_unlock_missStep_fst _) rfl _).mpr (GS_unlink g hrk)

/-! ## 6. `promote` (missLocked, and the inline form of `Range`)

Hypotheses: `GS sh []` (nobody is inside the `dirtyLocked` loop), a dirty map exists.  (`amended = true`, which
`Promoting` provides, is not needed.) -/

section
omit [DecidableEq V]

/-- the inline promotion of `Range.readStore1` (`T` says `dm = dirtyMap sh`) -/
theorem rangeStore_update_eq {sh : Shared K V} {dm : List (K × EId)} (h : dm = dirtyMap sh) :
    { sh with readM := dm, amended := false, dirty := none, misses := 0 } = promote sh := by
  subst h; rfl

theorem promote_dead {sh : Shared K V} {e : EId} (h : Dead sh e) : Dead (promote sh) e :=
  ⟨h.1, h.2.2, by simp⟩

theorem promote_orphan {sh : Shared K V} {e : EId} (h : Orphan sh e) : Orphan (promote sh) e :=
  ⟨h.1, h.2.2, by simp⟩

/-- an entry of `read.m` after promotion: still there (live) or dead (expunged, and then the key is absent) -/
theorem promote_read_cases {sh : Shared K V} (g : GS sh []) (hds : sh.dirty.isSome = true) {k : K} {e : EId}
    (hr : alookup k sh.readM = some e) :
    alookup k (promote sh).readM = some e ∨ (Dead (promote sh) e ∧ absOf sh k = none) := by
  cases hx : (getP sh e).isExpunged with
  | false => exact Or.inl (g.read_live_in_dirty hr (by simp) hx hds)
  | true =>
    refine Or.inr ⟨⟨hx, (g.read_expunged_not_in_dirty hr (by simp) hx).2.2, by simp⟩, ?_⟩
    rw [absOf_of_read hr]
    exact value?_none_of_isExpunged hx

end

theorem promote_unlinker {sh : Shared K V} {d : Bool} {k : K} {e : EId} {a a' : APc K V} (hs : SeenLe a a')
    (h : Unlinker sh d k e a) : Unlinker (promote sh) d k e a' := by
  rw [Unlinker_iff] at h ⊢
  obtain ⟨h1, _, h3, v, hv, hdw⟩ := h
  exact ⟨h1, h3, by simp, v, hv, hs.doneWith hdw⟩

theorem T_promote {sh : Shared K V} (g : GS sh []) (hds : sh.dirty.isSome = true) {obj : K → Option V}
    (habs : ∀ k, obj k = absOf sh k) {u : Tid} {pc : Pc K V} {a a' : APc K V} (hT : T sh u pc a) (hno : ¬ Own sh u)
    (hobs : ObsPc obj a) (hs : SeenLe a a') : T (promote sh) u pc a' := by
  apply T_transfer (sh' := promote sh) hT hs (fun o => absurd o hno) (fun _ => hno)
  · -- HoldRead
    intro k e hr
    refine ⟨hr.1, ?_⟩
    rcases hr.2 with h1 | h1
    · rcases promote_read_cases g hds h1 with h2 | ⟨h2, _⟩
      · exact Or.inl h2
      · exact Or.inr h2
    · exact Or.inr (promote_dead h1)
  · -- HoldLoad
    intro k e hp hr
    refine hr.mono hs (Nat.le_refl _) (fun h1 => ⟨hr.1, ?_⟩) promote_dead fun h1 => ⟨promote_orphan h1, fun _ => id⟩
    rcases h1 with h1 | ⟨_, h2⟩
    · rcases promote_read_cases g hds h1 with h2 | ⟨h2, h3⟩
      · exact Or.inl (Or.inl h2)
      · refine Or.inr (Or.inl ⟨h2, hs.mem_seenOf ?_⟩)
        have := hobs.load_seen hp
        rw [habs, h3] at this
        exact this
    · exact Or.inl (Or.inl h2)
  · -- HoldDel
    intro d k e hp hr
    refine ⟨hr.1, ?_⟩
    rcases hr.2 with h1 | ⟨h1, h2⟩
    · rcases promote_read_cases g hds h1 with h2 | ⟨h2, h3⟩
      · exact Or.inl h2
      · exact Or.inr ⟨h2, hs.mem_seenOf (hobs.lad_seen hp (by rw [habs, h3]))⟩
    · exact Or.inr ⟨promote_dead h1, hs.mem_seenOf h2⟩
  · exact fun d k e _ hr => ⟨promote_unlinker hs hr, rfl⟩

section
omit [DecidableEq V]

theorem GS_promote {sh : Shared K V} (g : GS sh []) : GS (promote sh) [] where
  keysR := g.keysD
  valsR := g.valsD
  keysD := by simp
  valsD := by simp
  boundR := g.boundD
  boundD := by simp
  s1 := fun _ => rfl
  nofault := g.nofault
  readDirty := by
    intro p hp _
    have hp' : p ∈ dirtyMap sh := hp
    have hx : (getP sh p.2).isExpunged = false := g.dirty_not_expunged (alookup_of_mem' g.keysD hp')
    rw [getP_promote, hx]
    simp
  dirtySub := by intro _ p hp; simp at hp
  dirtyLive := by intro p hp; simp at hp

theorem absOf_promote {sh : Shared K V} (g : GS sh []) (hds : sh.dirty.isSome = true) (k : K) :
    absOf (promote sh) k = absOf sh k := by
  have hL : absOf (promote sh) k = (alookup k (dirtyMap sh)).bind (fun e => (getP sh e).value?) := by
    unfold absOf
    rw [promote_readM, promote_amended]
    cases alookup k (dirtyMap sh) with
    | none => rfl
    | some e => rfl
  rw [hL]
  cases hr : alookup k sh.readM with
  | some e =>
    rw [absOf_of_read hr]
    cases hx : (getP sh e).isExpunged with
    | false => rw [g.read_live_in_dirty hr (by simp) hx hds]; rfl
    | true =>
      rw [(g.read_expunged_not_in_dirty hr (by simp) hx).2.1, value?_none_of_isExpunged hx]; rfl
  | none =>
    rw [absOf_of_read_none hr]
    cases ha : sh.amended with
    | true => rfl
    | false => rw [g.dirty_none_of_not_amended ha hr]; rfl

end

theorem promote_effect {s : State K V} {a : AState K V} {t : Tid} (hR : R s a) (ho : Own s.sh t)
    (hun : unprocPc (s.pc t) = []) (hds : s.sh.dirty.isSome = true) :
    Effect s a t (promote s.sh) (unprocessed s) a.obj :=
  have hnil := unprocessed_eq_nil_of_own hR.thr ho hun
  have g : GS s.sh [] := hnil ▸ hR.g.gs
  ⟨fun u hu => T_promote g hds hR.abs (hR.thr u) (not_Own_of_ne ho hu) (hR.obs.obsPc u) (SeenLe.refl _),
    hnil.symm ▸ GS_promote g, fun k => (hR.abs k).trans (absOf_promote g hds k).symm⟩

/-- all bystanders, with the abstract pcs as `witness` leaves them after a promotion step -/
theorem bystanders_promote_observe {s : State K V} {a : AState K V} (g : GS s.sh [])
    (hT : ∀ u, T s.sh u (s.pc u) (a.pcs u)) (hObs : Obs a.obj a.pcs) (habs : ∀ k, a.obj k = absOf s.sh k) {t : Tid}
    (ho : Own s.sh t) (hds : s.sh.dirty.isSome = true) (obj' : K → Option V) :
    ∀ u, u ≠ t → T (promote s.sh) u (s.pc u) (observePc obj' (a.pcs u)) :=
  fun u hne => T_promote g hds habs (hT u) (not_Own_of_ne ho hne) (hObs.obsPc u) (SeenLe_observePc obj' (a.pcs u))

/-! The same facts for the record update `rangeStore dm` performs, bare and followed by `unlock`.  `SmcPromote` rewrites by
`rangeStore_update_eq` and goes through `promote_effect`. -/

theorem T_rangeStore {sh : Shared K V} (g : GS sh []) (hds : sh.dirty.isSome = true) {dm : List (K × EId)}
    (hdm : dm = dirtyMap sh) {obj : K → Option V} (habs : ∀ k, obj k = absOf sh k) {u : Tid} {pc : Pc K V}
    {a a' : APc K V} (hT : T sh u pc a) (hno : ¬ Own sh u) (hobs : ObsPc obj a) (hs : SeenLe a a') :
    T { sh with readM := dm, amended := false, dirty := none, misses := 0 } u pc a' := by
  rw [rangeStore_update_eq hdm]; exact T_promote g hds habs hT hno hobs hs

theorem T_rangeStore_unlock {sh : Shared K V} (g : GS sh []) (hds : sh.dirty.isSome = true) {dm : List (K × EId)}
    (hdm : dm = dirtyMap sh) {obj : K → Option V} (habs : ∀ k, obj k = absOf sh k) {u : Tid} {pc : Pc K V}
    {a a' : APc K V} (hT : T sh u pc a) (hno : ¬ Own sh u) (hobs : ObsPc obj a) (hs : SeenLe a a') :
    T (unlock { sh with readM := dm, amended := false, dirty := none, misses := 0 }) u pc a' := by
  rw [rangeStore_update_eq hdm]
  exact (T_sameData_of_not_own (sameData_unlock (promote sh)) hno (Own_unlock _ u) _ _).mpr
    (T_promote g hds habs hT hno hobs hs)

theorem GS_rangeStore {sh : Shared K V} (g : GS sh []) {dm : List (K × EId)} (hdm : dm = dirtyMap sh) :
    GS { sh with readM := dm, amended := false, dirty := none, misses := 0 } [] := by
  rw [rangeStore_update_eq hdm]; exact GS_promote g

theorem GS_rangeStore_unlock {sh : Shared K V} (g : GS sh []) {dm : List (K × EId)} (hdm : dm = dirtyMap sh) :
    GS (unlock { sh with readM := dm, amended := false, dirty := none, misses := 0 }) [] := by
  rw [rangeStore_update_eq hdm]; exact (GS_sameData_iff (sameData_unlock _) rfl _).mpr (GS_promote g)

theorem absOf_rangeStore {sh : Shared K V} (g : GS sh []) (hds : sh.dirty.isSome = true) {dm : List (K × EId)}
    (hdm : dm = dirtyMap sh) (k : K) :
    absOf { sh with readM := dm, amended := false, dirty := none, misses := 0 } k = absOf sh k := by
  rw [rangeStore_update_eq hdm]; exact absOf_promote g hds k

section
omit [DecidableEq V]

theorem absOf_rangeStore_unlock {sh : Shared K V} (g : GS sh []) (hds : sh.dirty.isSome = true)
    {dm : List (K × EId)} (hdm : dm = dirtyMap sh) (k : K) :
    absOf (unlock { sh with readM := dm, amended := false, dirty := none, misses := 0 }) k = absOf sh k := by
  rw [rangeStore_update_eq hdm]; exact absOf_promote g hds k

end

theorem bystanders_rangeStore_unlock {s : State K V} {a : AState K V} (g : GS s.sh [])
    (hT : ∀ u, T s.sh u (s.pc u) (a.pcs u)) (hObs : Obs a.obj a.pcs) (habs : ∀ k, a.obj k = absOf s.sh k) {t : Tid}
    (ho : Own s.sh t) (hds : s.sh.dirty.isSome = true) {dm : List (K × EId)} (hdm : dm = dirtyMap s.sh)
    {apcs' : Nat → APc K V} (hs : ∀ u, SeenLe (a.pcs u) (apcs' u)) :
    ∀ u, u ≠ t →
      T (unlock { s.sh with readM := dm, amended := false, dirty := none, misses := 0 }) u (s.pc u) (apcs' u) := by
  rw [rangeStore_update_eq hdm]
  exact fun u hne =>
    (T_sameData_of_not_own (sameData_unlock (promote s.sh)) (not_Own_of_ne ho hne) (Own_unlock _ u) _ _).mpr
      (T_promote g hds habs (hT u) (not_Own_of_ne ho hne) (hObs.obsPc u) (hs u))

end TypVerif.Lemmas.Smc
