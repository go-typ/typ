import TypVerif.Lemmas.ListHeap
import TypVerif.Spec.Seq
/-
`Linked nx pv c`: consecutive entries `a, b` of the pointer list `c` satisfy `nx a = b ∧ pv b = a`.
A heap list `l` spells the sequence `xs` when `Linked h.next h.prev (cyc l xs)` with
`cyc l xs = root l :: elem x₁ :: … :: elem xₙ :: [root l]`.

The two pointer surgeries of list.go, link after `at` and unlink, transform the spelled pointer list by
`insP` / `List.erase` (`Linked.insP`, `Linked.erase`); `move` is their composition (`moveH` in `ListSurgery`, `move_sim` in
`ListOps2`).  The hypotheses `hnx`/`hpv` of the two are verbatim what `next_linkH` … `prev_unlinkH` (`ListSurgery`) conclude.
-/
namespace TypVerif.Lemmas.LinkedList
open TypVerif.Spec.ListOp
open TypVerif.Spec.Seq

def Linked (nx pv : Ptr → Ptr) : List Ptr → Prop
  | [] => True
  | [_] => True
  | a :: b :: rest => nx a = b ∧ pv b = a ∧ Linked nx pv (b :: rest)

theorem Linked_cons_cons {nx pv : Ptr → Ptr} {a b : Ptr} {rest : List Ptr} :
    Linked nx pv (a :: b :: rest) ↔ nx a = b ∧ pv b = a ∧ Linked nx pv (b :: rest) := Iff.rfl

theorem Linked.tail {nx pv : Ptr → Ptr} : ∀ {a : Ptr} {c : List Ptr}, Linked nx pv (a :: c) → Linked nx pv c
  | _, [], _ => trivial
  | _, _ :: _, h => h.2.2

/-- frame: only `nx` on all-but-last and `pv` on all-but-first entries matter -/
theorem Linked.frame {nx pv nx' pv' : Ptr → Ptr} : ∀ {c : List Ptr}, Linked nx pv c →
    (∀ a ∈ c.dropLast, nx' a = nx a) → (∀ b ∈ c.tail, pv' b = pv b) → Linked nx' pv' c := by
  intro c
  induction c with
  | nil => intro _ _ _; trivial
  | cons a t ih =>
    cases t with
    | nil => intro _ _ _; trivial
    | cons b rest =>
      intro h h1 h2
      exact ⟨(h1 a List.mem_cons_self).trans h.1, (h2 b List.mem_cons_self).trans h.2.1,
        ih h.2.2 (fun x hx => h1 x (List.mem_cons_of_mem _ hx)) (fun x hx => h2 x (List.mem_cons_of_mem _ hx))⟩

theorem Linked.next_mem {nx pv : Ptr → Ptr} : ∀ {c : List Ptr} {p : Ptr}, Linked nx pv c →
    p ∈ c.dropLast → nx p ∈ c.tail := by
  intro c
  induction c with
  | nil => intro _ _ hp; cases hp
  | cons a t ih =>
    cases t with
    | nil => intro _ _ hp; cases hp
    | cons b rest =>
      intro p h hp
      rcases List.mem_cons.1 hp with rfl | hp
      · exact h.1 ▸ List.mem_cons_self
      · exact List.mem_cons_of_mem _ (ih h.2.2 hp)

theorem Linked.snoc {nx pv : Ptr → Ptr} : ∀ {c : List Ptr} {a b : Ptr}, Linked nx pv (c ++ [a]) →
    nx a = b → pv b = a → Linked nx pv (c ++ [a, b]) := by
  intro c
  induction c with
  | nil => intro _ _ _ h1 h2; exact ⟨h1, h2, trivial⟩
  | cons x t ih =>
    cases t with
    | nil => intro _ _ h h1 h2; exact ⟨h.1, h.2.1, h1, h2, trivial⟩
    | cons y rest => intro _ _ h h1 h2; exact ⟨h.1, h.2.1, ih h.2.2 h1 h2⟩

/-- symmetric view: the reversed list is linked with the roles of `next` and `prev` exchanged -/
theorem Linked.reverse {nx pv : Ptr → Ptr} : ∀ {c : List Ptr}, Linked nx pv c → Linked pv nx c.reverse := by
  intro c
  induction c with
  | nil => intro _; trivial
  | cons a t ih =>
    cases t with
    | nil => intro _; trivial
    | cons b rest =>
      intro h
      have ih : Linked pv nx (rest.reverse ++ [b]) := List.reverse_cons ▸ ih h.2.2
      rw [List.reverse_cons, List.reverse_cons, List.append_assoc]
      exact Linked.snoc ih h.2.1 h.1

theorem Linked.prev_mem {nx pv : Ptr → Ptr} {c : List Ptr} {p : Ptr} (h : Linked nx pv c) (hp : p ∈ c.tail) :
    pv p ∈ c.dropLast := by
  have := Linked.next_mem (Linked.reverse h) (p := p) (by rw [List.dropLast_reverse]; exact List.mem_reverse.2 hp)
  rw [List.tail_reverse] at this
  exact List.mem_reverse.1 this

/-! ### link `e` after `at` -/

def insP (at' e : Ptr) : List Ptr → List Ptr
  | [] => []
  | a :: rest => if a = at' then a :: e :: rest else a :: insP at' e rest

theorem insP_head (at' e a : Ptr) (rest : List Ptr) : ∃ t, insP at' e (a :: rest) = a :: t := by
  unfold insP; split <;> exact ⟨_, rfl⟩

theorem Linked.insP {nx pv nx' pv' : Ptr → Ptr} {at' e : Ptr}
    (hnx : ∀ x, nx' x = if x = at' then e else if x = e then nx at' else nx x)
    (hpv : ∀ x, pv' x = if x = nx at' then e else if x = e then at' else pv x) :
    ∀ {c : List Ptr}, Linked nx pv c → at' ∈ c.dropLast → c.dropLast.Nodup → c.tail.Nodup → e ∉ c →
      Linked nx' pv' (insP at' e c) := by
  intro c
  induction c with
  | nil => intro _ hat; cases hat
  | cons a t ih =>
    cases t with
    | nil => intro _ hat; cases hat
    | cons b rest =>
    intro h hat hnd1 hnd2 he
    obtain ⟨ha, hb, hr⟩ := h
    rw [List.dropLast_cons_cons] at hat hnd1
    simp only [List.tail_cons] at hnd2
    have hea : e ≠ a := fun h => he (by simp [h])
    have heb : e ≠ b := fun h => he (by simp [h])
    have her : e ∉ b :: rest := fun h => he (List.mem_cons_of_mem _ h)
    have hnd1' := (List.nodup_cons.1 hnd1)
    have hnd2' := (List.nodup_cons.1 hnd2)
    by_cases haa : a = at'
    · subst haa
      -- fully qualified: inside `Linked.insP` the bare name `insP` is the theorem itself
      have e1 : TypVerif.Lemmas.LinkedList.insP a e (a :: b :: rest) = a :: e :: b :: rest := by
        simp [TypVerif.Lemmas.LinkedList.insP]
      rw [e1]
      refine ⟨?_, ?_, ?_, ?_, ?_⟩
      · rw [hnx]; simp
      · rw [hpv, ha]; simp [heb]
      · rw [hnx, ha]; simp [hea]
      · rw [hpv, ha]; simp
      · apply Linked.frame hr
        · intro x hx
          have hxa : x ≠ a := fun h => hnd1'.1 (h ▸ hx)
          have hxe : x ≠ e := fun h => her (h ▸ List.dropLast_subset _ hx)
          rw [hnx]; simp [hxa, hxe]
        · intro x hx
          simp only [List.tail_cons] at hx
          have hxb : x ≠ b := fun h => hnd2'.1 (h ▸ hx)
          have hxe : x ≠ e := fun h => her (h ▸ List.mem_cons_of_mem _ hx)
          rw [hpv, ha]; simp [hxb, hxe]
    · have hat2 : at' ∈ (b :: rest).dropLast := by
        rcases List.mem_cons.1 hat with h | h
        · exact absurd h.symm haa
        · exact h
      have ih := ih hr hat2 hnd1'.2 (by
          simp only [List.tail_cons]; exact hnd2'.2) her
      have e1 : TypVerif.Lemmas.LinkedList.insP at' e (a :: b :: rest)
          = a :: TypVerif.Lemmas.LinkedList.insP at' e (b :: rest) := by
        simp [TypVerif.Lemmas.LinkedList.insP, haa]
      rw [e1]
      obtain ⟨t, ht⟩ := insP_head at' e b rest
      rw [ht] at ih ⊢
      refine ⟨?_, ?_, ih⟩
      · rw [hnx]; simp [haa, hea.symm, ha]
      · have hn : nx at' ∈ (b :: rest).tail := Linked.next_mem hr hat2
        simp only [List.tail_cons] at hn
        have hbn : b ≠ nx at' := fun h => hnd2'.1 (h ▸ hn)
        rw [hpv]; simp [hbn, heb.symm, hb]

/-! ### unlink `e` -/

theorem Linked.erase {nx pv nx' pv' : Ptr → Ptr} {e : Ptr}
    (hnx : ∀ x, nx' x = if x = pv e then nx e else nx x)
    (hpv : ∀ x, pv' x = if x = nx e then pv e else pv x) :
    ∀ {a : Ptr} {c : List Ptr}, Linked nx pv (a :: c) → e ∈ c.dropLast →
      (a :: c).dropLast.Nodup → c.Nodup → Linked nx' pv' (a :: c.erase e) := by
  intro a c
  induction c generalizing a with
  | nil => intro _ he; cases he
  | cons b t ih =>
    cases t with
    | nil => intro _ he; cases he
    | cons b2 rest =>
    intro h he hnd1 hnd2
    obtain ⟨ha, hb, hr⟩ := h
    rw [List.dropLast_cons_cons] at he
    rw [List.dropLast_cons_cons, List.dropLast_cons_cons] at hnd1
    have hnd1' := List.nodup_cons.1 hnd1
    have hnd2' := List.nodup_cons.1 hnd2
    by_cases hbe : b = e
    · subst hbe
      have e1 : (b :: b2 :: rest).erase b = b2 :: rest := by simp
      rw [e1]
      obtain ⟨hb2, hb3, hr2⟩ := hr
      refine ⟨?_, ?_, ?_⟩
      · rw [hnx, hb]; simp [hb2]
      · rw [hpv, hb2]; simp [hb]
      · apply Linked.frame hr2
        · intro x hx
          have hxa : x ≠ a := fun h => hnd1'.1 (h ▸ List.mem_cons_of_mem _ hx)
          rw [hnx, hb]; simp [hxa]
        · intro x hx
          simp only [List.tail_cons] at hx
          have : b2 ∉ rest := (List.nodup_cons.1 hnd2'.2).1
          have hxb : x ≠ b2 := fun h => this (h ▸ hx)
          rw [hpv, hb2]; simp [hxb]
    · have he2 : e ∈ (b2 :: rest).dropLast := by
        rcases List.mem_cons.1 he with h | h
        · exact absurd h.symm hbe
        · exact h
      have ih := ih (a := b) hr he2 (by
          rw [List.dropLast_cons_cons]; exact hnd1'.2) hnd2'.2
      have e1 : (b :: b2 :: rest).erase e = b :: (b2 :: rest).erase e := by
        rw [List.erase_cons]; simp [hbe]
      rw [e1]
      refine ⟨?_, ?_, ih⟩
      · have hp : pv e ∈ (b :: b2 :: rest).dropLast :=
          Linked.prev_mem (c := b :: b2 :: rest) hr (by simpa using List.dropLast_subset _ he2)
        have hap : a ≠ pv e := fun h => hnd1'.1 (by rw [← List.dropLast_cons_cons]; exact h ▸ hp)
        rw [hnx]; simp [hap, ha]
      · have hn : nx e ∈ (b2 :: rest).tail := Linked.next_mem hr.2.2 he2
        have hbn : b ≠ nx e := fun h => hnd2'.1 (h ▸ List.mem_of_mem_tail hn)
        rw [hpv]; simp [hbn, hb]

/-! ### the pointer cycle of an element sequence -/

def cyc (l : ListId) (xs : List ElemId) : List Ptr := .root l :: (xs.map .elem ++ [.root l])

theorem nodup_map_elem {xs : List ElemId} (h : xs.Nodup) : (xs.map Ptr.elem).Nodup := by
  induction xs with
  | nil => simp
  | cons x xs ih =>
    have := List.nodup_cons.1 h
    simp only [List.map_cons, List.nodup_cons, List.mem_map, Ptr.elem.injEq, exists_eq_right]
    exact ⟨this.1, ih this.2⟩

theorem cyc_dropLast (l : ListId) (xs : List ElemId) : (cyc l xs).dropLast = .root l :: xs.map .elem := by
  unfold cyc
  rw [List.dropLast_cons_of_ne_nil (by simp), List.dropLast_concat]

theorem cyc_tail (l : ListId) (xs : List ElemId) : (cyc l xs).tail = xs.map .elem ++ [.root l] := rfl

theorem cyc_dropLast_nodup {l : ListId} {xs : List ElemId} (h : xs.Nodup) : (cyc l xs).dropLast.Nodup := by
  rw [cyc_dropLast, List.nodup_cons]
  exact ⟨by simp, nodup_map_elem h⟩

theorem cyc_tail_nodup {l : ListId} {xs : List ElemId} (h : xs.Nodup) : (cyc l xs).tail.Nodup := by
  rw [cyc_tail, List.nodup_append]
  refine ⟨nodup_map_elem h, by simp, ?_⟩
  intro a ha b hb
  simp only [List.mem_map] at ha
  obtain ⟨x, _, rfl⟩ := ha
  simp only [List.mem_singleton] at hb
  subst hb; simp

theorem mem_cyc_dropLast {l : ListId} {xs : List ElemId} {p : Ptr} :
    p ∈ (cyc l xs).dropLast ↔ p = .root l ∨ ∃ x ∈ xs, p = .elem x := by
  rw [cyc_dropLast, List.mem_cons, List.mem_map]
  exact or_congr_right ⟨fun ⟨x, hx, h⟩ => ⟨x, hx, h.symm⟩, fun ⟨x, hx, h⟩ => ⟨x, hx, h.symm⟩⟩

/-- the closing root adds no new pointer -/
theorem mem_cyc {l : ListId} {xs : List ElemId} {p : Ptr} :
    p ∈ cyc l xs ↔ p = .root l ∨ ∃ x ∈ xs, p = .elem x := by
  refine ⟨fun h => ?_, fun h => List.dropLast_subset _ (mem_cyc_dropLast.2 h)⟩
  rcases List.mem_cons.1 h with h | h
  · exact Or.inl h
  · rcases List.mem_append.1 h with h | h
    · exact mem_cyc_dropLast.1 (cyc_dropLast l xs ▸ List.mem_cons_of_mem _ h)
    · exact Or.inl (List.mem_singleton.1 h)

/-- the abstract counterpart of "insert after the pointer `at`" -/
def insAfter (at' : Ptr) (e : ElemId) (xs : List ElemId) : List ElemId :=
  match at' with
  | .elem a => insertAfterL a e xs
  | _ => e :: xs

theorem insP_map_elem (a e : ElemId) (l : ListId) (xs : List ElemId) :
    insP (.elem a) (.elem e) (xs.map .elem ++ [.root l]) = (insertAfterL a e xs).map .elem ++ [.root l] := by
  induction xs with
  | nil => simp [insP, insertAfterL]
  | cons x xs ih =>
    simp only [List.map_cons, List.cons_append, insP, insertAfterL, Ptr.elem.injEq]
    by_cases hx : x = a
    · simp [hx]
    · simp [hx, ih]

theorem insP_cyc {l : ListId} {xs : List ElemId} {at' : Ptr} (e : ElemId) (hat : at' ∈ cyc l xs) :
    insP at' (.elem e) (cyc l xs) = cyc l (insAfter at' e xs) := by
  rcases mem_cyc.1 hat with rfl | ⟨a, _, rfl⟩
  · simp [cyc, insP, insAfter]
  · simp only [cyc, insP, insAfter, root_ne_elem, if_false]
    rw [insP_map_elem]

theorem erase_map_elem (x : ElemId) (l : ListId) (xs : List ElemId) :
    (xs.map Ptr.elem ++ [Ptr.root l]).erase (.elem x) = (xs.erase x).map .elem ++ [.root l] := by
  induction xs with
  | nil => simp
  | cons y ys ih =>
    simp only [List.map_cons, List.cons_append, List.erase_cons]
    by_cases hy : y = x
    · simp [hy]
    · simp [hy, ih]

theorem cyc_erase (l : ListId) (xs : List ElemId) (x : ElemId) :
    cyc l (xs.erase x) = .root l :: (xs.map Ptr.elem ++ [Ptr.root l]).erase (.elem x) := by
  rw [erase_map_elem]; rfl

end TypVerif.Lemmas.LinkedList
