import TypVerif.Model.Func
import TypVerif.Spec.Func
/-
Each Go loop of the functional helpers is its list function: one `*Loop_eq` per loop, stated for the loop started in the
middle (accumulator, index or partial result as a parameter) so that the induction goes through.
-/
namespace TypVerif.Lemmas.Func
open TypVerif TypVerif.Model

variable {α β σ ε κ ν : Type}

theorem foldLoop_eq (acc : σ → α → σ) : ∀ (s : List α) (state : σ), Func.foldLoop acc s state = s.foldl acc state
  | [], _ => rfl
  | v :: rest, state => by rw [Func.foldLoop, List.foldl_cons, foldLoop_eq acc rest]

theorem foldReverseLoop_eq (s : List α) (acc : σ → α → σ) :
    ∀ (k : Nat) (state : σ), k ≤ s.length →
      Func.foldReverseLoop s acc k state = .ok ((s.take k).reverse.foldl acc state)
  | 0, state, _ => by simp [Func.foldReverseLoop]
  | k + 1, state, hk => by
    have hlt : k < s.length := by omega
    rw [Func.foldReverseLoop, List.getElem?_eq_getElem hlt]
    simp only []
    have ht : s.take (k + 1) = s.take k ++ [s[k]] := by
      rw [List.take_add_one, List.getElem?_eq_getElem hlt]; rfl
    rw [foldReverseLoop_eq s acc k _ (by omega), ht, List.reverse_append, List.reverse_singleton,
      List.singleton_append, List.foldl_cons]

theorem mapErrLoop_eq (conv : α → Except ε β) :
    ∀ (s : List α) (i : Nat) (pre post : List β), pre.length = i → post.length = s.length →
      Func.mapErrLoop conv s i (pre ++ post) =
        match Spec.Func.mapErr s conv with
        | .error e => .error e
        | .ok rs => .ok (pre ++ rs)
  | [], _, pre, post, _, hp => by
    have : post = [] := List.length_eq_zero_iff.mp (by simpa using hp)
    subst this; simp [Func.mapErrLoop, Spec.Func.mapErr]
  | v :: rest, i, pre, post, hi, hp => by
    cases post with
    | nil => simp at hp
    | cons y post' =>
      rw [Func.mapErrLoop, Spec.Func.mapErr]
      cases hc : conv v with
      | error e => rfl
      | ok r =>
        have hset : (pre ++ y :: post').set i r = (pre ++ [r]) ++ post' := by subst hi; simp
        simp only []
        rw [hset, mapErrLoop_eq conv rest (i + 1) _ post' (by simp [hi]) (by simpa using hp)]
        cases Spec.Func.mapErr rest conv with
        | error e => rfl
        | ok rs => simp

theorem mapErr_eq (s : List α) (conv : α → Except ε β) (zero : β) :
    Func.mapErr s conv zero = Spec.Func.mapErr s conv := by
  unfold Func.mapErr
  have := mapErrLoop_eq conv s 0 [] (List.replicate s.length zero) rfl (by simp)
  simp only [List.nil_append] at this
  rw [this]
  cases Spec.Func.mapErr s conv <;> rfl

theorem spec_mapErr_ok (conv : α → Except ε β) :
    ∀ (s : List α) (rs : List β), s.map conv = rs.map Except.ok → Spec.Func.mapErr s conv = .ok rs
  | [], rs, h => by
    cases rs with
    | nil => rfl
    | cons r rs => simp at h
  | v :: rest, rs, h => by
    cases rs with
    | nil => simp at h
    | cons r rs =>
      simp only [List.map_cons, List.cons.injEq] at h
      rw [Spec.Func.mapErr, h.1]
      simp only []
      rw [spec_mapErr_ok conv rest rs h.2]

/-- Map is MapErr with a conversion that never fails -/
theorem mapLoop_eq_mapErrLoop (conv : α → β) : ∀ (s : List α) (i : Nat) (result : List β),
    (.ok (Func.mapLoop conv s i result) : Except Empty (List β)) =
      Func.mapErrLoop (fun v => .ok (conv v)) s i result
  | [], _, _ => rfl
  | _ :: rest, i, _ => mapLoop_eq_mapErrLoop conv rest (i + 1) _

theorem map_eq (s : List α) (conv : α → β) (zero : β) : Func.map s conv zero = s.map conv :=
  Except.ok.inj ((mapLoop_eq_mapErrLoop conv s 0 _).trans
    ((mapErr_eq s _ zero).trans (spec_mapErr_ok _ s _ List.map_map.symm)))

theorem spec_mapErr_first_error (conv : α → Except ε β) (x : α) (post : List α) (e : ε) (hx : conv x = .error e) :
    ∀ (pre : List α) (rs : List β), pre.map conv = rs.map Except.ok →
      Spec.Func.mapErr (pre ++ x :: post) conv = .error e
  | [], _, _ => by
    rw [List.nil_append, Spec.Func.mapErr, hx]
  | v :: pre, rs, h => by
    cases rs with
    | nil => simp at h
    | cons r rs =>
      simp only [List.map_cons, List.cons.injEq] at h
      rw [List.cons_append, Spec.Func.mapErr, h.1]
      simp only []
      rw [spec_mapErr_first_error conv x post e hx pre rs h.2]

theorem filterLoop_eq (p : α → Bool) :
    ∀ (s result : List α), Func.filterLoop p s result = result ++ s.filter p
  | [], result => (List.append_nil result).symm
  | v :: rest, result => by
    rw [Func.filterLoop, List.filter_cons]
    by_cases hp : p v = true
    · rw [if_pos hp, if_pos hp, filterLoop_eq p rest, List.append_assoc]; rfl
    · rw [if_neg hp, if_neg hp, filterLoop_eq p rest]

theorem any_eq (p : α → Bool) : ∀ s : List α, Func.any s p = s.any p
  | [] => rfl
  | v :: rest => by
    rw [Func.any, List.any_cons, any_eq p rest]
    cases p v <;> simp

theorem all_eq (p : α → Bool) : ∀ s : List α, Func.all s p = s.all p
  | [] => rfl
  | v :: rest => by
    rw [Func.all, List.all_cons, all_eq p rest]
    cases p v <;> simp

theorem indexFuncLoop_eq (f : α → Bool) :
    ∀ (s : List α) (i : Nat), Func.indexFuncLoop f s i =
      match s.findIdx? f with
      | some k => ((i + k : Nat) : Int)
      | none => -1
  | [], _ => rfl
  | v :: rest, i => by
    rw [Func.indexFuncLoop, List.findIdx?_cons]
    cases hf : f v
    · simp only [Bool.false_eq_true, if_false]
      rw [indexFuncLoop_eq f rest (i + 1)]
      cases List.findIdx? f rest with
      | none => rfl
      | some k => simp only [Option.map_some]; congr 1; omega
    · simp

theorem contains_eq [DecidableEq α] (v : α) : ∀ s : List α, Func.contains s v = decide (v ∈ s)
  | [] => by simp [Func.contains]
  | x :: rest => by
    rw [Func.contains, contains_eq v rest]
    by_cases h : x = v
    · simp [h]
    · have : ¬ v = x := fun e => h e.symm
      simp [h, this]

theorem contains_fun [DecidableEq α] (s : List α) : (fun v => Func.contains s v) = fun v => decide (v ∈ s) :=
  funext fun v => contains_eq v s

theorem containsFunc_eq (v : α) (eq : α → α → Bool) (s : List α) : Func.containsFunc s v eq = s.any (fun x => eq x v) := by
  rw [← any_eq]
  induction s with
  | nil => rfl
  | cons x rest ih => rw [Func.containsFunc, Func.any, ih]

theorem mem_dedup [DecidableEq α] (x : α) : ∀ s : List α, x ∈ Spec.Func.dedup s ↔ x ∈ s
  | [] => by simp [Spec.Func.dedup]
  | v :: rest => by
    rw [Spec.Func.dedup, List.mem_cons, List.mem_cons, List.mem_filter, mem_dedup x rest]
    by_cases h : x = v
    · simp [h]
    · simp [h]

/-- the loop started with `result` appends the first occurrences of the values not yet in `result` -/
theorem distinctLoop_eq [DecidableEq α] :
    ∀ (s result : List α), Func.distinctLoop s result =
      result ++ (Spec.Func.dedup s).filter (fun x => !decide (x ∈ result))
  | [], result => by simp [Func.distinctLoop, Spec.Func.dedup]
  | v :: rest, result => by
    rw [Func.distinctLoop, contains_eq, Spec.Func.dedup]
    by_cases hv : v ∈ result
    · simp only [hv, decide_true, Bool.not_true, Bool.false_eq_true, if_false, List.filter_cons, if_false]
      rw [distinctLoop_eq rest result, List.filter_filter]
      congr 1
      apply List.filter_congr
      intro x _
      by_cases hx : x ∈ result
      · simp [hx]
      · have : x ≠ v := fun e => hx (e ▸ hv)
        simp [hx, this]
    · simp only [hv, decide_false, Bool.not_false, if_true, List.filter_cons]
      rw [distinctLoop_eq rest (result ++ [v]), List.filter_filter, List.append_assoc]
      congr 1
      simp only [List.singleton_append]
      congr 1
      apply List.filter_congr
      intro x _
      simp only [List.mem_append, List.mem_singleton]
      by_cases hx : x ∈ result <;> by_cases hxv : x = v <;> simp [hx, hxv]

theorem distinct_eq [DecidableEq α] (s : List α) : Func.distinct s = Spec.Func.dedup s := by
  rw [Func.distinct, distinctLoop_eq, List.nil_append]
  exact List.filter_eq_self.mpr fun _ _ => rfl

theorem distinctFuncLoop_eq (eq : α → α → Bool) :
    ∀ (s result : List α), Func.distinctFuncLoop eq s result = Spec.Func.distinctFunc eq s result
  | [], _ => rfl
  | v :: rest, result => by
    rw [Func.distinctFuncLoop, Spec.Func.distinctFunc, containsFunc_eq]
    cases h : result.any (fun x => eq x v)
    · simp [distinctFuncLoop_eq eq rest]
    · simp [distinctFuncLoop_eq eq rest]

theorem exceptSetLoop_eq [DecidableEq α] (exclude : List α) (s result : List α) :
    Func.exceptSetLoop exclude s result = result ++ s.filter (fun v => !decide (v ∈ exclude)) := by
  have filt : ∀ s result, Func.exceptSetLoop exclude s result =
      Func.filterLoop (fun v => !Func.contains exclude v) s result := by
    intro s
    induction s with
    | nil => exact fun _ => rfl
    | cons v rest ih => intro result; rw [Func.exceptSetLoop, Func.filterLoop, ih, ih]; rfl
  rw [filt, filterLoop_eq]
  simp only [contains_eq]

theorem mem_setAdd [DecidableEq α] (x v : α) (set : List α) : x ∈ Func.setAdd set v ↔ x ∈ set ∨ x = v := by
  rw [Func.setAdd, Func.setHas, contains_eq]
  by_cases hv : v ∈ set
  · rw [if_pos (decide_eq_true hv)]
    exact ⟨Or.inl, fun h => h.elim id fun e => e ▸ hv⟩
  · rw [if_neg (mt of_decide_eq_true hv), List.mem_append, List.mem_singleton]

theorem mem_newSetFromSlice [DecidableEq α] (x : α) :
    ∀ (s set : List α), x ∈ Func.newSetFromSlice s set ↔ x ∈ set ∨ x ∈ s
  | [], set => by rw [Func.newSetFromSlice]; exact ⟨Or.inl, fun h => h.elim id nofun⟩
  | v :: rest, set => by
    rw [Func.newSetFromSlice, mem_newSetFromSlice x rest, mem_setAdd, List.mem_cons, or_assoc]

end TypVerif.Lemmas.Func
