/-
Lemmas about the Array2D model: `copy` and windows pointwise (`getElem?`), slices.Fill as one `GoSlice.writeAt`,
and the characterisation of every Array2D method in terms of the cell accessor `cellAt`.
-/
import TypVerif.Model.Array2D
import TypVerif.Lemmas.Array2DArith
import TypVerif.Lemmas.GoSlice
namespace TypVerif.Lemmas.Array2D
open TypVerif.Model.Array2D
open TypVerif.Model.GoSlice (writeAt)

theorem copyAt_eq (c : List Int) (d dn : Nat) (src : List Int) : copyAt c d dn src = writeAt c d (src.take dn) := by
  simp only [copyAt, writeAt, List.length_take, ← List.take_eq_take_min]

theorem length_copyAt (c : List Int) (d dn : Nat) (src : List Int) (h : d + min dn src.length ≤ c.length) :
    (copyAt c d dn src).length = c.length := by
  rw [copyAt_eq]; exact GoSlice.length_writeAt (by rw [List.length_take]; exact h)

/-- `copy(c[d:d+dn], src)`: Go copies `min dn (len src)` elements; the rest of the destination keeps its values -/
theorem getElem?_copyAt (c : List Int) (d dn : Nat) (src : List Int) (h : d + min dn src.length ≤ c.length) (j : Nat) :
    (copyAt c d dn src)[j]? = if d ≤ j ∧ j < d + dn then src[j - d]?.or c[j]? else c[j]? := by
  rw [copyAt_eq, GoSlice.getElem?_writeAt (by omega), List.length_take, List.getElem?_take]
  by_cases h1 : j < d
  · rw [if_pos h1, if_neg (by omega)]
  · rw [if_neg h1]
    by_cases h2 : j < d + min dn src.length
    · rw [if_pos h2, if_pos (by omega), if_pos (by omega), List.getElem?_eq_getElem (by omega), Option.some_or]
    · rw [if_neg h2]
      by_cases h3 : d ≤ j ∧ j < d + dn
      · rw [if_pos h3, (List.getElem?_eq_none_iff (l := src)).mpr (by omega), Option.none_or]
      · rw [if_neg h3]

theorem length_winRead (c : List Int) (lo hi : Nat) (h : hi ≤ c.length) : (winRead c (lo, hi)).length = hi - lo := by
  unfold winRead; rw [List.length_drop, List.length_take, Nat.min_eq_left h]

theorem getElem?_winRead (c : List Int) (lo hi : Nat) (i : Nat) :
    (winRead c (lo, hi))[i]? = if lo + i < hi then c[lo + i]? else none := by
  simp only [winRead, List.getElem?_drop, List.getElem?_take]

theorem winRead_writeAt {c x : List Int} {lo : Nat} (h : lo ≤ c.length) :
    winRead (writeAt c lo x) (lo, lo + x.length) = x := by
  unfold winRead
  rw [GoSlice.take_writeAt_self h, List.drop_left' (List.length_take_of_le h)]

/-- the doubling loop of slices.Fill: on entry with index `i ≥ 1` the first `min i len` cells of the window hold `v`;
`copy(s[i:], s[:i])` appends `min (len - i) i` more (the same argument as `Splice.fillLoop_spec`, on a bare list) -/
theorem fillLoop_eq (lo len : Nat) (v : Int) (c : List Int) (hL : lo + len ≤ c.length) :
    ∀ (fuel i : Nat), 1 ≤ i → len ≤ fuel + i →
      fillLoop lo len fuel i (writeAt c lo (List.replicate (min i len) v)) = writeAt c lo (List.replicate len v)
  | 0, i, _, hf => by rw [Nat.min_eq_right (by omega)]; rfl
  | fuel + 1, i, hi, hf => by
    unfold fillLoop
    by_cases hlt : i < len
    · have hw := winRead_writeAt (c := c) (x := List.replicate i v) (lo := lo) (by omega)
      rw [List.length_replicate] at hw
      rw [if_pos hlt, Nat.min_eq_left (Nat.le_of_lt hlt), copyAt_eq, hw,
        GoSlice.writeAt_writeAt_right (by rw [List.length_replicate]) (by omega),
        GoSlice.replicate_append_take v hlt]
      exact fillLoop_eq lo len v c hL fuel (i + i) (by omega) (by omega)
    · rw [if_neg hlt, Nat.min_eq_right (by omega)]

theorem sliceFill_eq (c : List Int) (lo len : Nat) (v : Int) (h : lo + len ≤ c.length) :
    sliceFill c lo len v = writeAt c lo (List.replicate len v) := by
  unfold sliceFill
  by_cases h0 : len = 0
  · rw [if_pos h0, h0]; exact (GoSlice.writeAt_nil c lo).symm
  · have := fillLoop_eq lo len v c h len 1 (Nat.le_refl 1) (Nat.le_add_right len 1)
    rw [Nat.min_eq_left (by omega)] at this
    rw [if_neg h0, GoSlice.set_eq_writeAt v (by omega)]
    exact this

theorem sliceFill_spec (c : List Int) (lo len : Nat) (v : Int) (h : lo + len ≤ c.length) :
    (sliceFill c lo len v).length = c.length ∧
    ∀ j, (sliceFill c lo len v)[j]? = if lo ≤ j ∧ j < lo + len then some v else c[j]? := by
  rw [sliceFill_eq c lo len v h]
  refine ⟨GoSlice.length_writeAt (by rw [List.length_replicate]; exact h), fun j => ?_⟩
  rw [GoSlice.getElem?_writeAt (by omega), List.length_replicate]
  by_cases hc : lo ≤ j ∧ j < lo + len
  · rw [if_pos hc, if_neg (by omega), if_pos hc.2, List.getElem?_replicate, if_pos (by omega)]
  · rw [if_neg hc]
    split
    · rfl
    · rw [if_neg (by omega)]

/-- well-formed array: non-negative sizes and a backing slice of `w*h` cells (what New2D builds) -/
def WF (a : A2D) : Prop := 0 ≤ a.w ∧ 0 ≤ a.h ∧ (a.cells.length : Int) = a.w * a.h

def InB (a : A2D) (x y : Int) : Prop := 0 ≤ x ∧ x < a.w ∧ 0 ≤ y ∧ y < a.h

instance (a : A2D) (x y : Int) : Decidable (InB a x y) := by unfold InB; exact inferInstance

def cellAt (a : A2D) (x y : Int) : Option Int := a.cells[(idx a.w x y).toNat]?

def ofOpt : Option Int → Except String Int
  | some v => .ok v
  | none => .error pBounds

theorem oob_false {n i : Int} : oob n i = false ↔ (0 ≤ i ∧ i < n) := by
  simp [oob]

theorem oob_true {n i : Int} : oob n i = true ↔ ¬ (0 ≤ i ∧ i < n) := by
  rw [← oob_false, Bool.not_eq_false]

theorem getGuard_iff {a : A2D} {x y : Int} : getGuard a.w a.h x y = true ↔ InB a x y := by
  simp only [getGuard, InB, Bool.and_eq_true, Bool.not_eq_true', oob_false, and_assoc]

theorem rowGuard_iff {h y : Int} : rowGuard h y = true ↔ (0 ≤ y ∧ y < h) := by
  simp only [rowGuard, Bool.not_eq_true', oob_false]

theorem rowSpanGuard_iff {w h x1 x2 y : Int} :
    rowSpanGuard w h x1 x2 y = true ↔ (0 ≤ x1 ∧ x1 < w) ∧ (0 ≤ y ∧ y < h) ∧ (0 ≤ x2 ∧ x2 < w) := by
  simp only [rowSpanGuard, Bool.and_eq_true, Bool.not_eq_true', oob_false, and_assoc]

theorem fillGuard_iff {w h x1 y1 x2 y2 : Int} :
    fillGuard w h x1 y1 x2 y2 = true ↔
      (0 ≤ x1 ∧ x1 < w) ∧ (0 ≤ y1 ∧ y1 < h) ∧ (0 ≤ x2 ∧ x2 < w) ∧ (0 ≤ y2 ∧ y2 < h) := by
  simp only [fillGuard, Bool.and_eq_true, Bool.not_eq_true', oob_false, and_assoc]

theorem rowLo_eq (w y : Int) : rowLo w y = spanLo w 0 y := by unfold rowLo spanLo; omega

theorem rowHi_eq (w y : Int) : rowHi w y = spanHi w (w - 1) y := by unfold rowHi spanHi; omega

theorem spanHi_sub_spanLo (w x1 x2 y : Int) : spanHi w x2 y - spanLo w x1 y = x2 - x1 + 1 := by
  unfold spanHi spanLo; omega

theorem idx_add (w x i y : Int) : idx w (x + i) y = spanLo w x y + i := by unfold idx spanLo; omega

/-- the two guards of Get and Set -/
theorem guard_eq {α : Type} (a : A2D) (x y : Int) (e r : α) :
    (if oob a.w x then e else if oob a.h y then e else r) = if InB a x y then r else e := by
  simp only [oob_true]
  by_cases hb : InB a x y
  · rw [if_pos hb, if_neg (not_not_intro ⟨hb.1, hb.2.1⟩), if_neg (not_not_intro hb.2.2)]
  · rw [if_neg hb]
    by_cases hx : 0 ≤ x ∧ x < a.w
    · rw [if_neg (not_not_intro hx), if_pos (fun hy => hb ⟨hx.1, hx.2, hy.1, hy.2⟩)]
    · rw [if_pos hx]

theorem sliceGet_nonneg {c : List Int} {i : Int} (h : 0 ≤ i) : sliceGet c i = ofOpt c[i.toNat]? := by
  unfold sliceGet
  by_cases h1 : i < (c.length : Int)
  · rw [if_pos ⟨h, h1⟩]
    cases c[i.toNat]? <;> rfl
  · rw [if_neg (by omega), List.getElem?_eq_none_iff.mpr (by omega)]; rfl

theorem idx_nonneg {a : A2D} {x y : Int} (h : InB a x y) : 0 ≤ idx a.w x y :=
  (Array2DArith.idx_lt h.1 h.2.1 h.2.2.1 h.2.2.2).1

theorem idx_lt_len {a : A2D} (wf : WF a) {x y : Int} (h : InB a x y) : idx a.w x y < (a.cells.length : Int) := by
  rw [wf.2.2]; exact (Array2DArith.idx_lt h.1 h.2.1 h.2.2.1 h.2.2.2).2

theorem get_eq (a : A2D) (x y : Int) :
    get a x y = if InB a x y then ofOpt (cellAt a x y) else .error pCustom := by
  unfold Model.Array2D.get
  rw [guard_eq]
  by_cases hb : InB a x y
  · rw [if_pos hb, if_pos hb]; exact sliceGet_nonneg (idx_nonneg hb)
  · rw [if_neg hb, if_neg hb]

theorem cellAt_some {a : A2D} (wf : WF a) {x y : Int} (h : InB a x y) : ∃ v, cellAt a x y = some v := by
  have h1 := idx_nonneg h
  have h2 := idx_lt_len wf h
  exact ⟨_, List.getElem?_eq_getElem (by omega)⟩

theorem set_eq {a : A2D} (wf : WF a) (x y v : Int) :
    set a x y v = if InB a x y then .ok { a with cells := a.cells.set (idx a.w x y).toNat v } else .error pCustom := by
  unfold Model.Array2D.set
  rw [guard_eq]
  by_cases hb : InB a x y
  · rw [if_pos hb, if_pos hb]
    unfold setUnchecked sliceSet
    rw [if_pos ⟨idx_nonneg hb, idx_lt_len wf hb⟩]
    rfl
  · rw [if_neg hb, if_neg hb]

theorem wf_setCells {a : A2D} (wf : WF a) {c : List Int} (h : c.length = a.cells.length) :
    WF { a with cells := c } := by
  unfold WF at *; simp only; rw [h]; exact wf

theorem idx_toNat_inj {a : A2D} {x y x' y' : Int} (h : InB a x y) (h' : InB a x' y') :
    (idx a.w x y).toNat = (idx a.w x' y').toNat ↔ (x' = x ∧ y' = y) := by
  have n1 := idx_nonneg h
  have n2 := idx_nonneg h'
  constructor
  · intro e
    have := Array2DArith.idx_inj (y := y) (y' := y') h.1 h.2.1 h'.1 h'.2.1 (by unfold idx at n1 n2 e; omega)
    omega
  · intro ⟨e1, e2⟩; rw [e1, e2]

/-- reading a cell of an array whose backing slice satisfies a pointwise description -/
theorem get_of_cells {a : A2D} {c : List Int} {P : Int → Int → Prop} [∀ x y, Decidable (P x y)] {v : Int}
    (hP : ∀ x y, P x y → InB a x y)
    (hc : ∀ x' y', InB a x' y' → c[(idx a.w x' y').toNat]? = if P x' y' then some v else a.cells[(idx a.w x' y').toNat]?)
    (x y : Int) :
    Model.Array2D.get { a with cells := c } x y = if P x y then .ok v else Model.Array2D.get a x y := by
  rw [get_eq, get_eq]
  by_cases hb : InB a x y
  · have hb' : InB { a with cells := c } x y := hb
    rw [if_pos hb, if_pos hb']
    unfold cellAt; simp only
    rw [hc x y hb]
    by_cases hp : P x y
    · rw [if_pos hp, if_pos hp]; rfl
    · rw [if_neg hp, if_neg hp]
  · have hb' : ¬ InB { a with cells := c } x y := hb
    rw [if_neg hb, if_neg hb', if_neg (fun hp => hb (hP x y hp))]

theorem set_ok_inv {a a' : A2D} (wf : WF a) {x y v : Int} (h : Model.Array2D.set a x y v = .ok a') :
    InB a x y ∧ a' = { a with cells := a.cells.set (idx a.w x y).toNat v } := by
  rw [set_eq wf] at h
  by_cases hb : InB a x y
  · rw [if_pos hb] at h
    exact ⟨hb, (Except.ok.inj h).symm⟩
  · rw [if_neg hb] at h; cases h

theorem set_get {a a' : A2D} (wf : WF a) {x y v : Int} (h : Model.Array2D.set a x y v = .ok a') (x' y' : Int) :
    Model.Array2D.get a' x' y' = if x' = x ∧ y' = y then .ok v else Model.Array2D.get a x' y' := by
  obtain ⟨hb, rfl⟩ := set_ok_inv wf h
  refine get_of_cells (P := fun x' y' => x' = x ∧ y' = y) (fun _ _ e => e.1 ▸ e.2 ▸ hb) ?_ x' y'
  intro x' y' hb'
  have hlt : (idx a.w x y).toNat < a.cells.length := by have := idx_nonneg hb; have := idx_lt_len wf hb; omega
  rw [List.getElem?_set, if_pos hlt]
  simp only [idx_toNat_inj hb hb']

theorem set_frame {a a' : A2D} (wf : WF a) {x y v : Int} (h : Model.Array2D.set a x y v = .ok a') :
    a'.w = a.w ∧ a'.h = a.h ∧ WF a' ∧
    (∀ x' y', ¬ (x' = x ∧ y' = y) → Model.Array2D.get a' x' y' = Model.Array2D.get a x' y') ∧
    (∀ j, j ≠ (idx a.w x y).toNat → a'.cells[j]? = a.cells[j]?) := by
  have sg := set_get wf h
  obtain ⟨_, rfl⟩ := set_ok_inv wf h
  exact ⟨rfl, rfl, wf_setCells wf (List.length_set ..), fun x' y' ne => by rw [sg, if_neg ne],
    fun j hj => List.getElem?_set_ne (Ne.symm hj)⟩

/-- the cells (xa..xb, y) are a run inside row y (empty when `xa = xb + 1`) -/
def Span (a : A2D) (xa xb y : Int) : Prop := (0 ≤ y ∧ y < a.h) ∧ 0 ≤ xa ∧ xa ≤ xb + 1 ∧ xb < a.w

/-- the window of the run onto the backing slice: what `a.slice[xa+y*w : 1+xb+y*w]` yields -/
def spanWin (a : A2D) (xa xb y : Int) : Nat × Nat := ((spanLo a.w xa y).toNat, (spanHi a.w xb y).toNat)

section span
variable {a : A2D} {xa xb y : Int}

theorem span_bounds (wf : WF a) (s : Span a xa xb y) :
    0 ≤ spanLo a.w xa y ∧ spanLo a.w xa y ≤ spanHi a.w xb y ∧ spanHi a.w xb y ≤ (a.cells.length : Int) := by
  rw [wf.2.2]; exact Array2DArith.span_bounds s.1.1 s.1.2 s.2.1 s.2.2.1 s.2.2.2

theorem mkWin_span (wf : WF a) (s : Span a xa xb y) {c : List Int} (hc : c.length = a.cells.length) :
    mkWin c (spanLo a.w xa y) (spanHi a.w xb y) = .ok (spanWin a xa xb y) := by
  unfold mkWin; rw [hc, if_pos (span_bounds wf s)]; rfl

theorem spanWin_snd (wf : WF a) (s : Span a xa xb y) :
    (spanWin a xa xb y).2 = (spanWin a xa xb y).1 + (xb - xa + 1).toNat := by
  have e : spanHi a.w xb y = spanLo a.w xa y + (xb - xa + 1) := by have := spanHi_sub_spanLo a.w xa xb y; omega
  show (spanHi a.w xb y).toNat = _
  rw [e, Int.toNat_add (span_bounds wf s).1 (by have := s.2.2.1; omega)]; rfl

theorem span_le (wf : WF a) (s : Span a xa xb y) :
    (spanWin a xa xb y).1 ≤ (spanWin a xa xb y).2 ∧ (spanWin a xa xb y).2 ≤ a.cells.length :=
  ⟨by rw [spanWin_snd wf s]; exact Nat.le_add_right _ _, Int.toNat_le.mpr (span_bounds wf s).2.2⟩

theorem span_add_len (wf : WF a) (s : Span a xa xb y) :
    (spanWin a xa xb y).1 + winLen (spanWin a xa xb y) = (spanWin a xa xb y).2 := Nat.add_sub_of_le (span_le wf s).1

theorem span_len (wf : WF a) (s : Span a xa xb y) : winLen (spanWin a xa xb y) = (xb - xa + 1).toNat := by
  unfold winLen; rw [spanWin_snd wf s, Nat.add_sub_cancel_left]

theorem idx_span (wf : WF a) (s : Span a xa xb y) {x' i : Int} (hi : 0 ≤ i) (hx : x' = xa + i) :
    (idx a.w x' y).toNat = (spanWin a xa xb y).1 + i.toNat := by
  rw [hx, idx_add, Int.toNat_add (span_bounds wf s).1 hi]; rfl

theorem mem_span_iff (wf : WF a) (s : Span a xa xb y) {x' y' : Int} (hb : InB a x' y') :
    ((spanWin a xa xb y).1 ≤ (idx a.w x' y').toNat ∧ (idx a.w x' y').toNat < (spanWin a xa xb y).2) ↔
    (y' = y ∧ xa ≤ x' ∧ x' ≤ xb) := by
  have n1 := idx_nonneg hb
  have n2 := (span_bounds wf s).1
  rw [← Array2DArith.idx_in_window (w := a.w) (y := y) (y' := y') s.2.1 s.2.2.2 hb.1 hb.2.1]
  unfold spanWin idx spanLo spanHi at *
  omega

/-- the window is live: reading it reads the cells of the run, writing position `i` is Set(xa+i, y), and a
position outside the window is a Go index panic -/
theorem span_live (wf : WF a) (s : Span a xa xb y) :
    (∃ l, Except.ok (ε := String) (winRead a.cells (spanWin a xa xb y)) = .ok l ∧ l.length = (xb - xa + 1).toNat ∧
      ∀ i, 0 ≤ i → i ≤ xb - xa → l[i.toNat]? = cellAt a (xa + i) y) ∧
    (∀ i v, 0 ≤ i → i ≤ xb - xa →
      (do let c ← winSet a.cells (spanWin a xa xb y) i v; pure { a with cells := c }) = Model.Array2D.set a (xa + i) y v) ∧
    (∀ i v, ¬ (0 ≤ i ∧ i ≤ xb - xa) →
      (do let c ← winSet a.cells (spanWin a xa xb y) i v; pure { a with cells := c } : Except String A2D) = .error pBounds) := by
  have := s.2.2.1
  refine ⟨⟨_, rfl, ?_, fun i hi0 hi1 => ?_⟩, fun i v hi0 hi1 => ?_, fun i v hi => ?_⟩
  · rw [length_winRead _ _ _ (span_le wf s).2]; exact span_len wf s
  · rw [getElem?_winRead, spanWin_snd wf s, if_pos (Nat.add_lt_add_left (by omega) _), ← idx_span wf s hi0 rfl]; rfl
  · have hb : InB a (xa + i) y := ⟨by have := s.2.1; omega, by have := s.2.2.2; omega, s.1⟩
    unfold winSet
    rw [span_len wf s, if_pos ⟨hi0, by omega⟩, ← idx_span wf s hi0 rfl, set_eq wf, if_pos hb]; rfl
  · unfold winSet
    rw [span_len wf s, if_neg (by omega)]; rfl

theorem copyAt_span (wf : WF a) (s : Span a xa xb y) {c : List Int} (hc : c.length = a.cells.length) (src : List Int) :
    (copyAt c (spanWin a xa xb y).1 (winLen (spanWin a xa xb y)) src).length = c.length ∧
    ∀ x' y', InB a x' y' →
      (copyAt c (spanWin a xa xb y).1 (winLen (spanWin a xa xb y)) src)[(idx a.w x' y').toNat]? =
        if y' = y ∧ xa ≤ x' ∧ x' ≤ xb then src[(x' - xa).toNat]?.or c[(idx a.w x' y').toNat]? else c[(idx a.w x' y').toNat]? := by
  have hle := span_le wf s
  have e := span_add_len wf s
  have hb : (spanWin a xa xb y).1 + min (winLen (spanWin a xa xb y)) src.length ≤ c.length := by rw [hc]; omega
  refine ⟨length_copyAt c _ _ src hb, fun x' y' hb' => ?_⟩
  rw [getElem?_copyAt c _ _ src hb, e]
  simp only [mem_span_iff wf s hb']
  by_cases h : y' = y ∧ xa ≤ x' ∧ x' ≤ xb
  · rw [if_pos h, if_pos h, h.1, idx_span wf s (i := x' - xa) (by omega) (by omega), Nat.add_sub_cancel_left]
  · rw [if_neg h, if_neg h]

theorem sliceFill_span (wf : WF a) (s : Span a xa xb y) {c : List Int} (hc : c.length = a.cells.length) (v : Int) :
    (sliceFill c (spanWin a xa xb y).1 (winLen (spanWin a xa xb y)) v).length = c.length ∧
    ∀ x' y', InB a x' y' →
      (sliceFill c (spanWin a xa xb y).1 (winLen (spanWin a xa xb y)) v)[(idx a.w x' y').toNat]? =
        if y' = y ∧ xa ≤ x' ∧ x' ≤ xb then some v else c[(idx a.w x' y').toNat]? := by
  have hle := span_le wf s
  have e := span_add_len wf s
  obtain ⟨f1, f2⟩ := sliceFill_spec c _ _ v (by rw [e, hc]; exact hle.2)
  refine ⟨f1, fun x' y' hb => ?_⟩
  rw [f2, e]
  simp only [mem_span_iff wf s hb]

end span

theorem span_row {a : A2D} (wf : WF a) {y : Int} (hy : 0 ≤ y ∧ y < a.h) : Span a 0 (a.w - 1) y :=
  ⟨hy, Int.le_refl 0, by have := wf.1; omega, by omega⟩

theorem row_ok {a : A2D} (wf : WF a) {y : Int} (hy : 0 ≤ y ∧ y < a.h) : row a y = .ok (spanWin a 0 (a.w - 1) y) := by
  unfold row
  rw [if_neg (by rw [oob_true]; exact not_not_intro hy), rowLo_eq, rowHi_eq]
  exact mkWin_span wf (span_row wf hy) rfl

theorem row_err {a : A2D} {y : Int} (hy : ¬ (0 ≤ y ∧ y < a.h)) : row a y = .error pCustom := by
  unfold row; rw [if_pos (oob_true.mpr hy)]

/-- Row(y) is a live window onto exactly the cells (0..w-1, y) -/
theorem row_live {a : A2D} (wf : WF a) (y : Int) :
    (¬ (0 ≤ y ∧ y < a.h) → rowRead a y = .error pCustom ∧ ∀ i v, rowset a y i v = .error pCustom) ∧
    ((0 ≤ y ∧ y < a.h) →
      (∃ l, rowRead a y = .ok l ∧ l.length = a.w.toNat ∧ ∀ x, 0 ≤ x → x < a.w → l[x.toNat]? = cellAt a x y) ∧
      (∀ i v, 0 ≤ i → i < a.w → rowset a y i v = Model.Array2D.set a i y v) ∧
      (∀ i v, ¬ (0 ≤ i ∧ i < a.w) → rowset a y i v = .error pBounds)) := by
  unfold rowRead rowset
  constructor
  · intro hy
    rw [row_err hy]
    exact ⟨rfl, fun _ _ => rfl⟩
  · intro hy
    rw [row_ok wf hy]
    obtain ⟨⟨l, l1, l2, l3⟩, l4, l5⟩ := span_live wf (span_row wf hy)
    refine ⟨⟨l, l1, by rw [l2]; congr 1; omega, fun x hx0 hx1 => ?_⟩, fun i v hi0 hi1 => ?_, fun i v hi => l5 i v (by omega)⟩
    · rw [l3 x hx0 (by omega), Int.zero_add]
    · have := l4 i v hi0 (by omega)
      rw [Int.zero_add] at this; exact this

theorem rowSpan_eq {a : A2D} (x1 x2 y : Int) :
    rowSpan a x1 x2 y = if rowSpanGuard a.w a.h x1 x2 y then mkWin a.cells (spanLo a.w x1 y) (spanHi a.w x2 y)
      else .error pCustom := by
  unfold rowSpan rowSpanGuard
  cases oob a.w x1 <;> cases oob a.h y <;> cases oob a.w x2 <;> rfl

/-- RowSpan(x1,x2,y) with x1 ≤ x2 is a live window onto exactly the cells (x1..x2, y) -/
theorem rowSpan_live {a : A2D} (wf : WF a) (x1 x2 y : Int) :
    (rowSpanGuard a.w a.h x1 x2 y = false →
      spanRead a x1 x2 y = .error pCustom ∧ ∀ i v, spanset a x1 x2 y i v = .error pCustom) ∧
    (rowSpanGuard a.w a.h x1 x2 y = true → x1 ≤ x2 →
      (∃ l, spanRead a x1 x2 y = .ok l ∧ l.length = (x2 - x1 + 1).toNat ∧
        ∀ i, 0 ≤ i → i ≤ x2 - x1 → l[i.toNat]? = cellAt a (x1 + i) y) ∧
      (∀ i v, 0 ≤ i → i ≤ x2 - x1 → spanset a x1 x2 y i v = Model.Array2D.set a (x1 + i) y v) ∧
      (∀ i v, ¬ (0 ≤ i ∧ i ≤ x2 - x1) → spanset a x1 x2 y i v = .error pBounds)) ∧
    (rowSpanGuard a.w a.h x1 x2 y = true → x1 = x2 + 1 → spanRead a x1 x2 y = .ok []) ∧
    (rowSpanGuard a.w a.h x1 x2 y = true → x1 > x2 + 1 → spanRead a x1 x2 y = .error pBounds) := by
  have run : rowSpanGuard a.w a.h x1 x2 y = true → x1 ≤ x2 + 1 →
      Span a x1 x2 y ∧ rowSpan a x1 x2 y = .ok (spanWin a x1 x2 y) := by
    intro g h12
    obtain ⟨g1, g2, g3⟩ := rowSpanGuard_iff.mp g
    have s : Span a x1 x2 y := ⟨g2, g1.1, h12, g3.2⟩
    exact ⟨s, by rw [rowSpan_eq, g, if_pos rfl, mkWin_span wf s rfl]⟩
  unfold spanRead spanset
  refine ⟨fun g => ?_, fun g h12 => ?_, fun g h12 => ?_, fun g h12 => ?_⟩
  · rw [rowSpan_eq, g]
    exact ⟨rfl, fun _ _ => rfl⟩
  · obtain ⟨s, hw⟩ := run g (by omega)
    rw [hw]
    exact span_live wf s
  · obtain ⟨s, hw⟩ := run g (by omega)
    obtain ⟨⟨l, l1, l2, _⟩, _⟩ := span_live wf s
    rw [hw]
    exact l1.trans (congrArg Except.ok (List.eq_nil_of_length_eq_zero (by rw [l2]; omega)))
  · rw [rowSpan_eq, g, if_pos rfl]
    unfold mkWin spanLo spanHi
    rw [if_neg (by omega)]; rfl

/-- the state of the backing slice while Fill works: rows y1 .. y-1 of the rectangle hold v, everything else is as in `a` -/
def FillInv (a : A2D) (x1 y1 x2 : Int) (v : Int) (c : List Int) (y : Int) : Prop :=
  c.length = a.cells.length ∧
  ∀ x' y', InB a x' y' →
    c[(idx a.w x' y').toNat]? =
      if y1 ≤ y' ∧ y' < y ∧ x1 ≤ x' ∧ x' ≤ x2 then some v else a.cells[(idx a.w x' y').toNat]?

/-- writing v to the cells (x1..x2, y) extends the filled rows by row y -/
theorem fillInv_succ {a : A2D} {x1 y1 x2 y v : Int} {c c' : List Int} (hy : y1 ≤ y) (inv : FillInv a x1 y1 x2 v c y)
    (hc' : c'.length = c.length ∧ ∀ x' y', InB a x' y' → c'[(idx a.w x' y').toNat]? =
      if y' = y ∧ x1 ≤ x' ∧ x' ≤ x2 then some v else c[(idx a.w x' y').toNat]?) :
    FillInv a x1 y1 x2 v c' (y + 1) := by
  refine ⟨hc'.1.trans inv.1, fun x' y' hb => ?_⟩
  rw [hc'.2 x' y' hb, inv.2 x' y' hb]
  by_cases h : y' = y ∧ x1 ≤ x' ∧ x' ≤ x2
  · rw [if_pos h, if_pos (by omega)]
  · rw [if_neg h]
    -- the same `if` on both sides but for the condition (`y' < y` / `y' < y + 1`, equivalent when `h` fails);
    -- likewise below (`y < y2 + 1` / `y ≤ y2`)
    exact ite_congr (propext (by omega)) (fun _ => rfl) (fun _ => rfl)

theorem fillRows_spec {a : A2D} (wf : WF a) {x1 y1 x2 y2 : Int} (v : Int) (s1 : Span a x1 x2 y1) (hy2 : y2 < a.h) :
    ∀ (fuel : Nat) (y : Int) (c : List Int), y1 < y → y ≤ y2 + 1 → fuel = (y2 + 1 - y).toNat →
      FillInv a x1 y1 x2 v c y →
      ∃ c', fillRows a.w x1 x2 y2 (spanWin a x1 x2 y1) fuel y c = .ok c' ∧
        FillInv a x1 y1 x2 v c' (y2 + 1) := by
  intro fuel
  induction fuel with
  | zero =>
    intro y c h1 h2 hf inv
    have : y = y2 + 1 := by omega
    subst this
    exact ⟨c, rfl, inv⟩
  | succ fuel ih =>
    intro y c h1 h2 hf inv
    have hle : y ≤ y2 := by omega
    have s : Span a x1 x2 y := ⟨⟨Int.le_trans s1.1.1 (Int.le_of_lt h1), Int.lt_of_le_of_lt hle hy2⟩, s1.2⟩
    obtain ⟨k1, k2⟩ := copyAt_span wf s inv.1 (winRead c (spanWin a x1 x2 y1))
    have inv' := fillInv_succ (Int.le_of_lt h1) inv ⟨k1, by
        intro x' y' hb
        rw [k2 x' y' hb]
        by_cases h : y' = y ∧ x1 ≤ x' ∧ x' ≤ x2
        · -- the copied first row already holds v
          have hi : (x' - x1).toNat < (x2 - x1 + 1).toNat := by omega
          rw [if_pos h, if_pos h, getElem?_winRead, spanWin_snd wf s1, if_pos (Nat.add_lt_add_left hi _),
            ← idx_span wf s1 (x' := x') (i := x' - x1) (by omega) (by omega),
            inv.2 x' y1 ⟨hb.1, hb.2.1, s1.1⟩, if_pos ⟨Int.le_refl y1, h1, h.2⟩, Option.some_or]
        · rw [if_neg h, if_neg h]⟩
    obtain ⟨c', r1, r2⟩ := ih (y + 1) _ (Int.lt_add_one_of_le (Int.le_of_lt h1)) (Int.add_le_add_right hle 1) (by omega) inv'
    refine ⟨c', ?_, r2⟩
    unfold fillRows
    rw [if_pos hle, mkWin_span wf s inv.1]
    exact r1

theorem fillCore_spec {a : A2D} (wf : WF a) {x1 y1 x2 y2 : Int} (v : Int)
    (hx : 0 ≤ x1 ∧ x1 ≤ x2 ∧ x2 < a.w) (hy : 0 ≤ y1 ∧ y1 ≤ y2 ∧ y2 < a.h) :
    ∃ a', fillCore a x1 y1 x2 y2 v = .ok a' ∧ a'.w = a.w ∧ a'.h = a.h ∧ WF a' ∧
      ∀ x y, Model.Array2D.get a' x y =
        if x1 ≤ x ∧ x ≤ x2 ∧ y1 ≤ y ∧ y ≤ y2 then .ok v else Model.Array2D.get a x y := by
  have s1 : Span a x1 x2 y1 := ⟨⟨hy.1, Int.lt_of_le_of_lt hy.2.1 hy.2.2⟩, hx.1, Int.le_add_one hx.2.1, hx.2.2⟩
  have inv0 : FillInv a x1 y1 x2 v a.cells y1 := ⟨rfl, fun x' y' _ => (if_neg (by omega)).symm⟩
  have inv1 := fillInv_succ (Int.le_refl y1) inv0 (sliceFill_span wf s1 rfl v)
  obtain ⟨c', r1, r2⟩ := fillRows_spec wf v s1 hy.2.2 (y2 - y1).toNat (y1 + 1) _
    (Int.lt_add_one_of_le (Int.le_refl y1)) (Int.add_le_add_right hy.2.1 1) (by omega) inv1
  refine ⟨{ a with cells := c' }, ?_, rfl, rfl, wf_setCells wf r2.1, fun x y => ?_⟩
  · unfold fillCore
    rw [mkWin_span wf s1 rfl]
    show (do let c ← fillRows a.w x1 x2 y2 _ (y2 - y1).toNat (y1 + 1) _; pure { a with cells := c }) = _
    rw [r1]; rfl
  · rw [get_of_cells (P := fun x y => y1 ≤ y ∧ y < y2 + 1 ∧ x1 ≤ x ∧ x ≤ x2)
      (fun x y hp => ⟨by omega, by omega, by omega, by omega⟩) r2.2]
    exact ite_congr (propext (by omega)) (fun _ => rfl) (fun _ => rfl)

/-- Fill is its guard, the sorting of the corners (`x1, x2 = x2, x1`) and `fillCore` -/
theorem fill_eq {a : A2D} (x1 y1 x2 y2 v : Int) :
    fill a x1 y1 x2 y2 v =
      if fillGuard a.w a.h x1 y1 x2 y2 then fillCore a (min x1 x2) (min y1 y2) (max x1 x2) (max y1 y2) v
      else .error pCustom := by
  have sort : ∀ p q : Int, (if q < p then (q, p) else (p, q)) = (min p q, max p q) := by
    intro p q
    by_cases h : q < p
    · rw [if_pos h, Int.min_eq_right (by omega), Int.max_eq_left (by omega)]
    · rw [if_neg h, Int.min_eq_left (by omega), Int.max_eq_right (by omega)]
  unfold fill fillGuard
  simp only [sort]
  cases oob a.w x1 <;> cases oob a.h y1 <;> cases oob a.w x2 <;> cases oob a.h y2 <;> rfl

/-- Fill assigns exactly the inclusive rectangle, whichever corners are given; it panics iff a corner is outside -/
theorem fill_exact {a : A2D} (wf : WF a) (x1 y1 x2 y2 v : Int) :
    (fillGuard a.w a.h x1 y1 x2 y2 = false → fill a x1 y1 x2 y2 v = .error pCustom) ∧
    (fillGuard a.w a.h x1 y1 x2 y2 = true →
      ∃ a', fill a x1 y1 x2 y2 v = .ok a' ∧ a'.w = a.w ∧ a'.h = a.h ∧ WF a' ∧
        ∀ x y, Model.Array2D.get a' x y =
          if min x1 x2 ≤ x ∧ x ≤ max x1 x2 ∧ min y1 y2 ≤ y ∧ y ≤ max y1 y2 then .ok v
          else Model.Array2D.get a x y) := by
  constructor
  · intro g; rw [fill_eq, g]; rfl
  · intro g
    obtain ⟨g1, g2, g3, g4⟩ := fillGuard_iff.mp g
    rw [fill_eq, g, if_pos rfl]
    exact fillCore_spec wf v (by omega) (by omega)

theorem sliceFill_all (c : List Int) (v : Int) : sliceFill c 0 c.length v = List.replicate c.length v := by
  rw [sliceFill_eq c 0 _ v (by omega), GoSlice.writeAt_all List.length_replicate]

theorem newLen_nonneg {w h : Int} (hw : 0 ≤ w) (hh : 0 ≤ h) : 0 ≤ newLen w h := Int.mul_nonneg hw hh

theorem wf_replicate {w h : Int} (v : Int) (hw : 0 ≤ w) (hh : 0 ≤ h) : WF ⟨w, h, List.replicate (w * h).toNat v⟩ :=
  ⟨hw, hh, by have := Int.mul_nonneg hw hh; simp only [List.length_replicate]; omega⟩

theorem new2D_spec {w h : Int} (hw : 0 ≤ w) (hh : 0 ≤ h) :
    new2D w h = .ok ⟨w, h, List.replicate (w * h).toNat 0⟩ ∧ WF ⟨w, h, List.replicate (w * h).toNat 0⟩ := by
  unfold new2D
  rw [if_neg (Int.not_lt.mpr (newLen_nonneg hw hh))]
  exact ⟨rfl, wf_replicate 0 hw hh⟩

theorem new2DFilled_spec {w h : Int} (v : Int) (hw : 0 ≤ w) (hh : 0 ≤ h) :
    new2DFilled w h v = .ok ⟨w, h, List.replicate (w * h).toNat v⟩ ∧ WF ⟨w, h, List.replicate (w * h).toNat v⟩ := by
  unfold new2DFilled
  rw [if_neg (Int.not_lt.mpr (newLen_nonneg hw hh))]
  simp only
  rw [sliceFill_all, List.length_replicate]
  exact ⟨rfl, wf_replicate v hw hh⟩

theorem cellAt_replicate {w h v x y : Int} (hb : 0 ≤ x ∧ x < w ∧ 0 ≤ y ∧ y < h) :
    cellAt ⟨w, h, List.replicate (w * h).toNat v⟩ x y = some v := by
  have := Array2DArith.idx_lt hb.1 hb.2.1 hb.2.2.1 hb.2.2.2
  unfold cellAt idx
  simp only [List.getElem?_replicate]
  rw [if_pos (by omega)]

theorem get_replicate {w h v : Int} (x y : Int) :
    Model.Array2D.get ⟨w, h, List.replicate (w * h).toNat v⟩ x y =
      if 0 ≤ x ∧ x < w ∧ 0 ≤ y ∧ y < h then .ok v else .error pCustom := by
  rw [get_eq]
  by_cases hb : 0 ≤ x ∧ x < w ∧ 0 ≤ y ∧ y < h
  · rw [if_pos hb, if_pos (show InB ⟨w, h, _⟩ x y from hb), cellAt_replicate hb]; rfl
  · rw [if_neg hb, if_neg (show ¬ InB ⟨w, h, _⟩ x y from hb)]

/-- Clone copies every cell (and, being a fresh value in the functional model, shares nothing) -/
theorem clone_eq (a : A2D) : clone a = a := by
  unfold clone copyAt
  simp

theorem mapM_ok {α β : Type} (f : α → Except String β) (g : α → β) (l : List α) (h : ∀ x ∈ l, f x = .ok (g x)) :
    l.mapM f = .ok (l.map g) := by
  induction l with
  | nil => rfl
  | cons x xs ih =>
    rw [List.mapM_cons, h x List.mem_cons_self, ih (fun y hy => h y (List.mem_cons_of_mem _ hy))]
    rfl

/-- the traversal of String() reads every cell (x,y), row by row -/
theorem cellsRows_spec {a : A2D} (wf : WF a) :
    cellsRows a = .ok ((List.range a.h.toNat).map fun (y : Nat) =>
      (List.range a.w.toNat).map fun (x : Nat) => (cellAt a (Int.ofNat x) (Int.ofNat y)).getD 0) := by
  unfold cellsRows
  apply mapM_ok
  intro y hy
  apply mapM_ok
  intro x hx
  have hy' := List.mem_range.mp hy
  have hx' := List.mem_range.mp hx
  have hb : InB a (Int.ofNat x) (Int.ofNat y) := by
    unfold InB; simp only [Int.ofNat_eq_natCast]; omega
  obtain ⟨v, hv⟩ := cellAt_some wf hb
  unfold getUnchecked
  rw [sliceGet_nonneg (idx_nonneg hb), hv]
  unfold cellAt at hv
  rw [hv]; rfl

/-- the jagged value that lands on cell (x', y') when the rows `rest` are copied to rows y, y+1, … -/
def jagAt (rest : List (List Int)) (y x' y' : Int) : Option Int :=
  if y ≤ y' then (rest[(y' - y).toNat]?).bind (fun r => r[x'.toNat]?) else none

/-- copying one jagged row onto Row(y): a short row leaves the rest of the row alone, a long one is cut off -/
theorem cellAt_copyRow {a : A2D} (wf : WF a) {y : Int} (hy : 0 ≤ y ∧ y < a.h) (r : List Int) :
    WF { a with cells := copyAt a.cells (spanWin a 0 (a.w - 1) y).1 (winLen (spanWin a 0 (a.w - 1) y)) r } ∧
    ∀ x' y', InB a x' y' →
      cellAt { a with cells := copyAt a.cells (spanWin a 0 (a.w - 1) y).1 (winLen (spanWin a 0 (a.w - 1) y)) r } x' y' =
        if y' = y then r[x'.toNat]?.or (cellAt a x' y') else cellAt a x' y' := by
  obtain ⟨k1, k2⟩ := copyAt_span wf (span_row wf hy) rfl r
  refine ⟨wf_setCells wf k1, fun x' y' hb => ?_⟩
  have := hb.1; have := hb.2.1
  unfold cellAt; simp only
  rw [k2 x' y' hb, Int.sub_zero]
  exact ite_congr (propext (by omega)) (fun _ => rfl) (fun _ => rfl)

theorem jaggedLoop_spec : ∀ (rest : List (List Int)) (a : A2D) (y : Int), WF a → 0 ≤ y →
    ∃ a', jaggedLoop a y rest = .ok a' ∧ a'.w = a.w ∧ a'.h = a.h ∧ WF a' ∧
      ∀ x' y', InB a x' y' → cellAt a' x' y' = (jagAt rest y x' y').or (cellAt a x' y') := by
  intro rest
  induction rest with
  | nil =>
    intro a y wf hy
    refine ⟨a, rfl, rfl, rfl, wf, ?_⟩
    intro x' y' _
    unfold jagAt
    split <;> rfl
  | cons r rest ih =>
    intro a y wf hy
    unfold jaggedLoop
    by_cases hge : y ≥ a.h
    · rw [if_pos hge]
      refine ⟨a, rfl, rfl, rfl, wf, ?_⟩
      intro x' y' hb
      unfold jagAt
      rw [if_neg (by have := hb.2.2.2; omega)]; rfl
    · rw [if_neg hge]
      have hy' : 0 ≤ y ∧ y < a.h := ⟨hy, by omega⟩
      rw [row_ok wf hy']
      obtain ⟨wf1, c1⟩ := cellAt_copyRow wf hy' r
      obtain ⟨a', r1, r2, r3, r4, r5⟩ := ih _ (y + 1) wf1 (by omega)
      refine ⟨a', r1, r2, r3, r4, ?_⟩
      intro x' y' hb
      rw [r5 x' y' hb, c1 x' y' hb]
      unfold jagAt
      by_cases h1 : y' = y
      · subst h1
        rw [if_neg (by omega), if_pos rfl, if_pos (by omega), Int.sub_self]; rfl
      · rw [if_neg h1]
        by_cases h2 : y + 1 ≤ y'
        · rw [if_pos h2, if_pos (by omega)]
          have : (y' - y).toNat = (y' - (y + 1)).toNat + 1 := by omega
          rw [this, List.getElem?_cons_succ]
        · rw [if_neg h2, if_neg (by omega)]

theorem fromJagged_spec {w h : Int} (hw : 0 ≤ w) (hh : 0 ≤ h) (jagged : List (List Int)) :
    ∃ a', fromJagged w h jagged = .ok a' ∧ a'.w = w ∧ a'.h = h ∧ WF a' ∧
      ∀ x y, Model.Array2D.get a' x y =
        if 0 ≤ x ∧ x < w ∧ 0 ≤ y ∧ y < h then
          .ok (((jagged[y.toNat]?).bind (fun r => r[x.toNat]?)).getD 0)
        else .error pCustom := by
  obtain ⟨n1, wf0⟩ := new2D_spec hw hh
  obtain ⟨a', r1, r2, r3, r4, r5⟩ := jaggedLoop_spec jagged _ 0 wf0 (Int.le_refl 0)
  refine ⟨a', ?_, r2, r3, r4, ?_⟩
  · unfold fromJagged; rw [n1]; exact r1
  · intro x y
    rw [get_eq]
    by_cases hb : 0 ≤ x ∧ x < w ∧ 0 ≤ y ∧ y < h
    · have hb' : InB a' x y := by unfold InB; rw [r2, r3]; exact hb
      rw [if_pos hb', if_pos hb, r5 x y hb, cellAt_replicate hb]
      unfold jagAt
      rw [if_pos hb.2.2.1, Int.sub_zero]
      cases (jagged[y.toNat]?).bind (fun r => r[x.toNat]?) <;> rfl
    · have hb' : ¬ InB a' x y := by unfold InB; rw [r2, r3]; exact hb
      rw [if_neg hb', if_neg hb]

/-- a 3×2 array (w ≠ h) used for the non-vacuity examples of `Props/C08.lean` -/
def ex32 : A2D := ⟨3, 2, [1, 2, 3, 4, 5, 6]⟩
theorem ex32_wf : WF ex32 := by unfold WF ex32; decide

end TypVerif.Lemmas.Array2D
