import TypVerif.Lemmas.AtomicObj
import TypVerif.Lemmas.PoolSource
/-
The wrapper-level Pool system refines the atomic bag object: every step of `Pool.sys` is matched by a step of
`AtomicObj.sys (bagSpec hasNew)` with the same visible label, or by none (`ref_step`; linearization points: the nil-`New`
return, the `pool.Get` hit, the `New()` call, `pool.Put`).  So every execution is linearizable to `Pool.bagSpec`, by
`AtomicObj.linearizable`.
-/
namespace TypVerif.Lemmas.Pool
open TypVerif TypVerif.Conc TypVerif.Model.Pool TypVerif.Model
open TypVerif.Model.AtomicObj (TPc Entry runThread linsOf SeqRun Linearizable)
open TypVerif.Lemmas.AtomicObj (Step mem_succ_iff pc_mk getD_replicate)

/-- abstraction of the wrapper's program counters to the protocol automaton of the atomic object -/
inductive Abs : TPc Op Res → Pc → Prop where
  | idle : Abs .idle .idle
  | g0 : Abs (.pending .get) .g0
  | g1 : Abs (.pending .get) .g1
  | g2 : Abs (.pending .get) .g2
  | gRet (x : Option Nat) : Abs (.done .get (.item (x.getD 0))) (.gRet x)
  | p0 (id : Nat) : Abs (.pending (.put id)) (.p0 id)
  | pRet (id : Nat) : Abs (.done (.put id) .done) .pRet

theorem bagApply_get_nonew (σ : Bag) : (σ, Res.item 0) ∈ bagApply false σ .get := by
  simp [bagApply]
theorem bagApply_get_hit (σ : Bag) (x : Nat) (hx : x ∈ σ.bag) :
    ((⟨σ.bag.erase x, σ.fresh⟩ : Bag), Res.item x) ∈ bagApply true σ .get := by
  simp only [bagApply, if_true, List.mem_append, List.mem_map]
  left; exact ⟨x, hx, rfl⟩
theorem bagApply_get_new (σ : Bag) :
    ((⟨σ.bag, σ.fresh + 1⟩ : Bag), Res.item σ.fresh) ∈ bagApply true σ .get := by
  simp only [bagApply, if_true, List.mem_append, List.mem_singleton]
  right; trivial
theorem bagApply_put (b : Bool) (σ : Bag) (id : Nat) :
    ((⟨id :: σ.bag, σ.fresh⟩ : Bag), Res.done) ∈ bagApply b σ (.put id) := by
  simp [bagApply]

/-- `log` is a linearization witness of the wrapper state `s` against the bag; `Ref.rel` gives it the object's log -/
structure Rel (hasNew : Bool) (s : State) (log : List (Entry Op Res)) : Prop where
  seq : SeqRun (bagSpec hasNew) (linsOf log) ⟨s.bag, s.fresh⟩
  thread : ∀ t, ∃ p, runThread t log = some p ∧ Abs p (s.thr t).pc

/-- the state `a` of the atomic bag object that the wrapper state `s` stands for -/
structure Ref (s : State) (a : AtomicObj.State Bag Op Res) : Prop where
  obj : a.obj = ⟨s.bag, s.fresh⟩
  len : a.pcs.length = s.thrs.length
  thread : ∀ t, Abs (a.pc t) (s.thr t).pc

theorem ref_init (hasNew : Bool) (n : Nat) : Ref (init n) (AtomicObj.init (bagSpec hasNew) n) := by
  refine ⟨rfl, List.length_replicate.trans List.length_replicate.symm, fun t => ?_⟩
  show Abs ((List.replicate n TPc.idle).getD t .idle) ((init n).thr t).pc
  rw [getD_replicate, thr_init]
  exact .idle

variable {hasNew : Bool} {s : State} {a : AtomicObj.State Bag Op Res} {t : Nat}

/-- goroutine `t` moves on both sides -/
theorem Ref.move (h : Ref s a) (ht : t < s.thrs.length) {p : TPc Op Res} {th' : Thr} (hp : Abs p th'.pc)
    (b : List Nat) (f : Nat) (m : List Nat) (l : List (AtomicObj.Entry Op Res)) :
    Ref ⟨s.thrs.set t th', b, f, m⟩ ⟨a.pcs.set t p, ⟨b, f⟩, l⟩ := by
  refine ⟨rfl, by simp [h.len], fun t' => ?_⟩
  rw [pc_mk _ _ _ _ (h.len ▸ ht), thr_mk _ _ _ _ ht]
  by_cases e : t' = t
  · rw [if_pos e, if_pos e]; exact hp
  · rw [if_neg e, if_neg e]; exact h.thread t'

/-- goroutine `t` moves in the wrapper only: no step of the object -/
theorem Ref.stutter (h : Ref s a) (ht : t < s.thrs.length) {th' : Thr} (hp : Abs (a.pc t) th'.pc)
    (m : List Nat) : Ref ⟨s.thrs.set t th', s.bag, s.fresh, m⟩ a := by
  refine ⟨h.obj, by simp [h.len], fun t' => ?_⟩
  rw [thr_mk _ _ _ _ ht]
  by_cases e : t' = t
  · rw [if_pos e, e]; exact hp
  · rw [if_neg e]; exact h.thread t'

/-- **the wrapper refines the atomic bag object**: every step is matched by the object's invocation, linearization point
(the nil-`New` return, the `pool.Get` hit, the `New()` call, `pool.Put`) or response, or by no step at all -/
theorem ref_step {menu : List Op} {n : Nat} {s' : State} {l : Option Event}
    (hreach : Reachable (sys hasNew menu n) s) (hr : Ref s a) (hmem : (l, s') ∈ succ hasNew menu s) :
    ∃ a' ls, Exec (AtomicObj.sys (bagSpec hasNew) menu n) a ls a' ∧ visible ls = visible [l] ∧ Ref s' a' := by
  obtain ⟨t, ht, hshape⟩ := step_shape hmem
  have hta : t < a.pcs.length := hr.len ▸ ht
  have hN := newOk_reachable hasNew menu n s hreach t
  obtain ⟨p, hp, hA⟩ : ∃ p, a.pc t = p ∧ Abs p (s.thr t).pc := ⟨_, rfl, hr.thread t⟩
  obtain ⟨pcs, o, lg⟩ := a
  cases (hr.obj : o = _)
  have one : ∀ {l' : Option Event} {a' : AtomicObj.State Bag Op Res},
      Step (bagApply hasNew) menu ⟨pcs, ⟨s.bag, s.fresh⟩, lg⟩ l' a' → visible [l'] = visible [l] → Ref s' a' →
      ∃ a' ls, Exec (AtomicObj.sys (bagSpec hasNew) menu n) ⟨pcs, ⟨s.bag, s.fresh⟩, lg⟩ ls a' ∧
        visible ls = visible [l] ∧ Ref s' a' :=
    fun hs hv hr' => ⟨_, _, .single (sys := AtomicObj.sys (bagSpec hasNew) menu n) (mem_succ_iff.2 hs), hv, hr'⟩
  cases hshape with
  | invGet hpc hop =>
    rw [hpc] at hA; cases hA
    exact one (.inv hta hp hop) rfl (hr.move ht .g0 _ _ _ _)
  | invPut id hpc hop _ =>
    rw [hpc] at hA; cases hA
    exact one (.inv hta hp hop) rfl (hr.move ht (.p0 id) _ _ _ _)
  | readNew hpc =>
    rw [hpc] at hA; cases hA
    cases hasNew with
    | true => exact ⟨_, [], .nil _, rfl, hr.stutter ht (hp ▸ .g1) _⟩
    | false => exact one (.lin hta hp (bagApply_get_nonew _)) rfl (hr.move ht (.gRet none) _ _ _ _)
  | poolHit x hpc hx =>
    rw [hpc] at hA hN; cases hA
    -- `pcOk hasNew .g1` reduces to `hasNew = true`; the ascription makes `cases` see the equation
    cases (hN : hasNew = true)
    exact one (.lin hta hp (bagApply_get_hit ⟨s.bag, s.fresh⟩ x hx)) rfl
      (hr.move ht (.gRet (some x)) _ _ _ _)
  | poolMiss hpc =>
    rw [hpc] at hA; cases hA
    exact ⟨_, [], .nil _, rfl, hr.stutter ht (hp ▸ .g2) _⟩
  | callNew hpc =>
    rw [hpc] at hA hN; cases hA
    cases (hN : hasNew = true)
    exact one (.lin hta hp (bagApply_get_new ⟨s.bag, s.fresh⟩)) rfl
      (hr.move ht (.gRet (some s.fresh)) _ _ _ _)
  | retGet x hpc =>
    rw [hpc] at hA; cases hA
    exact one (.res hta hp) rfl (hr.move ht .idle _ _ _ _)
  | poolPut id hpc =>
    rw [hpc] at hA; cases hA
    exact one (.lin hta hp (bagApply_put _ _ id)) rfl (hr.move ht (.pRet id) _ _ _ _)
  | retPut hpc =>
    rw [hpc] at hA; cases hA
    exact one (.res hta hp) rfl (hr.move ht .idle _ _ _ _)

/-- with the invariant of the object, the log of the object state is a linearization witness of the wrapper state -/
theorem Ref.rel (h : Ref s a) (hg : Lemmas.AtomicObj.Good (bagSpec hasNew) a) : Rel hasNew s a.log :=
  ⟨h.obj ▸ hg.seq, fun t => ⟨_, hg.thread t, h.thread t⟩⟩

theorem pool_linearizable (hasNew : Bool) (menu : List Op) (n : Nat) {ls : List (Option Event)}
    {s : (sys hasNew menu n).State} (he : Exec (sys hasNew menu n) (sys hasNew menu n).init ls s) :
    Linearizable (bagSpec hasNew) (visible ls) := by
  obtain ⟨a, ls', hex, hv, _⟩ := Exec.rel_sim (i' := AtomicObj.init (bagSpec hasNew) n)
    (succ' := AtomicObj.succ (bagApply hasNew) menu) (fun s a => Reachable (sys hasNew menu n) s ∧ Ref s a)
    (fun _ _ _ _ h hm => (ref_step h.1 h.2 hm).imp fun _ => .imp fun _ h' => ⟨h'.1, h'.2.1, h.1.step hm, h'.2.2⟩)
    he _ ⟨.init, ref_init hasNew n⟩
  exact hv ▸ Lemmas.AtomicObj.linearizable (bagSpec hasNew) menu n hex

end TypVerif.Lemmas.Pool
