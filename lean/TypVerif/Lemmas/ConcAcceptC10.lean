import TypVerif.Lemmas.ConcAcceptC10Norm
import TypVerif.Lemmas.PubSubLogStep
import TypVerif.Lemmas.ConcAcceptC10Closure
/-
C10 judge: soundness.  `succJ` (the successor function of the C10 judge, `Drv/C10.lean`) is sound with respect to the model: each of its
steps is one step of `succ`, or two internal steps of `succ` (the RLock of a `sendAsync` goroutine followed by that
goroutine's next own internal step).
-/
namespace TypVerif.Lemmas.ConcAcceptC10
open TypVerif TypVerif.Conc TypVerif.Model.PubSub TypVerif.Drv.C10

theorem envSteps_visible (cfg : Cfg) (s m : State) : (none, m) ∉ envSteps cfg s :=
  fun h => let ⟨_, _, hl, _⟩ := PubSubStep.mem_envSteps.1 h; nomatch hl

theorem exitSteps_visible (s m : State) : (none, m) ∉ exitSteps s := by
  intro h
  unfold exitSteps at h
  obtain ⟨r, _, hr⟩ := List.mem_map.1 h
  cases hr

theorem recvSteps_tasks {x z : State} {ch : ChanSt} {l : Option Event} (h : (l, z) ∈ recvSteps x ch) : z.tasks = x.tasks := by
  obtain ⟨f, _, rfl⟩ := PubSubStep.mem_recvSteps h
  rfl

/-- an internal step of the surroundings is a step of a receiver -/
theorem stepsOf_none_recv (cfg : Cfg) {x z : State} (h : (none, z) ∈ PubSubRed.stepsOf cfg x none) :
    ∃ ch ∈ x.chans, (none, z) ∈ recvSteps x ch := by
  simp only [PubSubRed.stepsOf] at h
  rcases List.mem_append.1 h with h | h
  · rcases List.mem_append.1 h with h | h
    · exact absurd h (envSteps_visible cfg x z)
    · exact List.mem_flatMap.1 h
  · exact absurd h (exitSteps_visible x z)

theorem stepsOf_none_tasks (cfg : Cfg) {x z : State} (h : (none, z) ∈ PubSubRed.stepsOf cfg x none) : z.tasks = x.tasks :=
  let ⟨_, _, hc⟩ := stepsOf_none_recv cfg h
  recvSteps_tasks hc

theorem succ_internal_live (cfg : Cfg) {s m : State} (h : (none, m) ∈ succ cfg s) : s.exited = false ∧ s.panicked = none := by
  unfold succ at h
  split at h
  · cases h
  · rename_i hex
    split at h
    · cases List.mem_singleton.1 h
    · rename_i hpan
      exact ⟨by simpa using hex, hpan⟩

/-- The internal step in which the task at `i` goes from `asyncStart` to `asyncSend _ _ false` (the test of `succJ`) is the RLock step
of that goroutine, so it keeps the flags: a step of another source leaves the task at `i` alone. -/
theorem rd_step_flags (cfg : Cfg) {s m : State} {i o o' : Nat} {it it' : Item} (h : (none, m) ∈ succ cfg s)
    (hs : s.tasks[i]? = some (.asyncStart o it)) (hm : m.tasks[i]? = some (.asyncSend o' it' false)) :
    m.exited = s.exited ∧ m.panicked = s.panicked := by
  obtain ⟨hex, hp⟩ := succ_internal_live cfg h
  obtain ⟨src, hsrc⟩ := (PubSubRed.mem_succ_iff cfg s hex hp _).1 h
  have hne : m.tasks[i]? ≠ s.tasks[i]? := by rw [hs, hm]; intro e; cases e
  cases src with
  | none => exact absurd (by rw [stepsOf_none_tasks cfg hsrc]) hne
  | some k =>
    by_cases e : i = k
    · subst e
      simp only [PubSubRed.stepsOf, taskSteps, hs, stepTask, stepAsyncStart] at hsrc
      split at hsrc
      · cases hsrc
      · split at hsrc <;> (cases List.mem_singleton.1 hsrc; exact ⟨rfl, rfl⟩)
    · exact absurd (PubSubLog.taskSteps_task_ne hsrc (PubSubStep.lt_length_of_getElem? hs) e) hne

theorem succJ_sound (cfg : Cfg) (s t : State) (l : Option Event) (h : (l, t) ∈ succJ cfg s) :
    (l, t) ∈ succ cfg s ∨ (l = none ∧ ∃ m, (none, m) ∈ succ cfg s ∧ (none, t) ∈ succ cfg m) := by
  unfold succJ at h
  obtain ⟨p, hp, hmem⟩ := List.mem_flatMap.1 h
  obtain ⟨pl, m⟩ := p
  simp only at hmem
  split at hmem
  · rw [List.mem_singleton.1 hmem]; exact Or.inl hp
  · rename_i hnone
    split at hmem
    · rw [List.mem_singleton.1 hmem]; exact Or.inl hp
    · rename_i i hfind
      have hpred := List.find?_some hfind
      obtain ⟨hts, hl⟩ := List.mem_filter.1 hmem
      have hl' : l = none := by
        cases l with
        | none => rfl
        | some e => simp at hl
      subst hl'
      split at hpred
      · rename_i o it o' it' hs hm
        obtain ⟨hsex, hspan⟩ := succ_internal_live cfg hp
        obtain ⟨hmex, hmpan⟩ := rd_step_flags cfg hp hs hm
        exact Or.inr ⟨rfl, m, hp, (PubSubRed.mem_succ_iff cfg m (hmex.trans hsex) (hmpan.trans hspan) _).2 ⟨some i, hts⟩⟩
      · cases hpred

theorem succJ_exec (cfg : Cfg) (s t : State) (l : Option Event) (h : (l, t) ∈ succJ cfg s) :
    ∃ ls, Exec (sys cfg) s ls t ∧ visible ls = visible [l] := by
  rcases succJ_sound cfg s t l h with h1 | ⟨hl, m, h1, h2⟩
  · exact ⟨[l], Exec.single (sys := sys cfg) h1, rfl⟩
  · subst hl
    exact ⟨[none, none], Exec.cons (sys := sys cfg) h1 (Exec.single (sys := sys cfg) h2), rfl⟩

/-- an execution that ends in a state of the same `norm` as `t` goes on by an internal `succJ` step of `t`, same visible trace -/
theorem exec_succJ {cfg : Cfg} {s t t' u : State} {ls : List (Option Event)} (hex : Exec (sys cfg) s ls t') (hn : norm t' = norm t)
    (hu : (none, u) ∈ succJ cfg t) : ∃ (ls' : List (Option Event)) (u' : State), Exec (sys cfg) s ls' u' ∧ visible ls' = visible ls ∧ norm u' = norm u := by
  obtain ⟨(ls2 : List (Option Event)), hex2, hv2⟩ := succJ_exec cfg t u none hu
  obtain ⟨u', hex3, hn3⟩ := exec_norm_eq hn.symm hex2
  have hv2' : visible ls2 = [] := hv2
  exact ⟨ls ++ ls2, u', Exec.append hex hex3, by rw [visible_append, hv2', List.append_nil], hn3⟩

#print axioms succJ_sound
#print axioms succJ_exec

end TypVerif.Lemmas.ConcAcceptC10

/-
Soundness is argued once, for the relational judge (`Closes` / `advR` / `afterR`: `Drv.C10.closure` / `advance` / the fold
of `advance`, without step budget and state cap, on sets given as predicates).  The judge with budget and cap is inside the relational one
(`advance_sub_advR`, `judge_sub_afterR`), so its soundness is a corollary.  `closure_sound` is about `closure` from any `seen` and
`frontier` and stands by itself.  The relational judge carries the namespace `PubSubRed`: the completeness proof (`PubSubRedAccept`)
is about the same three definitions.
-/
namespace TypVerif.Lemmas.ConcAcceptC10
open TypVerif TypVerif.Conc TypVerif.Model.PubSub TypVerif.Drv.C10

theorem norm_init : norm ({} : State) = ({} : State) := rfl

theorem closure_sound (cfg : Cfg) (n : Nat) (seen : Std.HashSet State) (frontier : List State) :
    ∀ t, t ∈ closure cfg n seen frontier →
      t ∈ seen ∨ ∃ s ∈ frontier, ∃ (ls : List (Option Event)) (t' : State), Exec (sys cfg) s ls t' ∧ visible ls = [] ∧ norm t' = t := by
  refine closure_inv cfg
    (fun t => t ∈ seen ∨ ∃ s ∈ frontier, ∃ (ls : List (Option Event)) (t' : State), Exec (sys cfg) s ls t' ∧ visible ls = [] ∧ norm t' = t)
    (fun t => ∃ s ∈ frontier, ∃ (ls : List (Option Event)) (t' : State), Exec (sys cfg) s ls t' ∧ visible ls = [] ∧ norm t' = norm t)
    ?_ n seen frontier (fun t ht => Or.inl ht) (fun t ht => ⟨t, ht, [], t, Exec.nil _, rfl, rfl⟩)
  intro t u ⟨s, hs, ls, t', hex, hv, hn⟩ hu
  obtain ⟨ls', u', hex', hv', hn'⟩ := exec_succJ hex hn hu
  exact ⟨⟨s, hs, ls', u', hex', hv'.trans hv, (norm_norm u).symm ▸ hn'⟩, Or.inr ⟨s, hs, ls', u', hex', hv'.trans hv, hn'⟩⟩

end TypVerif.Lemmas.ConcAcceptC10

namespace TypVerif.Lemmas.PubSubRed
open TypVerif TypVerif.Conc TypVerif.Model.PubSub TypVerif.Drv.C10 TypVerif.Lemmas.ConcAcceptC10

/-- what `Drv.C10.closure` computes when neither the step budget nor the state cap is hit -/
inductive Closes (cfg : Cfg) (seed : State → Prop) : State → Prop
  | base {t : State} : seed t → Closes cfg seed t
  | step {t u : State} : Closes cfg seed t → (none, u) ∈ succJ cfg t → Closes cfg seed (norm u)

/-- `Drv.C10.advance` with the full closure, on sets given as predicates -/
def advR (cfg : Cfg) (S : State → Prop) (e : Event) : State → Prop :=
  Closes { cfg with env := [e] }
    (fun t => ∃ s, S s ∧ ∃ u, (some e, u) ∈ succ { cfg with env := [e] } s ∧ t = norm u)

def afterR (cfg : Cfg) (tr : List Event) : State → Prop :=
  tr.foldl (advR cfg) (fun t => t = {})

theorem closes_mono {cfg : Cfg} {seed seed' : State → Prop} (h : ∀ t, seed t → seed' t) {t : State} (ht : Closes cfg seed t) :
    Closes cfg seed' t := by
  induction ht with
  | base hs => exact Closes.base (h _ hs)
  | step _ hu ih => exact Closes.step ih hu

theorem advR_mono {cfg : Cfg} {S S' : State → Prop} (h : ∀ t, S t → S' t) (e : Event) {t : State} (ht : advR cfg S e t) : advR cfg S' e t :=
  closes_mono (fun _ ⟨s, hs, u, hu, e⟩ => ⟨s, h s hs, u, hu, e⟩) ht

theorem closure_sub_closes (cfg : Cfg) (seed : State → Prop) (n : Nat) (seen : Std.HashSet State) (fr : List State)
    (hseen : ∀ t, t ∈ seen → Closes cfg seed t) (hfr : ∀ t ∈ fr, Closes cfg seed t) :
    ∀ t, t ∈ closure cfg n seen fr → Closes cfg seed t :=
  closure_inv cfg (Closes cfg seed) (Closes cfg seed) (fun _ _ hq hu => ⟨Closes.step hq hu, Closes.step hq hu⟩) n seen fr hseen hfr

theorem advance_sub_advR (cfg : Cfg) (ss : List State) (e : Event) : ∀ t ∈ advance cfg ss e, advR cfg (fun s => s ∈ ss) e t := by
  intro t ht
  rw [advance_eq, Std.HashSet.mem_toList] at ht
  have hseen : ∀ x, x ∈ seeds cfg ss e →
      Closes { cfg with env := [e] } (fun t => ∃ s, s ∈ ss ∧ ∃ u, (some e, u) ∈ succ { cfg with env := [e] } s ∧ t = norm u) x := by
    intro x hx
    obtain ⟨s, hs, x', hp, hn⟩ := mem_seeds.1 hx
    exact Closes.base ⟨s, hs, x', hp, hn.symm⟩
  exact closure_sub_closes _ _ _ _ _ hseen (fun x hx => hseen x (Std.HashSet.mem_toList.1 hx)) t ht

theorem judge_sub_afterR (cfg : Cfg) (tr : List Event) : ∀ t ∈ tr.foldl (advance cfg) [{}], afterR cfg tr t := by
  have key : ∀ (tr : List Event) (ss : List State) (S : State → Prop), (∀ t ∈ ss, S t) →
      ∀ t ∈ tr.foldl (advance cfg) ss, tr.foldl (advR cfg) S t := by
    intro tr
    induction tr with
    | nil => intro ss S h t ht; exact h t ht
    | cons e tr ih =>
      intro ss S h t ht
      rw [List.foldl_cons] at ht ⊢
      exact ih (advance cfg ss e) (advR cfg S e) (fun t ht => advR_mono h e (advance_sub_advR cfg ss e t ht)) t ht
  intro t ht
  exact key tr [{}] (fun t => t = {}) (fun t ht => List.mem_singleton.1 ht) t ht

theorem advR_sound {cfg : Cfg} {S : State → Prop} {e : Event} {t : State} (h : advR cfg S e t) :
    ∃ s, S s ∧ ∃ (ls : List (Option Event)) (t' : State),
      Exec (sys { cfg with env := [e] }) s ls t' ∧ visible ls = [e] ∧ norm t' = t := by
  induction h with
  | base hb =>
    obtain ⟨s, hs, u, hu, rfl⟩ := hb
    exact ⟨s, hs, [some e], u, Exec.single hu, rfl, rfl⟩
  | @step t u _ hu ih =>
    obtain ⟨s, hs, ls, t', hex, hv, hn⟩ := ih
    obtain ⟨ls', u', hex', hv', hn'⟩ := exec_succJ hex (hn ▸ (norm_norm t').symm) hu
    exact ⟨s, hs, ls', u', hex', hv'.trans hv, hn'⟩

theorem foldl_advR_sound (cfg : Cfg) (E : List Event) : ∀ (tr : List Event), (∀ e ∈ tr, e ∈ E ∨ isInv e = false) →
    ∀ (done : List Event) (S : State → Prop),
      (∀ t, S t → ∃ (ls : List (Option Event)) (t' : State), Exec (sys { cfg with env := E }) {} ls t' ∧ visible ls = done ∧ norm t' = t) →
      ∀ t, tr.foldl (advR cfg) S t →
        ∃ (ls : List (Option Event)) (t' : State), Exec (sys { cfg with env := E }) {} ls t' ∧ visible ls = done ++ tr ∧ norm t' = t := by
  intro tr
  induction tr with
  | nil => intro _ done S hS t ht; simpa using hS t ht
  | cons e tr ih =>
    intro hE done S hS t ht
    have := ih (fun e' he' => hE e' (List.mem_cons_of_mem _ he')) (done ++ [e]) (advR cfg S e) ?_ t ht
    · simpa using this
    · intro x hx
      obtain ⟨s, hs, ls2, x', hex2, hv2, hn2⟩ := advR_sound hx
      obtain ⟨ls1, s', hex1, hv1, hn1⟩ := hS s hs
      obtain ⟨(x'' : State), hex3, hn3⟩ := exec_norm_eq (a := s) (a' := s') (by rw [← hn1]; exact norm_norm s') hex2
      have hex4 := exec_env_mono cfg [e] E (fun e' he' => List.mem_singleton.1 he' ▸ hE e List.mem_cons_self) hex3
      exact ⟨ls1 ++ ls2, x'', Exec.append hex1 hex4, by simp [hv1, hv2], hn3.trans hn2⟩

theorem afterR_sound (cfg : Cfg) (E : List Event) : ∀ (tr : List Event), (∀ e ∈ tr, e ∈ E ∨ isInv e = false) → ∀ t, afterR cfg tr t →
    ∃ (ls : List (Option Event)) (t' : State), Exec (sys { cfg with env := E }) (sys { cfg with env := E }).init ls t' ∧
      visible ls = tr ∧ norm t' = t := by
  intro tr hE t ht
  obtain ⟨ls, t', h1, h2, h3⟩ :=
    foldl_advR_sound cfg E tr hE [] (fun t => t = {}) (fun t ht => ⟨[], {}, Exec.nil _, rfl, by rw [ht]; rfl⟩) t ht
  exact ⟨ls, t', h1, by simpa using h2, h3⟩

end TypVerif.Lemmas.PubSubRed

namespace TypVerif.Lemmas.ConcAcceptC10
open TypVerif TypVerif.Conc TypVerif.Model.PubSub TypVerif.Drv.C10 TypVerif.Lemmas.PubSubRed

theorem advance_sound (cfg : Cfg) (ss : List State) (e : Event) :
    ∀ t ∈ advance cfg ss e, ∃ s ∈ ss, ∃ (ls : List (Option Event)) (t' : State),
      Exec (sys { cfg with env := [e] }) s ls t' ∧ visible ls = [e] ∧ norm t' = t :=
  fun t ht => advR_sound (advance_sub_advR cfg ss e t ht)

theorem mem_filter_isInv_or (tr : List Event) : ∀ e ∈ tr, e ∈ tr.filter isInv ∨ isInv e = false := by
  intro e he
  cases h : isInv e with
  | true => exact Or.inl (List.mem_filter.2 ⟨he, h⟩)
  | false => exact Or.inr rfl

end TypVerif.Lemmas.ConcAcceptC10

/- What the C10 judge (`Drv.C10.step`) does to its state set on an event line. -/
namespace TypVerif.Lemmas.ConcAcceptC10
open TypVerif TypVerif.Proto TypVerif.Model.PubSub TypVerif.Drv.C10

theorem parseEvent_ps (t d : Int) : parseEvent [.w "ps", .i t, .i d] = none := rfl

theorem parseEvent_live : parseEvent [.w "live"] = none := rfl

theorem rejected_ne_ok (x : String) : "rejected:" ++ x ≠ "ok" := by
  intro h
  have := congrArg String.length h
  simp [String.length_append] at this
  have h9 : "rejected:".length = 9 := by decide
  have h2 : "ok".length = 2 := by decide
  omega

/-- on a line that parses as the event `e`, while the judge has neither rejected nor given up (`skipped`), and does not give
up on this line, the new state set is `advance cfg ss e` (same `cfg`), and the line is rejected iff that set is empty -/
theorem step_event (j : J) (toks : List Val) (impl : String) (e : Event)
    (hp : parseEvent toks = some e) (hrej : j.rej = none) (hsk : j.skipped = false)
    (hsk' : (step j toks impl).1.skipped = false) :
    (step j toks impl).1.ss = advance j.cfg j.ss e ∧ (step j toks impl).1.cfg = j.cfg ∧
    ((step j toks impl).1.rej = none ↔ advance j.cfg j.ss e ≠ []) ∧
    ((step j toks impl).2.model = "ok" ↔ advance j.cfg j.ss e ≠ []) := by
  generalize hr : step j toks impl = r at hsk' ⊢
  unfold step at hr
  split at hr
  · rw [parseEvent_ps] at hp; cases hp
  · rw [parseEvent_live] at hp; cases hp
  · simp only [hp, hsk, hrej, Bool.false_eq_true, ↓reduceIte] at hr
    split at hr
    · subst hr; cases hsk'
    · split at hr
      · subst hr; cases hsk'
      · subst hr
        -- project the components out first: `rfl` on the unreduced pair unfolds `advance`
        dsimp only
        refine ⟨rfl, rfl, ?_, ?_⟩
        · cases advance j.cfg j.ss e <;> simp
        · cases advance j.cfg j.ss e with
          | nil => simpa using rejected_ne_ok _
          | cons => simp

end TypVerif.Lemmas.ConcAcceptC10
