import TypVerif.Lemmas.ListSeq
import TypVerif.Lemmas.ListSurgery
/-
`Sim h w`: the heap `h` is well-formed and represents the abstract world `w`.
This file: the definition, the initial state, and the frame shared by the three pointer surgeries
(`Sim.relink`, stated on the *views* of the new heap, independent of how it was computed).
-/
namespace TypVerif.Lemmas.LinkedList
open TypVerif.Spec.ListOp
open TypVerif.Spec.Seq
open TypVerif.Model
open TypVerif.Model.LinkedList

/-- list `l` of the heap spells `xs`: either it is still the zero value (and `xs` is empty) or following
`next` from `&l.root` visits exactly `xs` and returns to the root, `prev` being the inverse; `len` is the length -/
def Shape (h : Heap) (l : ListId) (xs : List ElemId) : Prop :=
  (h.next (.root l) = .null ∧ h.prev (.root l) = .null ∧ h.len l = 0 ∧ xs = [])
  ∨ (Linked h.next h.prev (cyc l xs) ∧ h.len l = xs.length)

structure Sim (h : Heap) (w : World) : Prop where
  nextId : h.nextElem = w.nextId
  value : ∀ e, h.value (.elem e) = w.value.get e
  /-- `e.list = l` exactly as the abstract owner says -/
  owner : ∀ e, h.listOf (.elem e) = w.owner.get e
  /-- `e.list = l ↔ e ∈ lists l` (hence lists are pairwise disjoint) -/
  mem : ∀ e l, w.owner.get e = some l ↔ e ∈ w.lists.get l
  nodup : ∀ l, (w.lists.get l).Nodup
  fresh : ∀ e, w.nextId ≤ e → w.owner.get e = none
  /-- removed (and never inserted) elements have nil links -/
  detached : ∀ e, w.owner.get e = none → h.next (.elem e) = .null ∧ h.prev (.elem e) = .null
  shape : ∀ l, Shape h l (w.lists.get l)

theorem Sim.init : Sim Heap.empty World.empty := by
  refine ⟨rfl, ?_, ?_, ?_, ?_, ?_, ?_, ?_⟩
  · intro e; simp [World.empty]
  · intro e; simp [World.empty]; rfl
  · intro e l
    show (Store.empty : Store (Option ListId)).get e = some l ↔ e ∈ (Store.empty : Store (List ElemId)).get l
    rw [Store.get_empty, Store.get_empty]
    show (none : Option ListId) = some l ↔ e ∈ ([] : List ElemId)
    simp
  · intro l
    show ((Store.empty : Store (List ElemId)).get l).Nodup
    rw [Store.get_empty]; exact List.nodup_nil
  · intro e _; simp [World.empty]; rfl
  · intro e _; simp
  · intro l; left; simp [World.empty]; rfl

theorem Shape.frame {h g : Heap} {l : ListId} {xs : List ElemId} (hsh : Shape h l xs)
    (hnx : ∀ p ∈ (cyc l xs).dropLast, g.next p = h.next p)
    (hpv : ∀ p ∈ (cyc l xs).tail, g.prev p = h.prev p)
    (hlen : g.len l = h.len l) : Shape g l xs := by
  rcases hsh with ⟨h1, h2, h3, h4⟩ | ⟨h1, h2⟩
  · left
    refine ⟨?_, ?_, ?_, h4⟩
    · rw [hnx _ (by rw [cyc_dropLast]; simp)]; exact h1
    · rw [hpv _ (by rw [cyc_tail]; simp)]; exact h2
    · rw [hlen]; exact h3
  · right
    exact ⟨Linked.frame h1 hnx hpv, by rw [hlen]; exact h2⟩

theorem elem_mem_cyc {l : ListId} {xs : List ElemId} {x : ElemId} : Ptr.elem x ∈ cyc l xs ↔ x ∈ xs := by
  rw [mem_cyc]
  constructor
  · rintro (h | ⟨y, hy, h⟩)
    · cases h
    · cases h; exact hy
  · intro h; exact Or.inr ⟨x, h, rfl⟩

theorem Sim.free_not_mem_cyc {h : Heap} {w : World} (hs : Sim h w) {id : ElemId}
    (hfree : w.owner.get id = none) (l : ListId) : Ptr.elem id ∉ cyc l (w.lists.get l) := by
  rw [elem_mem_cyc]
  intro hm
  have := (hs.mem id l).2 hm
  rw [hfree] at this; cases this

theorem Sim.cyc_disjoint {h : Heap} {w : World} (hs : Sim h w) {l l' : ListId} (hne : l' ≠ l) {p : Ptr}
    (hp : p ∈ cyc l' (w.lists.get l')) : p ∉ cyc l (w.lists.get l) := by
  intro hq
  rcases mem_cyc.1 hp with rfl | ⟨x, hx, rfl⟩
  · rcases mem_cyc.1 hq with h1 | ⟨y, _, h1⟩
    · cases h1; exact hne rfl
    · cases h1
  · have h2 := elem_mem_cyc.1 hq
    have o1 := (hs.mem x l').2 hx
    have o2 := (hs.mem x l).2 h2
    rw [o1] at o2; cases o2; exact hne rfl

/-- list `l` has been initialised (is not the lazily-initialised zero value any more): the right disjunct of `Shape` -/
def Inited (h : Heap) (w : World) (l : ListId) : Prop :=
  Linked h.next h.prev (cyc l (w.lists.get l)) ∧ h.len l = (w.lists.get l).length

theorem Sim.linked_of_mem {h : Heap} {w : World} (hs : Sim h w) {l : ListId} {x : ElemId}
    (hx : w.owner.get x = some l) : Inited h w l := by
  have hm := (hs.mem x l).1 hx
  rcases hs.shape l with ⟨_, _, _, h4⟩ | h2
  · rw [h4] at hm; simp at hm
  · exact h2

/-- the side conditions of `unlink_bind`/`remove_run`/`move_run` for an owned element: both neighbours lie on the cycle
(so are not null) and `prev ≠ e` -/
theorem Sim.owned {h : Heap} {w : World} (hs : Sim h w) {l : ListId} {e : ElemId} (hown : w.owner.get e = some l) :
    h.prev (.elem e) ∈ cyc l (w.lists.get l) ∧ h.next (.elem e) ∈ cyc l (w.lists.get l) ∧
      h.prev (.elem e) ≠ .elem e := by
  obtain ⟨hlk, _⟩ := hs.linked_of_mem hown
  have hex : e ∈ w.lists.get l := (hs.mem e l).1 hown
  have hed : Ptr.elem e ∈ (cyc l (w.lists.get l)).dropLast := mem_cyc_dropLast.2 (Or.inr ⟨e, hex, rfl⟩)
  have het : Ptr.elem e ∈ (cyc l (w.lists.get l)).tail :=
    List.mem_append_left _ (List.mem_map.2 ⟨e, hex, rfl⟩)
  refine ⟨List.dropLast_subset _ (Linked.prev_mem hlk het), List.mem_of_mem_tail (Linked.next_mem hlk hed), ?_⟩
  -- otherwise `e` would follow itself in a duplicate-free cycle
  intro hh
  obtain ⟨A, B, hAB, hA, hB⟩ := nodup_split (hs.nodup l) hex
  have h2 := Linked.next_elem_cyc hlk hex
  rw [← hh, Linked.next_prev hlk het, hAB, succOf_append hA] at h2
  cases B with
  | nil => cases h2
  | cons b B => exact hB (Ptr.elem.inj h2 ▸ List.mem_cons_self)

theorem cyc_erase_subset {l : ListId} {xs : List ElemId} {e : ElemId} {p : Ptr}
    (hp : p ∈ cyc l (xs.erase e)) : p ∈ cyc l xs := by
  rcases mem_cyc.1 hp with h | ⟨x, hx, h⟩
  · exact mem_cyc.2 (Or.inl h)
  · exact mem_cyc.2 (Or.inr ⟨x, List.mem_of_mem_erase hx, h⟩)

/-- unlinking `e` leaves a heap that spells `xs.erase e` (the links of `e` itself are stale) -/
theorem Sim.unlink_linked {h : Heap} {w : World} (hs : Sim h w) {l : ListId} {e : ElemId}
    (hown : w.owner.get e = some l) {nx1 pv1 : Ptr → Ptr}
    (h1 : ∀ x, nx1 x = if x = h.prev (.elem e) then h.next (.elem e) else h.next x)
    (h2 : ∀ x, pv1 x = if x = h.next (.elem e) then h.prev (.elem e) else h.prev x) :
    Linked nx1 pv1 (cyc l ((w.lists.get l).erase e)) := by
  have hnd := hs.nodup l
  have hex : e ∈ w.lists.get l := (hs.mem e l).1 hown
  have hd : Ptr.elem e ∈ ((w.lists.get l).map Ptr.elem ++ [Ptr.root l]).dropLast := by
    rw [List.dropLast_concat]; exact List.mem_map.2 ⟨e, hex, rfl⟩
  rw [cyc_erase]
  exact Linked.erase h1 h2 (hs.linked_of_mem hown).1 hd
    (cyc_dropLast_nodup (l := l) hnd) (cyc_tail_nodup (l := l) hnd)

/-- The frame shared by insertion, removal and move.  One list `l` is re-linked to spell `xs'` and one
element `e` (of `l`, or free) gets the owner `o'`; the new heap `g` differs from `h` only at the pointers of
`l` and at `e`.  What is specific to the surgery are the hypotheses about `xs'`: it is the old sequence without `e`, with `e` put
back somewhere when `e` is owned afterwards (`hperm`), and `g` links it (`hlk`).  `ho`, `ho'` are disjunctions
so that one statement serves all three: `e` goes from free to `l` (insert), from `l` to free (remove), or stays in
`l` (move); `hdet`, the cleared links of a freed element, speaks of removal only. -/
theorem Sim.relink {h g : Heap} {w : World} (hs : Sim h w) {l : ListId} {e : ElemId} {xs' : List ElemId}
    {o' : Option ListId} {own' : Store (Option ListId)} {val' : Store Int}
    (ho : w.owner.get e = none ∨ w.owner.get e = some l) (ho' : o' = none ∨ o' = some l) (hid : e < w.nextId)
    (hown : ∀ x, own'.get x = if x = e then o' else w.owner.get x)
    (hperm : xs'.Perm (if o' = some l then e :: (w.lists.get l).erase e else (w.lists.get l).erase e))
    (hlk : Linked g.next g.prev (cyc l xs')) (hlen : g.len l = xs'.length)
    (hdet : o' = none → g.next (.elem e) = .null ∧ g.prev (.elem e) = .null)
    (gnext : ∀ p, p ∉ cyc l (w.lists.get l) → p ≠ .elem e → g.next p = h.next p)
    (gprev : ∀ p, p ∉ cyc l (w.lists.get l) → p ≠ .elem e → g.prev p = h.prev p)
    (glen : ∀ l', l' ≠ l → g.len l' = h.len l') (gne : g.nextElem = h.nextElem)
    (glist : ∀ x, g.listOf (.elem x) = own'.get x) (gval : ∀ x, g.value (.elem x) = val'.get x) :
    Sim g { lists := w.lists.set l xs', owner := own', value := val', nextId := w.nextId } := by
  have he : ∀ l', l' ≠ l → e ∉ w.lists.get l' := by
    intro l' hl hm
    have h1 := (hs.mem e l').2 hm
    rcases ho with h0 | h0
    · rw [h0] at h1; cases h1
    · rw [h0] at h1; exact hl (Option.some.inj h1).symm
  have hee : e ∉ (w.lists.get l).erase e := fun hm => ((hs.nodup l).mem_erase_iff.1 hm).1 rfl
  refine ⟨gne.trans hs.nextId, gval, glist, ?_, ?_, ?_, ?_, ?_⟩
  · intro x l'
    show own'.get x = some l' ↔ x ∈ (w.lists.set l xs').get l'
    rw [hown, Store.get_set]
    by_cases hx : x = e
    · rw [if_pos hx, hx]
      by_cases hl : l' = l
      · rw [if_pos hl, hl, hperm.mem_iff]
        split
        · next h1 => exact iff_of_true h1 List.mem_cons_self
        · next h1 => exact iff_of_false h1 hee
      · rw [if_neg hl]
        refine ⟨fun h1 => ?_, fun hm => absurd hm (he l' hl)⟩
        rcases ho' with h0 | h0
        · rw [h0] at h1; cases h1
        · rw [h0] at h1; exact absurd (Option.some.inj h1).symm hl
    · rw [if_neg hx]
      by_cases hl : l' = l
      · rw [if_pos hl, hl, hperm.mem_iff, hs.mem x l]
        split
        · rw [List.mem_cons, List.mem_erase_of_ne hx]; exact (or_iff_right hx).symm
        · exact (List.mem_erase_of_ne hx).symm
      · rw [if_neg hl]; exact hs.mem x l'
  · intro l'
    show ((w.lists.set l xs').get l').Nodup
    rw [Store.get_set]
    split
    · rw [hperm.nodup_iff]
      split
      · exact List.nodup_cons.2 ⟨hee, (hs.nodup l).erase e⟩
      · exact (hs.nodup l).erase e
    · exact hs.nodup l'
  · intro x hx
    show own'.get x = none
    rw [hown, if_neg (Nat.ne_of_gt (Nat.lt_of_lt_of_le hid hx))]
    exact hs.fresh x hx
  · intro x hx
    have hx' : own'.get x = none := hx
    rw [hown] at hx'
    by_cases hxe : x = e
    · rw [if_pos hxe] at hx'; rw [hxe]; exact hdet hx'
    · rw [if_neg hxe] at hx'
      have hxc := hs.free_not_mem_cyc hx' l
      have hne : Ptr.elem x ≠ .elem e := fun hh => hxe (Ptr.elem.inj hh)
      rw [gnext _ hxc hne, gprev _ hxc hne]
      exact hs.detached x hx'
  · intro l'
    show Shape g l' ((w.lists.set l xs').get l')
    rw [Store.get_set]
    by_cases hl : l' = l
    · rw [if_pos hl, hl]; exact Or.inr ⟨hlk, hlen⟩
    · rw [if_neg hl]
      have out : ∀ p ∈ cyc l' (w.lists.get l'), p ∉ cyc l (w.lists.get l) ∧ p ≠ .elem e := fun p hp =>
        ⟨hs.cyc_disjoint hl hp, fun hh => he l' hl (elem_mem_cyc.1 (hh ▸ hp))⟩
      exact Shape.frame (hs.shape l')
        (fun p hp => gnext p (out p (List.dropLast_subset _ hp)).1 (out p (List.dropLast_subset _ hp)).2)
        (fun p hp => gprev p (out p (List.mem_of_mem_tail hp)).1 (out p (List.mem_of_mem_tail hp)).2)
        (glen l' hl)

end TypVerif.Lemmas.LinkedList
