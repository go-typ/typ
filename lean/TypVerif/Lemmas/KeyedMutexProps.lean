import TypVerif.Lemmas.KeyedMutexInv
/-
Consequences of the invariant `Good` (exclusion) and the step-local facts
(independence of keys, Try* never block) for the KeyedMutex system.
-/
namespace TypVerif.Lemmas.KeyedMutex
open TypVerif TypVerif.Conc TypVerif.Model.KeyedMutex

theorem mutex_of_good {s : State} (hg : Good s) {t₁ t₂ k : Nat} (h₁ : s.holdsW t₁ k) (h₂ : s.holdsW t₂ k) :
    t₁ = t₂ := by
  obtain ⟨m₁, a₁, b₁⟩ := hg.whOk _ _ h₁
  obtain ⟨m₂, a₂, b₂⟩ := hg.whOk _ _ h₂
  rw [a₁] at a₂; cases a₂
  rw [b₁] at b₂; cases b₂; rfl

theorem rw_of_good {s : State} (hg : Good s) {t₁ t₂ k : Nat} (h₁ : s.holdsW t₁ k) (h₂ : s.holdsR t₂ k) : False := by
  obtain ⟨m₁, a₁, b₁⟩ := hg.whOk _ _ h₁
  obtain ⟨m₂, a₂, b₂⟩ := hg.rhOk _ _ h₂
  rw [a₁] at a₂; cases a₂
  have := hg.excl m₁ (by rw [b₁]; simp)
  rw [this] at b₂
  cases b₂

/-! ### independence of keys: enabledness is a function of the key's own mutex -/

theorem los_enabled (rw g : Bool) (ops : List Op) {s : State} {t : Nat} {kd : Kind} {k : Nat}
    (hpc : s.pc t = .los kd k) (hkd : kd ≠ .clear) : enabled rw g ops s t := by
  unfold enabled
  rw [stepT_los hpc]
  simp only [losStep, if_neg hkd]
  split <;> simp

theorem ret_enabled (rw g : Bool) (ops : List Op) {s : State} {t : Nat} {r : Res}
    (hpc : s.pc t = .ret r) : enabled rw g ops s t := by
  unfold enabled
  rw [stepT_ret hpc]
  simp

theorem enabled_iff_mu (rw g : Bool) (ops : List Op) {s : State} {t k m : Nat}
    (hloc : loc (s.pc t) = some (k, m)) :
    enabled rw g ops s t ↔ muEnabled rw (s.pc t) (s.mu m) = true := by
  -- the three shapes of `stepT` at a program counter inside a call: one step, one of two steps, a guarded step.
  -- In each case below `stepT … ≠ []` and `muEnabled …` reduce (by unfolding alone) to the two sides of one of these:
  -- `true` where the pc never blocks, `decide c` where `c` is the guard of the step.
  have one : ∀ {a : Option Event × State}, [a] ≠ [] ↔ true = true := ⟨fun _ => rfl, fun _ => List.cons_ne_nil _ _⟩
  have two : ∀ {c : Prop} [Decidable c] {a b : Option Event × State}, (if c then [a] else [b]) ≠ [] ↔ true = true := by
    intro c _ a b
    by_cases h : c
    · rw [if_pos h]; exact one
    · rw [if_neg h]; exact one
  have guarded : ∀ {c : Prop} [Decidable c] {a : Option Event × State},
      (if c then [a] else []) ≠ [] ↔ decide c = true := by
    intro c _ a
    by_cases h : c
    · rw [if_pos h, decide_eq_true h]; exact one
    · rw [if_neg h, decide_eq_false h]; exact ⟨fun h => absurd rfl h, fun h => by cases h⟩
  unfold enabled
  cases hp : s.pc t with
  | idle => rw [hp] at hloc; cases hloc
  | los kd k' => rw [hp] at hloc; cases hloc
  | ret r => rw [hp] at hloc; cases hloc
  | wait k' m' => rw [hp] at hloc; cases hloc; rw [stepT_wait hp]; exact guarded
  | ann k' m' => rw [stepT_ann hp]; exact one
  | rel k' m' => rw [stepT_rel hp]; exact one
  | act kd k' m' =>
    rw [hp] at hloc; cases hloc
    rw [stepT_act hp]
    cases kd with
    | lock =>
      cases rw
      · exact guarded
      · exact one
    | trylock => exact two
    | unlock => exact two
    | rlock => exact guarded
    | tryrlock => exact two
    | runlock => exact one
    | clear => exact ⟨fun h => absurd rfl h, fun h => by cases h⟩

theorem independent_step (rw g : Bool) (ops : List Op) {s₁ s₂ : State} {t k m : Nat}
    (hpc : s₁.pc t = s₂.pc t) (hloc : loc (s₁.pc t) = some (k, m)) (hmu : s₁.mu m = s₂.mu m) :
    (enabled rw g ops s₁ t ↔ enabled rw g ops s₂ t) := by
  rw [enabled_iff_mu rw g ops hloc, enabled_iff_mu rw g ops (hpc ▸ hloc), hpc, hmu]

/-- a free, uncontended mutex never blocks its caller at the mutex action (whatever the rest of the state) -/
theorem free_enabled_act (rw g : Bool) (ops : List Op) {s : State} {t k m : Nat} {kd : Kind}
    (hpc : s.pc t = .act kd k m) (hkd : kd ≠ .clear)
    (hfree : Mu.isFree (s.mu m)) : enabled rw g ops s t := by
  obtain ⟨h1, h2, h3⟩ := hfree
  rw [enabled_iff_mu rw g ops (k := k) (m := m) (by rw [hpc]; rfl), hpc]
  cases kd with
  | lock => exact Bool.or_eq_true_iff.mpr (.inr (decide_eq_true ⟨h1, h2⟩))
  | rlock => exact decide_eq_true ⟨h1, h3.1⟩
  | clear => exact absurd rfl hkd
  | _ => rfl

/-- a free, uncontended mutex never blocks a writer that waits for the readers to leave -/
theorem free_enabled_wait (rw g : Bool) (ops : List Op) {s : State} {t k m : Nat}
    (hpc : s.pc t = .wait k m) (hfree : Mu.isFree (s.mu m)) : enabled rw g ops s t := by
  rw [enabled_iff_mu rw g ops (k := k) (m := m) (by rw [hpc]; rfl), hpc]
  exact decide_eq_true ⟨hfree.1, hfree.2.1⟩

theorem release_enabled (rw g : Bool) (ops : List Op) {s : State} {t k m : Nat} {kd : Kind}
    (hpc : s.pc t = .act kd k m) (hkd : kd = .unlock ∨ kd = .runlock) : enabled rw g ops s t := by
  rw [enabled_iff_mu rw g ops (k := k) (m := m) (by rw [hpc]; rfl), hpc]
  rcases hkd with rfl | rfl <;> simp [muEnabled]

/-- the entry/exit sections of RWMutex.Lock/Unlock never block -/
theorem queue_enabled (rw g : Bool) (ops : List Op) {s : State} {t k m : Nat}
    (hpc : s.pc t = .ann k m ∨ s.pc t = .rel k m) : enabled rw g ops s t := by
  unfold enabled
  rcases hpc with hpc | hpc
  · rw [stepT_ann hpc]; exact List.cons_ne_nil _ _
  · rw [stepT_rel hpc]; exact List.cons_ne_nil _ _

theorem trylock_step (rw g : Bool) (ops : List Op) {s : State} {t k m : Nat}
    (hpc : s.pc t = .act .trylock k m) :
    stepT rw g ops s t =
      if Mu.isFree (s.mu m) then [(none, acqW s t k m .tt)] else [(none, s.setPc t (.ret .ff))] := by
  rw [stepT_act hpc]
  simp only [actStep, Mu.isFree]

theorem tryrlock_step (rw g : Bool) (ops : List Op) {s : State} {t k m : Nat}
    (hpc : s.pc t = .act .tryrlock k m) :
    stepT rw g ops s t =
      if Mu.readable (s.mu m) then [(none, acqR s t k m .tt)] else [(none, s.setPc t (.ret .ff))] := by
  rw [stepT_act hpc]
  simp only [actStep, Mu.readable]

theorem lt_of_pc_ne_idle {s : State} {t : Nat} (h : s.pc t ≠ .idle) : t < s.pcs.length :=
  Nat.lt_of_not_le fun hn => h (getD_of_le _ hn)

theorem acqW_holds {s : State} (hg : Good s) {t k m : Nat} (r : Res) (ht : t < s.pcs.length)
    (hk : Model.KeyedMutex.get s.map k = some m) :
    (acqW s t k m r).pc t = .ret r ∧ (acqW s t k m r).holdsW t k ∧ ((acqW s t k m r).mu m).writer = some t := by
  have hm := hg.mapLt _ _ hk
  unfold acqW State.holdsW
  refine ⟨pc_set_self ht rfl, List.mem_cons_self, ?_⟩
  rw [mu_mk_set _ _ _ _ hm, if_pos rfl]

theorem acqR_holds {s : State} (hg : Good s) {t k m : Nat} (r : Res) (ht : t < s.pcs.length)
    (hk : Model.KeyedMutex.get s.map k = some m) :
    (acqR s t k m r).pc t = .ret r ∧ (acqR s t k m r).holdsR t k ∧ t ∈ ((acqR s t k m r).mu m).readers := by
  have hm := hg.mapLt _ _ hk
  unfold acqR State.holdsR
  refine ⟨pc_set_self ht rfl, List.mem_cons_self, ?_⟩
  rw [mu_mk_set _ _ _ _ hm, if_pos rfl]
  exact List.mem_cons_self

/-- a Try step: decided by a condition `c`, to the acquisition `a` (of which `P` holds) or to `.ret .ff` with nothing else changed -/
theorem try_outcome {rw g : Bool} {ops : List Op} {s a : State} {t : Nat} {c : Prop} [Decidable c] {P : State → Prop}
    (ht : t < s.pcs.length) (hstep : stepT rw g ops s t = if c then [(none, a)] else [(none, s.setPc t (.ret .ff))])
    (ha : P a) :
    enabled rw g ops s t ∧ ∀ l s', (l, s') ∈ stepT rw g ops s t → l = none ∧ (c → P s') ∧
      (¬ c → s'.pc t = .ret .ff ∧ s'.wh = s.wh ∧ s'.rh = s.rh ∧ s'.heap = s.heap ∧ s'.map = s.map) := by
  rw [enabled, hstep]
  by_cases hc : c
  · rw [if_pos hc]
    refine ⟨List.cons_ne_nil _ _, fun l s' hmem => ?_⟩
    cases List.mem_singleton.mp hmem
    exact ⟨rfl, fun _ => ha, fun h => absurd hc h⟩
  · rw [if_neg hc]
    refine ⟨List.cons_ne_nil _ _, fun l s' hmem => ?_⟩
    cases List.mem_singleton.mp hmem
    exact ⟨rfl, fun h => absurd h hc, fun _ => ⟨pc_set_self ht rfl, rfl, rfl, rfl, rfl⟩⟩

/-- TryLockKey: the step exists, is unique, and its outcome is decided by the key's own mutex -/
theorem trylock_of_good (rw g : Bool) (ops : List Op) {s : State} (hg : Good s) {t k m : Nat}
    (hpc : s.pc t = .act .trylock k m) :
    enabled rw g ops s t ∧
    ∀ l s', (l, s') ∈ stepT rw g ops s t →
      l = none ∧
      (Mu.isFree (s.mu m) → s'.pc t = .ret .tt ∧ s'.holdsW t k ∧ (s'.mu m).writer = some t) ∧
      (¬ Mu.isFree (s.mu m) → s'.pc t = .ret .ff ∧ s'.wh = s.wh ∧ s'.rh = s.rh ∧ s'.heap = s.heap ∧ s'.map = s.map) :=
  have ht : t < s.pcs.length := lt_of_pc_ne_idle (by rw [hpc]; nofun)
  try_outcome ht (trylock_step rw g ops hpc) (acqW_holds hg .tt ht (act_ok (hg.thread t) hpc).1)

theorem tryrlock_of_good (rw g : Bool) (ops : List Op) {s : State} (hg : Good s) {t k m : Nat}
    (hpc : s.pc t = .act .tryrlock k m) :
    enabled rw g ops s t ∧
    ∀ l s', (l, s') ∈ stepT rw g ops s t →
      l = none ∧
      (Mu.readable (s.mu m) → s'.pc t = .ret .tt ∧ s'.holdsR t k ∧ t ∈ (s'.mu m).readers) ∧
      (¬ Mu.readable (s.mu m) → s'.pc t = .ret .ff ∧ s'.wh = s.wh ∧ s'.rh = s.rh ∧ s'.heap = s.heap ∧ s'.map = s.map) :=
  have ht : t < s.pcs.length := lt_of_pc_ne_idle (by rw [hpc]; nofun)
  try_outcome ht (tryrlock_step rw g ops hpc) (acqR_holds hg .tt ht (act_ok (hg.thread t) hpc).1)

theorem not_free_of_held {s : State} (hg : Good s) {k m t' : Nat} (hk : Model.KeyedMutex.get s.map k = some m)
    (h : s.holdsW t' k ∨ s.holdsR t' k) : ¬ Mu.isFree (s.mu m) := by
  intro hf
  rcases h with h | h
  · cases hf.1.symm.trans (hg.writer_at hk h)
  · have := hg.reader_at hk h
    rw [hf.2.1] at this; cases this

theorem not_readable_of_held {s : State} (hg : Good s) {k m t' : Nat} (hk : Model.KeyedMutex.get s.map k = some m)
    (h : s.holdsW t' k) : ¬ Mu.readable (s.mu m) :=
  fun hf => nomatch hf.1.symm.trans (hg.writer_at hk h)

/-- follow the successor with the given index at every step -/
def exec (rw g : Bool) (ops : List Op) : List Nat → State → State
  | [], s => s
  | c :: cs, s =>
    match (succ rw g ops s)[c]? with
    | some p => exec rw g ops cs p.2
    | none => s

/-- `exec` stays inside the reachable states, with (`g = true`: `sys`) or without (`g = false`: `sysRaw`) the `ClearKey` proviso -/
theorem reachable_exec_of (rw g : Bool) (n : Nat) (ops : List Op) (cs : List Nat) :
    ∀ s, Reachable { State := State, Event := Event, init := init n, succ := succ rw g ops } s →
      Reachable { State := State, Event := Event, init := init n, succ := succ rw g ops } (exec rw g ops cs s) := by
  induction cs with
  | nil => intro s h; exact h
  | cons c cs ih =>
    intro s h
    simp only [exec]
    split
    · next p hp => exact ih _ (Reachable.step (l := p.1) h (List.mem_of_getElem? hp))
    · exact h

theorem reachable_exec (rw : Bool) (n : Nat) (ops : List Op) (cs : List Nat) :
    ∀ s, Reachable (sys rw n ops) s → Reachable (sys rw n ops) (exec rw true ops cs s) :=
  reachable_exec_of rw true n ops cs

theorem reachable_exec_raw (rw : Bool) (n : Nat) (ops : List Op) (cs : List Nat) :
    ∀ s, Reachable (sysRaw rw n ops) s → Reachable (sysRaw rw n ops) (exec rw false ops cs s) :=
  reachable_exec_of rw false n ops cs

end TypVerif.Lemmas.KeyedMutex
