import TypVerif.Lemmas.ListOps
/-
The moves and the counted loops.  A move is unlink then link: `Sim.unlink_linked`, then `Linked.insP` on the list without
the element (`move_sim`).  The loops of PushBackList / PushFrontList are inductions in which the source `o` may be the
receiver `l` and then grows under the loop.
-/
namespace TypVerif.Lemmas.LinkedList
open TypVerif.Spec.ListOp
open TypVerif.Spec.Seq
open TypVerif.Model
open TypVerif.Model.LinkedList

def AgreeP {α : Type} (r : Result α) (w' : World) : Prop := ∃ h', r = .panic "nilfunc" h' ∧ Sim h' w'

theorem Sim.setOrder_same {h : Heap} {w : World} (hs : Sim h w) {l : ListId} {xs : List ElemId}
    (hxs : xs = w.lists.get l) : Sim h (w.setOrder l xs) := by
  apply hs.congr
  · intro l'
    show (w.lists.set l xs).get l' = _
    rw [Store.get_set]; split
    · next hl => rw [hl, hxs]
    · rfl
  · intro e; rfl
  · intro e; rfl
  · rfl

theorem move_sim {h : Heap} {w : World} (hs : Sim h w) {l : ListId} {e : ElemId} {at' : Ptr}
    (hown : w.owner.get e = some l) (hne : at' ≠ .elem e)
    (hat : at' ∈ (cyc l ((w.lists.get l).erase e)).dropLast) :
    Agree (move l e at' h) (w.setOrder l (insAfter at' e ((w.lists.get l).erase e))) () := by
  have hnd := hs.nodup l
  obtain ⟨hlk, hlen⟩ := hs.linked_of_mem hown
  have hex : e ∈ w.lists.get l := (hs.mem e l).1 hown
  have hndy : ((w.lists.get l).erase e).Nodup := hnd.erase e
  have hey : e ∉ (w.lists.get l).erase e := fun hm => (hnd.mem_erase_iff.1 hm).1 rfl
  obtain ⟨hpc, hnc, hpe⟩ := hs.owned hown
  have hp0 := mem_cyc_ne_null hpc
  have hn0 := mem_cyc_ne_null hnc
  have key : Linked (unlinkH h e).next (unlinkH h e).prev (cyc l ((w.lists.get l).erase e)) :=
    hs.unlink_linked hown (next_unlinkH h e hp0) (prev_unlinkH h e hn0)
  have hatc : at' ∈ cyc l (w.lists.get l) := cyc_erase_subset (List.dropLast_subset _ hat)
  have hat0 : at' ≠ .null := mem_cyc_ne_null hatc
  have hn1c : (unlinkH h e).next at' ∈ cyc l (w.lists.get l) :=
    cyc_erase_subset (List.mem_of_mem_tail (Linked.next_mem key hat))
  have hn2 : (unlinkH h e).next at' ≠ .null := mem_cyc_ne_null hn1c
  refine ⟨moveH h e at', move_run h l e hne hp0 hn0 hpe hat0 hn2, ?_⟩
  apply hs.relink (Or.inr hown) (Or.inr rfl) (Nat.lt_of_not_le fun hle => nomatch (hs.fresh e hle).symm.trans hown)
  · intro x
    split
    · next hx => rw [hx, hown]
    · rfl
  · rw [if_pos rfl]
    exact insAfter_perm e hndy hat
  · rw [← insP_cyc e (List.dropLast_subset _ hat)]
    exact Linked.insP (next_linkH _ _ hat0) (prev_linkH _ _ _ hn2) key hat (cyc_dropLast_nodup hndy)
      (cyc_tail_nodup hndy) (fun hh => hey (elem_mem_cyc.1 hh))
  · simp only [moveH, len_linkH, len_unlinkH, hlen, (insAfter_perm e hndy hat).length_eq, List.length_cons, length_erase_add_one hex]
  · intro h0; cases h0
  · intro p hp hpe'
    have a1 : p ≠ at' := fun hh => hp (hh ▸ hatc)
    have a3 : p ≠ h.prev (.elem e) := fun hh => hp (hh ▸ hpc)
    show (linkH (unlinkH h e) e at').next p = _
    rw [next_linkH _ _ hat0, if_neg a1, if_neg hpe', next_unlinkH _ _ hp0, if_neg a3]
  · intro p hp hpe'
    have a4 : p ≠ h.next (.elem e) := fun hh => hp (hh ▸ hnc)
    have a5 : p ≠ (unlinkH h e).next at' := fun hh => hp (hh ▸ hn1c)
    show (linkH (unlinkH h e) e at').prev p = _
    rw [prev_linkH _ _ _ hn2, if_neg a5, if_neg hpe', prev_unlinkH _ _ hn0, if_neg a4]
  · intro l' _
    simp only [moveH, len_linkH, len_unlinkH]
  · simp [moveH]
  · intro x
    simp only [moveH, listOf_linkH, listOf_unlinkH, hs.owner]
  · intro x
    simp only [moveH, value_linkH, value_unlinkH, hs.value]

theorem getLast?_erase_ne {xs : List ElemId} {x y : ElemId} (h : xs.getLast? = some y) (hyx : y ≠ x) :
    (xs.erase x).getLast? = some y := by
  obtain ⟨A, rfl⟩ := List.getLast?_eq_some_iff.1 h
  by_cases hx : x ∈ A
  · rw [List.erase_append_left _ hx]; simp
  · rw [List.erase_append_right _ hx]
    have : [y].erase x = [y] := by
      rw [List.erase_cons]; simp [hyx]
    rw [this]; simp

theorem predOf_erase {xs : List ElemId} {m x : ElemId} (hnd : xs.Nodup) (hm : m ∈ xs)
    (hxm : x ≠ m) (hp : predOf m xs ≠ some x) : predOf m (xs.erase x) = predOf m xs := by
  obtain ⟨A, B, rfl, hA, hB⟩ := nodup_split hnd hm
  rw [predOf_split hB] at hp ⊢
  have hmx : m ≠ x := fun hh => hxm hh.symm
  by_cases hxA : x ∈ A
  · rw [List.erase_append_left _ hxA, predOf_split hB]
    cases hl : A.getLast? with
    | none =>
      have : A = [] := by simpa using hl
      subst this; simp at hxA
    | some y =>
      rw [hl] at hp
      have hyx : y ≠ x := fun hh => hp (by rw [hh])
      exact getLast?_erase_ne hl hyx
  · rw [List.erase_append_right _ hxA]
    have : (m :: B).erase x = m :: B.erase x := by
      rw [List.erase_cons]; simp [hmx]
    rw [this, predOf_split (fun hh => hB (List.mem_of_mem_erase hh))]

/-! ### the four public moves (receiver element non-nil) -/

theorem moveToFront_sim {h : Heap} {w : World} (hs : Sim h w) (l : ListId) (x : ElemId) :
    Agree (moveToFront l (.elem x) h) (Spec.Seq.step w (.moveToFront l (some x))).1 () := by
  unfold moveToFront
  simp only []
  rw [bind_ok (getList_ok _ (elem_ne_null x)), hs.owner]
  by_cases ho : w.owner.get x = some l
  · rw [if_neg (not_not_intro ho)]
    obtain ⟨hlk, _⟩ := hs.linked_of_mem ho
    rw [bind_ok (getNext_ok _ (root_ne_null l)), Linked.next_root hlk]
    simp only [Spec.Seq.step, if_pos ho]
    by_cases hhd : ptrOr l (w.lists.get l).head? = .elem x
    · rw [if_pos hhd]
      have : (w.lists.get l).head? = some x := by
        cases hq : (w.lists.get l).head? with
        | none => rw [hq] at hhd; simp [ptrOr] at hhd
        | some y => rw [hq] at hhd; simp only [ptrOr, Ptr.elem.injEq] at hhd; rw [hhd]
      exact ⟨h, rfl, hs.setOrder_same (move_front_noop this)⟩
    · rw [if_neg hhd]
      exact move_sim hs ho (root_ne_elem x l) (root_mem_dropLast l _)
  · rw [if_pos ho]
    simp only [Spec.Seq.step, if_neg ho]
    exact ⟨h, rfl, hs⟩

theorem moveToBack_sim {h : Heap} {w : World} (hs : Sim h w) (l : ListId) (x : ElemId) :
    Agree (moveToBack l (.elem x) h) (Spec.Seq.step w (.moveToBack l (some x))).1 () := by
  unfold moveToBack
  simp only []
  rw [bind_ok (getList_ok _ (elem_ne_null x)), hs.owner]
  by_cases ho : w.owner.get x = some l
  · rw [if_neg (not_not_intro ho)]
    obtain ⟨hlk, _⟩ := hs.linked_of_mem ho
    have hx := (hs.mem x l).1 ho
    have hnd := hs.nodup l
    rw [bind_ok (getPrev_ok _ (root_ne_null l)), Linked.prev_root hlk]
    simp only [Spec.Seq.step, if_pos ho]
    cases hq : (w.lists.get l).getLast? with
    | none =>
      have : w.lists.get l = [] := by simpa using hq
      rw [this] at hx; simp at hx
    | some y =>
      by_cases hyx : y = x
      · subst hyx
        rw [if_pos (show ptrOr l (some y) = Ptr.elem y from rfl)]
        exact ⟨h, rfl, hs.setOrder_same (move_back_noop hnd hq)⟩
      · have hne : ptrOr l (some y) ≠ .elem x := by simp [ptrOr, hyx]
        rw [if_neg hne, bind_ok (getPrev_ok _ (root_ne_null l)), Linked.prev_root hlk, hq]
        have hq' := getLast?_erase_ne hq hyx
        have hat : ptrOr l (some y) ∈ (cyc l ((w.lists.get l).erase x)).dropLast :=
          ptrOr_mem_dropLast (fun z hz => by cases hz; exact List.mem_of_getLast? hq')
        have := move_sim hs ho hne hat
        have e : insAfter (ptrOr l (some y)) x ((w.lists.get l).erase x) = (w.lists.get l).erase x ++ [x] := by
          rw [← hq']; exact insAfter_last _ (hnd.erase x)
        rw [e] at this
        exact this
  · rw [if_pos ho]
    simp only [Spec.Seq.step, if_neg ho]
    exact ⟨h, rfl, hs⟩

theorem toPtr_eq_elem {x : ElemId} {mark : Arg} : Ptr.elem x = mark.toPtr ↔ some x = mark := by
  cases mark with
  | none => simp [Arg.toPtr]
  | some m => simp [Arg.toPtr]

/-- MoveBefore and MoveAfter of the specification differ only in where `x` is put back (`ins`) -/
def moveRel (ins : ElemId → ElemId → List ElemId → List ElemId) (w : World) (l : ListId) (x : ElemId)
    (mark : Arg) : World × Res :=
  if w.owner.get x ≠ some l then (w, .unit)
  else if some x = mark then (w, .unit)
  else match mark with
    | none => (w, .panic "nilfunc")
    | some m =>
      if w.owner.get m = some l then (w.setOrder l (ins m x ((w.lists.get l).erase x)), .unit)
      else (w, .unit)

theorem step_moveAfter (w : World) (l : ListId) (x : ElemId) (mark : Arg) :
    Spec.Seq.step w (.moveAfter l (some x) mark) = moveRel insertAfterL w l x mark := by
  cases mark <;> rfl

theorem step_moveBefore (w : World) (l : ListId) (x : ElemId) (mark : Arg) :
    Spec.Seq.step w (.moveBefore l (some x) mark) = moveRel insertBeforeL w l x mark := by
  cases mark <;> rfl

/-- the guards shared by MoveBefore and MoveAfter (`e.list != l || e == mark || mark.list != l`), then `body` -/
def moveGuard (l : ListId) (x : ElemId) (mark : Ptr) (body : M Unit) : M Unit := do
  let o ← getList (.elem x)
  if o ≠ some l then return () else
  if Ptr.elem x = mark then return () else
  let om ← getList mark
  if om ≠ some l then return () else
  body

/-- `moveGuard` is the text of the model's `moveAfter` / `moveBefore` up to the last guard -/
theorem moveAfter_eq (l : ListId) (x : ElemId) (mark : Ptr) :
    moveAfter l (.elem x) mark = moveGuard l x mark (move l x mark) := rfl

theorem moveBefore_eq (l : ListId) (x : ElemId) (mark : Ptr) :
    moveBefore l (.elem x) mark = moveGuard l x mark (do let p ← getPrev mark; move l x p) := rfl

/-- the guards of the model and of the specification agree case by case; what is done to an element `m` of
the list that is not `x` is left to `hbody` -/
theorem moveGuard_sim {ins : ElemId → ElemId → List ElemId → List ElemId} {body : Ptr → M Unit}
    {h : Heap} {w : World} (hs : Sim h w) (l : ListId) (x : ElemId) (mark : Arg)
    (hbody : ∀ m, x ≠ m → w.owner.get x = some l → w.owner.get m = some l →
      Agree (body (.elem m) h) (w.setOrder l (ins m x ((w.lists.get l).erase x))) ()) :
    (moveRel ins w l x mark).2 = .unit ∧
      Agree (moveGuard l x mark.toPtr (body mark.toPtr) h) (moveRel ins w l x mark).1 ()
    ∨ (moveRel ins w l x mark).2 = .panic "nilfunc" ∧
      AgreeP (moveGuard l x mark.toPtr (body mark.toPtr) h) (moveRel ins w l x mark).1 := by
  unfold moveGuard moveRel
  rw [bind_ok (getList_ok _ (elem_ne_null x)), hs.owner]
  by_cases ho : w.owner.get x = some l
  · rw [if_neg (not_not_intro ho), if_neg (not_not_intro ho)]
    by_cases hxm : some x = mark
    · rw [if_pos (toPtr_eq_elem.2 hxm), if_pos hxm]
      exact Or.inl ⟨rfl, h, rfl, hs⟩
    · rw [if_neg (fun hh => hxm (toPtr_eq_elem.1 hh)), if_neg hxm]
      cases mark with
      | none => exact Or.inr ⟨rfl, h, rfl, hs⟩
      | some m =>
        left
        simp only [Arg.toPtr]
        rw [bind_ok (getList_ok _ (elem_ne_null m)), hs.owner]
        by_cases hom : w.owner.get m = some l
        · rw [if_neg (not_not_intro hom), if_pos hom]
          exact ⟨rfl, hbody m (fun hh => hxm (by rw [hh])) ho hom⟩
        · rw [if_pos hom, if_neg hom]
          exact ⟨rfl, h, rfl, hs⟩
  · rw [if_pos ho, if_pos ho]
    exact Or.inl ⟨rfl, h, rfl, hs⟩

/-- MoveAfter with a non-nil receiver element: either agrees, or panics on a nil mark exactly when the
specification does -/
theorem moveAfter_sim {h : Heap} {w : World} (hs : Sim h w) (l : ListId) (x : ElemId) (mark : Arg) :
    (Spec.Seq.step w (.moveAfter l (some x) mark)).2 = .unit ∧
      Agree (moveAfter l (.elem x) mark.toPtr h) (Spec.Seq.step w (.moveAfter l (some x) mark)).1 ()
    ∨ (Spec.Seq.step w (.moveAfter l (some x) mark)).2 = .panic "nilfunc" ∧
      AgreeP (moveAfter l (.elem x) mark.toPtr h) (Spec.Seq.step w (.moveAfter l (some x) mark)).1 := by
  rw [step_moveAfter, moveAfter_eq]
  refine moveGuard_sim (body := move l x) hs l x mark fun m hxm ho hom => ?_
  have hm' : m ∈ (w.lists.get l).erase x :=
    (hs.nodup l).mem_erase_iff.2 ⟨fun hh => hxm hh.symm, (hs.mem m l).1 hom⟩
  exact move_sim hs ho (fun hh => hxm (Ptr.elem.inj hh).symm)
    (mem_cyc_dropLast.2 (Or.inr ⟨m, hm', rfl⟩))

theorem moveBefore_sim {h : Heap} {w : World} (hs : Sim h w) (l : ListId) (x : ElemId) (mark : Arg) :
    (Spec.Seq.step w (.moveBefore l (some x) mark)).2 = .unit ∧
      Agree (moveBefore l (.elem x) mark.toPtr h) (Spec.Seq.step w (.moveBefore l (some x) mark)).1 ()
    ∨ (Spec.Seq.step w (.moveBefore l (some x) mark)).2 = .panic "nilfunc" ∧
      AgreeP (moveBefore l (.elem x) mark.toPtr h) (Spec.Seq.step w (.moveBefore l (some x) mark)).1 := by
  rw [step_moveBefore, moveBefore_eq]
  refine moveGuard_sim (body := fun mk => do let p ← getPrev mk; move l x p) hs l x mark
    fun m hxm' ho hom => ?_
  have hnd := hs.nodup l
  obtain ⟨hlk, _⟩ := hs.linked_of_mem ho
  have hm := (hs.mem m l).1 hom
  have hm' : m ∈ (w.lists.get l).erase x := hnd.mem_erase_iff.2 ⟨fun hh => hxm' hh.symm, hm⟩
  rw [bind_ok (getPrev_ok _ (elem_ne_null m)), Linked.prev_elem_cyc hlk hm]
  by_cases hp : predOf m (w.lists.get l) = some x
  · rw [hp]
    show Agree (move l x (.elem x) h) _ ()
    rw [move_same]
    exact ⟨h, rfl, hs.setOrder_same (move_before_noop hnd hp)⟩
  · have hpe := predOf_erase hnd hm hxm' hp
    have hne : ptrOr l (predOf m (w.lists.get l)) ≠ .elem x := by
      cases hq : predOf m (w.lists.get l) with
      | none => exact root_ne_elem x l
      | some y => exact fun hh => hp (hq.trans (congrArg some (Ptr.elem.inj hh)))
    have hat : ptrOr l (predOf m (w.lists.get l)) ∈ (cyc l ((w.lists.get l).erase x)).dropLast := by
      rw [← hpe]
      exact ptrOr_mem_dropLast (fun z hz => predOf_mem hz)
    have e : insAfter (ptrOr l (predOf m (w.lists.get l))) x ((w.lists.get l).erase x)
        = insertBeforeL m x ((w.lists.get l).erase x) := by
      rw [← hpe]; exact insAfter_pred _ (hnd.erase x) hm'
    exact e ▸ move_sim hs ho hne hat

/-! ### the counted loops of PushBackList / PushFrontList (including `other == l`) -/

theorem Sim.inited_of_nonempty {h : Heap} {w : World} (hs : Sim h w) {l : ListId} {x : ElemId}
    (hx : x ∈ w.lists.get l) : Inited h w l :=
  hs.linked_of_mem ((hs.mem x l).2 hx)

theorem place_lists_get (w : World) (l : ListId) (e : ElemId) (v : Int) (xs : List ElemId) (o : ListId) :
    (w.place l e v xs).lists.get o = if o = l then xs else w.lists.get o := by
  show (w.lists.set l xs).get o = _
  rw [Store.get_set]

theorem place_owner_get (w : World) (l : ListId) (e : ElemId) (v : Int) (xs : List ElemId) (x : ElemId) :
    (w.place l e v xs).owner.get x = if x = e then some l else w.owner.get x := by
  show (w.owner.set e (some l)).get x = _
  rw [Store.get_set]

/-- the neighbours of `x` as the specification gives them, read off a list of the world split at `x` -/
theorem spec_split {h : Heap} {w : World} (hs : Sim h w) {o : ListId} {x : ElemId} {pre rest : List ElemId}
    (hl : w.lists.get o = pre ++ x :: rest) :
    specPrev w x = optPtr pre.getLast? ∧ specNext w x = optPtr rest.head? := by
  have ho := (hs.mem x o).2 (by rw [hl]; simp)
  obtain ⟨hpre, hrest⟩ := nodup_middle (hl ▸ hs.nodup o)
  unfold specPrev specNext
  rw [ho]; simp only []
  rw [hl, succOf_append hpre, predOf_split hrest]
  exact ⟨rfl, rfl⟩

-- stated over `Nat`: `omega` fails on the same goals typed `ElemId`
private theorem nat_aux1 (a j : Nat) : a + 1 + j = a + (j + 1) := by omega
private theorem nat_aux2 (a j : Nat) : a + (j + 1) ≠ a := by omega
private theorem nat_aux3 (a j k : Nat) (h : j < k) : a + j ≠ a + k := by omega

/-! ### PushBackList -/

/-- `pre` and `post` are quantified inside the induction: when `o = l` the list being copied grows under the loop,
so what surrounds the part `rem` still to be copied changes with every iteration.  The number of iterations does
not: it is `rem.length`, taken before the first one. -/
theorem pushBackLoop_sim (l o : ListId) : ∀ (rem : List ElemId) {h : Heap} {w : World} {id : ElemId} {e : Ptr}
    {pre post : List ElemId}, Sim h w → Inited h w l → w.lists.get o = pre ++ rem ++ post →
    (rem ≠ [] → e = optPtr rem.head?) →
    (∀ j, j < rem.length → w.owner.get (id + j) = none ∧ id + j < w.nextId) →
    Agree (pushBackLoop l rem.length id e h) (pushBackAll l id rem w) () := by
  intro rem
  induction rem with
  | nil => intro h w _ _ _ _ hs _ _ _ _; exact ⟨h, rfl, hs⟩
  | cons x rem ih =>
    intro h w id e pre post hs hin hl he hfree
    have he' : e = .elem x := he (by simp)
    subst he'
    have hid := hfree 0 (by simp)
    simp only [Nat.add_zero] at hid
    show Agree (pushBackLoop l (rem.length + 1) id (.elem x) h) _ ()
    unfold pushBackLoop pushBackAll
    rw [bind_ok (getValue_ok _ (elem_ne_null x)), bind_ok (getPrev_ok _ (root_ne_null l)),
      Linked.prev_root hin.1, hs.value]
    have hat : ptrOr l (w.lists.get l).getLast? ∈ (cyc l (w.lists.get l)).dropLast :=
      ptrOr_mem_dropLast (fun z hz => List.mem_of_getLast? hz)
    obtain ⟨h1, hr1, hs1⟩ := insertValue_sim hs (w.value.get x) hin hat hid.1 hid.2
    rw [insAfter_last _ (hs.nodup l)] at hs1
    rw [bind_ok hr1]
    have hl1 : ∃ post', (w.place l id (w.value.get x) (w.lists.get l ++ [id])).lists.get o
        = (pre ++ [x]) ++ rem ++ post' := by
      rw [place_lists_get]
      by_cases hol : o = l
      · subst hol
        rw [if_pos rfl, hl]
        exact ⟨post ++ [id], by simp only [List.append_assoc, List.cons_append, List.nil_append]⟩
      · rw [if_neg hol, hl]
        exact ⟨post, by simp only [List.append_assoc, List.cons_append, List.nil_append]⟩
    obtain ⟨post', hl1⟩ := hl1
    have hl1' : (w.place l id (w.value.get x) (w.lists.get l ++ [id])).lists.get o
        = pre ++ x :: (rem ++ post') := by
      rw [hl1]; simp only [List.append_assoc, List.cons_append, List.nil_append]
    rw [bind_ok (elemNext_run hs1 x), (spec_split hs1 hl1').2]
    have hin1 : Inited h1 (w.place l id (w.value.get x) (w.lists.get l ++ [id])) l := by
      apply hs1.inited_of_nonempty (x := id)
      rw [place_lists_get, if_pos rfl]; simp
    apply ih hs1 hin1 hl1
    · intro hne
      cases rem with
      | nil => exact absurd rfl hne
      | cons y ys => rfl
    · intro j hj
      have hj' : j + 1 < (x :: rem).length := by simp only [List.length_cons]; omega
      have := hfree (j + 1) hj'
      have e1 : id + 1 + j = id + (j + 1) := nat_aux1 id j
      have hne : id + (j + 1) ≠ id := nat_aux2 id j
      rw [e1, place_owner_get, if_neg hne]
      exact this

theorem pushBackList_sim {h : Heap} {w : World} (hs : Sim h w) (l o : ListId) :
    Agree (pushBackList l o h) (Spec.Seq.step w (.pushBackList l o)).1 ((w.lists.get o).length : Int) := by
  unfold pushBackList
  obtain ⟨h1, hr1, hs1, hin1⟩ := lazyInit_sim hs l
  rw [bind_ok hr1, bind_ok (len_run hs1 o), bind_ok (front_run hs1 o), bind_ok (getNextElem_run h1),
    bind_ok (setNextElem_run _ _), hs1.nextId]
  simp only [Int.toNat_natCast]
  have hs2 := hs1.bumpNext (w.nextId + (w.lists.get o).length) (Nat.le_add_right _ _)
  have hloop := pushBackLoop_sim l o (w.lists.get o) (id := w.nextId)
    (e := optPtr (w.lists.get o).head?) (pre := []) (post := []) hs2 hin1 (by simp) (fun _ => rfl)
    (by
      intro j hj
      exact ⟨hs.fresh _ (Nat.le_add_right _ _), by show w.nextId + j < w.nextId + _; omega⟩)
  obtain ⟨h3, hr3, hs3⟩ := hloop
  rw [bind_ok hr3]
  exact ⟨h3, rfl, hs3⟩

/-! ### PushFrontList -/

/-- `pre`, `post` vary with the iteration as in `pushBackLoop_sim` -/
theorem pushFrontLoop_sim (l o : ListId) (base : ElemId) : ∀ (rem : List ElemId) {h : Heap} {w : World} {e : Ptr}
    {pre post : List ElemId}, Sim h w → Inited h w l → w.lists.get o = pre ++ rem.reverse ++ post →
    (rem ≠ [] → e = optPtr rem.head?) →
    (∀ j, j < rem.length → w.owner.get (base + j) = none ∧ base + j < w.nextId) →
    Agree (pushFrontLoop l base rem.length e h) (pushFrontAll l base rem w) () := by
  intro rem
  induction rem with
  | nil => intro h w _ _ _ hs _ _ _ _; exact ⟨h, rfl, hs⟩
  | cons x rem ih =>
    intro h w e pre post hs hin hl he hfree
    have he' : e = .elem x := he (by simp)
    subst he'
    have hid := hfree rem.length (by simp)
    show Agree (pushFrontLoop l base (rem.length + 1) (.elem x) h) _ ()
    unfold pushFrontLoop pushFrontAll
    rw [bind_ok (getValue_ok _ (elem_ne_null x)), hs.value]
    obtain ⟨h1, hr1, hs1⟩ := insertValue_sim hs (w.value.get x) hin (root_mem_dropLast l _) hid.1 hid.2
    rw [insAfter_root] at hs1
    rw [bind_ok hr1]
    have hl1 : ∃ pre', (w.place l (base + rem.length) (w.value.get x) ((base + rem.length) :: w.lists.get l)).lists.get o
        = pre' ++ rem.reverse ++ ([x] ++ post) := by
      rw [place_lists_get]
      by_cases hol : o = l
      · subst hol
        rw [if_pos rfl, hl]
        exact ⟨(base + rem.length) :: pre, by simp⟩
      · rw [if_neg hol, hl]
        exact ⟨pre, by simp⟩
    obtain ⟨pre', hl1⟩ := hl1
    have hl1' : (w.place l (base + rem.length) (w.value.get x) ((base + rem.length) :: w.lists.get l)).lists.get o
        = (pre' ++ rem.reverse) ++ x :: post := by rw [hl1]; simp
    rw [bind_ok (elemPrev_run hs1 x), (spec_split hs1 hl1').1]
    have hin1 : Inited h1 (w.place l (base + rem.length) (w.value.get x) ((base + rem.length) :: w.lists.get l)) l := by
      apply hs1.inited_of_nonempty (x := base + rem.length)
      rw [place_lists_get, if_pos rfl]; simp
    apply ih hs1 hin1 hl1
    · intro hne
      cases rem with
      | nil => exact absurd rfl hne
      | cons y ys => simp
    · intro j hj
      have hj' : j < (x :: rem).length := by simp only [List.length_cons]; omega
      have := hfree j hj'
      have hne : base + j ≠ base + rem.length := nat_aux3 base j rem.length hj
      rw [place_owner_get, if_neg hne]
      exact this

theorem pushFrontList_sim {h : Heap} {w : World} (hs : Sim h w) (l o : ListId) :
    Agree (pushFrontList l o h) (Spec.Seq.step w (.pushFrontList l o)).1 ((w.lists.get o).length : Int) := by
  unfold pushFrontList
  obtain ⟨h1, hr1, hs1, hin1⟩ := lazyInit_sim hs l
  rw [bind_ok hr1, bind_ok (len_run hs1 o), bind_ok (back_run hs1 o), bind_ok (getNextElem_run h1),
    bind_ok (setNextElem_run _ _), hs1.nextId]
  simp only [Int.toNat_natCast]
  have hs2 := hs1.bumpNext (w.nextId + (w.lists.get o).length) (Nat.le_add_right _ _)
  have hloop := pushFrontLoop_sim l o w.nextId (w.lists.get o).reverse
    (e := optPtr (w.lists.get o).getLast?) (pre := []) (post := []) hs2 hin1 (by simp)
    (fun _ => by rw [List.head?_reverse])
    (by
      intro j hj
      rw [List.length_reverse] at hj
      exact ⟨hs.fresh _ (Nat.le_add_right _ _), by show w.nextId + j < w.nextId + _; omega⟩)
  rw [List.length_reverse] at hloop
  obtain ⟨h3, hr3, hs3⟩ := hloop
  rw [bind_ok hr3]
  exact ⟨h3, rfl, hs3⟩

end TypVerif.Lemmas.LinkedList
