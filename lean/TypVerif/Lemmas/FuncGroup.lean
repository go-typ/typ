import TypVerif.Lemmas.Func
/-
GroupBy and CountBy are the same two loops but for the update of the stored value: `genLoop_spec` / `genLoop_collect` are stated
for any pair of loops that satisfy the two loop equations, the invariant being "the ordered keys are the keys of the map".
-/
namespace TypVerif.Lemmas.Func
open TypVerif TypVerif.Model

variable {α κ ν : Type}

theorem mapGet_mapSet [DecidableEq κ] (key : κ) (v : ν) :
    ∀ (m : List (κ × ν)) (key' : κ), Func.mapGet (Func.mapSet m key v) key' =
      if key' = key then some v else Func.mapGet m key'
  | [], key' => by
    simp only [Func.mapSet, Func.mapGet]
    by_cases h : key' = key
    · simp [h]
    · have : ¬ key = key' := fun e => h e.symm
      simp [h, this]
  | (k, x) :: rest, key' => by
    rw [Func.mapSet]
    by_cases hk : k = key
    · subst hk
      simp only [if_true, Func.mapGet]
      by_cases h : key' = k
      · subst h; simp
      · have : ¬ k = key' := fun e => h e.symm
        simp [h, this]
    · simp only [hk, if_false, Func.mapGet, mapGet_mapSet key v rest key']
      by_cases h : k = key'
      · subst h; simp [hk]
      · simp [h]

/-- the value stored under a key after feeding the elements `l` that have this key -/
def accum (upd : Option ν → α → ν) (o : Option ν) (l : List α) : Option ν :=
  l.foldl (fun o v => some (upd o v)) o

/-- the first loop of GroupBy and CountBy: any `loop` that stores `upd (m[key]) v` under the key of `v` and appends a key
seen for the first time to the ordered keys -/
theorem genLoop_spec [DecidableEq κ] (keyer : α → κ) (upd : Option ν → α → ν)
    (loop : List α → List (κ × ν) → List κ → List (κ × ν) × List κ)
    (hnil : ∀ m ok, loop [] m ok = (m, ok))
    (hcons : ∀ v rest m ok, loop (v :: rest) m ok =
      loop rest (Func.mapSet m (keyer v) (upd (Func.mapGet m (keyer v)) v))
        (if (Func.mapGet m (keyer v)).isSome = true then ok else ok ++ [keyer v])) :
    ∀ (s : List α) (m : List (κ × ν)) (ok : List κ),
      (∀ key, key ∈ ok ↔ (Func.mapGet m key).isSome = true) →
      (loop s m ok).2 = Func.distinctLoop (s.map keyer) ok ∧
      ∀ key, Func.mapGet (loop s m ok).1 key =
        accum upd (Func.mapGet m key) (s.filter (fun v => decide (keyer v = key)))
  | [], m, ok, _ => by rw [hnil]; exact ⟨rfl, fun _ => rfl⟩
  | v :: rest, m, ok, hinv => by
    have hinv' : ∀ key, key ∈ (if (Func.mapGet m (keyer v)).isSome = true then ok else ok ++ [keyer v]) ↔
        (Func.mapGet (Func.mapSet m (keyer v) (upd (Func.mapGet m (keyer v)) v)) key).isSome = true := by
      intro key
      rw [mapGet_mapSet]
      simp only [← hinv (keyer v)]
      by_cases hk : key = keyer v
      · subst hk
        by_cases hm : keyer v ∈ ok <;> simp [hm]
      · by_cases hm : keyer v ∈ ok
        · simp [hm, hk, hinv]
        · simp [hm, hk, hinv]
    obtain ⟨ih1, ih2⟩ := genLoop_spec keyer upd loop hnil hcons rest _ _ hinv'
    rw [hcons]
    refine ⟨?_, ?_⟩
    · rw [ih1, List.map_cons, Func.distinctLoop, contains_eq]
      simp only [← hinv (keyer v)]
      by_cases hm : keyer v ∈ ok <;> simp [hm]
    · intro key
      rw [ih2, mapGet_mapSet, List.filter_cons]
      by_cases hk : keyer v = key
      · subst hk
        simp [accum]
      · have : ¬ key = keyer v := fun e => hk e.symm
        simp [hk, this]

theorem accum_group (o : Option (List α)) (l : List α) :
    accum (fun o v => o.getD [] ++ [v]) o l = if l = [] then o else some (o.getD [] ++ l) := by
  induction l generalizing o with
  | nil => rfl
  | cons v rest ih =>
    simp only [accum, List.foldl_cons] at ih ⊢
    rw [ih]
    by_cases hr : rest = []
    · subst hr; simp
    · simp [hr]

theorem accum_count (o : Option Int) (l : List α) :
    accum (fun o _ => o.getD 0 + 1) o l = if l = [] then o else some (o.getD 0 + l.length) := by
  induction l generalizing o with
  | nil => rfl
  | cons v rest ih =>
    simp only [accum, List.foldl_cons] at ih ⊢
    rw [ih]
    by_cases hr : rest = []
    · subst hr; simp
    · simp only [hr, if_false, Option.getD_some, List.length_cons, reduceCtorEq]
      congr 1; omega

/-- the second loop of GroupBy and CountBy is `Map` over the ordered keys -/
theorem collect_eq [DecidableEq κ] (m : List (κ × ν)) (dflt : ν)
    (collect : List κ → Nat → List (κ × ν) → List (κ × ν))
    (hnil : ∀ i g, collect [] i g = g)
    (hcons : ∀ key rest i g, collect (key :: rest) i g = collect rest (i + 1) (g.set i (key, (Func.mapGet m key).getD dflt)))
    (keys : List κ) (z : κ × ν) :
    collect keys 0 (List.replicate keys.length z) = keys.map (fun key => (key, (Func.mapGet m key).getD dflt)) := by
  rw [← map_eq keys _ z, Func.map]
  generalize List.replicate keys.length z = g
  generalize 0 = i
  induction keys generalizing i g with
  | nil => exact hnil i g
  | cons key rest ih => rw [hcons, Func.mapLoop]; exact ih _ _

/-- GroupBy and CountBy: one entry per key in order of first appearance, holding `val` of the elements with that key,
where `val l` is what the updates `upd` accumulate from nothing over `l` -/
theorem genLoop_collect [DecidableEq κ] (keyer : α → κ) (upd : Option ν → α → ν) (dflt : ν) (val : List α → ν)
    (hval : ∀ l, (accum upd none l).getD dflt = val l)
    (loop : List α → List (κ × ν) → List κ → List (κ × ν) × List κ)
    (hlnil : ∀ m ok, loop [] m ok = (m, ok))
    (hlcons : ∀ v rest m ok, loop (v :: rest) m ok =
      loop rest (Func.mapSet m (keyer v) (upd (Func.mapGet m (keyer v)) v))
        (if (Func.mapGet m (keyer v)).isSome = true then ok else ok ++ [keyer v]))
    (collect : List (κ × ν) → List κ → Nat → List (κ × ν) → List (κ × ν))
    (hnil : ∀ m i g, collect m [] i g = g)
    (hcons : ∀ m key rest i g,
      collect m (key :: rest) i g = collect m rest (i + 1) (g.set i (key, (Func.mapGet m key).getD dflt)))
    (s : List α) (z : κ × ν) :
    collect (loop s [] []).1 (loop s [] []).2 0 (List.replicate (loop s [] []).2.length z) =
      (Spec.Func.groupKeys s keyer).map (fun key => (key, val (s.filter (fun v => decide (keyer v = key))))) := by
  obtain ⟨h1, h2⟩ := genLoop_spec keyer upd loop hlnil hlcons s [] [] (fun key => by simp [Func.mapGet])
  rw [collect_eq _ dflt _ (hnil _) (hcons _), h1]
  show (Func.distinct (s.map keyer)).map _ = (Spec.Func.dedup (s.map keyer)).map _
  rw [distinct_eq]
  exact List.map_congr_left fun key _ => by rw [h2, ← hval]; rfl

theorem groupBy_eq [DecidableEq κ] [Inhabited κ] (s : List α) (keyer : α → κ) :
    Func.groupBy s keyer = Spec.Func.groupBy s keyer :=
  genLoop_collect keyer (fun o v => o.getD [] ++ [v]) [] (fun l => l) (fun l => by rw [accum_group]; cases l <;> rfl)
    (Func.groupByLoop keyer) (fun _ _ => rfl)
    (fun v _ m _ => by rw [Func.groupByLoop]; cases Func.mapGet m (keyer v) <;> rfl)
    Func.groupByCollect (fun _ _ _ => rfl) (fun _ _ _ _ _ => rfl) s _

theorem countBy_eq [DecidableEq κ] [Inhabited κ] (s : List α) (keyer : α → κ) :
    Func.countBy s keyer = Spec.Func.countBy s keyer :=
  genLoop_collect keyer (fun o _ => o.getD 0 + 1) 0 (fun l => (l.length : Int))
    (fun l => by rw [accum_count]; cases l <;> simp)
    (Func.countByLoop keyer) (fun _ _ => rfl)
    (fun v _ m _ => by rw [Func.countByLoop]; cases Func.mapGet m (keyer v) <;> rfl)
    Func.countByCollect (fun _ _ _ => rfl) (fun _ _ _ _ _ => rfl) s _

end TypVerif.Lemmas.Func
