import TypVerif.Lemmas.ObjTrack
import TypVerif.Lemmas.ObjAcceptC18
/-
The C18 judge (`Drv.C18.step`, closure fuel 16): `av_track` / `pool_track` carry the invariant `ObjTrack.Inv` along the fold
of the real `step`, from the line specifications `step_av` / `step_pool`.  A state set is given up once its flag is set, so
a component is `live` exactly while its flag is clear.  Mode `av`: two components (`avS` with the flag `violated`, `avM` with
`rejected`), and `violated` shows no verdict but `not-linearizable`, so both flags decide linearizability on histories with
goroutine ids `< 16`.  Mode `pool`: `violated = none` only if the history is linearizable w.r.t. the bag,
`not-linearizable` only if it is not (ids `< 16`); the flag is shared with the holding-discipline predicates.
-/
namespace TypVerif.Lemmas.ObjCompleteC18
open TypVerif TypVerif.Conc TypVerif.Model TypVerif.Proto TypVerif.Drv.C18 TypVerif.Lemmas.ObjAccept
open TypVerif.Lemmas.ObjAcceptC18 TypVerif.Lemmas.ObjComplete TypVerif.Lemmas.ObjTrack

theorem nfJ_mono {Op Res : Type} (n : Nat) (e : AtomicObj.Event Op Res) : n ≤ nfJ n e := by
  unfold nfJ nextN; split <;> omega

theorem nfJ_inv {Op Res : Type} (n t : Nat) (op : Op) : t < nfJ n (AtomicObj.Event.inv (Res := Res) t op) := by
  show t < nextN n t
  unfold nextN; split <;> omega

theorem nfJ_bound {Op Res : Type} (fuel n : Nat) (e : AtomicObj.Event Op Res) (hn : n ≤ fuel) (he : evTid e < fuel) :
    nfJ n e ≤ fuel := by
  unfold nfJ nextN; split <;> omega

theorem isEmpty_false_iff {α : Type} (l : List α) : l.isEmpty = false ↔ l ≠ [] :=
  List.isEmpty_eq_false_iff

theorem inv_ev_line {Op Res α : Type} {T : List (AtomicObj.Event Op Res) → Nat → List α → Prop}
    {L : List (AtomicObj.Event Op Res) → Prop} {G : Nat → List α → AtomicObj.Event Op Res → List α}
    (hT : Tracks closureFuel T L G) {tr : List (AtomicObj.Event Op Res)} {n : Nat} {ss ss' : List α}
    {e : AtomicObj.Event Op Res} {ok bad ok' bad' : Prop}
    (h : Inv closureFuel T L (∀ e' ∈ tr, evTid e' < closureFuel) tr n ss ok ok bad)
    (hss : ok → ss' = G (nextN n (evTid e)) ss e) (hok : ok' → ok ∧ ss' ≠ []) (hbad : bad' → bad ∨ ok ∧ ss' = []) :
    Inv closureFuel T L (∀ e' ∈ tr ++ [e], evTid e' < closureFuel) (tr ++ [e]) (nextN n (evTid e)) ss' ok' ok' bad' := by
  refine h.line (oe := some e) hT (nfJ_mono n e) ?_ (fun hB => ⟨fun e' he' => hB e' (List.mem_append_left _ he'),
    fun hf => nfJ_bound closureFuel n e hf ?_⟩) (fun h0 => (hok h0).1) hss
    (fun h0 => ⟨(hok h0).1, fun _ _ => hok h0⟩) (fun h0 => (hbad h0).imp_right fun h1 => ⟨e, rfl, h1⟩)
  · cases e with
    | inv t op => exact nfJ_inv n t op
    | res t r => trivial
  · exact hB e (List.mem_append_right _ (List.mem_singleton.2 rfl))

def AvC (tr : List AvEvent) (st : St) : Prop :=
  st.mode = .av ∧
  Inv closureFuel (Track Spec.Register.spec closureFuel) (AtomicObj.Linearizable Spec.Register.spec)
    (∀ e ∈ tr, evTid e < closureFuel) tr st.n st.avS (st.violated = none) (st.violated = none)
    (st.violated = some "not-linearizable") ∧
  Inv closureFuel (Track AtomicValue.spec closureFuel) (AtomicObj.Linearizable AtomicValue.spec)
    (∀ e ∈ tr, evTid e < closureFuel) tr st.n st.avM (st.rejected = false) (st.rejected = false) (st.rejected = true) ∧
  (st.violated = none ∨ st.violated = some "not-linearizable")

theorem avC_step (tr : List AvEvent) (st : St) (toks : List Val) (impl : String) (e : AvEvent)
    (hp : parseAv toks = some e) (h : AvC tr st) : AvC (tr ++ [e]) (step st toks impl).1 := by
  obtain ⟨hmode, hS, hM, hd⟩ := h
  obtain ⟨h1, h2, h3, h4, h5, h6⟩ := step_av st toks impl e hmode hp
  have h6' := (lineVerdict_ite e (step st toks impl).1.avS).or (v := st.violated) (h6.trans (by cases st.violated <;> rfl))
  refine ⟨h1, ?_, ?_, ?_⟩
  · rw [h2]
    refine inv_ev_line (track_tracks Spec.Register.spec closureFuel) hS (fun hv => ?_)
      (fun hv => (h6'.1 hv).imp_right (· e rfl)) (fun hv => (h6'.2 hv).imp_right fun h' => ⟨h'.1, h'.2.elim fun _ h => h.2⟩)
    rw [h4, hv]
    rfl
  · rw [h2]
    refine inv_ev_line (track_tracks AtomicValue.spec closureFuel) hM (fun hr => ?_) (fun hr => ?_) (fun hr => ?_)
    · rw [h3, hr]
      rfl
    · rw [h5, Bool.or_eq_false_iff, List.isEmpty_eq_false_iff] at hr
      exact hr
    · rw [h5, Bool.or_eq_true, List.isEmpty_iff] at hr
      cases hr0 : st.rejected with
      | true => exact .inl rfl
      | false => exact .inr ⟨rfl, hr.resolve_left (by rw [hr0]; exact Bool.false_ne_true)⟩
  · -- the flag shows no verdict but `not-linearizable`
    rw [h6]
    rcases hd with hv | hv <;> rw [hv]
    · exact (Decidable.em _).symm.imp (if_neg ·) (if_pos ·)
    · exact .inr rfl

theorem av_track (st0 : St) (impl0 : String) (lines : List (List Val × String)) (tr : List AvEvent)
    (hparse : lines.map (fun l => parseAv l.1) = tr.map some) :
    AvC tr (runLines (step st0 [.w "av"] impl0).1 lines) := by
  have h := runLines_inv avC_step lines [] tr (step st0 [.w "av"] impl0).1 hparse
    ⟨rfl, Inv.init Spec.Register.spec closureFuel _ _ _ _ nofun, Inv.init AtomicValue.spec closureFuel _ _ _ _ nofun,
      .inl rfl⟩
  rw [List.nil_append] at h
  exact h

def PoolC (hasNew : Bool) (tr : List Pool.Event) (st : St) : Prop :=
  st.mode = .pool hasNew ∧ st.traceOnly = false ∧
  Inv closureFuel (Track (Pool.bagSpec hasNew) closureFuel) (AtomicObj.Linearizable (Pool.bagSpec hasNew))
    (∀ e ∈ tr, evTid e < closureFuel) tr st.n st.poolS (st.violated = none) (st.violated = none)
    (st.violated = some "not-linearizable")

theorem poolC_step (hasNew : Bool) (tr : List Pool.Event) (st : St) (toks : List Val) (impl : String)
    (e : Pool.Event) (hp : parsePool toks = some e) (h : PoolC hasNew tr st) :
    PoolC hasNew (tr ++ [e]) (step st toks impl).1 := by
  obtain ⟨hmode, htr, hI⟩ := h
  obtain ⟨h1, h2, h3, h4, w, hv, hw⟩ := step_pool st toks impl hasNew e hmode htr hp
  refine ⟨h1, h2, ?_⟩
  rw [h3]
  refine inv_ev_line (track_tracks (Pool.bagSpec hasNew) closureFuel) hI (fun hv => ?_)
    (fun h0 => ((hw.or hv).1 h0).imp_right (· e rfl))
    (fun h0 => ((hw.or hv).2 h0).imp_right fun h' => ⟨h'.1, h'.2.elim fun _ h => h.2⟩)
  rw [h4, hv]
  rfl

theorem pool_track (st0 : St) (hn : Int) (impl0 : String) (lines : List (List Val × String)) (tr : List Pool.Event)
    (hparse : lines.map (fun l => parsePool l.1) = tr.map some) :
    PoolC (hn != 0) tr (runLines (step st0 [.w "pool", .i hn] impl0).1 lines) := by
  have h := runLines_inv (poolC_step (hn != 0)) lines [] tr (step st0 [.w "pool", .i hn] impl0).1 hparse
    ⟨rfl, rfl, Inv.init (Pool.bagSpec (hn != 0)) closureFuel _ _ _ _ nofun⟩
  rw [List.nil_append] at h
  exact h

end TypVerif.Lemmas.ObjCompleteC18
