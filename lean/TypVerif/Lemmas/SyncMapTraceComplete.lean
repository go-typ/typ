import TypVerif.Lemmas.SyncMapTrace
import TypVerif.Lemmas.SmcStep
/-
COMPLETENESS of the pure step-trace replay `Model.SyncMapTrace.applyLine/replay/replayPad` with respect to the transition
system `Model.SyncMapConc.sys` (the converse of `Lemmas/SyncMapTrace.lean`): every step of `succ` is accepted by
`applyLine` with the corresponding line, every execution of the model (from a reachable state) is the replay of a line
list carrying exactly the execution's labels, and the judge's lazily padded replay accepts that line list too.

The one side condition: a `range` choice is written in the trace as `iter t k` — the KEY only — and `applyLine` takes the
FIRST remaining pair with that key (`find?`).  So the replay reproduces every pick step of the model exactly when the
remaining pairs of the iterating goroutine have pairwise distinct keys (`PicksNodup`).  This is not a property of `succ`
on arbitrary states, but it holds in every reachable state: it is part of the proved invariant `R` (`Building` for the
`dirtyLocked` loop, `RangeHold` for the `Range` loop) — `picksNodup_of_R`, `picksNodup_of_reachable`.
-/
namespace TypVerif.Lemmas.SyncMapTrace
open TypVerif TypVerif.Conc TypVerif.Model TypVerif.Model.SyncMapConc TypVerif.Model.SyncMapTrace
open TypVerif.Model.SyncMap (alookup ainsert aerase akeys)
open TypVerif.Lemmas.Smc (mem_stepT_iff mem_succ_iff)

set_option linter.unusedSectionVars false

variable {K V : Type} [DecidableEq K] [DecidableEq V] [Inhabited V]

/-- the remaining choices of every goroutine parked at the head of a `range` iteration have pairwise distinct keys -/
def PicksNodup (s : State K V) : Prop := ∀ t, ((picks (s.pc t)).map Prod.fst).Nodup

omit [DecidableEq V] [Inhabited V] in
theorem picks_keys_dirtyPick (c : NewCtx) (k : K) (v : V) (rm todo : List (K × EId)) :
    (picks (.dirtyPick c k v rm todo : Pc K V)).map Prod.fst = akeys todo := by
  simp only [picks, akeys, List.map_map]
  rfl

omit [DecidableEq V] [Inhabited V] in
theorem picks_keys_rangePick (todo : List (K × EId)) (acc : List (K × V)) :
    (picks (.rangePick todo acc : Pc K V)).map Prod.fst = akeys todo := by
  simp only [picks, akeys, List.map_map]
  rfl

omit [Inhabited V] in
/-- the per-goroutine invariant `T` gives distinct keys at the two loop heads -/
theorem picks_nodup_of_T {sh : Shared K V} {t : Tid} {pc : Pc K V} {a : Smc.APc K V} (hT : Smc.T sh t pc a) :
    ((picks pc).map Prod.fst).Nodup := by
  cases pc with
  | dirtyPick c k v rm todo => exact picks_keys_dirtyPick c k v rm todo ▸ hT.2.2.1
  | rangePick todo acc => exact picks_keys_rangePick todo acc ▸ (List.nodup_append.mp hT.2.2.1).1
  | _ => exact List.nodup_nil

omit [Inhabited V] in
theorem picksNodup_of_R {s : State K V} {a : Smc.AState K V} (hR : Smc.R s a) : PicksNodup s :=
  fun t => picks_nodup_of_T (hR.thr t)

/-- **the side condition holds in every reachable state** of the model (any menu, any number of goroutines) -/
theorem picksNodup_of_reachable {menu : List (Op K V)} {n : Nat} {zst : Bool} {s : State K V}
    (h : Reachable (sys K V menu n zst) s) : PicksNodup s := by
  obtain ⟨a, _, hR⟩ := Smc.reachable_R h
  exact picksNodup_of_R hR

/-- with distinct keys, looking a chosen pair up by its key finds that pair -/
theorem find?_key_of_mem {α β : Type} [DecidableEq α] {l : List (α × β)} (hn : (l.map Prod.fst).Nodup) {c : α × β}
    (hc : c ∈ l) : l.find? (fun x => x.1 == c.1) = some c := by
  induction l with
  | nil => cases hc
  | cons p rest ih =>
    simp only [List.map_cons, List.nodup_cons] at hn
    rcases List.mem_cons.mp hc with h | h
    · subst h
      simp
    · have hne : ¬ p.1 = c.1 := by
        intro he
        exact hn.1 (he ▸ List.mem_map.mpr ⟨c, h, rfl⟩)
      rw [List.find?_cons_of_neg (by simpa using hne)]
      exact ih hn.2 h

/-- the line that records a step of the model: `inv t op` for an invocation, `res t r` for a return, `iter t k` for a
`range` choice, `step t <label of the hook the goroutine is parked at>` for every other atomic step -/
inductive LineFor (menu : List (Op K V)) (s : State K V) : Line K V → Prop where
  | inv (t : Tid) (op : Op K V) : op ∈ menu → LineFor menu s (.inv t op)
  | res (t : Tid) (r : Res K V) : LineFor menu s (.res t r)
  | step (t : Tid) : LineFor menu s (.step t (s.pc t).label)
  | iter (t : Tid) (k : K) : LineFor menu s (.iter t k)

/-- **Every step of the model is accepted by the replay, with the corresponding line.**  For every step `(l, s')` of
`succ menu s` — in a state whose `range` choices have distinct keys (`PicksNodup`; true in every reachable state) — there
is a line `ln` that `applyLine` accepts in `s` with result exactly `s'` and whose visible event is the step's label `l`.
The line is `inv t op` (with `op ∈ menu`), `res t r`, `iter t k`, or `step t (s.pc t).label` (`LineFor`). -/
theorem applyLine_complete (menu : List (Op K V)) {s s' : State K V} {l : Option (SyncMapConc.Event K V)}
    (hp : PicksNodup s) (h : (l, s') ∈ succ menu s) :
    ∃ ln, applyLine s ln = some s' ∧ ln.event = l ∧ LineFor menu s ln := by
  obtain ⟨t, ht, hst⟩ := mem_succ_iff.mp h
  rcases mem_stepT_iff.mp hst with ⟨hpc, op, hop, rfl, rfl⟩ | ⟨r, hpc, rfl, rfl⟩ |
    ⟨_, _, rfl, ⟨sh', pc', hex, rfl⟩ | ⟨c, hc, rfl⟩⟩
  · refine ⟨.inv t op, ?_, rfl, .inv t op hop⟩
    simp only [applyLine, ht, if_true, hpc]
  · refine ⟨.res t r, ?_, rfl, .res t r⟩
    simp only [applyLine, hpc, if_true]
  · refine ⟨.step t (s.pc t).label, ?_, rfl, .step t⟩
    simp only [applyLine, if_true, hex]
  · refine ⟨.iter t c.1, ?_, rfl, .iter t c.1⟩
    simp only [applyLine, find?_key_of_mem (hp t) hc]

/-- the menu side condition of the soundness theorem, for a `LineFor` line -/
theorem LineFor.menu {menu : List (Op K V)} {s : State K V} {ln : Line K V} (h : LineFor menu s ln) :
    ∀ t op, ln = .inv t op → op ∈ menu := by
  intro t op e
  cases h with
  | inv t' op' hop => cases e; exact hop
  | res _ _ => cases e
  | step _ => cases e
  | iter _ _ => cases e

/-- **one line = one step**: in a state whose `range` choices have distinct keys, the steps of the model are exactly the
accepted lines (invoking menu operations) -/
theorem applyLine_iff (menu : List (Op K V)) {s s' : State K V} {l : Option (SyncMapConc.Event K V)}
    (hp : PicksNodup s) :
    (l, s') ∈ succ menu s ↔
      ∃ ln, applyLine s ln = some s' ∧ ln.event = l ∧ ∀ t op, ln = .inv t op → op ∈ menu := by
  constructor
  · intro h
    obtain ⟨ln, h1, h2, h3⟩ := applyLine_complete menu hp h
    exact ⟨ln, h1, h2, h3.menu⟩
  · rintro ⟨ln, h1, h2, h3⟩
    exact h2 ▸ applyLine_sound menu h3 h1

/-- **Every execution of the model from a reachable state is accepted by the replay**: there is a line list, one line
per step, that `replay` accepts from `s` with final state exactly `s'`, whose labels (`Line.event`) are exactly the
execution's labels, and that invokes menu operations only. -/
theorem replay_complete (menu : List (Op K V)) (n : Nat) (zst : Bool)
    {s s' : (sys K V menu n zst).State} {evs : List (Option (sys K V menu n zst).Event)}
    (h : Exec (sys K V menu n zst) s evs s') :
    Reachable (sys K V menu n zst) s → ∃ ls : List (Line K V), replay s ls = some s' ∧ ls.map Line.event = evs ∧
      ∀ t op, Line.inv t op ∈ ls → op ∈ menu := by
  induction h with
  | nil s => intro _; exact ⟨[], rfl, rfl, fun _ _ hm => by cases hm⟩
  | @cons s0 s1 s2 l ls0 hmem _ ih =>
    intro hs
    have hmem' : (l, s1) ∈ succ menu s0 := hmem
    obtain ⟨ln, h1, h2, h3⟩ := applyLine_complete menu (picksNodup_of_reachable hs) hmem'
    obtain ⟨ls, h4, h5, h6⟩ := ih (Reachable.step hs hmem)
    refine ⟨ln :: ls, replay_cons_eq_some.mpr ⟨s1, h1, h4⟩, ?_, ?_⟩
    · simp only [List.map_cons, h2, h5]
    · intro t op hm
      rcases List.mem_cons.mp hm with e | hm'
      · exact h3.menu t op e.symm
      · exact h6 t op hm'

/-- **The line list determines the execution**, stated with the recorded states: `replay` is a function, so if `ls`
replays to `s₁` and to `s₂` then `s₁ = s₂`, and the execution `replay_exec` gives has the labels `ls.map Line.event`. -/
theorem replay_exec_functional (menu : List (Op K V)) (n : Nat) (zst : Bool) {s s₁ s₂ : State K V}
    {ls : List (Line K V)} (hmenu : ∀ t op, Line.inv t op ∈ ls → op ∈ menu)
    (h₁ : replay s ls = some s₁) (h₂ : replay s ls = some s₂) :
    s₁ = s₂ ∧ Exec (sys K V menu n zst) s (ls.map Line.event) s₁ :=
  ⟨Option.some.inj (h₁.symm.trans h₂), replay_exec menu n zst hmenu h₁⟩

theorem replay_append {s : State K V} {ls ls' : List (Line K V)} :
    replay s (ls ++ ls') = (replay s ls).bind (fun s1 => replay s1 ls') := by
  induction ls generalizing s with
  | nil => rfl
  | cons l ls ih =>
    simp only [List.cons_append, replay]
    cases applyLine s l with
    | none => rfl
    | some s1 => exact ih

/-- a trace accepted with `n` goroutines from the start is accepted by the judge's lazily padded replay, and the two
final states agree once the never-invoked goroutines are added -/
theorem replayPad_of_replay_pad {s s' : State K V} {ls : List (Line K V)} {n : Nat} (hn : s.pcs.length ≤ n)
    (h : replay (pad s n) ls = some s') :
    ∃ s'', replayPad s ls = some s'' ∧ pad s'' n = s' ∧ s''.pcs.length ≤ n := by
  rw [replay_pad_eq hn] at h
  obtain ⟨s'', h1, h2⟩ := Option.bind_eq_some_iff.mp h
  split at h2
  · rename_i h3
    exact ⟨s'', h1, Option.some.inj h2, h3⟩
  · cases h2

end TypVerif.Lemmas.SyncMapTrace
