import TypVerif.Lemmas.OncePanic
/-
Trace-level consequences of the invariants of the Once system with panicking functions: what the labels of an
execution say about its final state.
-/
namespace TypVerif.Lemmas.OncePanic
open TypVerif TypVerif.Conc TypVerif.Model TypVerif.Model.OncePanic

variable {n a : Nat} {res : Nat → List Int} {s s' : (sys n a res).State} {ls : List (Option Event)}

theorem exec_fres_stable (h : Exec (sys n a res) s ls s') :
    Inv a s → ∀ r, s.base.fres = some r → s'.base.fres = some r := by
  induction h with
  | nil s => exact fun _ _ h => h
  | cons hm _ ih => exact fun hi r hr => ih (inv_step hi hm) r (step_fres_stable hi hm hr)

/-- the ghost component `panicked` is exactly the set of `fpanic` events -/
theorem exec_panicked_iff {n a : Nat} {res : Nat → List Int} {s s' : (sys n a res).State}
    {ls : List (Option Event)} (h : Exec (sys n a res) s ls s') (t : Nat) :
    t ∈ s'.panicked ↔ t ∈ s.panicked ∨ some (Event.fpanic t) ∈ ls := by
  induction h with
  | nil s => simp
  | @cons s s1 s2 l ls hm _ ih =>
    rw [ih, step_panicked_iff hm t, List.mem_cons]
    constructor
    · rintro ((h | h) | h)
      · exact Or.inl h
      · exact Or.inr (Or.inl h.symm)
      · exact Or.inr (Or.inr h)
    · rintro (h | h | h)
      · exact Or.inl (Or.inl h)
      · exact Or.inl (Or.inr h.symm)
      · exact Or.inr h

theorem exec_returned_stable (h : Exec (sys n a res) s ls s') :
    ∀ t, s.base.pc t = .returned → s'.base.pc t = .returned :=
  fun t => Exec.invariant (sys := sys n a res) (fun s => s.base.pc t = .returned) (fun _ _ _ ht hm => step_returned_stable hm ht) h

theorem exec_fpanic (h : Exec (sys n a res) s ls s') :
    Inv a s → ∀ t, some (Event.fpanic t) ∈ ls →
      t ∈ s'.panicked ∧ s'.base.fres = some (List.replicate a 0) := by
  intro hi t hmem
  have hp := (exec_panicked_iff h t).mpr (.inr hmem)
  exact ⟨hp, ((inv_exec h hi).pan t hp).1⟩

theorem exec_fend (h : Exec (sys n a res) s ls s') :
    Inv a s → ∀ t r, some (Event.fend t r) ∈ ls →
      s'.base.fres = some r := by
  intro hi t r hmem
  obtain ⟨_, _, m, m', h1, h2, h3⟩ := exec_split_mem h hmem
  have hi1 := inv_exec h1 hi
  exact exec_fres_stable h3 (inv_step hi1 h2) r (step_fend hi1 h2).2.2.1

theorem exec_ret (h : Exec (sys n a res) s ls s') :
    Inv a s → ∀ u r, some (Event.ret u r) ∈ ls →
      s'.base.fres = some r ∧ s'.base.pc u = .returned := by
  intro hi u r hmem
  obtain ⟨_, _, m, m', h1, h2, h3⟩ := exec_split_mem h hmem
  have hi1 := inv_exec h1 hi
  have hr := step_ret hi1 h2
  exact ⟨exec_fres_stable h3 (inv_step hi1 h2) r (step_fres_stable hi1 h2 hr.1), exec_returned_stable h3 u hr.2.1⟩

theorem step_invoked {s s' : State} {l : Option Event}
    (hmem : (l, s') ∈ succ res s) :
    s'.base.invoked.length = s.base.invoked.length + (visible [l]).countP Event.isFstart := by
  cases mem_succ_iff.mp hmem with
  | @base _ lb _ _ _ hb =>
    rw [hb.invoked]
    cases lb with
    | none => rfl
    | some e => cases e <;> rfl
  | fpanic => rfl

theorem exec_invoked (h : Exec (sys n a res) s ls s') :
    s'.base.invoked.length = s.base.invoked.length + (visible ls).countP Event.isFstart := by
  induction h with
  | nil s => simp
  | @cons s s1 s2 l ls hm _ ih =>
    rw [ih, step_invoked hm, visible_cons l ls, List.countP_append]
    omega

/-- the end events of an execution are counted by the record `fres`: it is empty before the one step that shows
an end event and filled after it, and no other step touches it -/
theorem step_end {s s' : State} {l : Option Event} (hi : Inv a s) (hmem : (l, s') ∈ succ res s) :
    (visible [l]).countP Event.isEnd + s.base.fres.isSome.toNat = s'.base.fres.isSome.toNat := by
  cases mem_succ_iff.mp hmem with
  | @base _ lb _ _ _ hb =>
    rw [← hb.fend_count hi.base.good]
    cases lb with
    | none => rfl
    | some e => cases e <;> rfl
  | fpanic _ hpc =>
    rw [(inF_facts hi hpc).1]
    rfl

theorem exec_end_count (h : Exec (sys n a res) s ls s') (hi : Inv a s) :
    (visible ls).countP Event.isEnd + s.base.fres.isSome.toNat = s'.base.fres.isSome.toNat := by
  induction h with
  | nil s => exact Nat.zero_add _
  | @cons s s1 s2 l ls hm _ ih =>
    rw [← ih (inv_step hi hm), ← step_end hi hm, visible_cons l ls, List.countP_append]
    omega

end TypVerif.Lemmas.OncePanic
