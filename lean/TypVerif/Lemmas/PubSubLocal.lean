import TypVerif.Lemmas.PubSubSafe
/-
What one step of `Unsub` / `UnsubAll` / `WithOnly` / `Pub*Wait` / the PubSync loop changes, stated on `TaskStep` (or the step function)
for ANY state and configuration: no reachability, no invariant, clones or not.
-/
namespace TypVerif.Lemmas.PubSubLocal
open TypVerif TypVerif.Model.PubSub TypVerif.Lemmas.PubSubStep TypVerif.Lemmas.PubSubSafe

/-- everything about a channel and its receiver except the `closed` flag -/
def untouched (ch : ChanSt) : Chan × Nat × List Int × Nat × Option Int × Bool :=
  (ch.id, ch.cap, ch.buf, ch.allow, ch.holding, ch.rdone)

theorem closeChan_untouched (cs : List ChanSt) (c : Chan) :
    (closeChan cs c).map untouched = cs.map untouched :=
  map_updChan untouched cs c _ fun _ _ => rfl

theorem closeChan_closes (cs : List ChanSt) (c : Chan) (h : hasChan cs c = true) :
    isClosed (closeChan cs c) c = true := by
  obtain ⟨ch, hm, e⟩ := List.any_eq_true.mp h
  rw [isClosed, closeChan, updChan, List.any_map]
  exact List.any_eq_true.mpr ⟨ch, hm, by simp [beq_iff_eq.mp e]⟩

/-- `obj_setObj_self` for an object known to be in range because its `subs` is not the default -/
theorem obj_setObj_self_of_subs (s : State) (o : Nat) (x : ObjSt) (h : (s.obj o).subs ≠ []) : (s.setObj o x).obj o = x := by
  refine obj_setObj_self s x (Nat.lt_of_not_le fun h1 => h ?_)
  simp [State.obj, List.getD_eq_getElem?_getD, List.getElem?_eq_none h1]

/-- the critical section of `Unsub(c)` on object `o`, when it does not panic -/
theorem unsub_step {cfg : Cfg} {s s' : State} {i u o : Nat} {c : Chan}
    (h : TaskStep cfg s i (.unsubWait u o c) s') (hp : s'.panicked = none) :
    (∀ o', o' ≠ o → s'.obj o' = s.obj o') ∧
    (∀ c', c' ≠ c → isClosed s'.chans c' = isClosed s.chans c') ∧
    s'.chans.map untouched = s.chans.map untouched ∧
    ((c ∈ (s.obj o).subs ∧ s'.tasks = s.tasks.set i (.unsubRet u .nil) ∧
        (s'.obj o).subs = (s.obj o).subs.erase c ∧ (hasChan s.chans c = true → isClosed s'.chans c = true)) ∨
     (c ∉ (s.obj o).subs ∧ s'.tasks = s.tasks.set i (.unsubRet u .already) ∧
        (s'.obj o).subs = (s.obj o).subs ∧ s'.chans = s.chans)) := by
  cases h with
  | unsub _ _ _ _ hm _ =>
    refine ⟨fun o' ho' => obj_setObj_ne { s with chans := closeChan s.chans c } o o' _ ho',
      fun c' hc' => isClosed_closeChan_ne _ _ _ hc', closeChan_untouched _ _,
      Or.inl ⟨hm, rfl, ?_, closeChan_closes _ _⟩⟩
    exact congrArg ObjSt.subs
      (obj_setObj_self_of_subs { s with chans := closeChan s.chans c } o _ (List.ne_nil_of_mem hm))
  | unsubClosed _ _ _ _ _ _ => exact absurd hp (Option.some_ne_none _)
  | rw _ _ hr =>
    cases hr with
    | unsubAbsent _ _ _ hm =>
      exact ⟨fun o' ho' => obj_setObj_ne s o o' _ ho', fun _ _ => rfl, rfl,
        Or.inr ⟨hm, rfl, subs_setObj_rw s o o _, rfl⟩⟩
  | plain hq => cases hq
  | sendCb hsnd | sent hsnd _ | sendClosed hsnd _ | timeout hsnd _ => cases hsnd


theorem closeAll_keeps {l : List Chan} {cs cs' : List ChanSt} (he : closeAll cs l = some cs') :
    cs'.map untouched = cs.map untouched ∧ (∀ c', c' ∉ l → isClosed cs' c' = isClosed cs c') :=
  closeAll_inv (P := fun x => x.map untouched = cs.map untouched ∧ ∀ c', c' ∉ l → isClosed x c' = isClosed cs c')
    (fun x a ha h => ⟨(closeChan_untouched x a).trans h.1, fun c' hc' =>
      (isClosed_closeChan_ne x a c' (fun e => hc' (e ▸ ha))).trans (h.2 c' hc')⟩) he ⟨rfl, fun _ _ => rfl⟩

/-- the object `stepWoStart` writes -/
def cloneObj (s : State) (o : Nat) (c : Chan) : ObjSt :=
  { subs := (s.obj o).subs.filter (fun x => x == c), rw := {}, only := some c, ready := true }

/-- `WithOnly(c)` on `o`: the clone's `subs` is the singleton `[c]` (if `c` is subscribed on `o`) or empty -/
theorem withOnly_step {cfg : Cfg} {s s' : State} {i w o : Nat} {c : Chan} (h : TaskStep cfg s i (.woStart w o c) s') :
    (∀ x ∈ (s'.obj w).subs, x = c ∧ x ∈ (s.obj o).subs) ∧
    ((s.obj o).subs.Nodup → (s'.obj w).subs.length ≤ 1) ∧
    (∀ o', o' ≠ w → s'.obj o' = s.obj o') ∧ s'.chans = s.chans := by
  cases h with
  | withOnly _ _ _ _ =>
    -- the clone's `subs` is the filtered list, or (no object `w`) nothing was written and `subs` of `w` is empty
    have key : ((s.setObj w (cloneObj s o c)).obj w).subs = (s.obj o).subs.filter (fun y => y == c) ∨
        ((s.setObj w (cloneObj s o c)).obj w).subs = [] := by
      rcases Nat.lt_or_ge w s.objs.length with h1 | h1
      · exact Or.inl (by rw [obj_setObj_self s _ h1]; rfl)
      · exact Or.inr (by rw [setObj_of_length_le s _ h1]; simp [State.obj, List.getD_eq_getElem?_getD,
          List.getElem?_eq_none h1])
    refine ⟨fun x hx => ?_, fun hnd => ?_, fun o' ho' => obj_setObj_ne s w o' _ ho', rfl⟩
    · change x ∈ ((s.setObj w (cloneObj s o c)).obj w).subs at hx
      rcases key with k | k
      · rw [k, List.mem_filter] at hx
        exact ⟨by simpa using hx.2, hx.1⟩
      · rw [k] at hx; cases hx
    · change ((s.setObj w (cloneObj s o c)).obj w).subs.length ≤ 1
      rcases key with k | k
      · rw [k, ← List.countP_eq_length_filter]; exact List.nodup_iff_count.mp hnd c
      · rw [k]; exact Nat.zero_le 1
  | plain hq => cases hq
  | rw _ _ hr => cases hr
  | sendCb hsnd | sent hsnd _ | sendClosed hsnd _ | timeout hsnd _ => cases hsnd

/-- the critical section of `UnsubAll` on object `o`, when it does not panic -/
theorem unsubAll_step {cfg : Cfg} {s s' : State} {i u o : Nat}
    (h : TaskStep cfg s i (.uaWait u o) s') (hp : s'.panicked = none) :
    s'.tasks = s.tasks.set i (.uaRet u) ∧ (s'.obj o).subs = [] ∧ (∀ o', o' ≠ o → s'.obj o' = s.obj o') ∧
    s'.chans.map untouched = s.chans.map untouched ∧
    (∀ c', c' ∉ (s.obj o).subs → isClosed s'.chans c' = isClosed s.chans c') := by
  cases h with
  | unsubAll _ _ cs _ hcs =>
    obtain ⟨h1, h2⟩ := closeAll_keeps hcs
    refine ⟨rfl, ?_, fun o' ho' => obj_setObj_ne { s with chans := cs } o o' _ ho', h1, h2⟩
    rcases Nat.lt_or_ge o s.objs.length with h3 | h3
    · exact congrArg ObjSt.subs (obj_setObj_self { s with chans := cs } _ h3)
    · rw [setObj_of_length_le { s with chans := cs } _ h3]
      simp [State.setTask, State.obj, List.getD_eq_getElem?_getD, List.getElem?_eq_none h3]
  | unsubAllClosed _ _ _ _ => exact absurd hp (Option.some_ne_none _)
  | plain hq => cases hq
  | rw _ _ hr => cases hr
  | sendCb hsnd | sent hsnd _ | sendClosed hsnd _ | timeout hsnd _ => cases hsnd

theorem waitRet_step {cfg : Cfg} {s s' : State} {i p o w : Nat} (h : TaskStep cfg s i (.waitWg p o w) s') :
    s.wgs.getD w 0 = 0 ∧ s' = (s.runlock o).setTask i (.pubRet p) := by
  cases h with
  | rw _ _ hr =>
    cases hr with
    | waitRet _ _ hz => exact ⟨hz, rfl⟩
  | plain hq => cases hq
  | sendCb hsnd | sent hsnd _ | sendClosed hsnd _ | timeout hsnd _ => cases hsnd

/-- one iteration of the PubSync / PubSliceSync loop on its head item `it`: exactly one of
(a) the OnPubTimeout callback of the already timed-out head (visible `tmo`), then the loop moves on;
(b) the hand-off: exactly `it` is appended to `delivered`, then the loop moves on;
(c) the timer fires (only with a positive timeout): exactly `it` is appended to `timedOut`, the callback is pending;
(d) a send on a closed channel. -/
theorem sync_step {cfg : Cfg} {s s' : State} {i p o : Nat} {it : Item} {rest : List Item} {cb : Bool}
    {l : Option Event} (h : (l, s') ∈ stepSyncLoop cfg s i p o (it :: rest) cb) :
    (cb = true ∧ l = some (.tmo it.ev) ∧ s' = syncAdvance i p o rest s) ∨
    (cb = false ∧ l = none ∧ ∃ s1, sendTo s it = .sent s1 ∧
        s1.delivered = s.delivered ++ [(it.pid, it.idx, it.c)] ∧ s1.timedOut = s.timedOut ∧
        s' = syncAdvance i p o rest s1) ∨
    (cb = false ∧ l = none ∧ cfg.timeout > 0 ∧
        s' = (s.logTimeout it).setTask i (.syncLoop p o (it :: rest) true)) ∨
    (cb = false ∧ sendTo s it = .panic ∧ s' = s.panic "send-on-closed") := by
  simp only [stepSyncLoop] at h
  rcases stepSend_cases h with ⟨h1, h2, h3⟩ | ⟨h1, h2, s1, hst, h3⟩ | ⟨h1, _, h2, h3⟩ | ⟨h1, h2, h3, h4⟩
  · exact Or.inl ⟨h1, h2, h3⟩
  · obtain ⟨f, _, rfl⟩ := sendTo_eq_sent hst
    exact Or.inr (Or.inl ⟨h1, h2, _, hst, rfl, rfl, h3⟩)
  · exact Or.inr (Or.inr (Or.inr ⟨h1, h2, h3⟩))
  · exact Or.inr (Or.inr (Or.inl ⟨h1, h2, h3, h4⟩))

theorem syncAdvance_task (i p o : Nat) (rest : List Item) (s : State) (hi : i < s.tasks.length) :
    (syncAdvance i p o rest s).tasks[i]? =
      some (match rest with | [] => Task.pubRet p | _ :: _ => Task.syncLoop p o rest false) := by
  cases rest with
  | nil => simp [syncAdvance, State.setTask, State.runlock, State.setObj, hi]
  | cons a r => simp [syncAdvance, State.setTask, hi]

end TypVerif.Lemmas.PubSubLocal
