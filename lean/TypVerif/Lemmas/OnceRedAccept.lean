import TypVerif.Lemmas.OnceRedSim
import TypVerif.Lemmas.ConcComplete
/-
The acceptor `Conc.accepts (red n arity res) fuel` accepts every visible trace of the model when `fuel ≥ 3`: between two
visible events the reduced system needs at most three internal steps (normalise, the winner's `Lock`, normalise).
-/
namespace TypVerif.Lemmas.OnceRed
open TypVerif TypVerif.Conc TypVerif.Model.Once TypVerif.Drv.C17 TypVerif.Lemmas.Once

variable (n a : Nat) (res : Nat → List Int)

theorem bud_le (s : State) : bud s ≤ 2 := by
  unfold bud
  split <;> omega

/-- the mutex is freed only at `Unlock`, where `done` is set, and `done` is never reset -/
theorem bud_mono (s : State) (l : Option Event) (s1 : State) (hg : GoodX s)
    (hm : (l, s1) ∈ succ res s) : bud s1 ≤ bud s := by
  obtain ⟨t, _, h⟩ := step_of_succ hm
  have hT := hg.good.thread t
  have hd := (h.shared hT).1
  unfold bud
  rcases h.mu with ⟨_, _, e⟩ | ⟨hu, e⟩ | ⟨_, _, e⟩
  · rw [if_neg fun c => absurd (e.symm.trans c.2) (Option.some_ne_none t)]
    exact Nat.zero_le _
  · unfold ThreadOk at hT
    rw [hu] at hT
    rw [if_neg fun c => Bool.noConfusion ((hd hT.2).symm.trans c.1)]
    exact Nat.zero_le _
  · rw [e]
    by_cases c : s1.done = false ∧ s.mu = none
    · rw [if_pos c, if_pos ⟨Bool.eq_false_iff.mpr fun hdt => Bool.noConfusion ((hd hdt).symm.trans c.1), c.2⟩]
      exact Nat.le_refl _
    · rw [if_neg c]
      exact Nat.zero_le _

theorem sim_tau (s s1 : State) (hg : GoodX s) (hm : (none, s1) ∈ succ res s) :
    ∃ k, TauN (red n a res) k (nf s) (nf s1) ∧ k + bud s1 ≤ bud s := by
  rcases step_red n a res s s1 none hg hm with ⟨_, h2⟩ | ⟨r1, ls, hmem, hex, hv, hlen, hb⟩
  · rw [h2]
    exact ⟨0, TauN.refl _ _, by have := bud_mono res s none s1 hg hm; omega⟩
  · obtain ⟨hb, hb1⟩ := hb rfl
    exact ⟨2, (TauN.of_exec (Exec.cons hmem hex) hv).mono (Nat.succ_le_succ hlen), by omega⟩

theorem sim_vis (s s1 : State) (e : Event) (hg : GoodX s)
    (hm : (some e, s1) ∈ succ res s) :
    ∃ r1, (some e, r1) ∈ (red n a res).succ (nf s) ∧ TauN (red n a res) 1 r1 (nf s1) := by
  rcases step_red n a res s s1 _ hg hm with ⟨h, _⟩ | ⟨r1, ls, hmem, hex, hv, hlen, _⟩
  · cases h
  · exact ⟨r1, hmem, (TauN.of_exec hex hv).mono hlen⟩

/-- `red` simulates the model through `nf` with the budget `bud` (`Conc.after_complete_of_sim`): the acceptor's set may have run
ahead of the model, e.g. past a `Lock` the model has not taken yet -/
theorem after_complete (fuel : Nat) (hf : 3 ≤ fuel) (ls : List (Option Event))
    (s : State) (h : Exec (sys n a res) (sys n a res).init ls s) :
    nf s ∈ after (red n a res) fuel (visible ls) :=
  after_complete_of_sim (red n a res) GoodX nf bud fuel (goodX_step res) (sim_tau n a res)
    (fun s e s1 hg hm =>
      let ⟨r1, hr1, ht1⟩ := sim_vis n a res s s1 e hg hm
      ⟨r1, 1, hr1, ht1, by have := bud_le s1; omega⟩)
    (goodX_init n a) (nf_init n a) (by have := bud_le (init n a); omega) h

theorem accepts_complete (fuel : Nat) (hf : 3 ≤ fuel) (ls : List (Option Event))
    (s : State) (h : Exec (sys n a res) (sys n a res).init ls s) :
    accepts (red n a res) fuel (visible ls) = true := by
  have := after_complete n a res fuel hf ls s h
  unfold accepts
  cases hA : after (red n a res) fuel (visible ls) with
  | nil => rw [hA] at this; cases this
  | cons _ _ => rfl

end TypVerif.Lemmas.OnceRed
