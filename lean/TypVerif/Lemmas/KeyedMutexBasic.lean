import TypVerif.Model.KeyedMutex
import TypVerif.Lemmas.ListSet
/-
Basic facts about the KeyedMutex transition system: the atomic map, the views `pc`/`mu` of a state
after an update, and a case analysis `Step` of the successor relation (eleven cases; `queue` covers the three
steps that only touch the queues).  `Step` is implied by `stepT` (`step_of_stepT`) and not conversely: it keeps what the
invariant proofs need and drops some guards.
-/
namespace TypVerif.Lemmas.KeyedMutex
open TypVerif TypVerif.Conc TypVerif.Model.KeyedMutex

theorem get_cons (k' v : Nat) (r : List (Nat × Nat)) (k : Nat) :
    get ((k', v) :: r) k = if k' = k then some v else get r k := rfl

theorem del_cons (k' v : Nat) (r : List (Nat × Nat)) (k : Nat) :
    del ((k', v) :: r) k = if k' = k then del r k else (k', v) :: del r k := rfl

theorem get_del_self (mp : List (Nat × Nat)) (k : Nat) : get (del mp k) k = none := by
  induction mp with
  | nil => rfl
  | cons p r ih =>
    obtain ⟨k', v⟩ := p
    rw [del_cons]
    by_cases h : k' = k
    · simp [h, ih]
    · simp [h, get_cons, ih]

theorem get_del_ne (mp : List (Nat × Nat)) {k k' : Nat} (hne : k' ≠ k) : get (del mp k) k' = get mp k' := by
  induction mp with
  | nil => rfl
  | cons p r ih =>
    obtain ⟨k0, v⟩ := p
    rw [del_cons]
    by_cases h : k0 = k
    · have : ¬ k = k' := fun e => hne e.symm
      simp [h, get_cons, this, ih]
    · simp [h, get_cons, ih]

theorem get_del_some {mp : List (Nat × Nat)} {k k' m : Nat} (h : get (del mp k) k' = some m) :
    k' ≠ k ∧ get mp k' = some m := by
  by_cases e : k' = k
  · subst e; rw [get_del_self] at h; cases h
  · exact ⟨e, by rw [get_del_ne mp e] at h; exact h⟩

/-- Padding with the `getD` default changes no lookup: the new cells read as what "out of range" already read as. -/
theorem getD_append_replicate {α : Type} (l : List α) (k j : Nat) (d : α) :
    (l ++ List.replicate k d).getD j d = l.getD j d := by
  simp only [List.getD_eq_getElem?_getD]
  by_cases h : j < l.length
  · rw [List.getElem?_append_left h]
  · have h' : l.length ≤ j := Nat.le_of_not_lt h
    rw [List.getElem?_append_right h', List.getElem?_eq_none h']
    simp only [List.getElem?_replicate]
    split <;> rfl

theorem getD_of_le {α : Type} {l : List α} {j : Nat} (d : α) (h : l.length ≤ j) : l.getD j d = d := by
  rw [List.getD_eq_getElem?_getD, List.getElem?_eq_none h]
  rfl

theorem append_replicate_twice {α : Type} (l : List α) (d : α) {a b : Nat} (h : a ≤ b) :
    (l ++ List.replicate (a - l.length) d) ++ List.replicate (b - (l ++ List.replicate (a - l.length) d).length) d =
      l ++ List.replicate (b - l.length) d := by
  rw [List.append_assoc, List.replicate_append_replicate, List.length_append, List.length_replicate]
  congr 2
  rcases Nat.le_total l.length a with hl | hl
  · rw [Nat.add_sub_cancel' hl, Nat.add_comm, Nat.sub_add_sub_cancel h hl]
  · rw [Nat.sub_eq_zero_of_le hl, Nat.zero_add, Nat.add_zero]

theorem append_replicate_max {α : Type} (l : List α) (d : α) {a b : Nat} (h : a ≤ max l.length b) :
    (l ++ List.replicate (a - l.length) d) ++ List.replicate (b - (l ++ List.replicate (a - l.length) d).length) d =
      l ++ List.replicate (b - l.length) d := by
  rcases Nat.lt_or_ge l.length a with hl | hl
  · refine append_replicate_twice l d ?_
    rw [Nat.max_def] at h
    split at h
    · exact h
    · exact absurd h (Nat.not_le_of_lt hl)
  · rw [Nat.sub_eq_zero_of_le hl, List.replicate_zero, List.append_nil]

theorem pc_of_set {s s' : State} {t : Nat} {p : Pc} (ht : t < s.pcs.length) (h : s'.pcs = s.pcs.set t p) (t' : Nat) :
    s'.pc t' = if t' = t then p else s.pc t' := by
  unfold State.pc
  rw [h]
  exact getD_set_of_lt _ _ _ _ _ ht

theorem pc_set_self {s s' : State} {t : Nat} {p : Pc} (ht : t < s.pcs.length) (h : s'.pcs = s.pcs.set t p) :
    s'.pc t = p :=
  (pc_of_set ht h t).trans (if_pos rfl)

theorem pc_setPc (s : State) (t t' : Nat) (p : Pc) (ht : t < s.pcs.length) :
    (s.setPc t p).pc t' = if t' = t then p else s.pc t' := pc_of_set ht rfl t'

theorem mu_mk_same (s : State) (m : Nat) pcs mp wh rh : State.mu ⟨pcs, mp, s.heap, wh, rh⟩ m = s.mu m := rfl

theorem mu_mk_set (s : State) (m m' : Nat) (x : Mu) (hm : m < s.heap.length) pcs mp wh rh :
    State.mu ⟨pcs, mp, s.heap.set m x, wh, rh⟩ m' = if m' = m then x else s.mu m' := by
  unfold State.mu
  exact getD_set_of_lt _ _ _ _ _ hm

/-- A fresh mutex is `Mu.free`, which is also the default of `State.mu`: allocating one changes no `mu m'`. -/
theorem mu_mk_append (s : State) (m' : Nat) pcs mp wh rh :
    State.mu ⟨pcs, mp, s.heap ++ [Mu.free], wh, rh⟩ m' = s.mu m' := by
  unfold State.mu
  exact getD_append_replicate _ 1 _ _

theorem mu_free_of_ge (s : State) {m : Nat} (h : s.heap.length ≤ m) : s.mu m = Mu.free := getD_of_le _ h

theorem pc_mem_or_idle (s : State) (t : Nat) : s.pc t ∈ s.pcs ∨ s.pc t = .idle := by
  unfold State.pc
  by_cases h : t < s.pcs.length
  · left; simp [List.getD_eq_getElem?_getD, List.getElem?_eq_getElem h]
  · exact .inr (getD_of_le _ (Nat.le_of_not_lt h))

/-- what the ClearKey proviso says -/
theorem clearOk_iff (s : State) (k : Nat) :
    clearOk s k = true ↔
      (∀ t, (t, k) ∉ s.wh) ∧ (∀ t, (t, k) ∉ s.rh) ∧ (∀ t, onKey k (s.pc t) = false) := by
  unfold clearOk
  simp only [Bool.and_eq_true, List.all_eq_true, decide_eq_true_eq, Bool.not_eq_true']
  constructor
  · rintro ⟨⟨h1, h2⟩, h3⟩
    refine ⟨fun t hm => h1 _ hm rfl, fun t hm => h2 _ hm rfl, fun t => ?_⟩
    rcases pc_mem_or_idle s t with h | h
    · exact h3 _ h
    · rw [h]; rfl
  · rintro ⟨h1, h2, h3⟩
    refine ⟨⟨?_, ?_⟩, ?_⟩
    · rintro ⟨t, k'⟩ hm e; simp only at e; subst e; exact h1 t hm
    · rintro ⟨t, k'⟩ hm e; simp only at e; subst e; exact h2 t hm
    · intro p hp
      obtain ⟨t, ht, rfl⟩ := List.getElem_of_mem hp
      have := h3 t
      unfold State.pc at this
      simpa [List.getD_eq_getElem?_getD, List.getElem?_eq_getElem ht] using this

theorem stepT_idle {rw g : Bool} {ops : List Op} {s : State} {t : Nat} (h : s.pc t = .idle) :
    stepT rw g ops s t =
      (ops.filter (invOk rw s t)).map (fun op => (some (.inv t op), s.setPc t (.los op.kind op.key))) := by
  unfold stepT; rw [h]

theorem stepT_los {rw g : Bool} {ops : List Op} {s : State} {t : Nat} {kd : Kind} {k : Nat}
    (h : s.pc t = .los kd k) : stepT rw g ops s t = losStep g s t kd k := by
  unfold stepT; rw [h]

theorem stepT_act {rw g : Bool} {ops : List Op} {s : State} {t : Nat} {kd : Kind} {k m : Nat}
    (h : s.pc t = .act kd k m) : stepT rw g ops s t = actStep rw s t kd k m := by
  unfold stepT; rw [h]

theorem stepT_ann {rw g : Bool} {ops : List Op} {s : State} {t : Nat} {k m : Nat} (h : s.pc t = .ann k m) :
    stepT rw g ops s t =
      [(none, queueStep s t m (.wait k m) (t :: (s.mu m).pending) ((s.mu m).wq.filter (· ≠ t)))] := by
  unfold stepT; rw [h]

theorem stepT_wait {rw g : Bool} {ops : List Op} {s : State} {t : Nat} {k m : Nat} (h : s.pc t = .wait k m) :
    stepT rw g ops s t =
      if (s.mu m).writer = none ∧ (s.mu m).readers = [] then [(none, acqW s t k m .done)] else [] := by
  unfold stepT; rw [h]

theorem stepT_rel {rw g : Bool} {ops : List Op} {s : State} {t : Nat} {k m : Nat} (h : s.pc t = .rel k m) :
    stepT rw g ops s t =
      [(none, queueStep s t m (.ret .done) (s.mu m).pending ((s.mu m).wq.filter (· ≠ t)))] := by
  unfold stepT; rw [h]

theorem stepT_ret {rw g : Bool} {ops : List Op} {s : State} {t : Nat} {r : Res} (h : s.pc t = .ret r) :
    stepT rw g ops s t = [(some (.res t r), s.setPc t .idle)] := by
  unfold stepT; rw [h]

theorem stepT_ops {rw g : Bool} {ops : List Op} (ops' : List Op) {s : State} {t : Nat} (h : s.pc t ≠ .idle) :
    stepT rw g ops s t = stepT rw g ops' s t := by
  unfold stepT
  split
  · rename_i hpc
    exact absurd hpc h
  all_goals rfl

theorem losStep_clear (g : Bool) (s : State) (t k : Nat) :
    losStep g s t .clear k =
      if !g || clearOk s k then [(none, ⟨s.pcs.set t (.ret .done), del s.map k, s.heap, s.wh, s.rh⟩)] else [] := by
  unfold losStep; rw [if_pos rfl]

theorem losStep_hit (g : Bool) (s : State) (t : Nat) {kd : Kind} {k m : Nat} (hkd : kd ≠ .clear)
    (hg : get s.map k = some m) :
    losStep g s t kd k = [(none, ⟨s.pcs.set t (.act kd k m), s.map, s.heap ++ [Mu.free], s.wh, s.rh⟩)] := by
  unfold losStep; rw [if_neg hkd, hg]

theorem losStep_miss (g : Bool) (s : State) (t : Nat) {kd : Kind} {k : Nat} (hkd : kd ≠ .clear)
    (hg : get s.map k = none) :
    losStep g s t kd k =
      [(none, ⟨s.pcs.set t (.act kd k s.heap.length), (k, s.heap.length) :: s.map, s.heap ++ [Mu.free], s.wh, s.rh⟩)] := by
  unfold losStep; rw [if_neg hkd, hg]

theorem mem_succ {rw g : Bool} {ops : List Op} {s : State} {p : Option Event × State} :
    p ∈ succ rw g ops s ↔ ∃ t, t < s.pcs.length ∧ p ∈ stepT rw g ops s t := by
  unfold succ
  simp [List.mem_flatMap, List.mem_range]

/-- The atomic actions of goroutine `t`, as an over-approximation of `stepT`: `tryFail` has no "not free" guard, `acqR`/`acqW`
do not mention the empty queues, the result `r` of an acquisition is left open.  Enough for invariants (one direction,
`step_of_stepT`); a proof that needs enabledness or the exact successor uses the equations `stepT_idle` … `stepT_ret`, `losStep_*` above. -/
inductive Step (rw g : Bool) (ops : List Op) (s : State) (t : Nat) : Option Event → State → Prop where
  | inv (op : Op) : s.pc t = .idle → op ∈ ops → invOk rw s t op = true →
      Step rw g ops s t (some (.inv t op)) (s.setPc t (.los op.kind op.key))
  | ret (r : Res) : s.pc t = .ret r → Step rw g ops s t (some (.res t r)) (s.setPc t .idle)
  | tryFail (kd : Kind) (k m : Nat) : s.pc t = .act kd k m → (kd = .trylock ∨ kd = .tryrlock) →
      Step rw g ops s t none (s.setPc t (.ret .ff))
  | hit (kd : Kind) (k m : Nat) : s.pc t = .los kd k → kd ≠ .clear → get s.map k = some m →
      Step rw g ops s t none { s with pcs := s.pcs.set t (.act kd k m), heap := s.heap ++ [Mu.free] }
  | miss (kd : Kind) (k : Nat) : s.pc t = .los kd k → kd ≠ .clear → get s.map k = none →
      Step rw g ops s t none { s with pcs := s.pcs.set t (.act kd k s.heap.length), heap := s.heap ++ [Mu.free],
                                       map := (k, s.heap.length) :: s.map }
  | clear (k : Nat) : s.pc t = .los .clear k → (g = true → clearOk s k = true) →
      Step rw g ops s t none { s with pcs := s.pcs.set t (.ret .done), map := del s.map k }
  | queue (k m : Nat) (p' : Pc) (pending' wq' : List Nat) :
      ((s.pc t = .act .lock k m ∧ p' = .ann k m ∧ pending' = (s.mu m).pending ∧ wq' = t :: (s.mu m).wq) ∨
       (s.pc t = .ann k m ∧ p' = .wait k m ∧ pending' = t :: (s.mu m).pending ∧ wq' = (s.mu m).wq.filter (· ≠ t)) ∨
       (s.pc t = .rel k m ∧ p' = .ret .done ∧ pending' = (s.mu m).pending ∧ wq' = (s.mu m).wq.filter (· ≠ t))) →
      Step rw g ops s t none (queueStep s t m p' pending' wq')
  | acqW (k m : Nat) (r : Res) :
      (s.pc t = .act .lock k m ∨ s.pc t = .act .trylock k m ∨ s.pc t = .wait k m) →
      (s.mu m).writer = none → (s.mu m).readers = [] → Step rw g ops s t none (acqW s t k m r)
  | unlock (k m : Nat) (p' : Pc) (wq' : List Nat) : s.pc t = .act .unlock k m →
      ((p' = .rel k m ∧ wq' = t :: (s.mu m).wq) ∨ (p' = .ret .done ∧ wq' = (s.mu m).wq)) →
      Step rw g ops s t none (relW s t k m p' wq')
  | acqR (kd : Kind) (k m : Nat) (r : Res) : s.pc t = .act kd k m → (kd = .rlock ∨ kd = .tryrlock) →
      (s.mu m).writer = none → Step rw g ops s t none (acqR s t k m r)
  | runlock (k m : Nat) : s.pc t = .act .runlock k m →
      Step rw g ops s t none { s with pcs := s.pcs.set t (.ret .done),
                                       heap := s.heap.set m { (s.mu m) with readers := (s.mu m).readers.erase t },
                                       rh := s.rh.erase (t, k) }

theorem step_of_stepT {rw g : Bool} {ops : List Op} {s : State} {t : Nat} {l : Option Event} {s' : State}
    (h : (l, s') ∈ stepT rw g ops s t) : Step rw g ops s t l s' := by
  unfold stepT at h
  split at h
  next hpc =>
    simp only [List.mem_map, List.mem_filter, Prod.mk.injEq] at h
    obtain ⟨op, ⟨hop, hok⟩, rfl, rfl⟩ := h
    exact .inv op hpc hop hok
  next kd k hpc =>
    unfold losStep at h
    split at h
    next hkd =>
      subst hkd
      split at h
      next hg =>
        cases List.mem_singleton.mp h
        refine .clear k hpc (fun e => ?_)
        subst e; simpa using hg
      next => simp at h
    next hkd =>
      split at h
      next m hm =>
        cases List.mem_singleton.mp h
        exact .hit kd k m hpc hkd hm
      next hm =>
        cases List.mem_singleton.mp h
        exact .miss kd k hpc hkd hm
  next kd k m hpc =>
    unfold actStep at h
    split at h
    · -- lock
      split at h
      next hrw =>
        cases List.mem_singleton.mp h
        exact .queue k m _ _ _ (.inl ⟨hpc, rfl, rfl, rfl⟩)
      next =>
        split at h
        next hc =>
          cases List.mem_singleton.mp h
          exact .acqW k m .done (.inl hpc) hc.1 hc.2
        next => simp at h
    · -- trylock
      split at h
      next hc =>
        cases List.mem_singleton.mp h
        exact .acqW k m .tt (.inr (.inl hpc)) hc.1 hc.2.1
      next =>
        cases List.mem_singleton.mp h
        exact .tryFail _ k m hpc (.inl rfl)
    · -- unlock
      split at h
      · cases List.mem_singleton.mp h
        exact .unlock k m _ _ hpc (.inl ⟨rfl, rfl⟩)
      · cases List.mem_singleton.mp h
        exact .unlock k m _ _ hpc (.inr ⟨rfl, rfl⟩)
    · -- rlock
      split at h
      next hc =>
        cases List.mem_singleton.mp h
        exact .acqR _ k m .done hpc (.inl rfl) hc.1
      next => simp at h
    · -- tryrlock
      split at h
      next hc =>
        cases List.mem_singleton.mp h
        exact .acqR _ k m .tt hpc (.inr rfl) hc.1
      next =>
        cases List.mem_singleton.mp h
        exact .tryFail _ k m hpc (.inr rfl)
    · -- runlock
      cases List.mem_singleton.mp h
      exact .runlock k m hpc
    · simp at h
  next k m hpc =>
    cases List.mem_singleton.mp h
    exact .queue k m _ _ _ (.inr (.inl ⟨hpc, rfl, rfl, rfl⟩))
  next k m hpc =>
    split at h
    next hc =>
      cases List.mem_singleton.mp h
      exact .acqW k m .done (.inr (.inr hpc)) hc.1 hc.2
    next => simp at h
  next k m hpc =>
    cases List.mem_singleton.mp h
    exact .queue k m _ _ _ (.inr (.inr ⟨hpc, rfl, rfl, rfl⟩))
  next r hpc =>
    cases List.mem_singleton.mp h
    exact .ret r hpc

theorem step_of_succ {rw g : Bool} {ops : List Op} {s : State} {l : Option Event} {s' : State}
    (h : (l, s') ∈ succ rw g ops s) : ∃ t, t < s.pcs.length ∧ Step rw g ops s t l s' := by
  obtain ⟨t, ht, hs⟩ := mem_succ.mp h
  exact ⟨t, ht, step_of_stepT hs⟩

end TypVerif.Lemmas.KeyedMutex
