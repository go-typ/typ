import TypVerif.Model.AtomicObj
import TypVerif.Lemmas.ConcAccept
import TypVerif.Lemmas.ListSet
/-
Linearizability of the generic atomic-object system, for every execution (all schedules, any number of
goroutines, any operations).
-/
namespace TypVerif.Lemmas.AtomicObj
open TypVerif TypVerif.Conc TypVerif.Model.AtomicObj

variable {σ Op Res : Type}

theorem getD_replicate {α : Type} (n t : Nat) (x : α) : (List.replicate n x).getD t x = x := by
  rw [List.getD_eq_getElem?_getD, List.getElem?_replicate]
  split <;> rfl

theorem pc_mk (s : State σ Op Res) (t t' : Nat) (p : TPc Op Res) (ht : t < s.pcs.length) (o : σ) l :
    State.pc ⟨s.pcs.set t p, o, l⟩ t' = if t' = t then p else s.pc t' :=
  getD_set_of_lt s.pcs t t' p .idle ht

theorem mem_succ {apply : σ → Op → List (σ × Res)} {menu : List Op} {s : State σ Op Res}
    {p : Option (Event Op Res) × State σ Op Res} :
    p ∈ succ apply menu s ↔ ∃ t, t < s.pcs.length ∧ p ∈ stepT apply menu s t := by
  simp only [succ, List.mem_flatMap, List.mem_range]

inductive Step (apply : σ → Op → List (σ × Res)) (menu : List Op) (s : State σ Op Res) :
    Option (Event Op Res) → State σ Op Res → Prop
  | inv {t op} : t < s.pcs.length → s.pc t = .idle → op ∈ menu →
      Step apply menu s (some (.inv t op)) ⟨s.pcs.set t (.pending op), s.obj, .inv t op :: s.log⟩
  | lin {t op o r} : t < s.pcs.length → s.pc t = .pending op → (o, r) ∈ apply s.obj op →
      Step apply menu s none ⟨s.pcs.set t (.done op r), o, .lin t op r :: s.log⟩
  | res {t op r} : t < s.pcs.length → s.pc t = .done op r →
      Step apply menu s (some (.res t r)) ⟨s.pcs.set t .idle, s.obj, .res t r :: s.log⟩

theorem mem_succ_iff {apply : σ → Op → List (σ × Res)} {menu : List Op} {s s' : State σ Op Res}
    {l : Option (Event Op Res)} : (l, s') ∈ succ apply menu s ↔ Step apply menu s l s' := by
  rw [mem_succ]
  constructor
  · rintro ⟨t, ht, h⟩
    unfold stepT at h
    split at h
    · next hpc =>
      obtain ⟨op, hop, heq⟩ := List.mem_map.mp h
      cases heq
      exact .inv ht hpc hop
    · next hpc =>
      obtain ⟨p, hp, heq⟩ := List.mem_map.mp h
      cases heq
      exact .lin ht hpc hp
    · next hpc =>
      cases List.mem_singleton.mp h
      exact .res ht hpc
  · intro h
    cases h with
    | @inv t op ht hpc hop => exact ⟨t, ht, by unfold stepT; rw [hpc]; exact List.mem_map.2 ⟨op, hop, rfl⟩⟩
    | @lin t op o r ht hpc happ => exact ⟨t, ht, by unfold stepT; rw [hpc]; exact List.mem_map.2 ⟨(o, r), happ, rfl⟩⟩
    | @res t op r ht hpc => exact ⟨t, ht, by unfold stepT; rw [hpc]; exact List.mem_singleton.2 rfl⟩

theorem linsOf_inv (t : Nat) (op : Op) (log : List (Entry Op Res)) :
    linsOf (Entry.inv t op :: log) = linsOf log := rfl
theorem linsOf_res (t : Nat) (r : Res) (log : List (Entry Op Res)) :
    linsOf (Entry.res t r :: log) = linsOf log := rfl
theorem linsOf_lin (t : Nat) (op : Op) (r : Res) (log : List (Entry Op Res)) :
    linsOf (Entry.lin t op r :: log) = (op, r) :: linsOf log := rfl
theorem histOf_inv (t : Nat) (op : Op) (log : List (Entry Op Res)) :
    histOf (Entry.inv t op :: log) = histOf log ++ [Event.inv t op] :=
  List.reverse_cons
theorem histOf_res (t : Nat) (r : Res) (log : List (Entry Op Res)) :
    histOf (Entry.res t r :: log) = histOf log ++ [Event.res t r] :=
  List.reverse_cons
theorem histOf_lin (t : Nat) (op : Op) (r : Res) (log : List (Entry Op Res)) :
    histOf (Entry.lin t op r :: log) = histOf log := rfl

/-- the ghost log records exactly the visible events -/
theorem hist_step {apply : σ → Op → List (σ × Res)} {menu : List Op} {s s' : State σ Op Res}
    {l : Option (Event Op Res)} (h : (l, s') ∈ succ apply menu s) :
    histOf s'.log = histOf s.log ++ visible [l] := by
  cases mem_succ_iff.1 h with
  | inv => exact histOf_inv _ _ _
  | lin => exact (List.append_nil _).symm
  | res => exact histOf_res _ _ _

theorem hist_exec (S : Spec) (menu : List S.Op) (n : Nat) {ls : List (Option (Event S.Op S.Res))}
    {s s' : (sys S menu n).State} (he : Exec (sys S menu n) s ls s') :
    histOf s'.log = histOf s.log ++ visible ls := by
  induction he with
  | nil s => exact (List.append_nil _).symm
  | @cons s s1 s2 l ls hmem _ ih =>
    rw [ih, hist_step hmem, List.append_assoc]
    cases l <;> rfl

variable [DecidableEq Op] [DecidableEq Res]

/-! ### the protocol automaton -/

/-- the three moves of the protocol automaton `advance` -/
inductive Adv : TPc Op Res → Entry Op Res → TPc Op Res → Prop
  | inv t op : Adv .idle (.inv t op) (.pending op)
  | lin t op r : Adv (.pending op) (.lin t op r) (.done op r)
  | res t op r : Adv (.done op r) (.res t r) .idle

theorem advance_eq_some {p q : TPc Op Res} {e : Entry Op Res} : advance p e = some q ↔ Adv p e q := by
  constructor
  · intro h
    cases p with
    | idle => cases e <;> cases h; exact .inv _ _
    | pending op =>
      cases e with
      | inv | res => cases h
      | lin t op' r =>
        simp only [advance] at h
        split at h <;> cases h
        subst_vars; exact .lin _ _ _
    | done op r =>
      cases e with
      | inv | lin => cases h
      | res t r' =>
        simp only [advance] at h
        split at h <;> cases h
        subst_vars; exact .res _ _ _
  · rintro ⟨⟩
    · rfl
    · exact if_pos rfl
    · exact if_pos rfl

theorem runThread_cons_ne {t : Nat} {e : Entry Op Res} (h : e.tid ≠ t) (log : List (Entry Op Res)) :
    runThread t (e :: log) = runThread t log := by
  show (match runThread t log with | none => none | some p => if e.tid = t then advance p e else some p) = _
  cases runThread t log with
  | none => rfl
  | some p => exact if_neg h

theorem runThread_cons_eq {t : Nat} {e : Entry Op Res} (h : e.tid = t) (log : List (Entry Op Res)) :
    runThread t (e :: log) = (runThread t log).bind (advance · e) := by
  show (match runThread t log with | none => none | some p => if e.tid = t then advance p e else some p) = _
  cases runThread t log with
  | none => rfl
  | some p => exact if_pos h

theorem runThread_cons_eq_some {t : Nat} {e : Entry Op Res} {log : List (Entry Op Res)} {q : TPc Op Res}
    (he : e.tid = t) : runThread t (e :: log) = some q ↔ ∃ p, runThread t log = some p ∧ Adv p e q := by
  rw [runThread_cons_eq he, Option.bind_eq_some_iff]
  exact exists_congr fun p => and_congr_right fun _ => advance_eq_some

/-- one more entry `e` of goroutine `t`, which takes `t`'s automaton from `p` to `q`; the other goroutines stay -/
theorem runThread_cons {t : Nat} {e : Entry Op Res} {log : List (Entry Op Res)} {p q : TPc Op Res} (he : e.tid = t)
    (hp : runThread t log = some p) (ha : Adv p e q) (u : Nat) :
    runThread u (e :: log) = if u = t then some q else runThread u log := by
  by_cases h : u = t
  · rw [if_pos h, h, runThread_cons_eq he, hp]
    exact advance_eq_some.mpr ha
  · rw [if_neg h, runThread_cons_ne (he ▸ Ne.symm h)]

theorem runThread_cons_isSome {t : Nat} {e : Entry Op Res} {log : List (Entry Op Res)} (he : e.tid = t)
    (h : (runThread t (e :: log)).isSome = true) :
    ∃ p q, runThread t log = some p ∧ Adv p e q ∧ runThread t (e :: log) = some q := by
  obtain ⟨q, hq⟩ := Option.isSome_iff_exists.mp h
  obtain ⟨p, hp, ha⟩ := (runThread_cons_eq_some he).mp hq
  exact ⟨p, q, hp, ha, hq⟩

theorem runThread_induction (t : Nat) {motive : List (Entry Op Res) → TPc Op Res → Prop} (nil : motive [] .idle)
    (other : ∀ e log p, e.tid ≠ t → runThread t log = some p → motive log p → motive (e :: log) p)
    (step : ∀ e log p q, e.tid = t → runThread t log = some p → Adv p e q → motive log p → motive (e :: log) q) :
    ∀ log p, runThread t log = some p → motive log p := by
  intro log
  induction log with
  | nil => intro p h; cases h; exact nil
  | cons e log ih =>
    intro q h
    by_cases he : e.tid = t
    · obtain ⟨p, hp, ha⟩ := (runThread_cons_eq_some he).mp h
      exact step e log p q he hp ha (ih p hp)
    · rw [runThread_cons_ne he] at h
      exact other e log q he h (ih q h)

theorem runThread_append_isSome (t : Nat) (a b : List (Entry Op Res))
    (h : (runThread t (a ++ b)).isSome = true) : (runThread t b).isSome = true := by
  induction a with
  | nil => exact h
  | cons e a ih =>
    apply ih
    cases hx : runThread t (a ++ b) with
    | some p => rfl
    | none => simp only [List.cons_append, runThread, hx] at h; cases h

theorem runThread_skip (t : Nat) (a b : List (Entry Op Res)) (hno : ∀ x ∈ a, x.tid ≠ t) :
    runThread t (a ++ b) = runThread t b := by
  induction a with
  | nil => rfl
  | cons e a ih =>
    rw [List.cons_append, runThread_cons_ne (hno e List.mem_cons_self),
      ih (fun x hx => hno x (List.mem_cons_of_mem _ hx))]

/-! ### the invariant -/

structure Good (S : Spec) [DecidableEq S.Op] [DecidableEq S.Res] (s : State S.σ S.Op S.Res) : Prop where
  seq : SeqRun S (linsOf s.log) s.obj
  thread : ∀ t, runThread t s.log = some (s.pc t)

theorem good_init (S : Spec) [DecidableEq S.Op] [DecidableEq S.Res] (n : Nat) : Good S (init S n) :=
  ⟨SeqRun.nil, fun t => congrArg some (getD_replicate n t TPc.idle).symm⟩

theorem good_step (S : Spec) [DecidableEq S.Op] [DecidableEq S.Res] (menu : List S.Op)
    (s : State S.σ S.Op S.Res) (l : Option (Event S.Op S.Res)) (s' : State S.σ S.Op S.Res)
    (hg : Good S s) (hmem : (l, s') ∈ succ S.apply menu s) : Good S s' := by
  have hthr : ∀ {t : Nat} (e : Entry S.Op S.Res) (p : TPc S.Op S.Res) (o : S.σ), t < s.pcs.length → e.tid = t →
      Adv (s.pc t) e p → ∀ t', runThread t' (e :: s.log) = some (State.pc ⟨s.pcs.set t p, o, e :: s.log⟩ t') := by
    intro t e p o ht he hadv t'
    rw [pc_mk _ _ _ _ ht, runThread_cons he (hg.thread t) hadv, hg.thread t']
    split <;> rfl
  cases mem_succ_iff.1 hmem with
  | @inv t op ht hpc _ => exact ⟨hg.seq, hthr _ _ _ ht rfl (hpc ▸ .inv t op)⟩
  | @lin t op o r ht hpc happ => exact ⟨SeqRun.cons hg.seq happ, hthr _ _ _ ht rfl (hpc ▸ .lin t op r)⟩
  | @res t op r ht hpc => exact ⟨hg.seq, hthr _ _ _ ht rfl (hpc ▸ .res t op r)⟩

theorem good_reachable (S : Spec) [DecidableEq S.Op] [DecidableEq S.Res] (menu : List S.Op) (n : Nat) :
    ∀ s, Reachable (sys S menu n) s → Good S s :=
  Conc.invariant (sys S menu n) (Good S) (good_init S n) (fun s l s' h hm => good_step S menu s l s' h hm)

/-- **Linearizability**: the visible history of every execution of the atomic-object system (any number of
goroutines, any schedule, any operations) is linearizable with respect to the sequential specification;
the witness is the order of the linearization steps. -/
theorem linearizable (S : Spec) [DecidableEq S.Op] [DecidableEq S.Res] (menu : List S.Op) (n : Nat)
    {ls : List (Option (Event S.Op S.Res))} {s : (sys S menu n).State}
    (he : Exec (sys S menu n) (sys S menu n).init ls s) : Linearizable S (visible ls) := by
  have hg := good_reachable S menu n s (he.reachable Reachable.init)
  refine ⟨s.log, ?_, ⟨s.obj, hg.seq⟩, ?_⟩
  · exact (hist_exec S menu n he).trans (List.nil_append _)
  · intro t; rw [hg.thread t]; rfl

/-! ### what the thread protocol means: the point lies inside the interval -/

/-- In a well-formed log a linearization point `lin t op r` lies after the invocation `inv t op` that is still
unanswered at that point, and the next entry of goroutine `t`, if any, is the response `res t r` carrying the
same result.  (Hence if `res` of A precedes `inv` of B in the history, A's point precedes B's.) -/
theorem lin_in_interval (t : Nat) (op : Op) (r : Res) (pre post : List (Entry Op Res))
    (h : (runThread t (post ++ Entry.lin t op r :: pre)).isSome = true) :
    runThread t pre = some (.pending op) ∧
    ∀ post1 e post2, post = post2 ++ e :: post1 → e.tid = t → (∀ x ∈ post1, x.tid ≠ t) → e = Entry.res t r := by
  obtain ⟨p, q, hpre, ha, hq⟩ :=
    runThread_cons_isSome (t := t) (e := .lin t op r) rfl (runThread_append_isSome t post _ h)
  cases ha
  refine ⟨hpre, ?_⟩
  intro post1 e post2 hp he hno
  subst hp
  rw [List.append_assoc] at h
  obtain ⟨p', q', hp', ha', _⟩ :=
    runThread_cons_isSome (log := post1 ++ .lin t op r :: pre) he (runThread_append_isSome t post2 _ h)
  rw [runThread_skip t post1 _ hno, hq] at hp'
  cases hp'
  cases ha'
  exact he ▸ rfl

end TypVerif.Lemmas.AtomicObj
