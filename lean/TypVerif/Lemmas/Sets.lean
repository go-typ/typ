import TypVerif.Model.Sets
import TypVerif.Lemmas.SyncMapRange
/-
Membership abstraction of the two `sets.Set` implementations and the effect of every primitive method
and callback loop on it (C03).
-/
namespace TypVerif.Lemmas.Sets
open TypVerif.Model.Sets
open TypVerif.Model.SyncMap (State load loadOrStore loadAndDelete akeys rangePromote rangeOrd)
open TypVerif.Lemmas.SyncMap (SeqInv abs)
open TypVerif.Spec.PMap (cut)
open TypVerif

variable {α : Type} [DecidableEq α]

def mem : AnySet α → α → Bool
  | .mapSet l, x => l.contains x
  | .syncSet m, x => (abs m x).isSome

/-- well-formed layouts: the Go map has no duplicate keys / the concurrent map satisfies `SeqInv` -/
def SetOK : AnySet α → Prop
  | .mapSet l => l.Nodup
  | .syncSet m => SeqInv m

theorem mem_init (x : α) : mem (.syncSet (State.init : State α Unit)) x = false := by
  show (abs (State.init : State α Unit) x).isSome = false
  rw [Lemmas.SyncMap.abs_init]; rfl

theorem emptyLike_ok (s : AnySet α) : SetOK (emptyLike s) ∧ ∀ x, mem (emptyLike s) x = false := by
  cases s with
  | mapSet l => exact ⟨List.nodup_nil, fun x => rfl⟩
  | syncSet m => exact ⟨Lemmas.SyncMap.SeqInv.init_ok, mem_init⟩

theorem emptyOfKind_ok (kind : Nat) : SetOK (AnySet.emptyOfKind kind : AnySet α) ∧ ∀ x, mem (AnySet.emptyOfKind kind : AnySet α) x = false := by
  cases kind with
  | zero => exact ⟨List.nodup_nil, fun x => rfl⟩
  | succ n => exact ⟨Lemmas.SyncMap.SeqInv.init_ok, mem_init⟩

theorem has_ok (s : AnySet α) (hs : SetOK s) (v : α) :
    SetOK (has s v).1 ∧ (∀ x, mem (has s v).1 x = mem s x) ∧ (has s v).2 = mem s v := by
  cases s with
  | mapSet l => exact ⟨hs, fun _ => rfl, rfl⟩
  | syncSet m =>
    obtain ⟨h1, h2, h3⟩ := Lemmas.SyncMap.load_ok hs v
    refine ⟨h1, fun x => ?_, ?_⟩
    · show (abs (load m v).1 x).isSome = (abs m x).isSome
      rw [h2]
    · show (load m v).2.isSome = (abs m v).isSome
      rw [h3]

theorem add_ok (s : AnySet α) (hs : SetOK s) (v : α) :
    SetOK (add s v).1 ∧ (∀ x, mem (add s v).1 x = (decide (x = v) || mem s x)) ∧ (add s v).2 = !mem s v := by
  cases s with
  | mapSet l =>
    cases hc : l.contains v with
    | true =>
      rw [show add (.mapSet l) v = (.mapSet l, false) from if_pos hc]
      refine ⟨hs, fun x => ?_, (congrArg not hc).symm⟩
      cases hd : decide (x = v) with
      | false => rfl
      | true => rw [of_decide_eq_true hd]; exact hc
    | false =>
      have hv : v ∉ l := fun hm => Bool.false_ne_true (hc.symm.trans (List.contains_iff_mem.mpr hm))
      rw [show add (.mapSet l) v = (.mapSet (l ++ [v]), true) from if_neg (hc ▸ Bool.false_ne_true)]
      refine ⟨?_, fun x => ?_, (congrArg not hc).symm⟩
      · show (l ++ [v]).Nodup
        rw [List.nodup_append]
        refine ⟨hs, by simp, ?_⟩
        intro a ha b hb hab
        simp at hb; subst hb; subst hab; exact hv ha
      · show (l ++ [v]).contains x = (decide (x = v) || l.contains x)
        simp [Bool.or_comm]
  | syncSet m =>
    obtain ⟨h1, h2, h3⟩ := Lemmas.SyncMap.loadOrStore_ok hs v ()
    refine ⟨h1, fun x => ?_, congrArg (fun p : Unit × Bool => !p.2) h3⟩
    show (abs (loadOrStore m v ()).1 x).isSome = (decide (x = v) || (abs m x).isSome)
    rw [h2]
    by_cases hx : x = v
    · rw [if_pos hx, decide_eq_true hx]; rfl
    · rw [if_neg hx, decide_eq_false hx]; rfl

theorem remove_ok (s : AnySet α) (hs : SetOK s) (v : α) :
    SetOK (remove s v).1 ∧ (∀ x, mem (remove s v).1 x = (!decide (x = v) && mem s x)) ∧ (remove s v).2 = mem s v := by
  cases s with
  | mapSet l =>
    cases hc : l.contains v with
    | false =>
      rw [show remove (.mapSet l) v = (.mapSet l, false) from if_pos (congrArg not hc)]
      refine ⟨hs, fun x => ?_, hc.symm⟩
      cases hd : decide (x = v) with
      | false => rfl
      | true => rw [of_decide_eq_true hd]; exact hc
    | true =>
      rw [show remove (.mapSet l) v = (.mapSet (l.filter (fun y => !decide (y = v))), true) from
        if_neg (by rw [hc]; exact Bool.false_ne_true)]
      refine ⟨hs.sublist List.filter_sublist, fun x => ?_, hc.symm⟩
      show (l.filter (fun y => !decide (y = v))).contains x = (!decide (x = v) && l.contains x)
      rw [Bool.eq_iff_iff, List.contains_iff_mem, List.mem_filter, Bool.and_eq_true, List.contains_iff_mem,
        and_comm]
  | syncSet m =>
    obtain ⟨h1, h2, h3⟩ := Lemmas.SyncMap.loadAndDelete_ok hs v
    refine ⟨h1, fun x => ?_, congrArg Option.isSome h3⟩
    show (abs (loadAndDelete m v).1 x).isSome = (!decide (x = v) && (abs m x).isSome)
    rw [h2]
    by_cases hx : x = v
    · rw [if_pos hx, decide_eq_true hx]; rfl
    · rw [if_neg hx, decide_eq_false hx]; rfl

theorem cut_map {β γ : Type} (f : β → γ) (n : Int) (l : List β) : (cut n l).map f = cut n (l.map f) := by
  unfold cut; split
  · rfl
  · rw [List.map_take]

theorem cut_zero {β : Type} (l : List β) : cut 0 l = l := if_pos (Int.le_refl 0)

theorem rangeN_ok (s : AnySet α) (hs : SetOK s) (n : Int) :
    SetOK (rangeN s n).1 ∧ (∀ x, mem (rangeN s n).1 x = mem s x) ∧
    (rangeN s n).2 = cut n (rangeAll s).2 ∧ (rangeAll s).2.Nodup ∧ (∀ x, x ∈ (rangeAll s).2 ↔ mem s x = true) := by
  cases s with
  | mapSet l =>
    refine ⟨hs, fun _ => rfl, ?_, ?_, ?_⟩
    · show cut n l = cut n (cut 0 l); rw [cut_zero]
    · show (cut 0 l).Nodup; rw [cut_zero]; exact hs
    · intro x; show x ∈ cut 0 l ↔ l.contains x = true; rw [cut_zero]; simp
  | syncSet m =>
    obtain ⟨h1, h2, h3⟩ := Lemmas.SyncMap.rangeOrd_ok hs (akeys (rangePromote m).read) n
    obtain ⟨g1, g2, g3⟩ := Lemmas.SyncMap.rangeOrd_ok hs (akeys (rangePromote m).read) 0
    obtain ⟨_, _, r3, r4, r5, _⟩ := Lemmas.SyncMap.range_seq hs (akeys (rangePromote m).read) 0 (List.Perm.refl _)
    have hall : (rangeAll (AnySet.syncSet m)).2 = (rangeOrd m (akeys (rangePromote m).read) 0).2.map Prod.fst := rfl
    refine ⟨h1, fun x => ?_, ?_, ?_, ?_⟩
    · show (abs (rangeOrd m (akeys (rangePromote m).read) n).1 x).isSome = (abs m x).isSome
      rw [h2]
    · rw [hall]
      show (rangeOrd m (akeys (rangePromote m).read) n).2.map Prod.fst = _
      rw [h3, g3, cut_zero, cut_map]
    · rw [hall]; exact r3
    · intro x
      rw [hall, List.mem_map]
      show _ ↔ (abs m x).isSome = true
      constructor
      · rintro ⟨⟨k, u⟩, hk, rfl⟩
        rw [r4 k u hk]; rfl
      · intro hx
        cases ha : abs m x with
        | none => rw [ha] at hx; cases hx
        | some u => exact ⟨(x, u), r5 (Int.le_refl 0) x u ha, rfl⟩

theorem rangeAll_ok (s : AnySet α) (hs : SetOK s) :
    SetOK (rangeAll s).1 ∧ (∀ x, mem (rangeAll s).1 x = mem s x) ∧
    (rangeAll s).2.Nodup ∧ (∀ x, x ∈ (rangeAll s).2 ↔ mem s x = true) := by
  obtain ⟨h1, h2, _, h5, h6⟩ := rangeN_ok s hs 0
  exact ⟨h1, h2, h5, h6⟩

/-- a second full `Range` finds the layout the first one left and visits the same values -/
theorem rangeAll_idem (s : AnySet α) : rangeAll (rangeAll s).1 = rangeAll s := by
  cases s with
  | mapSet l => rfl
  | syncSet m =>
    show rangeAll (.syncSet (rangePromote m)) = _
    unfold rangeAll rangeN Model.SyncMap.range rangeOrd
    simp only [Lemmas.SyncMap.rangePromote_idem]

theorem contains_rangeAll {s : AnySet α} (hs : SetOK s) (x : α) : (rangeAll s).2.contains x = mem s x := by
  rw [Bool.eq_iff_iff, List.contains_iff_mem]
  exact (rangeAll_ok s hs).2.2.2 x

/-- a full `Range` is any duplicate-free enumeration of the members, up to order -/
theorem rangeAll_perm {s : AnySet α} (hs : SetOK s) {keys : List α} (hk : keys.Nodup)
    (hkm : ∀ x, x ∈ keys ↔ mem s x = true) : (rangeAll s).2.Perm keys :=
  (List.perm_ext_iff_of_nodup (rangeAll_ok s hs).2.2.1 hk).mpr fun x => by rw [(rangeAll_ok s hs).2.2.2, hkm]

/-- a loop `if s.op(v) { count++ }` over `vs`, where `op` makes its argument a member (`b = true`: `Add`) or a
non-member (`b = false`: `Remove`) and reports whether that changed the set -/
theorem countLoop_ok (b : Bool) {op : AnySet α → α → AnySet α × Bool}
    {loop : AnySet α → List α → Nat → AnySet α × Nat}
    (hnil : ∀ s c, loop s [] c = (s, c))
    (hcons : ∀ s v vs c, loop s (v :: vs) c = loop (op s v).1 vs (if (op s v).2 then c + 1 else c))
    (hop : ∀ s v, SetOK s → SetOK (op s v).1 ∧ (∀ x, mem (op s v).1 x = bif x == v then b else mem s x) ∧
      (op s v).2 = (mem s v != b)) :
    ∀ (vs : List α) (s : AnySet α) (c : Nat), SetOK s →
      SetOK (loop s vs c).1 ∧ (∀ x, mem (loop s vs c).1 x = bif vs.contains x then b else mem s x) ∧
      (vs.Nodup → (loop s vs c).2 = c + (vs.filter (fun v => mem s v != b)).length) := by
  intro vs
  induction vs with
  | nil =>
    intro s c hs
    rw [hnil]
    exact ⟨hs, fun x => rfl, fun _ => rfl⟩
  | cons v rest ih =>
    intro s c hs
    obtain ⟨a1, a2, a3⟩ := hop s v hs
    obtain ⟨i1, i2, i3⟩ := ih (op s v).1 (if (op s v).2 then c + 1 else c) a1
    rw [hcons]
    refine ⟨i1, fun x => ?_, fun hn => ?_⟩
    · rw [i2, a2, List.contains_cons]
      cases x == v <;> cases rest.contains x <;> rfl
    · rw [List.nodup_cons] at hn
      -- `op` changed the membership of `v` only, and `v` does not come again
      have hrest : ∀ w ∈ rest, (mem (op s v).1 w != b) = (mem s w != b) := fun w hw => by
        rw [a2, beq_eq_false_iff_ne.mpr fun (e : w = v) => hn.1 (e ▸ hw)]; rfl
      rw [i3 hn.2, a3, List.filter_cons, List.filter_congr hrest]
      cases mem s v != b
      · rfl
      · exact (Nat.add_assoc c 1 _).trans (congrArg (c + ·) (Nat.add_comm 1 _))

theorem addLoop_ok (vs : List α) (s : AnySet α) (c : Nat) (hs : SetOK s) :
    SetOK (addLoop s vs c).1 ∧ (∀ x, mem (addLoop s vs c).1 x = (vs.contains x || mem s x)) ∧
    (vs.Nodup → (addLoop s vs c).2 = c + (vs.filter (fun v => !mem s v)).length) := by
  have h := countLoop_ok true (op := add) (loop := addLoop) (fun _ _ => rfl) (fun _ _ _ _ => rfl)
    (fun s v hs => ⟨(add_ok s hs v).1, fun x => ((add_ok s hs v).2.1 x).trans (Bool.cond_true_left _ _).symm,
      (add_ok s hs v).2.2.trans (Bool.bne_true _).symm⟩) vs s c hs
  simp only [Bool.cond_true_left, Bool.bne_true] at h
  exact h

theorem removeLoop_ok (vs : List α) (s : AnySet α) (c : Nat) (hs : SetOK s) :
    SetOK (removeLoop s vs c).1 ∧ (∀ x, mem (removeLoop s vs c).1 x = (!vs.contains x && mem s x)) ∧
    (vs.Nodup → (removeLoop s vs c).2 = c + (vs.filter (fun v => mem s v)).length) := by
  have h := countLoop_ok false (op := remove) (loop := removeLoop) (fun _ _ => rfl) (fun _ _ _ _ => rfl)
    (fun s v hs => ⟨(remove_ok s hs v).1, fun x => ((remove_ok s hs v).2.1 x).trans (Bool.cond_false_left _ _).symm,
      (remove_ok s hs v).2.2.trans (Bool.bne_false _).symm⟩) vs s c hs
  simp only [Bool.cond_false_left, Bool.bne_false] at h
  exact h

theorem filterLoop_ok (keep : Bool) : ∀ (vs : List α) (q res : AnySet α), SetOK q → SetOK res →
    SetOK (filterLoop keep q res vs).1 ∧ SetOK (filterLoop keep q res vs).2 ∧
    (∀ x, mem (filterLoop keep q res vs).1 x = mem q x) ∧
    (∀ x, mem (filterLoop keep q res vs).2 x = (mem res x || (vs.contains x && (mem q x == keep)))) := by
  intro vs
  induction vs with
  | nil => intro q res hq hr; exact ⟨hq, hr, fun _ => rfl, fun x => by simp [filterLoop]⟩
  | cons v rest ih =>
    intro q res hq hr
    obtain ⟨h1, h2, h3⟩ := has_ok q hq v
    obtain ⟨a1, a2, _⟩ := add_ok res hr v
    -- the result after this round, whichever way the test went
    have hres : SetOK (if (has q v).2 == keep then (add res v).1 else res) ∧
        ∀ x, mem (if (has q v).2 == keep then (add res v).1 else res) x =
          (mem res x || (decide (x = v) && (mem q v == keep))) := by
      rw [h3]
      cases mem q v == keep with
      | false => exact ⟨hr, fun x => by rw [Bool.and_false, Bool.or_false]; rfl⟩
      | true => exact ⟨a1, fun x => by rw [Bool.and_true, Bool.or_comm]; exact a2 x⟩
    obtain ⟨i1, i2, i3, i4⟩ := ih (has q v).1 (if (has q v).2 == keep then (add res v).1 else res) h1 hres.1
    refine ⟨i1, i2, fun x => (i3 x).trans (h2 x), fun x => (i4 x).trans ?_⟩
    have hkx : (decide (x = v) && (mem q v == keep)) = (decide (x = v) && (mem q x == keep)) := by
      cases hd : decide (x = v) with
      | false => rfl
      | true => rw [of_decide_eq_true hd]
    rw [h2, hres.2, hkx, List.contains_cons, Bool.and_or_distrib_right, Bool.or_assoc]
    rfl

end TypVerif.Lemmas.Sets
