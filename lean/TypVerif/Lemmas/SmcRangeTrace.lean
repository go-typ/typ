import TypVerif.Lemmas.SmcRange
/-
C04, `Range` under every schedule, the TRACE-LEVEL reading: "a key present with the same value in every state of a
`Range` call is passed to the callback with that value".

* `exec_noExp`          no single step of the model turns a value pointer into `expunged`: `NoExp` relates the entry
                        tables before and after, every branch of `exec` leaves the table alone or writes one slot
                        (the only branch writing `expunged` is the CAS nil→expunged of `tryExpungeLocked`).
* `PathAll`             executions with all intermediate states exposed.
* `InLoopVisit`         the invariant carried along the path.
-/
namespace TypVerif.Lemmas.Smc
open TypVerif TypVerif.Conc TypVerif.Model TypVerif.Model.SyncMapConc TypVerif.Model.RelObj
open TypVerif.Model.SyncMap (alookup ainsert aerase akeys)
open TypVerif.Lemmas.SyncMap

set_option linter.unusedSectionVars false

variable {K V : Type} [DecidableEq K] [DecidableEq V] [Inhabited V]

/-- no slot that holds a value in the entry table `es` is `expunged` in `es'` -/
def NoExp (es es' : List (Ptr V)) : Prop :=
  ∀ e, isVal (es.getD e .nil) = true → (es'.getD e .nil).isExpunged = false

theorem NoExp.refl (es : List (Ptr V)) : NoExp es es := fun _ hv => not_isExpunged_of_isVal hv

/-- writing `p` into slot `e`: `expunged` may only go where no value was -/
theorem NoExp.set (es : List (Ptr V)) (e : EId) {p : Ptr V}
    (h : p.isExpunged = true → isVal (es.getD e .nil) = false) : NoExp es (es.set e p) := by
  intro e' hv
  rw [List.getD_eq_getElem?_getD, List.getElem?_set]
  split
  · rename_i he
    subst he
    split
    · cases hp : p.isExpunged
      · exact hp
      · rw [h hp] at hv; cases hv
    · rfl
  · exact not_isExpunged_of_isVal hv

theorem NoExp.set_val (es : List (Ptr V)) (e : EId) (i : Nat) (v : V) : NoExp es (es.set e (.val i v)) :=
  NoExp.set es e nofun

theorem NoExp.set_nil (es : List (Ptr V)) (e : EId) : NoExp es (es.set e .nil) :=
  NoExp.set es e nofun

theorem NoExp.append (es : List (Ptr V)) (i : Nat) (v : V) : NoExp es (es ++ [.val i v]) := by
  intro e hv
  rw [List.getD_eq_getElem?_getD, List.getElem?_append]
  split
  · exact not_isExpunged_of_isVal hv
  · cases (e - es.length) <;> rfl

/-! the entry table after the compound steps of `exec` -/

theorem missTail_entries (sh : Shared K V) (k : K) (r : Res K V) : (missTail sh k r).1.entries = sh.entries := by
  unfold missTail
  dsimp only
  split <;> rfl

theorem losOk_entries (sh : Shared K V) (c : LosCtx) (k : K) (a : V) (l : Bool) :
    (losOk sh c k a l).1.entries = sh.entries := by
  cases c
  · rfl
  · rfl
  · exact missTail_entries sh k _

theorem losFail_entries (sh : Shared K V) (c : LosCtx) (k : K) (v : V) : (losFail sh c k v).1.entries = sh.entries := by
  cases c
  · rfl
  · rfl
  · exact missTail_entries sh k _

theorem losLoaded_entries (sh : Shared K V) (c : LosCtx) (k : K) (v : V) (e : EId) :
    (losLoaded sh c k v e).1.entries = sh.entries := by
  unfold losLoaded
  split
  · exact losFail_entries sh c k v
  · exact losOk_entries sh c k _ true
  · rfl

theorem expLoaded_entries (sh : Shared K V) (c : NewCtx) (k : K) (v : V) (rm todo : List (K × EId)) (k' : K)
    (e' : EId) : (expLoaded sh c k v rm todo k' e').1.entries = sh.entries := by
  unfold expLoaded
  dsimp only
  split
  · rfl
  · exact expDone_entries sh _ k' e'

theorem finishNew_entries (sh : Shared K V) (c : NewCtx) (k : K) (v : V) :
    (finishNew sh c k v).1.entries = sh.entries ++ [.val (freshId sh) v] :=
  addNew_entries sh k v

theorem noExp_newTail (sh : Shared K V) (c : NewCtx) (k : K) (v : V) :
    NoExp sh.entries (newTail sh c k v).1.entries := by
  unfold SyncMapConc.newTail
  split
  · split
    · exact NoExp.refl _
    · exact NoExp.refl _
  · rw [finishNew_entries]
    exact NoExp.append _ _ _

/-- a property of every result of `lockStep` -/
theorem lockStep_elim (sh : Shared K V) (t : Tid) (next : Pc K V) (f : Shared K V × Pc K V → Prop) :
    (lockStep sh t next).elim True f ↔ (sh.mu = none → f ({ sh with mu := some t }, next)) := by
  unfold lockStep
  split
  · rename_i h
    simp only [Option.elim_some, h, true_imp_iff]
  · rename_i h
    simp only [Option.elim_none, h, reduceCtorEq, false_imp_iff]

/-- **no single step of the model turns a value pointer into `expunged`**: in every branch of `exec` the entry table
is left alone, or one slot receives a value or nil, or a value is appended; the one branch left over by `simp` is the
CAS nil→expunged of `tryExpungeLocked` (`expCas`), which has just found nil in the slot -/
theorem exec_noExp (sh : Shared K V) (t : Tid) (pc : Pc K V) :
    (exec sh t pc).elim True fun r => NoExp sh.entries r.1.entries := by
  fun_cases exec sh t pc
  all_goals simp +zetaDelta only [Option.elim_some, Option.elim_none, lockStep_elim, unlock_entries, promote_entries,
    setDirty_entries, delDirty_entries, missStep_fst_entries, setP_entries, storeVal_entries, losOk_entries,
    losLoaded_entries, expLoaded_entries, finishNew_entries, noExp_newTail, NoExp.refl, NoExp.append, NoExp.set_val,
    NoExp.set_nil, implies_true]
  rename_i h
  exact NoExp.set _ _ fun _ => congrArg isVal (isNil_iff.mp h)

/-- **no step of the system turns a value pointer into `expunged`** -/
theorem stepT_noExp {menu : List (Op K V)} {s s' : State K V} {l : Option (SyncMapConc.Event K V)} {u : Tid}
    (h : (l, s') ∈ stepT menu s u) : NoExp s.sh.entries s'.sh.entries := by
  rcases mem_stepT_iff.mp h with ⟨_, op, _, _, rfl⟩ | ⟨r, _, _, rfl⟩ | ⟨_, _, _, ⟨sh', pc', hex, rfl⟩ | ⟨c, _, rfl⟩⟩
  · exact NoExp.refl _
  · exact NoExp.refl _
  · have h := exec_noExp s.sh u (s.pc u)
    rwa [hex] at h
  · exact NoExp.refl _

theorem succ_noExp {menu : List (Op K V)} {s s' : State K V} {l : Option (SyncMapConc.Event K V)}
    (h : (l, s') ∈ succ menu s) : NoExp s.sh.entries s'.sh.entries := by
  obtain ⟨u, _, hin⟩ := mem_succ_iff.mp h
  exact stepT_noExp hin

theorem succ_not_expunged_of_isVal {menu : List (Op K V)} {s s' : State K V} {l : Option (SyncMapConc.Event K V)}
    {e : EId} (hv : isVal (getP s.sh e) = true) (h : (l, s') ∈ succ menu s) : ¬ (getP s'.sh e).isExpunged = true :=
  Bool.eq_false_iff.mp (succ_noExp h e hv)

/-- every state on an execution from `s` to `s'` (both ends included) satisfies `P` -/
inductive PathAll (sys : Conc.Sys) (P : sys.State → Prop) : sys.State → sys.State → Prop where
  | refl {s : sys.State} : P s → PathAll sys P s s
  | step {s s' s'' : sys.State} {l : Option sys.Event} :
      P s → (l, s') ∈ sys.succ s → PathAll sys P s' s'' → PathAll sys P s s''

theorem PathAll.first {sys : Conc.Sys} {P : sys.State → Prop} {s s' : sys.State} (h : PathAll sys P s s') : P s := by
  cases h with
  | refl h => exact h
  | step h _ _ => exact h

theorem PathAll.last {sys : Conc.Sys} {P : sys.State → Prop} {s s' : sys.State} (h : PathAll sys P s s') : P s' := by
  induction h with
  | refl h => exact h
  | step _ _ _ ih => exact ih

theorem PathAll.mono {sys : Conc.Sys} {P Q : sys.State → Prop} (hPQ : ∀ s, P s → Q s) {s s' : sys.State}
    (h : PathAll sys P s s') : PathAll sys Q s s' := by
  induction h with
  | refl h => exact PathAll.refl (hPQ _ h)
  | step h hm _ ih => exact PathAll.step (hPQ _ h) hm ih

theorem PathAll.reachable {sys : Conc.Sys} {P : sys.State → Prop} {s s' : sys.State} (h : PathAll sys P s s')
    (hr : Reachable sys s) : Reachable sys s' := by
  induction h with
  | refl _ => exact hr
  | step _ hm _ ih => exact ih (Reachable.step hr hm)

/-- strengthening along a path: an invariant `I` that holds at the start and is carried by every step whose both ends
satisfy `P` (from a reachable state) holds, together with reachability, in every state of the path -/
theorem PathAll.strengthen {sys : Conc.Sys} {P I : sys.State → Prop}
    (hstep : ∀ s l s', Reachable sys s → P s → I s → (l, s') ∈ sys.succ s → P s' → I s')
    {s s' : sys.State} (h : PathAll sys P s s') (hr : Reachable sys s) (hI : I s) :
    PathAll sys (fun x => Reachable sys x ∧ P x ∧ I x) s s' := by
  induction h with
  | refl h => exact PathAll.refl ⟨hr, h, hI⟩
  | step h hm hrest ih =>
    exact PathAll.step ⟨hr, h, hI⟩ hm (ih (Reachable.step hr hm) (hstep _ _ _ hr h hI hm hrest.first))

/-- `e` is `read.m[k]` and holds `v` -/
def Held (sh : Shared K V) (k : K) (v : V) (e : EId) : Prop :=
  alookup k sh.readM = some e ∧ (getP sh e).value? = some v

/-- `f(k, v)` has been called, or a pair of `k` among `todo` is `read.m[k]` and holds `v` -/
def Visit (sh : Shared K V) (k : K) (v : V) (todo : List (K × EId)) (acc : List (K × V)) : Prop :=
  (k, v) ∈ acc ∨ ∃ e, (k, e) ∈ todo ∧ Held sh k v e

/-- goroutine parked at `pc` inside the `Range` loop (or about to return from it): `f(k, v)` has been called, or the
pair of `k` is still to be visited (or is being visited), is `read.m[k]` and holds `v` -/
inductive InLoopVisit (sh : Shared K V) (k : K) (v : V) : Pc K V → Prop
  | pick {todo acc} : Visit sh k v todo acc → InLoopVisit sh k v (.rangePick todo acc)
  | load {todo acc k' e'} : Visit sh k v ((k', e') :: todo) acc → InLoopVisit sh k v (.rangeLoad todo acc k' e')
  | ret {acc} : (k, v) ∈ acc → InLoopVisit sh k v (.ret (.pairs acc))

theorem Visit.rangeNext {sh : Shared K V} {k : K} {v : V} {todo : List (K × EId)} {acc : List (K × V)}
    (h : Visit sh k v todo acc) : InLoopVisit sh k v (rangeNext todo acc) := by
  cases todo with
  | nil =>
    rcases h with h | ⟨e, he, _⟩
    · exact .ret h
    · cases he
  | cons q todo => exact .pick h

/-- a held pair stays held across a step after which the key still has the value `v`: the entry cannot have died,
because it held a value and no step expunges a value pointer -/
theorem Held.next {sh sh' : Shared K V} {k : K} {v : V} {e : EId} (h : Held sh k v e)
    (hn : NoExp sh.entries sh'.entries) (hh : HoldRead sh' k e) (habs : absOf sh' k = some v) : Held sh' k v e := by
  rcases hh.2 with h1 | h1
  · exact ⟨h1, by rw [← habs, absOf_of_read h1]⟩
  · exact absurd h1.1 (Bool.eq_false_iff.mp (hn e (congrArg Option.isSome h.2)))

theorem Visit.next {sh sh' : Shared K V} {k : K} {v : V} {todo : List (K × EId)} {acc : List (K × V)}
    (h : Visit sh k v todo acc) (hn : NoExp sh.entries sh'.entries) (hh : RangeHold sh' todo acc)
    (habs : absOf sh' k = some v) : Visit sh' k v todo acc :=
  h.imp_right fun ⟨e, he, hk⟩ => ⟨e, he, hk.next hn (hh.2 (k, e) he) habs⟩

/-- the choice at `rangePick` takes a pair out of `todo` and puts it in front -/
theorem Visit.pick {sh : Shared K V} {k : K} {v : V} {todo : List (K × EId)} {acc : List (K × V)}
    (h : Visit sh k v todo acc) (hn : (akeys todo).Nodup) {p : K × EId} (hp : p ∈ todo) :
    Visit sh k v ((p.1, p.2) :: aerase p.1 todo) acc :=
  h.imp_right fun ⟨e, he, hk⟩ => ⟨e, (mem_cons_aerase hn hp).mpr he, hk⟩

/-- `rangeLoad` found a value: it is the value of the pair being visited -/
theorem Visit.push {sh : Shared K V} {k k' : K} {v w : V} {e' : EId} {todo : List (K × EId)} {acc : List (K × V)}
    (h : Visit sh k v ((k', e') :: todo) acc) {i : Nat} (hp : getP sh e' = .val i w) :
    Visit sh k v todo (acc ++ [(k', w)]) := by
  rcases h with h | ⟨e, he, hk⟩
  · exact Or.inl (List.mem_append_left _ h)
  · rcases List.mem_cons.mp he with h1 | h1
    · cases h1
      have h2 := hk.2
      rw [hp] at h2
      cases h2
      exact Or.inl (List.mem_append_right _ (List.mem_singleton.mpr rfl))
    · exact Or.inr ⟨e, h1, hk⟩

/-- `rangeLoad` found no value: the pair being visited was not the held one -/
theorem Visit.skip {sh : Shared K V} {k k' : K} {v : V} {e' : EId} {todo : List (K × EId)} {acc : List (K × V)}
    (h : Visit sh k v ((k', e') :: todo) acc) (hp : (getP sh e').value? = none) : Visit sh k v todo acc := by
  refine h.imp_right fun ⟨e, he, hk⟩ => ?_
  rcases List.mem_cons.mp he with h1 | h1
  · cases h1
    have h2 := hk.2
    rw [hp] at h2
    cases h2
  · exact ⟨e, h1, hk⟩

/-- **loop entry**: after one of the three entering steps, a key that has the value `v` is in the snapshot, held -/
theorem inLoopVisit_entry {s : State K V} {a : AState K V} {t : Tid} (hR : R s a) (hent : RangeEntry s.sh (s.pc t))
    {sh' : Shared K V} {pc' : Pc K V} (hex : exec s.sh t (s.pc t) = some (sh', pc')) {k : K} {v : V}
    (habs : absOf sh' k = some v) : InLoopVisit sh' k v pc' := by
  obtain ⟨rm, rfl, hrm, ham, _, hkeys⟩ := range_snapshot hR hent hex
  have hk : k ∈ akeys rm := hkeys k (by rw [habs]; simp)
  obtain ⟨e, he⟩ := mem_akeys_iff_alookup.mp hk
  refine Visit.rangeNext (Or.inr ⟨e, mem_of_alookup he, ?_⟩)
  rw [hrm] at he
  exact ⟨he, by rw [← habs, absOf_of_read he]⟩

/-- **one step** of any goroutine, from a state satisfying `R`, to a state satisfying `R` in which the key still has the
value `v` and goroutine `t` has not returned: the invariant of the visit is carried over -/
theorem inLoopVisit_step {menu : List (Op K V)} {s s' : State K V} {a a' : AState K V}
    {l : Option (SyncMapConc.Event K V)} (hR : R s a) (hR' : R s' a') (hm : (l, s') ∈ succ menu s) {t : Tid} {k : K}
    {v : V} (hI : InLoopVisit s.sh k v (s.pc t)) (habs : absOf s'.sh k = some v) (hni : s'.pc t ≠ .idle) :
    InLoopVisit s'.sh k v (s'.pc t) := by
  obtain ⟨u, hu, hin⟩ := mem_succ_iff.mp hm
  by_cases hut : t = u
  · -- the goroutine's own step: the shared state is left alone
    subst hut
    generalize hpc : s.pc t = pc at hI
    rcases mem_stepT_iff.mp hin with ⟨hi, _⟩ | ⟨r, _, _, rfl⟩ | ⟨_, _, _, ⟨sh', pc', hex, rfl⟩ | ⟨c, hc, rfl⟩⟩
    · rw [hi] at hpc
      subst hpc
      cases hI
    · exact absurd (pc_setPc_self hu _ _) hni
    · rw [pc_setPc_self hu, setPc_sh]
      rw [hpc] at hex
      cases hI with
      | pick _ => cases hex
      | ret _ => cases hex
      | @load todo acc k' e' h =>
        cases hv : (getP s.sh e').value? with
        | none =>
          cases (exec_rangeLoad_skip t todo acc k' hv).symm.trans hex
          exact (h.skip hv).rangeNext
        | some w =>
          obtain ⟨i, hp⟩ := value?_eq_some_iff.mp hv
          cases (exec_rangeLoad_val t todo acc k' hp).symm.trans hex
          exact (h.push hp).rangeNext
    · rw [pc_setPc_self hu, setPc_sh]
      rw [hpc] at hc
      cases hI with
      | load _ => cases hc
      | ret _ => cases hc
      | pick h =>
        obtain ⟨p, hp, rfl⟩ := mem_picks_rangePick.mp hc
        exact .load (h.pick (List.nodup_append.mp (hR.range_pick hpc).1).1 hp)
  · -- a step of another goroutine
    have hpc : s'.pc t = s.pc t := stepT_pc_ne hin hut
    have hn := stepT_noExp hin
    rw [hpc]
    generalize hpc0 : s.pc t = pc at hI
    rw [hpc0] at hpc
    cases hI with
    | pick h => exact .pick (h.next hn (hR'.range_pick hpc) habs)
    | load h => exact .load (h.next hn (hR'.range_load hpc) habs)
    | ret h => exact .ret h

/-! ### replay of a schedule with a check of every visited state (for non-vacuity examples) -/

/-- follow a schedule like `runSched`, checking `p` in every state visited (both ends included) -/
def checkPath (sys : Conc.Sys) (p : sys.State → Bool) : List Nat → sys.State → Bool
  | [], s => p s
  | i :: is, s =>
    p s &&
    match (sys.succ s)[i]? with
    | some q => checkPath sys p is q.2
    | none => true

theorem pathAll_of_checkPath {sys : Conc.Sys} (p : sys.State → Bool) (is : List Nat) {s : sys.State}
    (h : checkPath sys p is s = true) : PathAll sys (fun x => p x = true) s (runSched sys is s) := by
  induction is generalizing s with
  | nil => exact PathAll.refl h
  | cons i is ih =>
    unfold checkPath at h
    unfold runSched
    rw [Bool.and_eq_true] at h
    cases hq : (sys.succ s)[i]? with
    | none => exact PathAll.refl h.1
    | some q =>
      have h2 := h.2
      rw [hq] at h2
      have hm : (q.1, q.2) ∈ sys.succ s := List.mem_of_getElem? hq
      exact PathAll.step h.1 hm (ih h2)

end TypVerif.Lemmas.Smc
