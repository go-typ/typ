/-
Refinement: every Array2D model operation, seen through the abstraction `absGrid` (the grid of its cells), is the
corresponding pointwise operation of `Spec.Grid`.
-/
import TypVerif.Lemmas.Array2D
import TypVerif.Spec.Grid
namespace TypVerif.Lemmas.Array2D
open TypVerif.Model.Array2D
open TypVerif.Spec

/-- value of an in-bounds cell -/
def val (a : A2D) (x y : Int) : Int := (cellAt a x y).getD 0

def absGrid (a : A2D) : Grid.Grid := Grid.tabulate a.w a.h (val a)

theorem cellAt_val {a : A2D} (wf : WF a) {x y : Int} (hb : InB a x y) : cellAt a x y = some (val a x y) := by
  obtain ⟨v, hv⟩ := cellAt_some wf hb
  unfold val; rw [hv]; rfl

theorem get_val {a : A2D} (wf : WF a) {x y : Int} (hb : InB a x y) : Model.Array2D.get a x y = .ok (val a x y) := by
  rw [get_eq, if_pos hb, cellAt_val wf hb]; rfl

theorem tabulate_congr {w h : Int} {f g : Int → Int → Int}
    (hfg : ∀ x y, 0 ≤ x → x < w → 0 ≤ y → y < h → f x y = g x y) : Grid.tabulate w h f = Grid.tabulate w h g := by
  unfold Grid.tabulate
  congr 1
  apply List.map_congr_left
  intro y hy
  apply List.map_congr_left
  intro x hx
  have := List.mem_range.mp hy
  have := List.mem_range.mp hx
  apply hfg <;> simp only [Int.ofNat_eq_natCast] <;> omega

theorem tab_w {w h : Int} (f : Int → Int → Int) : (Grid.tabulate w h f).w = w := rfl
theorem tab_h {w h : Int} (f : Int → Int → Int) : (Grid.tabulate w h f).h = h := rfl

theorem inX_tabulate {w h : Int} (f : Int → Int → Int) (x : Int) :
    Grid.inX (Grid.tabulate w h f) x = true ↔ (0 ≤ x ∧ x < w) := by
  unfold Grid.inX; rw [Bool.and_eq_true, decide_eq_true_eq, decide_eq_true_eq, tab_w]

theorem inY_tabulate {w h : Int} (f : Int → Int → Int) (y : Int) :
    Grid.inY (Grid.tabulate w h f) y = true ↔ (0 ≤ y ∧ y < h) := by
  unfold Grid.inY; rw [Bool.and_eq_true, decide_eq_true_eq, decide_eq_true_eq, tab_h]

theorem inB_tabulate {w h : Int} (f : Int → Int → Int) (x y : Int) :
    Grid.inB (Grid.tabulate w h f) x y = true ↔ (0 ≤ x ∧ x < w ∧ 0 ≤ y ∧ y < h) := by
  unfold Grid.inB
  rw [Bool.and_eq_true, inX_tabulate, inY_tabulate, and_assoc]

theorem cell_tabulate {w h : Int} (f : Int → Int → Int) (x y : Int) :
    Grid.cell (Grid.tabulate w h f) x y = if 0 ≤ x ∧ x < w ∧ 0 ≤ y ∧ y < h then some (f x y) else none := by
  unfold Grid.cell
  by_cases hb : 0 ≤ x ∧ x < w ∧ 0 ≤ y ∧ y < h
  · rw [if_pos hb, if_pos ((inB_tabulate f x y).mpr hb)]
    simp only [Grid.tabulate, List.getElem?_map]
    rw [List.getElem?_range (by omega)]
    simp only [Option.map_some, Option.bind_some, List.getElem?_map]
    rw [List.getElem?_range (by omega)]
    simp only [Option.map_some, Int.ofNat_eq_natCast]
    rw [Int.toNat_of_nonneg hb.1, Int.toNat_of_nonneg hb.2.2.1]
  · rw [if_neg hb, if_neg (fun h => hb ((inB_tabulate f x y).mp h))]

theorem eq_map_range {l : List Int} {n : Nat} {f : Nat → Int} (hl : l.length = n) (h : ∀ i, i < n → l[i]? = some (f i)) :
    l = (List.range n).map f := by
  apply List.ext_getElem?
  intro i
  by_cases hi : i < n
  · rw [h i hi, List.getElem?_map, List.getElem?_range hi]; rfl
  · rw [List.getElem?_eq_none_iff.mpr (by omega), List.getElem?_eq_none_iff.mpr (by simp; omega)]

theorem inB_iff {a : A2D} {x y : Int} : Grid.inB (absGrid a) x y = true ↔ InB a x y :=
  inB_tabulate _ x y

theorem cellD_absGrid {a : A2D} {x y : Int} (hb : InB a x y) : Grid.cellD (absGrid a) x y = val a x y := by
  unfold Grid.cellD absGrid
  rw [cell_tabulate, if_pos (show 0 ≤ x ∧ x < a.w ∧ 0 ≤ y ∧ y < a.h from hb)]; rfl

theorem cellAt_absGrid {a : A2D} (wf : WF a) {x y : Int} (hb : InB a x y) :
    cellAt a x y = some (Grid.cellD (absGrid a) x y) := by
  rw [cellD_absGrid hb, cellAt_val wf hb]

/-- the abstraction of an array is determined by what `get` reads inside the bounds -/
theorem absGrid_eq {a' : A2D} {w h : Int} (wf' : WF a') (hw : a'.w = w) (hh : a'.h = h) (F : Int → Int → Int)
    (hF : ∀ x y, InB a' x y → Model.Array2D.get a' x y = .ok (F x y)) : absGrid a' = Grid.tabulate w h F := by
  subst hw hh
  apply tabulate_congr
  intro x y h1 h2 h3 h4
  have hb : InB a' x y := ⟨h1, h2, h3, h4⟩
  have := hF x y hb
  rw [get_val wf' hb] at this
  exact Except.ok.inj this

theorem refines_get {a : A2D} (wf : WF a) (x y : Int) :
    Model.Array2D.get a x y = match Grid.get (absGrid a) x y with
      | some v => .ok v
      | none => .error pCustom := by
  unfold Grid.get absGrid
  rw [cell_tabulate]
  by_cases hb : InB a x y
  · rw [if_pos (show 0 ≤ x ∧ x < a.w ∧ 0 ≤ y ∧ y < a.h from hb), get_val wf hb]
  · rw [if_neg (show ¬ (0 ≤ x ∧ x < a.w ∧ 0 ≤ y ∧ y < a.h) from hb), get_eq, if_neg hb]

theorem inB_of_shape {a a' : A2D} (hw : a'.w = a.w) (hh : a'.h = a.h) {x y : Int} (hb : InB a' x y) : InB a x y := by
  unfold InB at *; rw [← hw, ← hh]; exact hb

/-- reading a cell that an operation either set to v or left alone -/
theorem get_update {a : A2D} (wf : WF a) {x y v : Int} (hb : InB a x y) {P : Prop} [Decidable P] {r : Except String Int}
    (h : r = if P then .ok v else Model.Array2D.get a x y) :
    r = .ok (if P then v else Grid.cellD (absGrid a) x y) := by
  rw [h, get_val wf hb, cellD_absGrid hb]
  split <;> rfl

theorem refines_set {a : A2D} (wf : WF a) (x y v : Int) :
    (∀ a', Model.Array2D.set a x y v = .ok a' → Grid.set (absGrid a) x y v = some (absGrid a')) ∧
    (Model.Array2D.set a x y v = .error pCustom ↔ Grid.set (absGrid a) x y v = none) := by
  unfold Grid.set
  constructor
  · intro a' h
    obtain ⟨f1, f2, f3, _, _⟩ := set_frame wf h
    rw [if_pos (inB_iff.mpr (set_ok_inv wf h).1)]
    exact congrArg some (absGrid_eq f3 f1 f2 _ fun x' y' hb =>
      get_update wf (inB_of_shape f1 f2 hb) (set_get wf h x' y')).symm
  · rw [set_eq wf]
    by_cases hb : InB a x y
    · rw [if_pos hb, if_pos (inB_iff.mpr hb)]; exact ⟨nofun, nofun⟩
    · rw [if_neg hb, if_neg (fun h => hb (inB_iff.mp h))]; exact ⟨fun _ => rfl, fun _ => rfl⟩

theorem refines_fill {a : A2D} (wf : WF a) (x1 y1 x2 y2 v : Int) :
    (∀ a', fill a x1 y1 x2 y2 v = .ok a' → Grid.fill (absGrid a) x1 y1 x2 y2 v = some (absGrid a')) ∧
    (fill a x1 y1 x2 y2 v = .error pCustom ↔ Grid.fill (absGrid a) x1 y1 x2 y2 v = none) := by
  obtain ⟨e1, e2⟩ := fill_exact wf x1 y1 x2 y2 v
  have gi : (Grid.inB (absGrid a) x1 y1 && Grid.inB (absGrid a) x2 y2) = fillGuard a.w a.h x1 y1 x2 y2 := by
    rw [Bool.eq_iff_iff, Bool.and_eq_true, inB_iff, inB_iff, fillGuard_iff]; unfold InB; omega
  have rect : ∀ x y, Grid.inRect x1 y1 x2 y2 x y = true ↔
      (min x1 x2 ≤ x ∧ x ≤ max x1 x2 ∧ min y1 y2 ≤ y ∧ y ≤ max y1 y2) := by
    intro x y; simp only [Grid.inRect, Bool.and_eq_true, decide_eq_true_eq, and_assoc]
  unfold Grid.fill
  rw [gi]
  cases g : fillGuard a.w a.h x1 y1 x2 y2 with
  | false => rw [e1 g]; exact ⟨nofun, fun _ => rfl, fun _ => rfl⟩
  | true =>
    obtain ⟨a', r1, r2, r3, r4, r5⟩ := e2 g
    rw [r1, if_pos rfl]
    refine ⟨fun a'' e => ?_, nofun, nofun⟩
    cases e
    exact congrArg some (absGrid_eq r4 r2 r3 _ fun x y hb =>
      get_update wf (inB_of_shape r2 r3 hb) (by rw [r5 x y]; simp only [rect])).symm

theorem refines_new {w h : Int} (hw : 0 ≤ w) (hh : 0 ≤ h) :
    ∃ a, new2D w h = .ok a ∧ WF a ∧ absGrid a = Grid.new w h := by
  obtain ⟨n1, wf0⟩ := new2D_spec hw hh
  exact ⟨_, n1, wf0, absGrid_eq wf0 rfl rfl _ fun x y hb => (get_replicate x y).trans (if_pos hb)⟩

theorem refines_filled {w h : Int} (v : Int) (hw : 0 ≤ w) (hh : 0 ≤ h) :
    ∃ a, new2DFilled w h v = .ok a ∧ WF a ∧ absGrid a = Grid.filled w h v := by
  obtain ⟨n1, wf0⟩ := new2DFilled_spec v hw hh
  exact ⟨_, n1, wf0, absGrid_eq wf0 rfl rfl _ fun x y hb => (get_replicate x y).trans (if_pos hb)⟩

theorem refines_fromJagged {w h : Int} (hw : 0 ≤ w) (hh : 0 ≤ h) (jagged : List (List Int)) :
    ∃ a, fromJagged w h jagged = .ok a ∧ WF a ∧ absGrid a = Grid.fromJagged w h jagged := by
  obtain ⟨a', r1, r2, r3, r4, r5⟩ := fromJagged_spec hw hh jagged
  refine ⟨a', r1, r4, absGrid_eq r4 r2 r3 _ fun x y hb => ?_⟩
  rw [r5 x y]
  exact if_pos (inB_of_shape (a := ⟨w, h, []⟩) r2 r3 hb)

/-- Row(y) reads the cells (0..w-1, y) of the grid -/
theorem refines_row {a : A2D} (wf : WF a) (y : Int) :
    rowRead a y = match Grid.row (absGrid a) y with
      | some l => .ok l
      | none => .error pCustom := by
  obtain ⟨r1, r2⟩ := row_live wf y
  unfold Grid.row
  by_cases hy : 0 ≤ y ∧ y < a.h
  · obtain ⟨⟨l, l1, l2, l3⟩, _, _⟩ := r2 hy
    rw [if_pos (show Grid.inY (absGrid a) y = true from (inY_tabulate _ y).mpr hy), l1]
    refine congrArg Except.ok (eq_map_range l2 fun i hi => ?_)
    have hi : i < a.w.toNat := hi
    have hb : InB a (Int.ofNat i) y := ⟨Int.natCast_nonneg i, (by omega : (i : Int) < a.w), hy⟩
    rw [← cellAt_absGrid wf hb]
    exact l3 (Int.ofNat i) hb.1 hb.2.1
  · rw [if_neg (fun h : Grid.inY (absGrid a) y = true => hy ((inY_tabulate _ y).mp h)), (r1 hy).1]

/-- RowSpan(x1,x2,y), x1 ≤ x2, reads the cells (x1..x2, y) of the grid -/
theorem refines_span {a : A2D} (wf : WF a) (x1 x2 y : Int) (h12 : x1 ≤ x2) :
    spanRead a x1 x2 y = match Grid.span (absGrid a) x1 x2 y with
      | some l => .ok l
      | none => .error pCustom := by
  obtain ⟨r1, r2, _, _⟩ := rowSpan_live wf x1 x2 y
  have gi : (Grid.inX (absGrid a) x1 && Grid.inY (absGrid a) y && Grid.inX (absGrid a) x2) = rowSpanGuard a.w a.h x1 x2 y := by
    rw [Bool.eq_iff_iff, rowSpanGuard_iff, Bool.and_eq_true, Bool.and_eq_true, and_assoc]
    unfold absGrid
    rw [inX_tabulate, inX_tabulate, inY_tabulate]
  unfold Grid.span
  rw [gi]
  cases g : rowSpanGuard a.w a.h x1 x2 y with
  | false => rw [(r1 g).1]; rfl
  | true =>
    obtain ⟨⟨l, l1, l2, l3⟩, _, _⟩ := r2 g h12
    obtain ⟨g1, g2, g3⟩ := rowSpanGuard_iff.mp g
    rw [l1, if_pos rfl]
    refine congrArg Except.ok (eq_map_range l2 fun i hi => ?_)
    have hi' : (i : Int) ≤ x2 - x1 := by omega
    have hb : InB a (x1 + Int.ofNat i) y := ⟨(by omega : 0 ≤ x1 + (i : Int)), (by omega : x1 + (i : Int) < a.w), g2⟩
    rw [← cellAt_absGrid wf hb]
    exact l3 (Int.ofNat i) (Int.natCast_nonneg i) hi'

theorem refines_clone (a : A2D) : absGrid (clone a) = Grid.clone (absGrid a) := by
  rw [clone_eq]; rfl

end TypVerif.Lemmas.Array2D
