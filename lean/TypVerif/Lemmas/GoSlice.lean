import TypVerif.Model.GoSlice
/-
The Go slice primitives as list operations.  Every write (`copy`, `s[i] = v`, `append` in place) turns the backing
array `m` of a slice into some `writeAt m pos data` (`writeFrom`), every allocation is a `Heap.alloc`; the algebra of
`writeAt` (what it leaves alone, how two writes combine, what a window over the written cells holds) is all the
functions built on the primitives need.
-/
namespace TypVerif.Lemmas.GoSlice
open TypVerif.Model.GoSlice

variable {α : Type}

theorem ext_of_getElem? {l1 l2 : List α} (h : ∀ k : Nat, l1[k]? = l2[k]?) : l1 = l2 := List.ext_getElem? h

theorem length_writeAt {m data : List α} {pos : Nat} (hp : pos + data.length ≤ m.length) :
    (writeAt m pos data).length = m.length := by
  unfold writeAt
  simp only [List.length_append, List.length_take, List.length_drop]
  omega

theorem drop_writeAt_self {m data : List α} {pos : Nat} (hp : pos ≤ m.length) :
    (writeAt m pos data).drop pos = data ++ m.drop (pos + data.length) := by
  unfold writeAt
  rw [List.append_assoc, List.drop_left' (List.length_take_of_le hp)]

theorem take_writeAt_self {m data : List α} {pos : Nat} (hp : pos ≤ m.length) :
    (writeAt m pos data).take (pos + data.length) = m.take pos ++ data := by
  unfold writeAt
  rw [List.take_left' (by rw [List.length_append, List.length_take_of_le hp])]

theorem take_writeAt {m data : List α} {pos q : Nat} (hp : pos ≤ m.length) (hq : q ≤ pos) :
    (writeAt m pos data).take q = m.take q := by
  unfold writeAt
  rw [List.append_assoc, List.take_append_of_le_length (by rw [List.length_take_of_le hp]; exact hq),
    List.take_take, Nat.min_eq_left hq]

theorem drop_writeAt {m data : List α} {pos q : Nat} (hp : pos ≤ m.length) (hq : pos + data.length ≤ q) :
    (writeAt m pos data).drop q = m.drop q := by
  obtain ⟨r, rfl⟩ := Nat.exists_eq_add_of_le hq
  rw [← List.drop_drop, ← List.drop_drop, drop_writeAt_self hp, List.drop_left' rfl, List.drop_drop]

theorem getElem?_writeAt {m data : List α} {pos : Nat} (hp : pos ≤ m.length) (j : Nat) :
    (writeAt m pos data)[j]? =
      if j < pos then m[j]? else if j < pos + data.length then data[j - pos]? else m[j]? := by
  unfold writeAt
  rw [List.append_assoc, List.getElem?_append, List.length_take_of_le hp]
  split
  · rw [List.getElem?_take, if_pos (by assumption)]
  · rw [List.getElem?_append]
    split
    · rw [if_pos (by omega)]
    · rw [if_neg (by omega), List.getElem?_drop]
      congr 1; omega

theorem getElem?_writeAt_of_outside {m data : List α} {pos j : Nat} (hp : pos ≤ m.length)
    (hj : j < pos ∨ pos + data.length ≤ j) : (writeAt m pos data)[j]? = m[j]? := by
  rw [getElem?_writeAt hp]
  split
  · rfl
  · rw [if_neg (by omega)]

theorem writeAt_writeAt_of_covered {m d d' : List α} {p p' : Nat} (hp : p' ≤ m.length) (h1 : p ≤ p')
    (h2 : p' + d'.length ≤ p + d.length) : writeAt (writeAt m p' d') p d = writeAt m p d := by
  show (writeAt m p' d').take p ++ d ++ (writeAt m p' d').drop (p + d.length) = _
  rw [take_writeAt hp h1, drop_writeAt hp h2]
  rfl

/-- two adjacent writes, in either order, are one -/
theorem writeAt_writeAt_right {m v d : List α} {p k : Nat} (hk : k = p + v.length) (hp : p ≤ m.length) :
    writeAt (writeAt m p v) k d = writeAt m p (v ++ d) := by
  subst hk
  show (writeAt m p v).take (p + v.length) ++ d ++ (writeAt m p v).drop (p + v.length + d.length) = _
  rw [take_writeAt_self hp, drop_writeAt hp (Nat.le_add_right _ _)]
  simp only [writeAt, List.append_assoc, List.length_append, Nat.add_assoc]

theorem writeAt_writeAt_left {m v d : List α} {p k : Nat} (hk : k = p + v.length) (hp : p + v.length ≤ m.length) :
    writeAt (writeAt m k d) p v = writeAt m p (v ++ d) := by
  subst hk
  show (writeAt m (p + v.length) d).take p ++ v ++ (writeAt m (p + v.length) d).drop (p + v.length) = _
  rw [take_writeAt hp (Nat.le_add_right _ _), drop_writeAt_self hp]
  simp only [writeAt, List.append_assoc, List.length_append, Nat.add_assoc]

theorem writeAt_nil (m : List α) (p : Nat) : writeAt m p [] = m := by
  show m.take p ++ [] ++ m.drop p = m
  rw [List.append_nil, List.take_append_drop]

theorem writeAt_all {m d : List α} (hd : d.length = m.length) : writeAt m 0 d = d := by
  unfold writeAt
  rw [List.take_zero, List.nil_append, List.drop_of_length_le (by omega), List.append_nil]

/-- the doubling step of `slices.Fill`: a run of `i` copies, then a copy of its first `len - i` cells (all of it, or what is missing) -/
theorem replicate_append_take (v : α) {i len : Nat} (h : i < len) :
    List.replicate i v ++ (List.replicate i v).take (len - i) = List.replicate (min (i + i) len) v := by
  rw [List.take_replicate, List.replicate_append_replicate, show i + min (len - i) i = min (i + i) len by omega]

/-- a window that starts `i` cells before the written range and ends with it -/
theorem take_drop_writeAt {m x : List α} {off i : Nat} (h : off + i ≤ m.length) :
    ((writeAt m (off + i) x).drop off).take (i + x.length) = (m.drop off).take i ++ x := by
  rw [List.take_drop, ← Nat.add_assoc, take_writeAt_self h,
    List.drop_append_of_le_length (by rw [List.length_take_of_le h]; omega), List.drop_take,
    Nat.add_sub_cancel_left]

theorem set_eq_writeAt {m : List α} {p : Nat} (v : α) (hp : p < m.length) : m.set p v = writeAt m p [v] := by
  rw [List.set_eq_take_append_cons_drop, if_pos hp]
  unfold writeAt
  rw [List.append_assoc]
  rfl

@[simp] theorem write_cells_same (h : Heap α) (b : Nat) (m : List α) : (h.write b m).cells b = m :=
  if_pos rfl

theorem write_cells (h : Heap α) (b b' : Nat) (m : List α) :
    (h.write b m).cells b' = if b' = b then m else h.cells b' := rfl

theorem write_cells_of_ne (h : Heap α) {b b' : Nat} (m : List α) (hb : b' ≠ b) :
    (h.write b m).cells b' = h.cells b' :=
  if_neg hb

@[simp] theorem write_next (h : Heap α) (b : Nat) (m : List α) : (h.write b m).next = h.next := rfl

theorem write_write (h : Heap α) (b : Nat) (m m' : List α) : (h.write b m).write b m' = h.write b m' := by
  unfold Heap.write
  congr 1
  funext x
  split
  · rfl
  · exact if_neg ‹_›

theorem write_self (h : Heap α) (b : Nat) : h.write b (h.cells b) = h := by
  unfold Heap.write
  congr 1
  funext x
  split
  · rename_i hx; rw [hx]
  · rfl

theorem alloc_cells_same (h : Heap α) (m : List α) : (h.alloc m).1.cells h.next = m :=
  if_pos rfl

theorem alloc_cells_of_ne (h : Heap α) (m : List α) {b : Nat} (hb : b ≠ h.next) :
    (h.alloc m).1.cells b = h.cells b :=
  if_neg hb

theorem alloc_write (h : Heap α) (m m' : List α) : (h.alloc m).1.write h.next m' = (h.alloc m').1 := by
  unfold Heap.write Heap.alloc
  congr 1
  funext x
  split
  · rfl
  · exact if_neg ‹_›

theorem getElem?_contents (h : Heap α) (s : Slice) (k : Nat) :
    (contents h s)[k]? = if k < s.len then (h.cells s.bid)[s.off + k]? else none := by
  unfold contents
  rw [List.getElem?_take]
  split
  · rw [List.getElem?_drop]
  · rfl

theorem length_contents {h : Heap α} {s : Slice} (hl : s.off + s.len ≤ (h.cells s.bid).length) :
    (contents h s).length = s.len := by
  unfold contents
  rw [List.length_take, List.length_drop]; omega

theorem wf_len_le {h : Heap α} {s : Slice} (hwf : WF h s) : s.off + s.len ≤ (h.cells s.bid).length :=
  Nat.le_trans (Nat.add_le_add_left hwf.1 _) hwf.2.1

theorem length_contents_of_wf {h : Heap α} {s : Slice} (hwf : WF h s) : (contents h s).length = s.len :=
  length_contents (wf_len_le hwf)

theorem contents_write_of_ne (h : Heap α) (s : Slice) {b : Nat} (m : List α) (hb : s.bid ≠ b) :
    contents (h.write b m) s = contents h s := by
  unfold contents
  rw [write_cells_of_ne h m hb]

/-- the contents of `s[lo:]` -/
theorem contents_from (h : Heap α) (s : Slice) (lo c : Nat) :
    contents h { bid := s.bid, off := s.off + lo, len := s.len - lo, cap := c } = (contents h s).drop lo := by
  unfold contents
  rw [List.drop_take, List.drop_drop]

theorem wf_write {h : Heap α} {s : Slice} {m : List α} (hwf : WF h s) (hm : m.length = (h.cells s.bid).length) :
    WF (h.write s.bid m) s := by
  refine ⟨hwf.1, ?_, hwf.2.2⟩
  rw [write_cells_same, hm]
  exact hwf.2.1

/-- overwrite cells of the backing array of `s` with `x`, from index `i` of `s` on (only `s.bid` and `s.off` matter) -/
def writeFrom (h : Heap α) (s : Slice) (i : Nat) (x : List α) : Heap α :=
  h.write s.bid (writeAt (h.cells s.bid) (s.off + i) x)

/-- a write through `s[lo:]` is the write through `s`, `lo` cells further on -/
theorem writeFrom_from (h : Heap α) (s : Slice) (lo l c : Nat) (x : List α) :
    writeFrom h { bid := s.bid, off := s.off + lo, len := l, cap := c } 0 x = writeFrom h s lo x := rfl

theorem writeFrom_frame (h : Heap α) (s : Slice) {i hi : Nat} {x : List α} (hx : s.off + i + x.length = hi)
    (hp : hi ≤ (h.cells s.bid).length) :
    (∀ b, b ≠ s.bid → (writeFrom h s i x).cells b = h.cells b) ∧
    ((writeFrom h s i x).cells s.bid).length = (h.cells s.bid).length ∧
    ∀ j, (j < s.off + i ∨ hi ≤ j) → ((writeFrom h s i x).cells s.bid)[j]? = (h.cells s.bid)[j]? := by
  subst hx
  unfold writeFrom
  rw [write_cells_same]
  exact ⟨fun _ hb => write_cells_of_ne h _ hb, length_writeAt hp,
    fun _ hj => getElem?_writeAt_of_outside (Nat.le_trans (Nat.le_add_right _ _) hp) hj⟩

/-- the two writes may go through different slices, provided these share array and offset -/
theorem writeFrom_writeFrom_of_covered {h : Heap α} {s s' : Slice} {i i' : Nat} {x x' : List α}
    (hb : s'.bid = s.bid) (ho : s'.off = s.off) (hp : s.off + i' ≤ (h.cells s.bid).length) (h1 : i ≤ i')
    (h2 : i' + x'.length ≤ i + x.length) : writeFrom (writeFrom h s i' x') s' i x = writeFrom h s i x := by
  unfold writeFrom
  rw [hb, ho, write_cells_same, write_write, writeAt_writeAt_of_covered hp (by omega) (by omega)]

theorem writeFrom_writeFrom_right {h : Heap α} {s : Slice} {i k : Nat} {v d : List α} (hk : k = i + v.length)
    (hp : s.off + i ≤ (h.cells s.bid).length) :
    writeFrom (writeFrom h s i v) s k d = writeFrom h s i (v ++ d) := by
  subst hk
  unfold writeFrom
  rw [write_cells_same, write_write, writeAt_writeAt_right (Nat.add_assoc _ _ _).symm hp]

theorem writeFrom_writeFrom_left {h : Heap α} {s : Slice} {i k : Nat} {v d : List α} (hk : k = i + v.length)
    (hp : s.off + i + v.length ≤ (h.cells s.bid).length) :
    writeFrom (writeFrom h s k d) s i v = writeFrom h s i (v ++ d) := by
  subst hk
  unfold writeFrom
  rw [write_cells_same, write_write, writeAt_writeAt_left (Nat.add_assoc _ _ _).symm hp]

theorem writeFrom_nil (h : Heap α) (s : Slice) (i : Nat) : writeFrom h s i [] = h := by
  unfold writeFrom
  rw [writeAt_nil, write_self]

/-- the same write seen through `s` with its length set to end with `x` -/
theorem window_writeFrom {h : Heap α} {s : Slice} (hwf : WF h s) {i n : Nat} {x : List α} (hi : i ≤ s.len)
    (hn : n = i + x.length) (hc : n ≤ s.cap) :
    WF (writeFrom h s i x) { s with len := n } ∧
    contents (writeFrom h s i x) { s with len := n } = (contents h s).take i ++ x := by
  subst hn
  have hl := hwf.2.1
  unfold writeFrom
  refine ⟨⟨hc, ?_, hwf.2.2⟩, ?_⟩
  · rw [write_cells_same, length_writeAt (by omega)]
    exact hl
  · unfold contents
    simp only [write_cells_same]
    rw [take_drop_writeAt (by have := hwf.1; omega), List.take_take, Nat.min_eq_left hi]

theorem contents_writeFrom_of_ne (h : Heap α) (s s' : Slice) (i : Nat) (x : List α) (hb : s'.bid ≠ s.bid) :
    contents (writeFrom h s i x) s' = contents h s' :=
  contents_write_of_ne h s' _ hb

theorem alloc_writeFrom (h : Heap α) (m x : List α) (n c i : Nat) :
    writeFrom (h.alloc m).1 { bid := h.next, off := 0, len := n, cap := c } i x = (h.alloc (writeAt m i x)).1 := by
  unfold writeFrom
  simp only [alloc_cells_same]
  rw [alloc_write, Nat.zero_add]

theorem contents_alloc_of_ne (h : Heap α) (s : Slice) (m : List α) (hb : s.bid ≠ h.next) :
    contents (h.alloc m).1 s = contents h s := by
  unfold contents
  rw [alloc_cells_of_ne h m hb]

theorem alloc_spec (h : Heap α) (m : List α) {n c : Nat} (hn : n ≤ c) (hc : c ≤ m.length) :
    WF (h.alloc m).1 ⟨h.next, 0, n, c⟩ ∧ contents (h.alloc m).1 ⟨h.next, 0, n, c⟩ = m.take n := by
  unfold WF contents
  simp only [alloc_cells_same, List.drop_zero, and_true]
  exact ⟨hn, (Nat.zero_add c).symm ▸ hc, Nat.lt_succ_self _⟩

theorem alloc_spec_full (h : Heap α) (m : List α) {n : Nat} (hn : m.length = n) :
    WF (h.alloc m).1 ⟨h.next, 0, n, n⟩ ∧ contents (h.alloc m).1 ⟨h.next, 0, n, n⟩ = m :=
  (alloc_spec h m (Nat.le_refl n) (Nat.le_of_eq hn.symm)).imp id
    (·.trans (List.take_of_length_le (Nat.le_of_eq hn)))

/-- `copy` overwrites `min (len dst) (len src)` cells of `dst`, from its start, with those of `src`: `contents h src` has
`src.len` elements, so `take dst.len` of it is the `min` -/
theorem copy_fst (h : Heap α) (dst src : Slice) :
    (copy h dst src).1 = writeFrom h dst 0 ((contents h src).take dst.len) := by
  rw [List.take_eq_take_min]
  rfl

theorem set_ok (h : Heap α) (s : Slice) (i : Nat) (v : α) (hi : i < s.len) :
    setIdx h s i v = .ok (h.write s.bid ((h.cells s.bid).set (s.off + i) v)) := by
  unfold setIdx; rw [if_pos hi]

theorem set_ok_writeFrom (h : Heap α) (s : Slice) (i : Nat) (v : α) (hi : i < s.len)
    (hl : s.off + s.len ≤ (h.cells s.bid).length) : setIdx h s i v = .ok (writeFrom h s i [v]) := by
  rw [set_ok h s i v hi, set_eq_writeAt v (by omega)]
  rfl

theorem get_ok (h : Heap α) (s : Slice) (i : Nat) (hi : i < s.len)
    (hl : s.off + s.len ≤ (h.cells s.bid).length) :
    ∃ v, getIdx h s i = .ok v ∧ (h.cells s.bid)[s.off + i]? = some v := by
  unfold getIdx
  rw [if_pos hi]
  have : s.off + i < (h.cells s.bid).length := by omega
  rw [List.getElem?_eq_getElem this]
  exact ⟨_, rfl, rfl⟩

theorem make_eq (h : Heap α) (zero : α) (len cap : Nat) :
    make h zero len cap = ((h.alloc (List.replicate cap zero)).1, { bid := h.next, off := 0, len := len, cap := cap }) :=
  rfl

theorem sliceFrom_ok (s : Slice) (lo : Nat) (h : lo ≤ s.len) (hc : s.len ≤ s.cap) :
    sliceFrom s lo = .ok { bid := s.bid, off := s.off + lo, len := s.len - lo, cap := s.cap - lo } := by
  unfold sliceFrom slice; rw [if_pos ⟨h, hc⟩]

theorem sliceFrom_panic (s : Slice) (lo : Nat) (h : s.len < lo) : sliceFrom s lo = panicBounds := by
  unfold sliceFrom slice; rw [if_neg (by omega)]

theorem sliceTo_ok (s : Slice) (hi : Nat) (h : hi ≤ s.cap) :
    sliceTo s hi = .ok { bid := s.bid, off := s.off, len := hi, cap := s.cap } := by
  unfold sliceTo slice; rw [if_pos ⟨Nat.zero_le _, h⟩]; rfl

theorem append_inplace (h : Heap α) (s : Slice) (vs spare : List α) (hfit : s.len + vs.length ≤ s.cap) :
    append h s vs spare =
      (writeFrom h s s.len vs, { s with len := s.len + vs.length }) := by
  unfold append; rw [if_pos hfit]; rfl

theorem append_realloc (h : Heap α) (s : Slice) (vs spare : List α) (hfit : ¬ s.len + vs.length ≤ s.cap) :
    append h s vs spare =
      ((h.alloc (contents h s ++ vs ++ spare)).1,
       { bid := h.next, off := 0, len := s.len + vs.length, cap := s.len + vs.length + spare.length }) := by
  unfold append; rw [if_neg hfit]; rfl

theorem append_len (h : Heap α) (s : Slice) (vs spare : List α) :
    (append h s vs spare).2.len = s.len + vs.length := by
  unfold append
  split <;> rfl

theorem append_contents (h : Heap α) (s : Slice) (vs spare : List α) (hwf : WF h s) :
    WF (append h s vs spare).1 (append h s vs spare).2 ∧
    contents (append h s vs spare).1 (append h s vs spare).2 = contents h s ++ vs := by
  have hcl := length_contents_of_wf hwf
  by_cases hfit : s.len + vs.length ≤ s.cap
  · rw [append_inplace h s vs spare hfit]
    have hw := window_writeFrom hwf (x := vs) (Nat.le_refl s.len) rfl hfit
    rw [List.take_of_length_le (Nat.le_of_eq hcl)] at hw
    exact hw
  · rw [append_realloc h s vs spare hfit]
    have hlen : (contents h s ++ vs).length = s.len + vs.length := by rw [List.length_append, hcl]
    exact (alloc_spec h _ (Nat.le_add_right _ _) (by rw [List.length_append, hlen]; exact Nat.le_refl _)).imp id
      (·.trans (List.take_left' hlen))

/-- `append` leaves every other array that existed before alone, and does not move into one -/
theorem append_other (h : Heap α) (s : Slice) (vs spare : List α) {b : Nat} (hb : b ≠ s.bid) (hn : b < h.next) :
    (append h s vs spare).1.cells b = h.cells b ∧ b ≠ (append h s vs spare).2.bid := by
  by_cases hfit : s.len + vs.length ≤ s.cap
  · rw [append_inplace h s vs spare hfit]
    exact ⟨write_cells_of_ne h _ hb, hb⟩
  · rw [append_realloc h s vs spare hfit]
    exact ⟨alloc_cells_of_ne h _ (Nat.ne_of_lt hn), Nat.ne_of_lt hn⟩

/-- whether `append` stays in the backing array is decided by the spare capacity alone -/
theorem append_bid_eq_iff (h : Heap α) (s : Slice) (vs spare : List α) (hwf : WF h s) :
    (append h s vs spare).2.bid = s.bid ↔ s.len + vs.length ≤ s.cap := by
  by_cases hfit : s.len + vs.length ≤ s.cap
  · rw [append_inplace h s vs spare hfit]
    exact ⟨fun _ => hfit, fun _ => rfl⟩
  · rw [append_realloc h s vs spare hfit]
    exact ⟨fun he => absurd he (Nat.ne_of_gt hwf.2.2), fun hf => absurd hf hfit⟩

end TypVerif.Lemmas.GoSlice
