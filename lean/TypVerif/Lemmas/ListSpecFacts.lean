import TypVerif.Spec.Seq
/-
Closed forms of the loop-shaped specification of PushBackList / PushFrontList in `Spec/Seq.lean`
(sanity facts about the specification itself; no module imports this one): the receiving list gets the consecutive new ids
`base, base+1, …` appended / prepended in front-to-back order, every other list is unchanged; for PushBackList
also: the i-th new element carries the value of the i-th old element of the source.
-/
namespace TypVerif.Lemmas.ListSpecFacts
open TypVerif.Spec.ListOp
open TypVerif.Spec.Seq
open TypVerif.Model (Store)

theorem pushBackAll_lists (l : ListId) : ∀ (ys : List ElemId) (id : ElemId) (w : World) (l' : ListId),
    (pushBackAll l id ys w).lists.get l' =
      if l' = l then w.lists.get l ++ List.range' id ys.length else w.lists.get l' := by
  intro ys
  induction ys with
  | nil =>
    intro id w l'
    show w.lists.get l' = _
    split
    · next h => rw [h]; exact (List.append_nil _).symm
    · rfl
  | cons y ys ih =>
    intro id w l'
    unfold pushBackAll
    rw [ih (id + 1)]
    show (if l' = l then (w.lists.set l _).get l ++ _ else (w.lists.set l _).get l') = _
    by_cases h : l' = l
    · rw [if_pos h, if_pos h, Store.get_set_self, List.append_assoc]; rfl
    · rw [if_neg h, if_neg h, Store.get_set_ne _ _ h]

theorem pushFrontAll_lists (l : ListId) (base : ElemId) : ∀ (rev : List ElemId) (w : World) (l' : ListId),
    (pushFrontAll l base rev w).lists.get l' =
      if l' = l then List.range' base rev.length ++ w.lists.get l else w.lists.get l' := by
  intro rev
  induction rev with
  | nil =>
    intro w l'
    show w.lists.get l' = _
    split
    · next h => rw [h]; rfl
    · rfl
  | cons y rev ih =>
    intro w l'
    unfold pushFrontAll
    rw [ih]
    show (if l' = l then _ ++ (w.lists.set l _).get l else (w.lists.set l _).get l') = _
    by_cases h : l' = l
    · rw [if_pos h, if_pos h, Store.get_set_self, List.length_cons, List.range'_concat, List.append_assoc,
        Nat.one_mul]
      rfl
    · rw [if_neg h, if_neg h, Store.get_set_ne _ _ h]

/-- later iterations of PushBackList only write ids `≥ id'` -/
theorem pushBackAll_value_lt (l : ListId) : ∀ (zs : List ElemId) (id' : Nat) (w' : World) (x : Nat), x < id' →
    (pushBackAll l id' zs w').value.get x = w'.value.get x := by
  intro zs
  induction zs with
  | nil => intro _ _ _ _; rfl
  | cons z zs ih =>
    intro id' w' x hlt
    unfold pushBackAll
    rw [ih (id' + 1) _ x (Nat.lt_succ_of_lt hlt)]
    exact Store.get_set_ne _ _ (Nat.ne_of_lt hlt)

/-- values of the copies made by PushBackList: the i-th new element has the value of the i-th source
(the sources are existing elements: their ids are below the new ids) -/
theorem pushBackAll_value (l : ListId) : ∀ (ys : List ElemId) (id : Nat) (w : World) (i : Nat) (y0 : Nat),
    ys[i]? = some y0 → (∀ y ∈ ys, y < id) → (pushBackAll l id ys w).value.get (id + i) = w.value.get y0 := by
  intro ys
  induction ys with
  | nil => intro _ _ _ _ h; cases h
  | cons y ys ih =>
    intro id w i y0 h hlt
    unfold pushBackAll
    cases i with
    | zero =>
      cases h
      exact (pushBackAll_value_lt l ys (id + 1) _ id (Nat.lt_succ_self _)).trans (Store.get_set_self _ _ _)
    | succ i =>
      rw [← Nat.add_assoc, Nat.add_right_comm, ih (id + 1) _ i y0 h
        (fun z hz => Nat.lt_succ_of_lt (hlt z (List.mem_cons_of_mem _ hz)))]
      exact Store.get_set_ne _ _
        (Nat.ne_of_lt (hlt _ (List.mem_cons_of_mem _ (List.mem_of_getElem? h))))

end TypVerif.Lemmas.ListSpecFacts
