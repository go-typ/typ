import TypVerif.Lemmas.GoSlice
import TypVerif.Model.Splice
import TypVerif.Spec.Splice
/-
Lemmas for C12.  Insert, InsertSlice, Remove, RemoveSlice: each is executed over the slice primitive and comes out
as one `writeFrom` on the (appended) slice, starting at the splice position.  The loops of Fill (doubling copy) and Reverse
(two-index walk), by index invariants.  Repeat, Clone, Concat come out as one allocation of the expected contents.

Trap: in this namespace `Splice.insert`, `Splice.fill`, … mean `Model.Splice.*` only as long as no lemma here is called
`insert`, `fill`, …; a lemma of such a name would capture them.
-/
namespace TypVerif.Lemmas.Splice
open TypVerif TypVerif.Model TypVerif.Model.GoSlice TypVerif.Lemmas.GoSlice

variable {α : Type}

/-- overwriting the tail of `c` and the appended cells `v0` with `v` and the tail, in an array that holds `c ++ v0`
followed by spare cells -/
theorem writeAt_splice {c v0 v spare : List α} {i : Nat} (hi : i ≤ c.length) (hv : v.length = v0.length) :
    writeAt (c ++ v0 ++ spare) i (v ++ c.drop i) = c.take i ++ v ++ c.drop i ++ spare := by
  unfold writeAt
  rw [List.drop_left' (by simp only [List.length_append, List.length_drop]; omega), List.append_assoc c,
    List.take_append_of_le_length hi]
  simp only [List.append_assoc]

/-- the same write seen through the window of a slice `s` that holds `c ++ v0` -/
theorem splice_window {h : Heap α} {s : Slice} {c v0 v : List α} {i : Nat} (hwf : WF h s)
    (hc : contents h s = c ++ v0) (hv : v.length = v0.length) (hi : i ≤ c.length) :
    WF (writeFrom h s i (v ++ c.drop i)) s ∧
    contents (writeFrom h s i (v ++ c.drop i)) s = c.take i ++ v ++ c.drop i := by
  have hl := length_contents_of_wf hwf
  rw [hc, List.length_append] at hl
  have hw := window_writeFrom hwf (i := i) (n := s.len) (x := v ++ c.drop i) (by omega)
    (by rw [List.length_append, List.length_drop]; omega) hwf.1
  rw [hc, List.take_append_of_le_length hi, ← List.append_assoc] at hw
  exact hw

/-- what Insert and InsertSlice come to: `append(s, vs...)`, then one write from `index` on: the values, then the old tail -/
def spliced (h : Heap α) (s : Slice) (index : Nat) (vs spare : List α) : Heap α × Slice :=
  (writeFrom (append h s vs spare).1 (append h s vs spare).2 index (vs ++ (contents h s).drop index),
    (append h s vs spare).2)

/-- with room for the values everything happens in the backing array of `s` -/
theorem spliced_inplace (h : Heap α) (s : Slice) (index : Nat) (vs spare : List α)
    (hwf : WF h s) (hfit : s.len + vs.length ≤ s.cap) (hi : index ≤ s.len) :
    spliced h s index vs spare =
      (writeFrom h s index (vs ++ (contents h s).drop index), { s with len := s.len + vs.length }) := by
  unfold spliced
  rw [append_inplace h s vs spare hfit,
    writeFrom_writeFrom_of_covered (by rfl) (by rfl) (by have := hwf.2.1; omega) hi
      (by simp only [List.length_append, List.length_drop, length_contents_of_wf hwf]; omega)]

/-- without it `append` reallocates: the old heap is untouched, the new backing array holds exactly the spliced
sequence (followed by the runtime's spare cells) -/
theorem spliced_realloc (h : Heap α) (s : Slice) (index : Nat) (vs spare : List α)
    (hwf : WF h s) (hfit : ¬ s.len + vs.length ≤ s.cap) (hi : index ≤ s.len) :
    spliced h s index vs spare =
      ((h.alloc ((contents h s).take index ++ vs ++ (contents h s).drop index ++ spare)).1,
        { bid := h.next, off := 0, len := s.len + vs.length, cap := s.len + vs.length + spare.length }) := by
  unfold spliced
  rw [append_realloc h s vs spare hfit, alloc_writeFrom,
    writeAt_splice (by rw [length_contents_of_wf hwf]; exact hi) rfl]

/-- the live contents afterwards are the spliced sequence, for every capacity -/
theorem spliced_contents (h : Heap α) (s : Slice) (index : Nat) (vs spare : List α) (hwf : WF h s) (hi : index ≤ s.len) :
    WF (spliced h s index vs spare).1 (spliced h s index vs spare).2 ∧
    contents (spliced h s index vs spare).1 (spliced h s index vs spare).2 =
      (contents h s).take index ++ vs ++ (contents h s).drop index :=
  have hc := append_contents h s vs spare hwf
  splice_window hc.1 hc.2 rfl (by rw [length_contents_of_wf hwf]; exact hi)

/-- the part of `Insert` after the `append` -/
def insertTail (h : Heap α) (s : Slice) (index : Nat) (value : α) : Except String (Heap α × Slice) := do
  let dst ← sliceFrom s (index + 1)
  let src ← sliceFrom s index
  let (h, _) := copy h dst src
  let h ← setIdx h s index value
  pure (h, s)

theorem insert_eq (h : Heap α) (s : Slice) (index : Nat) (v : α) (spare : List α) :
    Splice.insert h s index v spare =
      insertTail (append h s [v] spare).1 (append h s [v] spare).2 index v := rfl

/-- shifting `s[index:len-1]` one to the right and storing `v` at `index` is one write: `v`, then the old tail -/
theorem insertTail_spec (h : Heap α) (s : Slice) (index : Nat) (v : α)
    (hl : s.off + s.len ≤ (h.cells s.bid).length) (hc : s.len ≤ s.cap) (hi : index < s.len) :
    insertTail h s index v =
      .ok (writeFrom h s index ([v] ++ ((contents h s).take (s.len - 1)).drop index), s) := by
  unfold insertTail
  rw [sliceFrom_ok _ (index + 1) (by omega) hc, sliceFrom_ok _ index (by omega) hc]
  simp only [bind, Except.bind]
  rw [copy_fst, writeFrom_from, contents_from, set_ok_writeFrom _ _ _ _ hi
    (by rw [(writeFrom_frame h s rfl (by simp only [List.length_take]; omega)).2.1]; exact hl)]
  simp only [pure, Except.pure]
  rw [writeFrom_writeFrom_left (by rfl) (by rw [List.length_singleton]; omega), List.drop_take, Nat.sub_sub,
    Nat.add_comm 1]

theorem insert_spec (h : Heap α) (s : Slice) (index : Nat) (v : α) (spare : List α) (hwf : WF h s)
    (hi : index ≤ s.len) : Splice.insert h s index v spare = .ok (spliced h s index [v] spare) := by
  have hc := append_contents h s [v] spare hwf
  have hl := append_len h s [v] spare
  rw [insert_eq, insertTail_spec _ _ index v (wf_len_le hc.1) hc.1.1
    (by rw [hl]; exact Nat.lt_succ_of_le hi), hc.2, hl, List.length_singleton, Nat.add_sub_cancel,
    List.take_left' (length_contents_of_wf hwf)]
  rfl

/-- the part of `InsertSlice` after the `append` -/
def insertSliceTail (h : Heap α) (s : Slice) (index : Nat) (values : Slice) : Except String (Heap α × Slice) := do
  let dst ← sliceFrom s (index + values.len)
  let src ← sliceFrom s index
  let (h, _) := copy h dst src
  let dst2 ← sliceFrom s index
  let (h, _) := copy h dst2 values
  pure (h, s)

theorem insertSlice_eq (h : Heap α) (s : Slice) (index : Nat) (values : Slice) (spare : List α) :
    Splice.insertSlice h s index values spare =
      insertSliceTail (append h s (contents h values) spare).1 (append h s (contents h values) spare).2
        index values := rfl

/-- shifting `s[index:len-k]` by `k = len(values)` and copying `values` (which live in another backing array) to
`index` is one write: the values, then the old tail -/
theorem insertSliceTail_spec (h : Heap α) (s : Slice) (index : Nat) (values : Slice)
    (hl : s.off + s.len ≤ (h.cells s.bid).length) (hc : s.len ≤ s.cap)
    (hv : values.off + values.len ≤ (h.cells values.bid).length) (hne : values.bid ≠ s.bid)
    (hi : index + values.len ≤ s.len) :
    insertSliceTail h s index values = .ok (writeFrom h s index
      (contents h values ++ ((contents h s).take (s.len - values.len)).drop index), s) := by
  have hvl := length_contents hv
  unfold insertSliceTail
  rw [sliceFrom_ok _ (index + values.len) (by omega) hc, sliceFrom_ok _ index (by omega) hc]
  simp only [bind, Except.bind, pure, Except.pure]
  rw [copy_fst, copy_fst, writeFrom_from, writeFrom_from, contents_from, contents_writeFrom_of_ne h s values _ _ hne,
    List.take_of_length_le (l := contents h values) (by simp only []; omega),
    writeFrom_writeFrom_left (by rw [hvl]) (by omega), List.drop_take, Nat.sub_sub,
    Nat.add_comm index]

/-- `values` lives in another backing array than `s`, so it is read unchanged after the `append` and after the write -/
theorem insertSlice_spec (h : Heap α) (s : Slice) (index : Nat) (values : Slice) (spare : List α)
    (hwf : WF h s) (hwv : WF h values) (hne : values.bid ≠ s.bid) (hi : index ≤ s.len) :
    contents (spliced h s index (contents h values) spare).1 values = contents h values ∧
    Splice.insertSlice h s index values spare = .ok (spliced h s index (contents h values) spare) := by
  have hvl := length_contents_of_wf hwv
  have hc := append_contents h s (contents h values) spare hwf
  have hl := append_len h s (contents h values) spare
  obtain ⟨hcv, hne1⟩ := append_other h s (contents h values) spare hne hwv.2.2
  have hv1 : contents (append h s (contents h values) spare).1 values = contents h values :=
    congrArg (fun m => (m.drop values.off).take values.len) hcv
  refine ⟨(contents_writeFrom_of_ne _ _ values _ _ hne1).trans hv1, ?_⟩
  rw [hvl] at hl
  rw [insertSlice_eq, insertSliceTail_spec _ _ index values (wf_len_le hc.1) hc.1.1
    (by rw [hcv]; exact wf_len_le hwv) hne1 (by omega), hv1, hc.2, hl, Nat.add_sub_cancel,
    List.take_left' (length_contents_of_wf hwf)]
  rfl

theorem remove_eq_removeSlice (h : Heap α) (s : Slice) (index : Nat) :
    Splice.remove h s index = Splice.removeSlice h s index 1 := rfl

/-- everything `RemoveSlice` does: it stays in the backing array and moves `s[index+n:len]` to `index`, which is
one write (in particular the `n` cells behind the new end keep their old values) -/
theorem removeSlice_spec (h : Heap α) (s : Slice) (index n : Nat) (hwf : WF h s) (hi : index + n ≤ s.len) :
    Splice.removeSlice h s index n =
      .ok (writeFrom h s index ((contents h s).drop (index + n)), { s with len := s.len - n }) := by
  have hcl := length_contents_of_wf hwf
  unfold Splice.removeSlice
  rw [sliceFrom_ok _ index (by omega) hwf.1, sliceFrom_ok _ (index + n) (by omega) hwf.1]
  simp only [bind, Except.bind]
  rw [if_neg (by omega), sliceTo_ok _ _ (by have := hwf.1; omega), copy_fst, writeFrom_from, contents_from,
    List.take_of_length_le (by simp only [List.length_drop, hcl]; omega)]
  rfl

theorem removeSlice_panics (h : Heap α) (s : Slice) (index n : Nat) (hwf : WF h s) (hi : s.len < index + n) :
    Splice.removeSlice h s index n = panicBounds := by
  unfold Splice.removeSlice
  by_cases h1 : index ≤ s.len
  · rw [sliceFrom_ok _ index h1 hwf.1, sliceFrom_panic _ (index + n) hi]; rfl
  · rw [sliceFrom_panic _ index (by omega)]; rfl

/-- Invariant of the doubling loop: on entry with index `i ≥ 1` the first `min i len` cells of the window have been
overwritten with `v`; on exit the whole window has, and nothing else has been written. -/
theorem fillLoop_spec (h : Heap α) (s : Slice) (v : α) (hwf : WF h s) :
    ∀ (fuel i iters : Nat), 1 ≤ i → s.len - i ≤ fuel →
      ∃ it', Splice.fillLoop s fuel i (writeFrom h s 0 (List.replicate (min i s.len) v)) iters =
        .ok (writeFrom h s 0 (List.replicate s.len v), it') := by
  intro fuel
  induction fuel with
  | zero =>
    intro i iters _ hf
    rw [Nat.min_eq_right (by omega)]
    exact ⟨iters, rfl⟩
  | succ fuel ih =>
    intro i iters hi hf
    unfold Splice.fillLoop
    by_cases hlt : i < s.len
    · rw [if_pos hlt, sliceFrom_ok _ i (by omega) hwf.1, sliceTo_ok _ i (by have := hwf.1; omega)]
      simp only [bind, Except.bind]
      -- the copy doubles the run of `v`s (or completes it)
      have hsrc := (window_writeFrom hwf (i := 0) (n := i) (x := List.replicate i v) (Nat.zero_le _)
        (by rw [List.length_replicate, Nat.zero_add]) (by have := hwf.1; omega)).2
      rw [Nat.min_eq_left (Nat.le_of_lt hlt), copy_fst, writeFrom_from,
        show contents (writeFrom h s 0 (List.replicate i v)) ⟨s.bid, s.off, i, s.cap⟩ = List.replicate i v from hsrc,
        writeFrom_writeFrom_right (by rw [List.length_replicate, Nat.zero_add]) (by have := hwf.2.1; omega),
        replicate_append_take v hlt]
      exact ih (i + i) (iters + 1) (by omega) (by omega)
    · rw [if_neg hlt, Nat.min_eq_right (by omega)]
      exact ⟨iters, rfl⟩

/-- `Fill` sets every cell of the window to `v` and writes nothing else -/
theorem fillIters_spec (h : Heap α) (s : Slice) (v : α) (hwf : WF h s) :
    ∃ it', Splice.fillIters h s v = .ok (writeFrom h s 0 (List.replicate s.len v), it') := by
  unfold Splice.fillIters
  by_cases h0 : s.len = 0
  · rw [if_pos h0, h0]
    exact ⟨0, congrArg (fun x => Except.ok (x, 0)) (writeFrom_nil h s 0).symm⟩
  · rw [if_neg h0, set_ok_writeFrom _ _ _ _ (by omega) (wf_len_le hwf)]
    simp only [bind, Except.bind]
    have hl := fillLoop_spec h s v hwf s.len 1 0 (Nat.le_refl _) (by omega)
    rw [Nat.min_eq_left (by omega)] at hl
    exact hl

theorem fill_spec (h : Heap α) (s : Slice) (v : α) (hwf : WF h s) :
    Splice.fill h s v = .ok (writeFrom h s 0 (List.replicate s.len v)) := by
  obtain ⟨it', he⟩ := fillIters_spec h s v hwf
  unfold Splice.fill
  rw [he]; rfl

/-- `m'` is `m` with the cells `[lo, hi)` mirrored -/
def Mirrored (m m' : List α) (lo hi : Nat) : Prop :=
  m'.length = m.length ∧ ∀ p, m'[p]? = if lo ≤ p ∧ p < hi then m[lo + hi - 1 - p]? else m[p]?

theorem Mirrored.refl (m : List α) {lo hi : Nat} (h : hi ≤ lo + 1) : Mirrored m m lo hi := by
  refine ⟨rfl, fun p => ?_⟩
  split
  · congr 1; omega
  · rfl

/-- swap the two outermost cells and mirror the rest -/
theorem Mirrored.step {m m' : List α} {lo hi : Nat} {va vb : α} (hlt : lo + 2 ≤ hi) (hh : hi ≤ m.length)
    (ha : m[hi - 1]? = some va) (hb : m[lo]? = some vb)
    (hm : Mirrored ((m.set lo va).set (hi - 1) vb) m' (lo + 1) (hi - 1)) : Mirrored m m' lo hi := by
  refine ⟨by rw [hm.1, List.length_set, List.length_set], fun p => ?_⟩
  rw [hm.2]
  by_cases hin : lo + 1 ≤ p ∧ p < hi - 1
  · rw [if_pos hin, if_pos (by omega), List.getElem?_set_ne (by omega), List.getElem?_set_ne (by omega)]
    congr 1; omega
  · rw [if_neg hin]
    by_cases hpb : p = hi - 1
    · rw [hpb, List.getElem?_set_self (by rw [List.length_set]; omega), if_pos (by omega), ← hb]
      congr 1; omega
    · rw [List.getElem?_set_ne (Ne.symm hpb)]
      by_cases hpa : p = lo
      · rw [hpa, List.getElem?_set_self (by omega), if_pos (by omega), ← ha]
        congr 1; omega
      · rw [List.getElem?_set_ne (Ne.symm hpa), if_neg (by omega)]

/-- Invariant of the two-index walk: started at `(i, len-1-i)` it mirrors the cells `[i, len-i)` of the window
and leaves everything else alone. -/
theorem reverseLoop_spec (s : Slice) :
    ∀ (fuel i : Nat) (h : Heap α), s.len / 2 - i ≤ fuel → s.off + s.len ≤ (h.cells s.bid).length →
      ∃ m', Splice.reverseLoop s fuel i (s.len - 1 - i) h = .ok (h.write s.bid m') ∧
        Mirrored (h.cells s.bid) m' (s.off + i) (s.off + s.len - i) := by
  intro fuel
  induction fuel with
  | zero =>
    intro i h hf _
    exact ⟨_, (congrArg Except.ok (write_self h s.bid)).symm, .refl _ (by omega)⟩
  | succ fuel ih =>
    intro i h hf hl
    unfold Splice.reverseLoop
    by_cases hlt : i < s.len / 2
    · rw [if_pos hlt]
      have hj : s.off + (s.len - 1 - i) = s.off + s.len - i - 1 := by omega
      obtain ⟨va, hga, ha⟩ := get_ok h s (s.len - 1 - i) (by omega) hl
      obtain ⟨vb, hgb, hb⟩ := get_ok h s i (by omega) hl
      rw [hga, hgb]
      simp only [bind, Except.bind]
      rw [set_ok h s i va (by omega)]
      simp only []
      rw [set_ok _ s (s.len - 1 - i) vb (by omega), write_cells_same, write_write,
        show s.len - 1 - i - 1 = s.len - 1 - (i + 1) by omega]
      obtain ⟨m', he, hm'⟩ := ih (i + 1)
        (h.write s.bid (((h.cells s.bid).set (s.off + i) va).set (s.off + (s.len - 1 - i)) vb)) (by omega)
        (by rw [write_cells_same, List.length_set, List.length_set]; exact hl)
      rw [write_cells_same, hj] at hm'
      rw [write_write] at he
      rw [hj] at ha
      exact ⟨m', he, .step (by omega) (by omega) ha hb hm'⟩
    · rw [if_neg hlt]
      exact ⟨_, (congrArg Except.ok (write_self h s.bid)).symm, .refl _ (by omega)⟩

/-- `Reverse` mirrors the window in place and writes nothing else -/
theorem reverse_spec (h : Heap α) (s : Slice) (hwf : WF h s) :
    ∃ m', Splice.reverse h s = .ok (h.write s.bid m') ∧ WF (h.write s.bid m') s ∧
      contents (h.write s.bid m') s = (contents h s).reverse ∧
      ∀ p, (p < s.off ∨ s.off + s.len ≤ p) → m'[p]? = (h.cells s.bid)[p]? := by
  have hcl := length_contents_of_wf hwf
  obtain ⟨m', he, hlen, hm'⟩ := reverseLoop_spec s (s.len / 2) 0 h (Nat.sub_le _ _) (wf_len_le hwf)
  refine ⟨m', he, wf_write hwf hlen, ?_, fun p hp => ?_⟩
  · apply List.ext_getElem?
    intro k
    rw [getElem?_contents, write_cells_same, hm']
    by_cases hk : k < s.len
    · rw [if_pos hk, if_pos (by omega), List.getElem?_reverse (by omega), hcl, getElem?_contents, if_pos (by omega)]
      congr 1; omega
    · rw [if_neg hk]
      symm
      rw [List.getElem?_eq_none_iff, List.length_reverse, hcl]; omega
  · rw [hm', if_neg (by omega)]

theorem repeat_spec (h : Heap α) (zero value : α) (count : Nat) :
    Splice.repeat_ h zero value count =
      .ok ((h.alloc (List.replicate count value)).1, { bid := h.next, off := 0, len := count, cap := count }) := by
  have hl := Nat.le_of_eq (List.length_replicate (n := count) (a := zero)).symm
  unfold Splice.repeat_
  rw [make_eq]
  simp only [bind, Except.bind]
  rw [fill_spec _ _ _ (alloc_spec h _ (Nat.le_refl _) hl).1, alloc_writeFrom,
    writeAt_all (by rw [List.length_replicate, List.length_replicate])]
  rfl

theorem clone_spec (h : Heap α) (zero : α) (s : Slice) (hwf : WF h s) :
    Splice.clone h zero s = ((h.alloc (contents h s)).1, { bid := h.next, off := 0, len := s.len, cap := s.len }) := by
  have hcl := length_contents_of_wf hwf
  show ((copy (make h zero s.len s.len).1 ⟨h.next, 0, s.len, s.len⟩ s).1, _) = _
  rw [copy_fst, make_eq, alloc_writeFrom, contents_alloc_of_ne h s _ (Nat.ne_of_lt hwf.2.2),
    List.take_of_length_le (Nat.le_of_eq hcl), writeAt_all (by rw [List.length_replicate, hcl])]

theorem concat_spec (h : Heap α) (zero : α) (a b : Slice) (hwa : WF h a) (hwb : WF h b) :
    Splice.concat h zero a b = .ok ((h.alloc (contents h a ++ contents h b)).1,
      { bid := h.next, off := 0, len := a.len + b.len, cap := a.len + b.len }) := by
  have hla := length_contents_of_wf hwa
  have hlb := length_contents_of_wf hwb
  unfold Splice.concat
  rw [make_eq]
  simp only []
  rw [sliceTo_ok _ a.len (Nat.le_add_right _ _), sliceFrom_ok _ a.len (Nat.le_add_right _ _) (Nat.le_refl _)]
  simp only [bind, Except.bind, pure, Except.pure]
  rw [copy_fst, copy_fst, writeFrom_from _ ⟨h.next, 0, a.len + b.len, a.len + b.len⟩ a.len, alloc_writeFrom,
    alloc_writeFrom, contents_alloc_of_ne h a _ (Nat.ne_of_lt hwa.2.2),
    contents_alloc_of_ne h b _ (Nat.ne_of_lt hwb.2.2), List.take_of_length_le (Nat.le_of_eq hla),
    List.take_of_length_le (by simp only []; omega), ← hla, writeAt_writeAt_right (Nat.zero_add _).symm (Nat.zero_le _),
    writeAt_all (by rw [List.length_replicate, List.length_append, hla, hlb])]

end TypVerif.Lemmas.Splice

/-! ### the example heap

A concrete heap / header for the non-vacuity examples of `Props/C12.lean`:
backing array `[1,2,3,7,7]`, header `len 3`, `cap 4`, offset 0.
-/
namespace TypVerif.Lemmas.Splice.Ex
open TypVerif.Model TypVerif.Model.GoSlice

def exHeap : Heap Nat := (ofList Heap.empty [1, 2, 3] [7, 7] 1).1
def exSlice : Slice := (ofList (Heap.empty : Heap Nat) [1, 2, 3] [7, 7] 1).2
/-- (live contents, whole backing array 0) of a result -/
def exOut (r : Except String (Heap Nat × Slice)) : List Nat × List Nat :=
  match r with
  | .ok (h', s') => (contents h' s', h'.cells 0)
  | .error _ => ([], [])
theorem exWF : WF exHeap exSlice := by refine ⟨?_, ?_, ?_⟩ <;> decide

end TypVerif.Lemmas.Splice.Ex
