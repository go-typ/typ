import TypVerif.Lemmas.Once
/-
Further facts about the steps of `Model.Once` (for every `res`), used by the panic extension
(`Model/OncePanic.lean`): a rank that every step decreases, the mutex-holder invariant,
"the fields are zero until the assignment".
-/
namespace TypVerif.Lemmas.OncePanic
open TypVerif TypVerif.Conc TypVerif.Model.Once TypVerif.Lemmas.Once

/-- position of a program counter in `Do` (every step of a goroutine moves it strictly down) -/
def rank : Pc → Nat
  | .idle => 10 | .fast => 9 | .lock => 8 | .check => 7 | .callF => 6 | .inF => 5
  | .assign _ => 4 | .store => 3 | .unlock => 2 | .read => 1 | .returned => 0

theorem rank_le (p : Pc) : rank p ≤ 10 := by cases p <;> exact Nat.le_of_ble_eq_true rfl

theorem rank_nextPc (d : Bool) (r : List Int) {p : Pc} (hp : p ≠ .returned) : rank (nextPc d r p) < rank p := by
  cases p with
  | returned => exact absurd rfl hp
  | fast | check => cases d <;> exact Nat.le_of_ble_eq_true rfl
  | _ => exact Nat.le_of_ble_eq_true rfl

def holds : Pc → Bool
  | .check | .callF | .inF | .assign _ | .store | .unlock => true
  | _ => false

/-- the mutex is held by a goroutine that is inside the critical section (so it will release it) -/
def HolderOk (s : State) : Prop := ∀ h, s.mu = some h → h < s.pcs.length ∧ holds (s.pc h) = true

theorem init_pc (n a t : Nat) : (init n a).pc t = .idle :=
  Once.init_pc n a t

/-- `Unlock` is the only step that leaves the critical section -/
theorem holds_nextPc (d : Bool) (r : List Int) {p : Pc} (hp : holds p = true) (hu : p ≠ .unlock) :
    holds (nextPc d r p) = true := by
  cases p with
  | unlock => exact absurd rfl hu
  | check => cases d <;> rfl
  | callF | inF | assign | store => rfl
  | _ => cases hp

section
variable {a : Nat} {res : Nat → List Int} {s s' : State} {t : Nat} {l : Option Event}

theorem step_rank_lt (h : Step res s t l s') (ht : t < s.pcs.length) : rank (s'.pc t) < rank (s.pc t) :=
  h.pc_self ht ▸ rank_nextPc _ _ h.not_returned

theorem holderOk_iff : HolderOk s ↔ ∀ w, s.mu = some w → holds (s.pc w) = true :=
  ⟨fun h w hw => (h w hw).2, fun h w hw =>
    ⟨lt_of_pc_ne_idle fun e => (nomatch (congrArg holds e).symm.trans (h w hw)), h w hw⟩⟩

theorem holder_step (hh : ∀ w, s.mu = some w → holds (s.pc w) = true) (ht : t < s.pcs.length)
    (h : Step res s t l s') : ∀ w, s'.mu = some w → holds (s'.pc w) = true := by
  intro w hw
  rcases h.mu with ⟨hl, _, e⟩ | ⟨_, e⟩ | ⟨_, hu, e⟩
  · cases Option.some.inj (e.symm.trans hw)
    rw [h.pc_self ht, hl]
    rfl
  · exact nomatch e.symm.trans hw
  · have hho := hh w (e ▸ hw)
    by_cases ew : w = t
    · cases ew
      exact h.pc_self ht ▸ holds_nextPc _ _ hho hu
    · rwa [h.pc_ne ht ew]

theorem zero_step (hg : Good s) (hz : s.fres = none → s.fields = List.replicate a 0) (h : Step res s t l s') :
    s'.fres = none → s'.fields = List.replicate a 0 := by
  have hT := hg.thread t
  unfold ThreadOk at hT
  cases h with
  | fend => exact fun e => nomatch e
  | assign hpc => rw [hpc] at hT; exact fun e => nomatch hT.2.2.2.symm.trans e
  | _ => exact hz

/-- invariants of `Model.Once` that hold whatever `res` each step uses -/
structure BInv (a : Nat) (s : State) : Prop where
  good : Good s
  zero : s.fres = none → s.fields = List.replicate a 0
  holder : HolderOk s

theorem binv_init (n a : Nat) : BInv a (init n a) :=
  ⟨good_init n a, fun _ => rfl, fun _ hm => nomatch hm⟩

theorem BInv.step (hi : BInv a s) (ht : t < s.pcs.length) (h : Step res s t l s') : BInv a s' :=
  ⟨h.good hi.good ht, zero_step hi.good hi.zero h,
    holderOk_iff.mpr (holder_step (holderOk_iff.mp hi.holder) ht h)⟩

theorem len_step {res : Nat → List Int} {s s' : State} {l : Option Event}
    (hmem : (l, s') ∈ succ res s) : s'.pcs.length = s.pcs.length :=
  let ⟨_, _, h⟩ := step_of_succ hmem
  h.length_eq

/-- `f` panicking = `f` returning the current (zero) fields followed by the (no-op) assignment:
two steps of `Model.Once` -/
theorem panic_as_two_steps (ht : t < s.pcs.length) (hpc : s.pc t = .inF) (hr : res t = s.fields) :
    Step res s t (some (Event.fend t s.fields)) { s.setPc t (.assign s.fields) with fres := some s.fields } ∧
    Step res { s.setPc t (.assign s.fields) with fres := some s.fields } t none
      { s.setPc t .store with fres := some s.fields } := by
  constructor
  · exact hr ▸ Step.fend hpc
  · have := Step.assign (res := res) (s := { s.setPc t (.assign s.fields) with fres := some s.fields }) (t := t)
      (pc_mk_self ht ..)
    simpa only [State.setPc, List.set_set] using this

end

end TypVerif.Lemmas.OncePanic
