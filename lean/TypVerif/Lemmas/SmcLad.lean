import TypVerif.Lemmas.SmcLos
/-
C04 concurrent half: `StepOK` for the two non-quiet pcs of LoadAndDelete / Delete:

* `ladRead2 d k`   the locked re-read of `read`; on a miss with `amended` the *unlink* `delete(m.dirty, k)`
                   (the linearization step when `dirty[k]` exists), then `missLocked`'s head;
* `delCas d k e p` the CAS of `entry.delete()`: pending mode (success = linearization step) and unlinker mode
                   (the call has already taken effect at the unlink; the CAS just clears the orphan).
-/
namespace TypVerif.Lemmas.Smc
open TypVerif.Model TypVerif.Model.SyncMapConc TypVerif.Model.RelObj
open TypVerif.Model.SyncMap (alookup ainsert aerase akeys)

set_option linter.unusedSectionVars false

variable {K V : Type} [DecidableEq K] [DecidableEq V] [Inhabited V]
variable {menu : List (Op K V)} {s : State K V} {a : AState K V} {t : Tid}

theorem delRes_ne_pairs (d : Bool) (v : V) (l : List (K × V)) : (delRes d v : Res K V) ≠ .pairs l := by
  cases d <;> simp [delRes]

theorem applyOp_ladOp_some {m : K → Option V} {d : Bool} {k : K} {v : V} (h : m k = some v) :
    applyOp m (ladOp d k) = [(del m k, delRes d v)] := by
  cases d <;> simp [ladOp, delRes, h]

/-- what `delete()` returns after a successful CAS -/
theorem delCas_res_eq {d : Bool} {o : Option V} {v : V} (h : o = some v) :
    (if d then (Res.done : Res K V) else .val o) = delRes d v := by
  subst h; rfl

/-- an entry somebody has unlinked is no longer in the dirty map -/
theorem not_mem_dirty_of_mem_unlinkedPc {sh : Shared K V} {u : Tid} {pc : Pc K V} {q : APc K V} (hT : T sh u pc q)
    {e : EId} (he : e ∈ unlinkedPc pc q) : e ∉ vals (dirtyMap sh) := by
  unfold unlinkedPc at he
  split at he
  · cases List.mem_singleton.mp he
    exact hT.2.2.2.2.2.1
  · cases List.mem_singleton.mp he
    exact (hT.2.resolve_left fun h => h.1).2.2.1
  · cases List.mem_singleton.mp he
    exact (hT.1.2.resolve_left fun h => h.1).2.2.1
  · cases he

/-- `delete(m.dirty, k)` of an absent key changes nothing -/
theorem sameData_delDirty_of_none {sh : Shared K V} {k : K} (h : alookup k (dirtyMap sh) = none) :
    SameData (delDirty sh k) sh := by
  refine ⟨rfl, rfl, rfl, ?_⟩
  rw [delDirty_dirty]
  cases hd : sh.dirty with
  | none => rfl
  | some dm =>
    rw [dirtyMap_of_some hd] at h
    simp [aerase_of_none h]

/-- the unlink (`dirty[k] = some e`): the linearization step of the slow path.  `sh'` is the state after
`delete(m.dirty, k); m.misses++` with or without the `Unlock`, `pc'` the next pc. -/
theorem R_ladRead2_unlink {d : Bool} {k : K} {e : EId} (hR : R s a) (ht : t < s.pcs.length)
    (hpc : s.pc t = .ladRead2 d k) (hr : alookup k s.sh.readM = none) (ha : s.sh.amended = true)
    (hdm : alookup k (dirtyMap s.sh) = some e) {sh' : Shared K V} {pc' : Pc K V}
    (hT : Tail (delDirty s.sh k) t sh')
    (hunl : ∀ q : APc K V, ∀ e' ∈ unlinkedPc pc' q, e' = e)
    (hself : ∀ q : APc K V, Unlinker sh' d k e q → T sh' t pc' q) :
    R (setPc s t sh' pc') (witness s t none a) := by
  obtain ⟨hpend, hown⟩ : T s.sh t (.ladRead2 d k) (a.pcs t) := hpc ▸ hR.thr t
  have hlin : isLin s.sh (s.pc t) (a.pcs t) = true := by rw [hpc]; show (_ && _ && _) = true; rw [hr, ha, hdm]; rfl
  have hU : unprocessed s = [] := unprocessed_eq_nil_of_amended hR.thr ha
  have hg0 : GS s.sh [] := hU ▸ hR.g.gs
  obtain ⟨helt, henr, hend, hval, habsk⟩ := unlink_entry_facts hg0 ha hr hdm
  obtain ⟨v, hv⟩ := isVal_iff_value?.mp hval
  have hobjk : a.obj k = some v := by rw [hR.abs k, habsk, hv]
  have hw := WitnessIs.lin hlin hpend (applyOp_ladOp_some (d := d) hobjk)
  have hUL : Unlinker (delDirty s.sh k) d k e (.done (ladOp d k) (delRes d v)) := by
    rw [Unlinker_iff]
    refine ⟨helt, henr, hend, v, hv, ?_, rfl⟩
    simp [isOp]
  have hGS' : GS sh' [] := (GS_sameData_iff hT.data hT.fault []).mpr (GS_unlink hg0 hr)
  refine R_step hR ht hw (hGS'.weaken (by intro p hp; cases hp)) (hT.mu.bound rfl hR ht) (fun k' => ?_)
    (hself _ (hT.data.keepRead.unlinker (.refl _) hUL)) (fun u hu => ?_) fun e' he' => ?_
  · rw [absOf_congr hT.data k', absOf_unlink_del hr, funext hR.abs]
  · exact (T_congr hT.data (hT.mu.own_iff hu) _ _).mpr
      (T_unlink hg0 ha hr (hR.abs k) (hR.thr u) (not_Own_of_ne hown hu) (hR.obs.obsPc u))
  · cases hunl _ e' he'
    -- what anybody else has unlinked is out of the dirty map; `e` was in it until this step
    exact Or.inr fun u _ _ hmem => not_mem_dirty_of_mem_unlinkedPc (hR.thr u) hmem (mem_vals_of_alookup hdm)

theorem stepOK_ladRead2 {d : Bool} {k : K} (hR : R s a) (ht : t < s.pcs.length) (hpc : s.pc t = .ladRead2 d k) :
    StepOK menu s a t := by
  obtain ⟨hpend, hown⟩ : T s.sh t (.ladRead2 d k) (a.pcs t) := hpc ▸ hR.thr t
  have hunp : unprocPc (s.pc t) = [] := by rw [hpc]; rfl
  have hlin : isLin s.sh (s.pc t) (a.pcs t) =
      ((alookup k s.sh.readM).isNone && s.sh.amended && (alookup k (dirtyMap s.sh)).isSome) := by rw [hpc]; rfl
  /- the key is absent and stays so: "absent" has been observed -/
  have hnone : absOf s.sh k = none → ∀ sh' : Shared K V, ¬ Own sh' t → T sh' t (.ret (noneRes d)) (a.pcs t) := by
    intro h sh' hno
    rw [T_ret_iff (noneRes_ne_pairs d)]
    exact ⟨hR.obs.retOk hpend (pureRes_ladOp_none ((hR.abs k).trans h)), hno⟩
  refine stepOK_exec hR ht hpc nofun (fun _ => nofun) rfl ?_
  dsimp only [exec]
  cases hr : alookup k s.sh.readM with
  | some e =>
    rw [hr] at hlin
    rintro _ _ ⟨⟩
    exact R_effect_same hR ht (.tau hlin) (.unlock hown)
      ⟨Own_unlock _ _, Or.inl ⟨hpend, hR.g.gs.read_lt_length hr, Or.inl hr⟩⟩ (subset_of_eq_nil hunp)
      (subset_of_eq_nil (hpend.unlinkedPc_delLoad ..))
  | none =>
    rw [hr] at hlin
    cases ha : s.sh.amended with
    | false =>
      rw [ha] at hlin
      rintro _ _ ⟨⟩
      exact R_effect_same hR ht (.tau hlin) (.unlock hown)
        (hnone (absOf_of_not_amended hr ha) _ (Own_unlock _ _)) (subset_of_eq_nil hunp)
        (subset_of_eq_nil (unlinkedPc_eq_nil_of_done rfl _))
    | true =>
      rw [ha] at hlin
      have hprom : Promoting (missStep (delDirty s.sh k)).1 t :=
        ⟨hown, ha, (delDirty_dirty_isSome s.sh k).trans (hR.g.gs.dirty_isSome_of_amended ha)⟩
      cases hdm : alookup k (dirtyMap s.sh) with
      | none =>
        rw [hdm] at hlin
        have hsd : SameData (delDirty s.sh k) s.sh := sameData_delDirty_of_none hdm
        cases hm : (missStep (delDirty s.sh k)).2 with
        | true =>
          rintro _ _ ⟨⟩
          refine R_effect_same hR ht (.tau hlin) ⟨(sameData_missStep_fst _).trans hsd, rfl, .of_eq rfl⟩
            ⟨hprom, hr, ?_, hpend⟩ (subset_of_eq_nil hunp) (subset_of_eq_nil (unlinkedPc_eq_nil_of_done rfl _))
          rw [dirtyMap_missStep_fst, dirtyMap_delDirty, aerase_of_none hdm]
          exact hdm
        | false =>
          rintro _ _ ⟨⟩
          exact R_effect_same hR ht (.tau hlin) ⟨(sameData_unlock_missStep_fst _).trans hsd, rfl, .unlock hown rfl⟩
            (hnone (absOf_of_none_none hr hdm) _ (Own_unlock _ _)) (subset_of_eq_nil hunp)
            (subset_of_eq_nil (unlinkedPc_eq_nil_of_done rfl _))
      | some e =>
        cases hm : (missStep (delDirty s.sh k)).2 with
        | true =>
          rintro _ _ ⟨⟩
          refine R_ladRead2_unlink hR ht hpc hr ha hdm (.missStep _ _) ?_ ?_
          · intro q e' he'
            cases q <;> exact List.mem_singleton.mp he'
          · intro q hq
            refine ⟨hprom, hr, ?_, hq⟩
            rw [dirtyMap_missStep_fst, dirtyMap_delDirty]
            exact alookup_aerase_self _ _
        | false =>
          rintro _ _ ⟨⟩
          refine R_ladRead2_unlink hR ht hpc hr ha hdm (.unlock_missStep hown) ?_ ?_
          · intro q e' he'
            cases q
            · cases he'
            · cases he'
            · exact List.mem_singleton.mp he'
          · intro q hq
            exact ⟨Own_unlock _ _, Or.inr hq⟩

theorem stepOK_delCas {d : Bool} {k : K} {e : EId} {p : Ptr V} (hR : R s a) (ht : t < s.pcs.length)
    (hpc : s.pc t = .delCas d k e p) : StepOK menu s a t := by
  obtain ⟨⟨hnown, hmode⟩, hpv, hsameU⟩ : T s.sh t (.delCas d k e p) (a.pcs t) := hpc ▸ hR.thr t
  have hunp : unprocPc (s.pc t) = [] := by rw [hpc]; rfl
  have hlin : isLin s.sh (s.pc t) (a.pcs t) = ((getP s.sh e).same p && isPending (a.pcs t)) := by rw [hpc]; rfl
  refine stepOK_exec hR ht hpc nofun (fun _ => nofun) rfl fun sh' pc' hex => ?_
  dsimp only [exec] at hex
  rcases hmode with ⟨hpend, hhold⟩ | hU
  · -- pending mode: a successful CAS is the linearization step
    obtain ⟨seen, hp⟩ := hpend.exists_pending
    split at hex <;> rename_i hs <;> cases hex
    · rw [hs, congrArg isPending hp] at hlin
      have hvalE : isVal (getP s.sh e) = true := (same_isVal hs).trans hpv
      have hrd : alookup k s.sh.readM = some e := hhold.read_of_not_expunged (not_isExpunged_of_isVal hvalE)
      obtain ⟨v, hv⟩ := isVal_iff_value?.mp hvalE
      have hobjk : a.obj k = some v := by rw [hR.abs k, absOf_of_read hrd, hv]
      rw [delCas_res_eq hv]
      exact R_lin_ret hR ht hpend hlin (applyOp_ladOp_some (d := d) hobjk) (delRes_ne_pairs d v)
        (delNil_effect hR hrd hvalE) rfl (.refl _ _) hnown hunp
    · rw [Bool.eq_false_iff.mpr hs] at hlin
      refine R_quiet_same hR ht (.tau hlin) ⟨hnown, Or.inl ⟨hpend, hhold⟩⟩ (subset_of_eq_nil hunp) ?_
      rw [hpc, unlinkedPc_delCas]
      exact List.Subset.refl _
  · -- unlinker mode: the call took effect at the unlink, the CAS succeeds and clears the orphan
    obtain ⟨op, r, hdone⟩ := hU.done
    rw [hsameU hU, congrArg isPending hdone] at hlin
    rw [hsameU hU] at hex
    cases hex
    obtain ⟨v, hv, hdw⟩ := hU.spec
    have hvalE : isVal (getP s.sh e) = true := isVal_iff_value?.mpr ⟨v, hv⟩
    have hmem : e ∈ unlinkedPc (s.pc t) (a.pcs t) := by rw [hpc, hdone]; exact List.mem_singleton.mpr rfl
    rw [delCas_res_eq hv]
    exact R_effect hR ht (.tau hlin) (unlinkedNil_effect hR hU.2.1 hU.2.2.1 hvalE hmem) rfl (.refl _ _)
      ((T_ret_iff (delRes_ne_pairs d v)).mpr ⟨hdw.retOk, hnown⟩)
      (subset_of_eq_nil hunp) (subset_of_eq_nil (unlinkedPc_ret _ _))

end TypVerif.Lemmas.Smc
