import TypVerif.Spec.RingOp
/-
Pure "view" reasoning for the ring heap: `nx pv : RingId → Option RingId`, functional update `upd`,
and the predicate `Linked nx pv l` (every adjacent pair of `l` is doubly linked).
-/
namespace TypVerif.Lemmas.Ring
open TypVerif.Spec.RingOp

abbrev PF := RingId → Option RingId

def upd (f : PF) (a : RingId) (v : Option RingId) : PF := fun x => if x = a then v else f x

@[simp] theorem upd_same (f : PF) (a v) : upd f a v a = v := by simp [upd]
theorem upd_ne (f : PF) {a x : Nat} (v) (h : x ≠ a) : upd f a v x = f x := by simp [upd, h]
theorem upd_eq_self (f : PF) (a v) (h : f a = v) : upd f a v = f := by
  funext x; unfold upd; split
  · next e => rw [e, h]
  · rfl

def Linked (nx pv : PF) : List RingId → Prop
  | a :: b :: rest => nx a = some b ∧ pv b = some a ∧ Linked nx pv (b :: rest)
  | _ => True

@[simp] theorem linked_nil (nx pv : PF) : Linked nx pv [] := trivial
@[simp] theorem linked_single (nx pv : PF) (a) : Linked nx pv [a] := trivial
theorem linked_cons_cons (nx pv : PF) (a b rest) :
    Linked nx pv (a :: b :: rest) ↔ nx a = some b ∧ pv b = some a ∧ Linked nx pv (b :: rest) := Iff.rfl

def Joint (nx pv : PF) (l1 l2 : List RingId) : Prop :=
  ∀ a b, l1.getLast? = some a → l2.head? = some b → nx a = some b ∧ pv b = some a

theorem linked_append (nx pv : PF) (l1 l2 : List RingId) :
    Linked nx pv (l1 ++ l2) ↔ Linked nx pv l1 ∧ Linked nx pv l2 ∧ Joint nx pv l1 l2 := by
  induction l1 with
  | nil => simp [Joint]
  | cons a t ih =>
    cases t with
    | nil =>
      cases l2 with
      | nil => simp [Joint]
      | cons b l2 =>
        simp only [List.cons_append, List.nil_append, linked_cons_cons, linked_single, Joint,
          List.getLast?_singleton, List.head?_cons, Option.some.injEq, true_and]
        constructor
        · rintro ⟨h1, h2, h3⟩; exact ⟨h3, fun x y hx hy => by subst hx; subst hy; exact ⟨h1, h2⟩⟩
        · rintro ⟨h3, h⟩; exact ⟨(h a b rfl rfl).1, (h a b rfl rfl).2, h3⟩
    | cons a' t' =>
      have ih' := ih
      simp only [List.cons_append] at ih' ⊢
      rw [linked_cons_cons, linked_cons_cons, ih']
      simp only [Joint, List.getLast?_cons_cons]
      constructor
      · rintro ⟨h1, h2, h3, h4, h5⟩; exact ⟨⟨h1, h2, h3⟩, h4, h5⟩
      · rintro ⟨⟨h1, h2, h3⟩, h4, h5⟩; exact ⟨h1, h2, h3, h4, h5⟩

theorem joint_cons (nx pv : PF) (l1 : List RingId) (b : RingId) (l2 : List RingId) :
    Joint nx pv l1 (b :: l2) ↔ ∀ a, l1.getLast? = some a → nx a = some b ∧ pv b = some a := by
  simp only [Joint, List.head?_cons, Option.some.injEq]
  constructor
  · intro h a ha; exact h a b ha rfl
  · intro h a b' ha hb; subst hb; exact h a ha

theorem linked_join {nx pv : PF} {l1 l2 : List RingId} {a b : RingId} (h1 : Linked nx pv l1) (h2 : Linked nx pv l2)
    (ha : l1.getLast? = some a) (hb : l2.head? = some b) (e : nx a = some b ∧ pv b = some a) :
    Linked nx pv (l1 ++ l2) :=
  (linked_append nx pv l1 l2).2 ⟨h1, h2, fun a' b' ha' hb' => by
    rw [ha] at ha'; rw [hb] at hb'; cases ha'; cases hb'; exact e⟩

/-- only the `next` of the cells before the last and the `prev` of the cells after the first are looked at -/
theorem linked_congr {nx pv nx' pv' : PF} {l : List RingId}
    (h1 : ∀ x ∈ l.dropLast, nx' x = nx x) (h2 : ∀ x ∈ l.tail, pv' x = pv x) (h : Linked nx pv l) :
    Linked nx' pv' l := by
  induction l with
  | nil => trivial
  | cons a t ih =>
    cases t with
    | nil => trivial
    | cons b t' =>
      rw [linked_cons_cons] at h ⊢
      rw [List.dropLast_cons_cons] at h1
      refine ⟨?_, ?_, ih (fun x hx => h1 x (List.mem_cons_of_mem _ hx))
        (fun x hx => h2 x (List.mem_cons_of_mem _ hx)) h.2.2⟩
      · rw [h1 a List.mem_cons_self]; exact h.1
      · rw [h2 b List.mem_cons_self]; exact h.2.1

theorem not_mem_dropLast_of_nodup {l : List RingId} {p : RingId} (nd : l.Nodup) (h : l.getLast? = some p) :
    p ∉ l.dropLast := by
  obtain ⟨ys, rfl⟩ := List.getLast?_eq_some_iff.1 h
  rw [List.dropLast_concat]
  rw [List.nodup_append] at nd
  intro hp
  exact nd.2.2 p hp p (by simp) rfl

theorem not_mem_tail_of_nodup {l : List RingId} {n : RingId} (nd : l.Nodup) (h : l.head? = some n) :
    n ∉ l.tail := by
  cases l with
  | nil => simp
  | cons a t =>
    simp only [List.head?_cons, Option.some.injEq] at h
    subst h
    exact (List.nodup_cons.1 nd).1

theorem not_mem_dropLast {l : List RingId} {x : RingId} (h : x ∉ l) : x ∉ l.dropLast :=
  fun hx => h (List.dropLast_subset l hx)

theorem not_mem_tail {l : List RingId} {x : RingId} (h : x ∉ l) : x ∉ l.tail :=
  fun hx => h (List.mem_of_mem_tail hx)

theorem linked_upd_nx {nx pv : PF} {l : List RingId} (a : RingId) (v) (ha : a ∉ l.dropLast)
    (h : Linked nx pv l) : Linked (upd nx a v) pv l :=
  linked_congr (fun _ hx => upd_ne _ _ (ne_of_mem_of_not_mem hx ha)) (fun _ _ => rfl) h

theorem linked_upd_pv {nx pv : PF} {l : List RingId} (a : RingId) (v) (ha : a ∉ l.tail)
    (h : Linked nx pv l) : Linked nx (upd pv a v) l :=
  linked_congr (fun _ _ => rfl) (fun _ hx => upd_ne _ _ (ne_of_mem_of_not_mem hx ha)) h

theorem linked_reverse (nx pv : PF) (l : List RingId) : Linked nx pv l ↔ Linked pv nx l.reverse := by
  induction l with
  | nil => simp
  | cons a t ih =>
    cases t with
    | nil => simp
    | cons b t' =>
      rw [linked_cons_cons, ih, List.reverse_cons (a := a), linked_append]
      simp only [linked_single, true_and, joint_cons, List.getLast?_reverse, List.head?_cons, Option.some.injEq]
      constructor
      · rintro ⟨h1, h2, h3⟩; exact ⟨h3, fun x hx => by subst hx; exact ⟨h2, h1⟩⟩
      · rintro ⟨h3, h⟩; exact ⟨(h b rfl).2, (h b rfl).1, h3⟩

def Chain (f : PF) : List RingId → Prop
  | a :: b :: rest => f a = some b ∧ Chain f (b :: rest)
  | _ => True

theorem chain_cons_cons (f : PF) (a b rest) : Chain f (a :: b :: rest) ↔ f a = some b ∧ Chain f (b :: rest) := Iff.rfl

theorem Linked.chain_nx {nx pv : PF} {l : List RingId} (h : Linked nx pv l) : Chain nx l := by
  induction l with
  | nil => trivial
  | cons a t ih =>
    cases t with
    | nil => trivial
    | cons b t' => exact ⟨h.1, ih h.2.2⟩

theorem Linked.chain_pv {nx pv : PF} {l : List RingId} (h : Linked nx pv l) : Chain pv l.reverse :=
  ((linked_reverse nx pv l).1 h).chain_nx

/-- closed form of a ring `c` (first element repeated at the end) -/
def CycLinked (nx pv : PF) (c : List RingId) : Prop := Linked nx pv (c ++ c.take 1)

theorem cycLinked_rot {nx pv : PF} {pre post : List RingId} {r : RingId}
    (h : CycLinked nx pv (pre ++ r :: post)) : Linked nx pv (r :: post ++ pre ++ [r]) := by
  unfold CycLinked at h
  cases pre with
  | nil => simpa using h
  | cons x pre' =>
    have e1 : (x :: pre' ++ r :: post ++ List.take 1 (x :: pre' ++ r :: post)) = (x :: pre') ++ ((r :: post) ++ [x]) := by simp
    have e2 : (r :: post ++ (x :: pre') ++ [r]) = (r :: post) ++ ((x :: pre') ++ [r]) := by simp
    rw [e1, linked_append, linked_append] at h
    rw [e2, linked_append, linked_append]
    obtain ⟨h1, ⟨h2, _, h3⟩, h4⟩ := h
    refine ⟨h2, ⟨h1, trivial, ?_⟩, ?_⟩
    · rw [joint_cons]; rw [List.cons_append, joint_cons] at h4; exact h4
    · rw [List.cons_append, joint_cons]; rw [joint_cons] at h3; exact h3

theorem headD_mem (r : RingId) (t : List RingId) : t.headD r ∈ r :: t := by
  cases t <;> simp

theorem getLastD_mem (r : RingId) (t : List RingId) : t.getLastD r ∈ r :: t := by
  rw [List.getLastD_eq_getLast?]
  cases hl : t.getLast? with
  | none => simp
  | some x => simp [List.mem_of_getLast? hl]

theorem linked_head {nx pv : PF} {r : RingId} {t : List RingId} (h : Linked nx pv (r :: t ++ [r])) :
    nx r = some (t.headD r) := by
  cases t with
  | nil => exact h.1
  | cons b t' => exact h.1

theorem linked_last {nx pv : PF} {r : RingId} {t : List RingId} (h : Linked nx pv (r :: t ++ [r])) :
    pv r = some (t.getLastD r) := by
  have h' := (linked_append nx pv (r :: t) [r]).1 h
  have := (joint_cons nx pv (r :: t) r []).1 h'.2.2 (t.getLastD r) (by
    rw [List.getLast?_cons, List.getLastD_eq_getLast?])
  exact this.2

end TypVerif.Lemmas.Ring
