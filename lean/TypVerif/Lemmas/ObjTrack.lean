import TypVerif.Lemmas.ObjCompleteFull
/-
One invariant for the atomic-object judges (`Drv.C18` modes `av`, `pool`; `Drv.ObjLin` modes `cmap`, `cset`).

A judge component keeps a number of goroutines `n`, a state set `ss` and a sticky flag.  The judges differ in how a line
stands for an event (or for none) and in how the flag is spelt, so `Inv` sees the flag only through three propositions:
`live` (the set is still being stepped), `ok` (clear) and `bad` (the verdict).  `Inv.line` carries `Inv` over one line,
given what the line does to `n`, the set and the flag.  Soundness and completeness of a judge are the fields `sound` and
`complete` of the `Inv` of its fold.  The line specifications (`ObjAcceptC18`, `ObjAcceptLin`) import this file for `LineVerdict`,
`stepOpt`, `InvLt`, so they come after the generic completeness (`ObjCompleteFull`) in import order.
-/
namespace TypVerif.Lemmas.ObjTrack
open TypVerif TypVerif.Conc TypVerif.Model TypVerif.Lemmas.ObjAccept TypVerif.Lemmas.ObjComplete

def stepOpt {E α : Type} (f : E → List α) (oe : Option E) (ss : List α) : List α :=
  match oe with
  | some e => f e
  | none => ss

def InvLt {Op Res : Type} (oe : Option (AtomicObj.Event Op Res)) (n : Nat) : Prop :=
  match oe with
  | some (.inv t _) => t < n
  | _ => True

theorem InvLt.lt {Op Res : Type} {e : AtomicObj.Event Op Res} {n : Nat} (h : InvLt (some e) n) (t : Nat) (op : Op)
    (he : e = .inv t op) : t < n := by
  subst he
  exact h

/-- the verdict `w` of a line that leaves the state set `ss`: clear only if the set is not empty after an event line,
`not-linearizable` only after an event line that empties it (a verdict of another predicate of the judge is neither) -/
def LineVerdict {E α : Type} (oe : Option E) (w : Option String) (ss : List α) : Prop :=
  (w = none → ∀ e, oe = some e → ss ≠ []) ∧ (w = some "not-linearizable" → ∃ e, oe = some e ∧ ss = [])

theorem lineVerdict_ite {E α : Type} (e : E) (ss : List α) :
    LineVerdict (some e) (if ss.isEmpty then some "not-linearizable" else none) ss := by
  cases ss with
  | nil => exact ⟨nofun, fun _ => ⟨e, rfl, rfl⟩⟩
  | cons a l => exact ⟨fun _ _ _ => List.cons_ne_nil a l, nofun⟩

theorem lineVerdict_skip {E α : Type} {w : Option String} (ss : List α) (hw : w ≠ some "not-linearizable") :
    LineVerdict (none : Option E) w ss :=
  ⟨fun _ _ => nofun, fun h => absurd h hw⟩

/-- the judges' flag is sticky, `v' = v.or w`: what the two verdicts the theorems speak of say about the line -/
theorem LineVerdict.or {E α : Type} {oe : Option E} {w v v' : Option String} {ss : List α} (hw : LineVerdict oe w ss)
    (hv : v' = v.or w) :
    (v' = none → v = none ∧ ∀ e, oe = some e → ss ≠ []) ∧
    (v' = some "not-linearizable" → v = some "not-linearizable" ∨ v = none ∧ ∃ e, oe = some e ∧ ss = []) := by
  subst hv
  cases v with
  | some x => exact ⟨nofun, .inl⟩
  | none => exact ⟨fun h => ⟨rfl, hw.1 h⟩, fun h => .inr ⟨rfl, hw.2 h⟩⟩

/-- a verdict `d` of another predicate of the judge takes precedence -/
theorem LineVerdict.disc {E α : Type} {oe : Option E} {d w : Option String} {ss : List α} (hw : LineVerdict oe w ss)
    (hd : d ≠ some "not-linearizable") : LineVerdict oe (d.or w) ss := by
  cases d with
  | none => exact hw
  | some x => exact ⟨nofun, fun h => absurd h hd⟩

/-- `T tr n ss`: what is known of the state set `ss` after the history `tr` with `n` goroutines; `L`: the histories to be accepted;
`G`: the judge's step.  `mono` serves the lines that raise `n` without an event, `pre` an older verdict (a rejected prefix) -/
structure Tracks {Op Res α : Type} (fuel : Nat) (T : List (AtomicObj.Event Op Res) → Nat → List α → Prop)
    (L : List (AtomicObj.Event Op Res) → Prop) (G : Nat → List α → AtomicObj.Event Op Res → List α) : Prop where
  step : ∀ {tr n n' ss} e, T tr n ss → n ≤ n' → InvLt (some e) n' → T (tr ++ [e]) n' (G n' ss e)
  mono : ∀ {tr n n' ss}, T tr n ss → n ≤ n' → T tr n' ss
  sound : ∀ {tr n ss}, T tr n ss → ss ≠ [] → L tr
  complete : ∀ {tr n ss}, T tr n ss → n ≤ fuel → L tr → ss ≠ []
  pre : ∀ {tr e}, L (tr ++ [e]) → L tr

/-- `B` is the hypothesis that bounds the goroutine ids of the scenario -/
structure Inv {Op Res α : Type} (fuel : Nat) (T : List (AtomicObj.Event Op Res) → Nat → List α → Prop)
    (L : List (AtomicObj.Event Op Res) → Prop) (B : Prop) (tr : List (AtomicObj.Event Op Res)) (n : Nat)
    (ss : List α) (live ok bad : Prop) : Prop where
  track : live → T tr n ss
  sound : ok → L tr
  complete : bad → n ≤ fuel → ¬ L tr
  le : B → n ≤ fuel

theorem Inv.line {Op Res α : Type} {fuel : Nat} {T : List (AtomicObj.Event Op Res) → Nat → List α → Prop}
    {L : List (AtomicObj.Event Op Res) → Prop} {G : Nat → List α → AtomicObj.Event Op Res → List α}
    (hT : Tracks fuel T L G) {B B' : Prop} {oe : Option (AtomicObj.Event Op Res)}
    {tr : List (AtomicObj.Event Op Res)} {n n' : Nat} {ss ss' : List α} {live ok bad live' ok' bad' : Prop}
    (h : Inv fuel T L B tr n ss live ok bad) (hn : n ≤ n') (hlt : InvLt oe n')
    (hle : B' → B ∧ (n ≤ fuel → n' ≤ fuel)) (hlive : live' → live) (hss : live → ss' = stepOpt (G n' ss) oe ss)
    (hok : ok' → ok ∧ ∀ e, oe = some e → live ∧ ss' ≠ [])
    (hbad : bad' → bad ∨ ∃ e, oe = some e ∧ live ∧ ss' = []) :
    Inv fuel T L B' (tr ++ oe.toList) n' ss' live' ok' bad' := by
  have hT' : live → T (tr ++ oe.toList) n' ss' := fun hl => by
    rw [hss hl]
    cases oe with
    | none => rw [Option.toList_none, List.append_nil]; exact hT.mono (h.track hl) hn
    | some e => exact hT.step e (h.track hl) hn hlt
  refine ⟨fun hl => hT' (hlive hl), fun ho => ?_, fun hb hf => ?_, fun hB => (hle hB).2 (h.le (hle hB).1)⟩
  · obtain ⟨ho0, hne⟩ := hok ho
    cases oe with
    | none => rw [Option.toList_none, List.append_nil]; exact h.sound ho0
    | some e => exact hT.sound (hT' (hne e rfl).1) (hne e rfl).2
  · rcases hbad hb with hb0 | ⟨e, rfl, hl, hem⟩
    · -- the verdict is older: a history that was not linearizable does not become so
      have := h.complete hb0 (Nat.le_trans hn hf)
      cases oe with
      | none => rw [Option.toList_none, List.append_nil]; exact this
      | some e => exact fun hL => this (hT.pre hL)
    · exact fun hL => hT.complete (hT' hl) hf hL hem

section Generic
variable (S : AtomicObj.Spec) [DecidableEq S.σ] [DecidableEq S.Op] [DecidableEq S.Res]

/-- `n0`: the number of goroutines at the last event; lines that are no events may have raised `n` since -/
structure Track (fuel : Nat) (tr : List (AtomicObj.Event S.Op S.Res)) (n : Nat)
    (ss : List (AtomicObj.State S.σ S.Op S.Res)) : Prop where
  acc : Acc S tr ss
  full : n ≤ fuel → ∃ n0, n0 ≤ n ∧ Full S n0 tr ss

omit [DecidableEq S.σ] in
theorem linearizable_prefix {tr : List (AtomicObj.Event S.Op S.Res)} {e : AtomicObj.Event S.Op S.Res}
    (h : AtomicObj.Linearizable S (tr ++ [e])) : AtomicObj.Linearizable S tr := by
  obtain ⟨N, menu, ls, s, hex, hv⟩ := exec_of_linearizable S h
  obtain ⟨ls0, s0, _, _, h0, hv0, _⟩ := exec_split_last hex tr e hv
  rw [← hv0]
  exact Lemmas.AtomicObj.linearizable S menu N h0

theorem track_tracks (fuel : Nat) :
    Tracks fuel (Track S fuel) (AtomicObj.Linearizable S) (stepObjF S fuel) where
  step e h hn he := ⟨acc_step S fuel _ h.acc e, fun hf => (h.full (Nat.le_trans hn hf)).elim fun n0 h0 =>
    ⟨_, Nat.le_refl _, full_step S fuel n0 _ (Nat.le_trans h0.1 hn) hf e he.lt h0.2⟩⟩
  mono h hn := ⟨h.acc, fun hf => (h.full (Nat.le_trans hn hf)).imp fun _ h0 => ⟨Nat.le_trans h0.1 hn, h0.2⟩⟩
  sound h := acc_linearizable S h.acc
  complete h hf := (h.full hf).elim fun _ h0 => full_nonempty S h0.2
  pre := linearizable_prefix S

omit [DecidableEq S.σ] in
theorem Inv.init (fuel : Nat) (B live ok bad : Prop) (hbad : ¬ bad) :
    Inv fuel (Track S fuel) (AtomicObj.Linearizable S) B [] 0 [AtomicObj.init S 0] live ok bad :=
  ⟨fun _ => ⟨acc_init S 0, fun _ => ⟨0, Nat.le_refl _, full_init S 0⟩⟩,
    fun _ => acc_linearizable S (acc_init S 0) (List.cons_ne_nil _ _), fun h => absurd h hbad, fun _ => Nat.zero_le _⟩

end Generic

end TypVerif.Lemmas.ObjTrack
