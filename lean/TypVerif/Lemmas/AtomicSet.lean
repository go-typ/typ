import TypVerif.Spec.AtomicSet
import TypVerif.Lemmas.Sets
/-
C05, specification level: alternation and counting of successful Add/Remove per value in every sequential
history; and the tie of the `sync2.Set` model to that specification (each method is one map call).
-/
namespace TypVerif.Lemmas.AtomicSet
open TypVerif.Spec.AtomicSet
open TypVerif.Model.Sets
open TypVerif.Lemmas.Sets (mem SetOK)
open TypVerif

set_option linter.unusedSectionVars false   -- several statements below do not use the section's `[DecidableEq α]`

variable {α : Type} [DecidableEq α]

theorem upd_eq_self (m : α → Bool) (v : α) (b : Bool) (hm : m v = b) : (fun x => if x = v then b else m x) = m := by
  funext x
  by_cases hx : x = v
  · rw [if_pos hx, hx, hm]
  · rw [if_neg hx]

theorem srunFrom_cons (m : SState α) (op : SOp α) (ops : List (SOp α)) :
    srunFrom m (op :: ops) =
      ((srunFrom (sstep m op).1 ops).1, (op, (sstep m op).2) :: (srunFrom (sstep m op).1 ops).2) := rfl

theorem srunFrom_length : ∀ (ops : List (SOp α)) (m : SState α), (srunFrom m ops).2.length = ops.length
  | [], _ => rfl
  | op :: ops, m => congrArg (· + 1) (srunFrom_length ops (sstep m op).1)

/-- the event of `v` that one call contributes -/
def evOne (v : α) (x : SOp α × Bool) : List Bool :=
  if x = (.add v, true) then [true] else if x = (.remove v, true) then [false] else []

theorem events_cons (v : α) (x : SOp α × Bool) (rest : List (SOp α × Bool)) :
    events v (x :: rest) = evOne v x ++ events v rest := by
  obtain ⟨op, b⟩ := x
  cases op <;> cases b <;> simp only [events, evOne, Prod.mk.injEq, SOp.add.injEq, SOp.remove.injEq, and_true, and_false,
    reduceCtorEq, if_false, List.nil_append] <;> split <;> rfl

/-- a call has an event of `v` exactly if it changes the membership of `v`, and the event is the new membership -/
theorem evOne_sstep (v : α) (m : SState α) (op : SOp α) :
    evOne v (op, (sstep m op).2) = if (sstep m op).1 v = m v then [] else [(sstep m op).1 v] := by
  cases op with
  | has w => exact (if_pos rfl).symm
  | add w =>
    show evOne v (.add w, !m w) = if (if v = w then true else m v) = m v then [] else [if v = w then true else m v]
    by_cases hw : w = v
    · subst hw
      cases hm : m w <;> simp [evOne]
    · cases hm : m w <;> simp [evOne, hw, Ne.symm hw]
  | remove w =>
    show evOne v (.remove w, m w) = if (if v = w then false else m v) = m v then [] else [if v = w then false else m v]
    by_cases hw : w = v
    · subst hw
      cases hm : m w <;> simp [evOne]
    · cases hm : m w <;> simp [evOne, hw, Ne.symm hw]

/-- the events `ev` of a value tell its way from membership `a` to membership `fin`: they alternate starting with `!a`,
replaying them from `a` gives `fin`, and #true + [a] = #false + [fin] -/
def Tells (a : Bool) (ev : List Bool) (fin : Bool) : Prop :=
  Alternates (!a) ev ∧ replay a ev = fin ∧
    countTrue ev + (if a then 1 else 0) = countFalse ev + (if fin then 1 else 0)

theorem Tells.cons {a b fin : Bool} {ev : List Bool} (h : Tells b ev fin) :
    Tells a ((if b = a then [] else [b]) ++ ev) fin := by
  obtain ⟨h1, h2, h3⟩ := h
  cases a <;> cases b
  · exact ⟨h1, h2, h3⟩
  · exact ⟨⟨rfl, h1⟩, h2, h3⟩
  · exact ⟨⟨rfl, h1⟩, h2, (congrArg Nat.succ h3).trans (Nat.succ_add _ _).symm⟩
  · exact ⟨h1, h2, h3⟩

/-- the general statement, from any starting membership -/
theorem run_facts (v : α) : ∀ (ops : List (SOp α)) (m : SState α),
    Tells (m v) (events v (srunFrom m ops).2) ((srunFrom m ops).1 v) := by
  intro ops
  induction ops with
  | nil => intro m; exact ⟨trivial, rfl, rfl⟩
  | cons op rest ih =>
    intro m
    rw [srunFrom_cons, events_cons, evOne_sstep]
    exact (ih (sstep m op).1).cons

theorem srunFrom_append (m : SState α) (a b : List (SOp α)) :
    (srunFrom m (a ++ b)).2 = (srunFrom m a).2 ++ (srunFrom (srunFrom m a).1 b).2 ∧
    (srunFrom m (a ++ b)).1 = (srunFrom (srunFrom m a).1 b).1 := by
  induction a generalizing m with
  | nil => exact ⟨rfl, rfl⟩
  | cons op rest ih =>
    obtain ⟨i1, i2⟩ := ih (sstep m op).1
    constructor
    · show (op, (sstep m op).2) :: (srunFrom (sstep m op).1 (rest ++ b)).2 = _
      rw [i1]; rfl
    · exact i2

/-! ### the `sync2.Set` model against the specification -/

def mstep (s : AnySet α) : SOp α → AnySet α × Bool
  | .add v => add s v
  | .remove v => remove s v
  | .has v => has s v

def mrunFrom (s : AnySet α) : List (SOp α) → AnySet α × List (SOp α × Bool)
  | [] => (s, [])
  | op :: ops =>
    let r := mstep s op
    let rest := mrunFrom r.1 ops
    (rest.1, (op, r.2) :: rest.2)

theorem mstep_sim (s : AnySet α) (hs : SetOK s) (op : SOp α) :
    SetOK (mstep s op).1 ∧ mem (mstep s op).1 = (sstep (mem s) op).1 ∧ (mstep s op).2 = (sstep (mem s) op).2 := by
  cases op with
  | add v =>
    obtain ⟨h1, h2, h3⟩ := Lemmas.Sets.add_ok s hs v
    refine ⟨h1, funext (fun x => ?_), h3⟩
    show mem (add s v).1 x = if x = v then true else mem s x
    rw [h2]; by_cases hx : x = v <;> simp [hx]
  | remove v =>
    obtain ⟨h1, h2, h3⟩ := Lemmas.Sets.remove_ok s hs v
    refine ⟨h1, funext (fun x => ?_), h3⟩
    show mem (remove s v).1 x = if x = v then false else mem s x
    rw [h2]; by_cases hx : x = v <;> simp [hx]
  | has v =>
    obtain ⟨h1, h2, h3⟩ := Lemmas.Sets.has_ok s hs v
    exact ⟨h1, funext h2, h3⟩

theorem mrunFrom_sim : ∀ (ops : List (SOp α)) (s : AnySet α), SetOK s →
    SetOK (mrunFrom s ops).1 ∧ mem (mrunFrom s ops).1 = (srunFrom (mem s) ops).1 ∧
    (mrunFrom s ops).2 = (srunFrom (mem s) ops).2 := by
  intro ops
  induction ops with
  | nil => intro s hs; exact ⟨hs, rfl, rfl⟩
  | cons op rest ih =>
    intro s hs
    obtain ⟨h1, h2, h3⟩ := mstep_sim s hs op
    obtain ⟨i1, i2, i3⟩ := ih (mstep s op).1 h1
    refine ⟨i1, ?_, ?_⟩
    · show mem (mrunFrom (mstep s op).1 rest).1 = (srunFrom (sstep (mem s) op).1 rest).1
      rw [i2, h2]
    · show (op, (mstep s op).2) :: (mrunFrom (mstep s op).1 rest).2 =
        (op, (sstep (mem s) op).2) :: (srunFrom (sstep (mem s) op).1 rest).2
      rw [i3, h2, h3]

end TypVerif.Lemmas.AtomicSet
