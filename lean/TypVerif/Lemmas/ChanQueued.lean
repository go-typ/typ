import TypVerif.Model.ChanHelpers
/-
The queued receivers `RecvQueued` / `RecvQueuedFull` (C19): the loops return exactly the queued prefix.
-/
namespace TypVerif.Lemmas.ChanQueued
open TypVerif.Model.ChanHelpers TypVerif.Model.Chan

theorem trySelectRecv_cons {c : Chan} {v : Int} {rest : List Int} (h : c.buf = v :: rest) :
    c.trySelectRecv = some ((v, true), { c with buf := rest }) := by
  simp [Chan.trySelectRecv, Chan.canRecv, Chan.recv, h]

theorem trySelectRecv_nil {c : Chan} (h : c.buf = []) :
    c.trySelectRecv = if c.closed then some ((0, false), c) else none := by
  simp [Chan.trySelectRecv, Chan.canRecv, Chan.recv, h]

theorem chan_eta_nil {c : Chan} (h : c.buf = []) : ({ c with buf := [] } : Chan) = c := by
  cases c; simp_all

/-- why a queued receiver stops when it wanted `k` more values from a channel holding `xs` -/
def stopOf (cl : Bool) (xs : List Int) (k : Nat) : Stop :=
  if xs.length < k then (if cl then .closed else .default) else .limit

/-! one iteration of the `RecvQueued` loop, by the number of values it still wants -/

theorem wants_pos {maxV : Int} {n : Nat} : (n : Int) < maxV ↔ 0 < maxV.toNat - n :=
  Int.lt_toNat.symm.trans Nat.sub_pos_iff_lt.symm

theorem loop_limit {maxV : Int} {buffer : List Int} (h : maxV.toNat - buffer.length = 0) (fuel : Nat) (c : Chan)
    (steps : Nat) : recvQueuedLoop maxV (fuel + 1) c buffer steps = ⟨buffer, c, steps, .limit⟩ := by
  rw [recvQueuedLoop, if_neg (mt wants_pos.1 (Nat.not_lt.2 (Nat.le_of_eq h)))]

theorem loop_nil {maxV : Int} {buffer : List Int} (h : 0 < maxV.toNat - buffer.length) (fuel cap : Nat) (cl : Bool)
    (steps : Nat) : recvQueuedLoop maxV (fuel + 1) ⟨[], cap, cl⟩ buffer steps =
      ⟨buffer, ⟨[], cap, cl⟩, steps + 1, if cl then .closed else .default⟩ := by
  rw [recvQueuedLoop, if_pos (wants_pos.2 h), trySelectRecv_nil rfl]
  cases cl <;> rfl

theorem loop_cons {maxV : Int} {buffer : List Int} (h : 0 < maxV.toNat - buffer.length) (fuel cap : Nat) (cl : Bool)
    (v : Int) (rest : List Int) (steps : Nat) : recvQueuedLoop maxV (fuel + 1) ⟨v :: rest, cap, cl⟩ buffer steps =
      recvQueuedLoop maxV fuel ⟨rest, cap, cl⟩ (buffer ++ [v]) (steps + 1) := by
  rw [recvQueuedLoop, if_pos (wants_pos.2 h), trySelectRecv_cons rfl]
  rfl

/-- the `RecvQueued` loop in closed form, from any intermediate state that still wants `k` values.  The induction
is on that demand `k`, not on the fuel, of which it only needs `k < fuel`: `recvQueued` starts with `maxV.toNat + 1` -/
theorem recvQueuedLoop_eq (maxV : Int) (cap : Nat) (cl : Bool) : ∀ (k : Nat) (xs : List Int) (fuel : Nat)
    (buffer : List Int) (steps : Nat), maxV.toNat - buffer.length = k → k < fuel →
    recvQueuedLoop maxV fuel ⟨xs, cap, cl⟩ buffer steps =
      ⟨buffer ++ xs.take k, ⟨xs.drop k, cap, cl⟩,
        steps + (xs.take k).length + (if xs.length < k then 1 else 0), stopOf cl xs k⟩ := by
  intro k
  induction k with
  | zero =>
    intro xs fuel buffer steps hk hf
    obtain ⟨fuel, rfl⟩ := Nat.exists_eq_succ_of_ne_zero (Nat.ne_of_gt (Nat.zero_lt_of_lt hf))
    rw [loop_limit hk]
    simp [stopOf]
  | succ k ih =>
    intro xs fuel buffer steps hk hf
    obtain ⟨fuel, rfl⟩ := Nat.exists_eq_succ_of_ne_zero (Nat.ne_of_gt (Nat.zero_lt_of_lt hf))
    have hpos : 0 < maxV.toNat - buffer.length := hk ▸ Nat.succ_pos k
    cases xs with
    | nil =>
      rw [loop_nil hpos]
      simp [stopOf]
    | cons v rest =>
      rw [loop_cons hpos, ih rest fuel _ _ (by rw [List.length_append, List.length_singleton]; omega)
        (Nat.lt_of_succ_lt_succ hf)]
      simp [stopOf, Nat.add_assoc, Nat.add_comm 1]


theorem stopOf_ne_fuel (cl : Bool) (xs : List Int) (k : Nat) : stopOf cl xs k ≠ .fuel := by
  unfold stopOf
  split
  · split <;> nofun
  · nofun

theorem recvQueued_eq (xs : List Int) (cap : Nat) (cl : Bool) (limit : Int) :
    recvQueued ⟨xs, cap, cl⟩ limit =
      ⟨xs.take limit.toNat, ⟨xs.drop limit.toNat, cap, cl⟩,
        (xs.take limit.toNat).length + (if xs.length < limit.toNat then 1 else 0), stopOf cl xs limit.toNat⟩ := by
  rw [recvQueued, recvQueuedLoop_eq limit cap cl limit.toNat xs _ [] 0 rfl (Nat.lt_succ_self _), List.nil_append,
    Nat.zero_add]

/-! `RecvQueuedFull`: the same loop, the values go into the caller's buffer from `index` on -/

theorem take_succ_set (cb : List Int) (i : Nat) (v : Int) (h : i < cb.length) :
    (cb.set i v).take (i + 1) = cb.take i ++ [v] := by
  rw [List.take_add_one, List.take_set_of_le (Nat.le_refl i), List.getElem?_set_self h]
  rfl

/-- what `RecvQueuedFull` returns, read off the result of `RecvQueued` with `maxValues = len(buf)`: the values received
so far are the first `index` slots of the caller's buffer -/
def toFull (cb : List Int) (q : QRes) : QFRes :=
  ⟨q.buffer.length, q.buffer ++ cb.drop q.buffer.length, q.ch, q.steps, q.stop⟩

/-- `RecvQueuedFull` is `RecvQueued` writing into the caller's buffer: the two loops run in lockstep -/
theorem fullLoop_eq : ∀ (fuel : Nat) (c : Chan) (cb : List Int) (index steps : Nat), index ≤ cb.length →
    recvQueuedFullLoop fuel c cb index steps = toFull cb (recvQueuedLoop cb.length fuel c (cb.take index) steps) ∧
    index ≤ (recvQueuedLoop cb.length fuel c (cb.take index) steps).buffer.length := by
  intro fuel
  induction fuel with
  | zero =>
    intro c cb index steps hi
    have hl : (cb.take index).length = index := List.length_take_of_le hi
    refine ⟨?_, Nat.le_of_eq hl.symm⟩
    simp only [recvQueuedFullLoop, recvQueuedLoop, toFull, hl, List.take_append_drop]
  | succ fuel ih =>
    intro c cb index steps hi
    have hl : (cb.take index).length = index := List.length_take_of_le hi
    have stop : ∀ (c' : Chan) (st : Nat) (why : Stop),
        (⟨index, cb, c', st, why⟩ : QFRes) = toFull cb ⟨cb.take index, c', st, why⟩ ∧
        index ≤ (⟨cb.take index, c', st, why⟩ : QRes).buffer.length := fun _ _ _ => by
      refine ⟨?_, Nat.le_of_eq hl.symm⟩
      simp only [toFull, hl, List.take_append_drop]
    rw [recvQueuedFullLoop, recvQueuedLoop, hl]
    by_cases hlt : index < cb.length
    · rw [if_pos hlt, if_pos (Int.ofNat_lt.2 hlt)]
      cases c.trySelectRecv with
      | none => exact stop _ _ _
      | some x =>
        obtain ⟨⟨v, ok⟩, c'⟩ := x
        cases ok with
        | false => exact stop _ _ _
        | true =>
          simp only [Bool.not_true, Bool.false_eq_true, if_false]
          have h := ih c' (cb.set index v) (index + 1) (steps + 1) (by rw [List.length_set]; exact hlt)
          rw [take_succ_set cb index v hlt, List.length_set] at h
          refine ⟨h.1.trans ?_, Nat.le_of_succ_le h.2⟩
          simp only [toFull, List.drop_set_of_lt h.2]
    · rw [if_neg hlt, if_neg (mt Int.ofNat_lt.1 hlt)]
      exact stop _ _ _

theorem recvQueuedFull_eq (xs : List Int) (cap : Nat) (cl : Bool) (cb : List Int) :
    recvQueuedFull ⟨xs, cap, cl⟩ cb =
      ⟨min xs.length cb.length, xs.take (min xs.length cb.length) ++ cb.drop (min xs.length cb.length),
        ⟨xs.drop (min xs.length cb.length), cap, cl⟩,
        min xs.length cb.length + (if xs.length < cb.length then 1 else 0), stopOf cl xs cb.length⟩ := by
  have h := recvQueued_eq xs cap cl cb.length
  rw [recvQueued, Int.toNat_natCast] at h
  rw [recvQueuedFull, (fullLoop_eq _ _ cb 0 0 (Nat.zero_le _)).1, List.take_zero, h, Nat.min_comm,
    ← List.take_eq_take_min, ← List.drop_eq_drop_min]
  simp [toFull, List.length_take]

end TypVerif.Lemmas.ChanQueued
