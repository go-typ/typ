import TypVerif.Lemmas.C09CompleteCover
/-
Acceptance completeness for the judge `Drv/C09.lean`: the fold of `Drv.C09.step false` over the lines of a scenario follows every
execution of the model.
-/
namespace TypVerif.Lemmas.C09Complete
open TypVerif TypVerif.Conc TypVerif.Model.KeyedMutex TypVerif.Drv.C09 TypVerif.Proto
open TypVerif.Lemmas.KeyedMutex TypVerif.Lemmas.C09Accept

/-- invariant of the fold along a model execution: the judge has not rejected, and — while it is inside the property — its state
set is closed under normalised internal steps and covers the current model state -/
def Follows (rw : Bool) (st : St) (a : State) : Prop :=
  st.started = true ∧ st.rw = rw ∧ st.rejected = none ∧ (st.outside = false → Sat rw st.ss ∧ Cover st.ss a)

/-- the budget condition: the state sets the judge has after every prefix of the lines (the empty one included) have at most `closeBudget` states -/
def WithinBudget (st : St) (lines : List (List Val × String)) : Prop :=
  ∀ l1 l2, lines = l1 ++ l2 → (runLines false st l1).ss.length ≤ closeBudget

theorem withinBudget_tail {st : St} {l : List Val × String} {lines : List (List Val × String)}
    (h : WithinBudget st (l :: lines)) : WithinBudget (step false st l.1 l.2).1 lines := by
  intro l1 l2 he
  have := h (l :: l1) l2 (by rw [he]; rfl)
  simpa [runLines] using this

theorem follows_runLines {rw : Bool} {ops : List Op} {a a' : State} {ls : List (Option Event)}
    (hex : Ex rw ops a ls a') :
    ∀ (st : St) (lines : List (List Val × String)), Follows rw st a →
      lines.map (fun l => lineEvent l.1) = (visible ls).map some → WithinBudget st lines →
      Follows rw (runLines false st lines) a' := by
  induction hex with
  | nil s =>
    intro st lines hf hp _
    cases lines with
    | nil => exact hf
    | cons _ _ => simp [visible] at hp
  | @cons s s' s'' l ls hstep _ ih =>
    intro st lines hf hp hb
    obtain ⟨f1, f2, f3, f4⟩ := hf
    cases l with
    | none =>
      have hv : visible (none :: ls) = visible ls := rfl
      rw [hv] at hp
      exact ih st lines ⟨f1, f2, f3, fun ho => ⟨(f4 ho).1, cover_internal (f4 ho).1 (f4 ho).2 hstep⟩⟩ hp hb
    | some e =>
      have hv : visible (some e :: ls) = e :: visible ls := rfl
      rw [hv] at hp
      cases lines with
      | nil => simp at hp
      | cons l lines =>
        simp only [List.map_cons, List.cons.injEq] at hp
        obtain ⟨hpe, hp⟩ := hp
        obtain ⟨p1, p2, _, _, _⟩ := step_parsed false st l.1 l.2 e hpe f1
        have hrun : runLines false st (l :: lines) = runLines false (step false st l.1 l.2).1 lines := rfl
        rw [hrun]
        apply ih _ lines ?_ hp (withinBudget_tail hb)
        rcases step_parsed_complete false st l.1 l.2 e hpe f1 f3 with ⟨q1, q2⟩ | ⟨q1, q2, q3, q4⟩
        · refine ⟨p1, by rw [p2, f2], q2, fun ho => ?_⟩
          rw [q1] at ho
          cases ho
        · rw [f2] at q3 q4
          have hc : Cover (advance false rw st.ss e) s' := cover_visible (f4 q2).2 hstep
          have hne : advance false rw st.ss e ≠ [] := by
            obtain ⟨_, _, x, _, hx, _⟩ := hc
            exact List.ne_nil_of_mem hx
          have hlen := hb [l] lines rfl
          have hrun1 : runLines false st [l] = (step false st l.1 l.2).1 := rfl
          rw [hrun1, q3] at hlen
          refine ⟨p1, by rw [p2, f2], q4 hne, fun _ => ?_⟩
          rw [q3]
          exact ⟨sat_advance rw st.ss e hlen, hc⟩

/-- **completeness of the fold**: the lines of the visible trace of an execution of the model are not rejected, provided the
judge's state sets stay within the budget of its closure -/
theorem fold_complete (st0 : St) (rwi : Int) (impl0 : String) (N : Nat) (ops : List Op)
    (ls : List (Option Event)) (s : State) (hex : Ex (rwi != 0) ops (init N) ls s)
    (lines : List (List Val × String))
    (hp : lines.map (fun l => lineEvent l.1) = (visible ls).map some)
    (hb : WithinBudget (step false st0 [.w "km", .i rwi] impl0).1 lines) :
    Follows (rwi != 0) (runLines false (step false st0 [.w "km", .i rwi] impl0).1 lines) s := by
  rw [step_header] at hb ⊢
  exact follows_runLines hex _ lines ⟨rfl, rfl, rfl, fun _ => ⟨sat_init _, cover_init N⟩⟩ hp hb

theorem cover_tau {rw : Bool} {ops : List Op} {ss : List State} {a a' : State} {ls : List (Option Event)}
    (hsat : Sat rw ss) (hex : Ex rw ops a ls a') (hv : visible ls = []) (hc : Cover ss a) : Cover ss a' := by
  induction hex with
  | nil s => exact hc
  | @cons s s' s'' l ls hstep _ ih =>
    cases l with
    | none => exact ih hv (cover_internal hsat hc hstep)
    | some e => simp [visible] at hv

/-- if the judge has not rejected at the end, the model verdict of every event line was `ok` -/
theorem outputs_ok (ref : Bool) (st : St) (hst : st.started = true) (lines : List (List Val × String)) (tr : List Event)
    (hp : lines.map (fun l => lineEvent l.1) = tr.map some) (hrej : (runLines ref st lines).rejected = none)
    (l1 : List (List Val × String)) (l : List Val × String) (l2 : List (List Val × String))
    (he : lines = l1 ++ l :: l2) : (step ref (runLines ref st l1) l.1 l.2).2.model = "ok" := by
  subst he
  rw [List.map_append, List.map_cons] at hp
  obtain ⟨tr1, tr2, rfl, hp1, hp2⟩ := List.map_eq_append_iff.1 hp.symm
  cases tr2 with
  | nil => simp at hp2
  | cons e tr2 =>
    simp only [List.map_cons, List.cons.injEq] at hp2
    obtain ⟨hpe, hp2⟩ := hp2
    have hs1 := (sticky_runLines ref l1 tr1 st hst hp1.symm).1
    rw [runLines_append] at hrej
    have hrun : runLines ref (runLines ref st l1) (l :: l2) =
        runLines ref (step ref (runLines ref st l1) l.1 l.2).1 l2 := rfl
    rw [hrun] at hrej
    have hs2 := (step_parsed ref (runLines ref st l1) l.1 l.2 e hpe.symm hs1).1
    have hr2 := (sticky_runLines ref l2 tr2 _ hs2 hp2.symm).2.2 hrej
    exact step_model_ok ref _ l.1 l.2 e hpe.symm hs1 hr2

end TypVerif.Lemmas.C09Complete
