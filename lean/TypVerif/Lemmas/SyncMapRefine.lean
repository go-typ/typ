import TypVerif.Lemmas.SyncMapSteps
/-
One-step simulation: every call of the sequential `sync2.Map` model preserves `SeqInv`, acts on the
abstraction `abs` as the ordinary map of `Spec/PMap.lean` does, and returns what that map returns.
-/
namespace TypVerif.Lemmas.SyncMap
open TypVerif.Model.SyncMap
open TypVerif.Spec.PMap (Op Out)
open TypVerif.Spec

set_option linter.unusedSectionVars false

variable {K V : Type} [DecidableEq K]

/-- writing to a key what it holds already changes nothing -/
theorem abs_upd_self {s : State K V} {k : K} {o : Option V} (habs : abs s k = o) (k' : K) :
    abs s k' = if k' = k then o else abs s k' := by
  by_cases h1 : k' = k
  · rw [if_pos h1, h1, habs]
  · rw [if_neg h1]

/-! ### Load -/

theorem load_ok {s : State K V} (h : SeqInv s) (k : K) :
    SeqInv (load s k).1 ∧ (∀ k', abs (load s k).1 k' = abs s k') ∧ (load s k).2 = abs s k := by
  cases hr : rd s k with
  | some e =>
    have hr' : alookup k s.read = some e := hr
    have : load s k = (s, loadEntry s e) := by simp only [load, hr']
    rw [this, abs_of_rd hr]
    exact ⟨h, fun _ => rfl, rfl⟩
  | none =>
    have hr' : alookup k s.read = none := hr
    cases ha : s.amended with
    | false =>
      have : load s k = (s, none) := by simp only [load, hr', ha, Bool.false_eq_true, if_false]
      rw [this, abs_of_clean_miss hr ha]
      exact ⟨h, fun _ => rfl, rfl⟩
    | true =>
      have : load s k = (missLocked s, (dt s k).bind (loadEntry (missLocked s))) := by
        simp only [load, hr', ha, if_true]
        show _ = (missLocked s, (alookup k (dirtyMap s)).bind (loadEntry (missLocked s)))
        cases alookup k (dirtyMap s) with
        | none => rfl
        | some e => rfl
      rw [this, abs_of_dt hr ha]
      have hm := missLocked_ok h (h.dirty_of_amended ha)
      exact ⟨hm.1, hm.2, congrArg (dt s k).bind (funext (loadEntry_missLocked s))⟩

/-! ### Store -/

theorem store_ok {s : State K V} (h : SeqInv s) (k : K) (v : V) :
    SeqInv (store s k v) ∧ ∀ k', abs (store s k v) k' = if k' = k then some v else abs s k' := by
  cases hr : rd s k with
  | some e =>
    have hr' : alookup k s.read = some e := hr
    by_cases hx : getP s e = .expunged
    · -- slow path: unexpunge, put into dirty, store
      have : store s k v = setP (setDirty (setP s e .nil) k e) e (.val v) := by
        simp only [store, hr', tryStore, hx, unexpungeLocked, storeLocked]
        rfl
      rw [this]
      exact revive_ok h v hr hx
    · have : store s k v = setP s e (.val v) := by
        simp only [store, hr', tryStore]
        cases hp : getP s e with
        | expunged => exact absurd hp hx
        | nil => rfl
        | val w => rfl
      rw [this]
      exact setVal_ok h v (Or.inl ⟨hr, isExpunged_toShared hx⟩)
  | none =>
    have hr' : alookup k s.read = none := hr
    cases hk : dt s k with
    | some e =>
      have hk' : alookup k (dirtyMap s) = some e := hk
      have : store s k v = setP s e (.val v) := by simp only [store, hr', hk', storeLocked]
      rw [this]
      exact setVal_ok h v (Or.inr ⟨hr, hk⟩)
    | none =>
      have hk' : alookup k (dirtyMap s) = none := hk
      have : store s k v = storeNew s k v := by simp only [store, hr', hk']
      rw [this]
      exact storeNew_ok h v hr hk

/-! ### LoadOrStore

`[Inhabited V]` here and on `step_ok`/`runFrom_ok`: the model's `loadOrStore` names `typ.Zero[V]()` (`default`) for a
result pair that the locked `tryLoadOrStore` never leaves open. -/

theorem loadOrStore_ok [Inhabited V] {s : State K V} (h : SeqInv s) (k : K) (v : V) :
    SeqInv (loadOrStore s k v).1 ∧
    (∀ k', abs (loadOrStore s k v).1 k' = if k' = k then some ((abs s k).getD v) else abs s k') ∧
    (loadOrStore s k v).2 = ((abs s k).getD v, (abs s k).isSome) := by
  cases hr : rd s k with
  | some e =>
    have hr' : alookup k s.read = some e := hr
    have habs : abs s k = pval (getP s e) := by rw [abs_of_rd hr, loadEntry_eq]
    cases hp : getP s e with
    | val w =>
      have : loadOrStore s k v = (s, (w, true)) := by simp only [loadOrStore, hr', tryLoadOrStore, hp]
      rw [hp] at habs
      rw [this, habs]
      exact ⟨h, abs_upd_self habs, rfl⟩
    | nil =>
      have : loadOrStore s k v = (setP s e (.val v), (v, false)) := by
        simp only [loadOrStore, hr', tryLoadOrStore, hp]
      rw [hp] at habs
      rw [this, habs]
      have hs := setVal_ok h v (Or.inl ⟨hr, isExpunged_toShared (by rw [hp]; nofun)⟩)
      exact ⟨hs.1, hs.2, rfl⟩
    | expunged =>
      have hg : getP (setDirty (setP s e .nil) k e) e = .nil := by
        rw [getP_setDirty, getP_setP_self s .nil (h.readRange k e hr)]
      have : loadOrStore s k v = (setP (setDirty (setP s e .nil) k e) e (.val v), (v, false)) := by
        simp only [loadOrStore, hr', tryLoadOrStore, hp, unexpungeLocked, if_true, hg]
        rfl
      rw [hp] at habs
      rw [this, habs]
      have l := revive_ok h v hr hp
      exact ⟨l.1, l.2, rfl⟩
  | none =>
    have hr' : alookup k s.read = none := hr
    cases hk : dt s k with
    | some e =>
      have hk' : alookup k (dirtyMap s) = some e := hk
      have hdn := dirty_ne_of_dt hk
      obtain ⟨w, hw⟩ := h.s5 k e hr hk
      have habs : abs s k = some w := by rw [abs_of_dt hr (h.s7 hdn), hk, Option.bind_some, loadEntry_eq, hw]; rfl
      have : loadOrStore s k v = (missLocked s, (w, true)) := by
        simp only [loadOrStore, hr', hk', tryLoadOrStore, hw]; rfl
      rw [this, habs]
      have hm := missLocked_ok h hdn
      exact ⟨hm.1, fun k' => (hm.2 k').trans (abs_upd_self habs k'), rfl⟩
    | none =>
      have hk' : alookup k (dirtyMap s) = none := hk
      have habs : abs s k = none := by
        cases ha : s.amended with
        | true => rw [abs_of_dt hr ha, hk]; rfl
        | false => exact abs_of_clean_miss hr ha
      have : loadOrStore s k v = (storeNew s k v, (v, false)) := by simp only [loadOrStore, hr', hk']
      rw [this, habs]
      have hs := storeNew_ok h v hr hk
      exact ⟨hs.1, hs.2, rfl⟩

/-! ### LoadAndDelete / Delete -/

theorem loadAndDelete_ok {s : State K V} (h : SeqInv s) (k : K) :
    SeqInv (loadAndDelete s k).1 ∧
    (∀ k', abs (loadAndDelete s k).1 k' = if k' = k then none else abs s k') ∧
    (loadAndDelete s k).2 = abs s k := by
  cases hr : rd s k with
  | some e =>
    have hr' : alookup k s.read = some e := hr
    have habs : abs s k = pval (getP s e) := by rw [abs_of_rd hr, loadEntry_eq]
    cases hp : getP s e with
    | val w =>
      have : loadAndDelete s k = (setP s e .nil, some w) := by simp only [loadAndDelete, hr', entryDelete, hp]
      rw [this, habs, hp]
      have hd := delRead_ok h hr hp
      exact ⟨hd.1, hd.2, rfl⟩
    | nil =>
      have : loadAndDelete s k = (s, none) := by simp only [loadAndDelete, hr', entryDelete, hp]
      rw [hp] at habs
      rw [this, habs]
      exact ⟨h, abs_upd_self habs, rfl⟩
    | expunged =>
      have : loadAndDelete s k = (s, none) := by simp only [loadAndDelete, hr', entryDelete, hp]
      rw [hp] at habs
      rw [this, habs]
      exact ⟨h, abs_upd_self habs, rfl⟩
  | none =>
    have hr' : alookup k s.read = none := hr
    cases ha : s.amended with
    | false =>
      have habs : abs s k = none := abs_of_clean_miss hr ha
      have : loadAndDelete s k = (s, none) := by
        simp only [loadAndDelete, hr', ha, Bool.false_eq_true, if_false]
      rw [this, habs]
      exact ⟨h, abs_upd_self habs, rfl⟩
    | true =>
      have hdn := h.dirty_of_amended ha
      have h1 := delDirty_ok h k hr
      have hm := missLocked_ok h1.1 ((delDirty_dirty_ne s k).mpr hdn)
      have h2 := hm.1
      have habs2 : ∀ k', abs (missLocked (delDirty s k)) k' = if k' = k then none else abs s k' := by
        intro k'; rw [hm.2, h1.2]
      rw [abs_of_dt hr ha]
      cases hk : dt s k with
      | none =>
        have hk' : alookup k (dirtyMap s) = none := hk
        have : loadAndDelete s k = (missLocked (delDirty s k), none) := by
          simp only [loadAndDelete, hr', ha, if_true, hk']
        rw [this]
        exact ⟨h2, habs2, rfl⟩
      | some e =>
        have hk' : alookup k (dirtyMap s) = some e := hk
        obtain ⟨w, hw⟩ := h.s5 k e hr hk
        have hg : getP (missLocked (delDirty s k)) e = .val w := by rw [getP_missLocked]; exact hw
        have : loadAndDelete s k = (setP (missLocked (delDirty s k)) e .nil, some w) := by
          simp only [loadAndDelete, hr', ha, if_true, hk', entryDelete, hg]
        rw [this, Option.bind_some, loadEntry_eq, hw]
        have hu := delUnlinked_ok h2 (orphan_missLocked (Smc.unlink_orphan h.toGS hr hk)) hg
        exact ⟨hu.1, fun k' => by rw [hu.2, habs2], rfl⟩

theorem delete_ok {s : State K V} (h : SeqInv s) (k : K) :
    SeqInv (delete s k) ∧ ∀ k', abs (delete s k) k' = if k' = k then none else abs s k' :=
  ⟨(loadAndDelete_ok h k).1, (loadAndDelete_ok h k).2.1⟩

/-! ### Range -/

theorem rangePromote_ok {s : State K V} (h : SeqInv s) :
    SeqInv (rangePromote s) ∧ (∀ k, abs (rangePromote s) k = abs s k) ∧ (rangePromote s).amended = false := by
  cases ha : s.amended with
  | true =>
    have : rangePromote s = promote s := by simp [rangePromote, ha]
    rw [this]
    have hp := promote_ok h (h.dirty_of_amended ha)
    exact ⟨hp.1, hp.2, rfl⟩
  | false =>
    have : rangePromote s = s := by simp [rangePromote, ha]
    rw [this]
    exact ⟨h, fun _ => rfl, ha⟩

theorem rangePromote_idem (s : State K V) : rangePromote (rangePromote s) = rangePromote s := by
  cases ha : s.amended with
  | false => simp only [rangePromote, ha, Bool.false_eq_true, if_false]
  | true => simp only [rangePromote, ha, if_true, promote, Bool.false_eq_true, if_false]

/-- in a clean state the abstraction is read off `read.m` -/
theorem abs_clean {s : State K V} (ha : s.amended = false) (k : K) :
    abs s k = (alookup k s.read).bind (loadEntry s) := by
  unfold abs cur
  show (match alookup k s.read with | some e => some e | none => if s.amended then dt s k else none).bind _ = _
  cases alookup k s.read <;> simp [ha]

theorem visit_cons (m : PMap.PMap K V) (k : K) (rest : List K) :
    PMap.visit m (k :: rest) =
      match m k with
      | some v => (k, v) :: PMap.visit m rest
      | none => PMap.visit m rest := by
  unfold PMap.visit
  rw [List.filterMap_cons]
  cases m k with
  | none => rfl
  | some v => rfl

/-- one iteration of the `Range` loop, in terms of the value the key has in `read.m` -/
theorem rangeLoop_cons (s : State K V) (k : K) (rest : List K) (left : Nat) :
    rangeLoop s (k :: rest) left =
      match (alookup k s.read).bind (loadEntry s) with
      | none => rangeLoop s rest left
      | some v => if left = 1 then [(k, v)] else (k, v) :: rangeLoop s rest (left - 1) := by
  rw [rangeLoop]
  cases alookup k s.read with
  | none => rfl
  | some e => rfl

theorem rangeLoop_eq (s : State K V) (m : PMap.PMap K V) (hm : ∀ k, (alookup k s.read).bind (loadEntry s) = m k) :
    ∀ (order : List K) (left : Nat),
      rangeLoop s order left = if left = 0 then PMap.visit m order else (PMap.visit m order).take left := by
  intro order
  induction order with
  | nil =>
    intro left
    show [] = if left = 0 then [] else List.take left []
    rw [List.take_nil, ite_self]
  | cons k rest ih =>
    intro left
    rw [rangeLoop_cons, visit_cons, hm k]
    cases m k with
    | none => exact ih left
    | some v =>
      show (if left = 1 then [(k, v)] else (k, v) :: rangeLoop s rest (left - 1)) =
        if left = 0 then (k, v) :: PMap.visit m rest else ((k, v) :: PMap.visit m rest).take left
      rw [ih]
      -- `left = 0`: never stop; `left = 1`: stop here; otherwise one callback fewer is left
      match left with
      | 0 => rfl
      | 1 => rfl
      | n + 2 => rfl

theorem rangeOrd_ok {s : State K V} (h : SeqInv s) (order : List K) (n : Int) :
    SeqInv (rangeOrd s order n).1 ∧ (∀ k, abs (rangeOrd s order n).1 k = abs s k) ∧
    (rangeOrd s order n).2 = PMap.cut n (PMap.visit (abs s) order) := by
  obtain ⟨h1, h2, h3⟩ := rangePromote_ok h
  refine ⟨h1, h2, ?_⟩
  show rangeLoop (rangePromote s) order n.toNat = _
  rw [rangeLoop_eq (rangePromote s) (abs s) (fun k => by rw [← abs_clean h3, h2])]
  unfold PMap.cut
  by_cases hn : n ≤ 0
  · rw [if_pos hn, if_pos (Int.toNat_eq_zero.mpr hn)]
  · rw [if_neg hn, if_neg (fun h0 => hn (Int.toNat_eq_zero.mp h0))]

/-! ### one step, any call -/

theorem step_ok [Inhabited V] {s : State K V} (h : SeqInv s) (op : Op K V) :
    SeqInv (step s op).1 ∧ abs (step s op).1 = (PMap.apply (abs s) op).1 ∧
    (step s op).2 = (PMap.apply (abs s) op).2 := by
  cases op with
  | load k =>
    obtain ⟨h1, h2, h3⟩ := load_ok h k
    exact ⟨h1, funext h2, congrArg Out.val h3⟩
  | store k v =>
    obtain ⟨h1, h2⟩ := store_ok h k v
    exact ⟨h1, funext h2, rfl⟩
  | loadOrStore k v =>
    obtain ⟨h1, h2, h3⟩ := loadOrStore_ok h k v
    refine ⟨h1, ?_⟩
    show abs (loadOrStore s k v).1 = (PMap.apply (abs s) (.loadOrStore k v)).1 ∧
      Out.pair (loadOrStore s k v).2.1 (loadOrStore s k v).2.2 = (PMap.apply (abs s) (.loadOrStore k v)).2
    rw [funext h2, h3]
    unfold PMap.apply
    cases ha : abs s k with
    | some w => simp only [ha]; exact ⟨funext fun k' => (abs_upd_self ha k').symm, rfl⟩
    | none => simp only [ha]; exact ⟨rfl, rfl⟩
  | loadAndDelete k =>
    obtain ⟨h1, h2, h3⟩ := loadAndDelete_ok h k
    exact ⟨h1, funext h2, congrArg Out.val h3⟩
  | delete k =>
    obtain ⟨h1, h2⟩ := delete_ok h k
    exact ⟨h1, funext h2, rfl⟩
  | range order n =>
    obtain ⟨h1, h2, h3⟩ := rangeOrd_ok h order n
    exact ⟨h1, funext h2, congrArg Out.pairs h3⟩

theorem SeqInv.init_ok : SeqInv (State.init : State K V) where
  nofault := rfl
  readNodup := List.nodup_nil
  dirtyNodup := List.nodup_nil
  readRange := fun _ _ hk => nomatch hk
  dirtyRange := fun _ _ hk => nomatch hk
  s1 := fun _ => rfl
  s2 := fun hd => absurd rfl hd
  s3 := fun _ _ _ hk => nomatch hk
  s4 := fun _ _ _ hk => nomatch hk
  s5 := fun _ _ _ hk => nomatch hk
  s6 := fun _ _ _ h1 _ => h1.elim nofun nofun
  s7 := fun hd => absurd rfl hd

theorem abs_init : abs (State.init : State K V) = PMap.empty :=
  funext fun _ => rfl

theorem runFrom_ok [Inhabited V] : ∀ (ops : List (Op K V)) (s : State K V), SeqInv s →
    SeqInv (runFrom s ops).1 ∧ abs (runFrom s ops).1 = (PMap.runFrom (abs s) ops).1 ∧
    (runFrom s ops).2 = (PMap.runFrom (abs s) ops).2 := by
  intro ops
  induction ops with
  | nil => intro s h; exact ⟨h, rfl, rfl⟩
  | cons op rest ih =>
    intro s h
    obtain ⟨h1, h2, h3⟩ := step_ok h op
    obtain ⟨i1, i2, i3⟩ := ih (step s op).1 h1
    refine ⟨i1, ?_, ?_⟩
    · show abs (runFrom (step s op).1 rest).1 = (PMap.runFrom (PMap.apply (abs s) op).1 rest).1
      rw [i2, h2]
    · show (step s op).2 :: (runFrom (step s op).1 rest).2 =
        (PMap.apply (abs s) op).2 :: (PMap.runFrom (PMap.apply (abs s) op).1 rest).2
      rw [i3, h2, h3]

end TypVerif.Lemmas.SyncMap
