import TypVerif.Lemmas.PubSubSafe
/-
`Safe` is an inductive invariant of the system without clones.  One lemma per shape of successor state, then the
cases of `TaskStep` and `Step`.
-/
namespace TypVerif.Lemmas.PubSubSafe
open TypVerif TypVerif.Model.PubSub TypVerif.Lemmas.PubSubStep

theorem obj0_setObj {s : State} (h : s.objs.length = 1) (x : ObjSt) : (s.setObj 0 x).obj 0 = x :=
  obj_setObj_self s x (h ▸ Nat.one_pos)

theorem length_setObj (s : State) (o : Nat) (x : ObjSt) : (s.setObj o x).objs.length = s.objs.length :=
  List.length_set ..

theorem safe_setTask {s : State} {i : Nat} {t t' : Task} (hs : Safe s) (hi : s.tasks[i]? = some t)
    (hrd : holdsRead t' = holdsRead t) (hwg : ∀ w, isWgSend w t' = isWgSend w t)
    (hww : ∀ w, isWaitWg w t = true → isWaitWg w t' = true ∨ s.wgs.getD w 0 = 0)
    (hobj : objOk t') (htarg : ∀ c ∈ targets t', c ∈ (s.obj 0).subs) : Safe (s.setTask i t') :=
  safe_replace hs hi rfl hs.objs1 rfl (hrd ▸ rfl) (fun _ => rfl) (fun _ h => h) (fun w => hwg w ▸ rfl)
    (fun w h => hwg w ▸ h) hww hobj htarg hs.nopanic

/-- `hrd` ties the new reader count to the kinds of `t`, `t'` -/
theorem safe_rw {s : State} {i : Nat} {t t' : Task} (r : RW) (hs : Safe s) (hi : s.tasks[i]? = some t)
    (hrd : r.readers + (if holdsRead t then 1 else 0) = (s.obj 0).rw.readers + (if holdsRead t' then 1 else 0))
    (hwg : ∀ w, isWgSend w t' = isWgSend w t)
    (hww : ∀ w, isWaitWg w t = true → isWaitWg w t' = true ∨ s.wgs.getD w 0 = 0)
    (hobj : objOk t') (htarg : ∀ c ∈ targets t', c ∈ (s.obj 0).subs) :
    Safe ((s.setObj 0 { s.obj 0 with rw := r }).setTask i t') := by
  have e : ((s.setObj 0 { s.obj 0 with rw := r }).setTask i t').obj 0 = { s.obj 0 with rw := r } :=
    obj0_setObj hs.objs1 _
  exact safe_replace hs hi rfl ((length_setObj ..).trans hs.objs1) (by rw [e]) (by rw [e]; exact hrd) (fun _ => rfl)
    (fun _ h => h) (fun w => hwg w ▸ rfl) (fun w h => hwg w ▸ h) hww hobj htarg hs.nopanic

theorem safe_inert {s : State} {i : Nat} {t t' : Task} (hs : Safe s) (hi : s.tasks[i]? = some t)
    (ht : holdsRead t = false) (ht' : holdsRead t' = false)
    (hw : ∀ w, isWgSend w t = false) (hw' : ∀ w, isWgSend w t' = false)
    (hww : ∀ w, isWaitWg w t = false) (hobj : objOk t') (htarg : targets t' = []) : Safe (s.setTask i t') :=
  safe_setTask hs hi (ht'.trans ht.symm) (fun w => (hw' w).trans (hw w).symm)
    (fun w h => nomatch (hww w).symm.trans h) hobj (fun _ h => nomatch htarg ▸ h)

theorem safe_spawn {s : State} (ts : List Task) (hs : Safe s)
    (h : ∀ t ∈ ts, objOk t ∧ holdsRead t = false ∧ targets t = [] ∧ ∀ w, isWgSend w t = false) : Safe (s.spawn ts) := by
  have hc1 : ts.countP holdsRead = 0 := by
    rw [List.countP_eq_zero]; intro t ht; simp [(h t ht).2.1]
  have hc2 : ∀ w, ts.countP (isWgSend w) = 0 := by
    intro w; rw [List.countP_eq_zero]; intro t ht; simp [(h t ht).2.2.2 w]
  constructor
  · exact hs.objs1
  · intro t ht
    rcases List.mem_append.mp ht with h' | h'
    · exact hs.obj0 t h'
    · exact (h t h').1
  · show _ = (s.tasks ++ ts).countP holdsRead
    rw [List.countP_append, hc1]; exact hs.readers
  · exact hs.opn
  · exact hs.nodup
  · exact hs.exist
  · intro t ht c hc
    rcases List.mem_append.mp ht with h' | h'
    · exact hs.targ t h' c hc
    · simp [(h t h').2.2.1] at hc
  · intro w
    show _ = (s.tasks ++ ts).countP (isWgSend w)
    rw [List.countP_append, hc2 w]; exact hs.wgc w
  · intro w hw
    obtain ⟨t, ht, hq⟩ := hs.wgw w hw
    exact ⟨t, List.mem_append.mpr (Or.inl ht), hq⟩
  · exact hs.nopanic

theorem safe_spawn1 {s : State} (t : Task) (hs : Safe s) (hobj : objOk t) (hr : holdsRead t = false)
    (htarg : targets t = []) (hwg : ∀ w, isWgSend w t = false) : Safe (s.spawn [t]) :=
  safe_spawn [t] hs fun _ h => List.mem_singleton.mp h ▸ ⟨hobj, hr, htarg, hwg⟩

theorem mkItems_c_mem {p : Nat} {evs : List Int} {subs : List Chan} {it : Item}
    (h : it ∈ mkItems p evs subs) : it.c ∈ subs := by
  simp only [mkItems, List.mem_flatMap, List.mem_map] at h
  obtain ⟨_, _, c, hc, rfl⟩ := h
  exact hc

theorem countP_wgSend_map (w W : Nat) (items : List Item) :
    (items.map (fun it => Task.wgSend 0 W it false)).countP (isWgSend w) = if W = w then items.length else 0 := by
  induction items with
  | nil => simp
  | cons it rest ih =>
    simp only [List.map_cons, List.countP_cons, ih, isWgSend, List.length_cons]
    by_cases h : W = w
    · simp [h]
    · simp [h]

theorem getD_append_one (l : List Nat) (n w : Nat) :
    (l ++ [n]).getD w 0 = if w = l.length then n else l.getD w 0 := by
  simp only [List.getD_eq_getElem?_getD]
  rcases Nat.lt_trichotomy w l.length with h | h | h
  · rw [List.getElem?_append_left h, if_neg (Nat.ne_of_lt h)]
  · subst h; simp
  · rw [List.getElem?_append_right (Nat.le_of_lt h), if_neg (Nat.ne_of_gt h), List.getElem?_eq_none (Nat.le_of_lt h),
      List.getElem?_eq_none (by simp; omega)]

/-- a new WaitGroup with one `sendWaitGroup` goroutine per item, while its `Pub*Wait` (already in `s`) waits for it -/
theorem safe_spawnWg {s : State} (items : List Item) (hs : Safe s)
    (hwait : ∃ t ∈ s.tasks, isWaitWg s.wgs.length t = true) (hit : ∀ it ∈ items, it.c ∈ (s.obj 0).subs) :
    Safe ({ s with wgs := s.wgs ++ [items.length] }.spawn (items.map (fun it => .wgSend 0 s.wgs.length it false))) := by
  have hW0 : s.tasks.countP (isWgSend s.wgs.length) = 0 := by
    rw [← hs.wgc]; simp [List.getD_eq_getElem?_getD]
  have hnew : ∀ t ∈ items.map (fun it => Task.wgSend 0 s.wgs.length it false),
      ∃ it ∈ items, t = .wgSend 0 s.wgs.length it false := fun t ht => by
    obtain ⟨it, h1, h2⟩ := List.mem_map.mp ht
    exact ⟨it, h1, h2.symm⟩
  constructor
  · exact hs.objs1
  · intro t ht
    rcases List.mem_append.mp ht with h | h
    · exact hs.obj0 t h
    · obtain ⟨_, _, rfl⟩ := hnew t h; rfl
  · show (s.obj 0).rw.readers = (s.tasks ++ _).countP holdsRead
    rw [List.countP_append, hs.readers, Nat.left_eq_add, List.countP_eq_zero]
    intro t ht
    obtain ⟨_, _, rfl⟩ := hnew t ht
    exact Bool.false_ne_true
  · exact hs.opn
  · exact hs.nodup
  · exact hs.exist
  · intro t ht c hc
    rcases List.mem_append.mp ht with h | h
    · exact hs.targ t h c hc
    · obtain ⟨it, hit', rfl⟩ := hnew t h
      exact List.mem_singleton.mp hc ▸ hit it hit'
  · intro w
    show (s.wgs ++ [items.length]).getD w 0 = (s.tasks ++ _).countP (isWgSend w)
    rw [List.countP_append, countP_wgSend_map, getD_append_one]
    by_cases hw : w = s.wgs.length
    · subst hw; rw [if_pos rfl, if_pos rfl, hW0, Nat.zero_add]
    · rw [if_neg hw, if_neg (Ne.symm hw), Nat.add_zero]; exact hs.wgc w
  · intro w hw
    have hw : 0 < (s.wgs ++ [items.length]).getD w 0 := hw
    rw [getD_append_one] at hw
    by_cases hwl : w = s.wgs.length
    · obtain ⟨t, ht, hq⟩ := hwait
      exact ⟨t, List.mem_append.mpr (Or.inl ht), hwl ▸ hq⟩
    · rw [if_neg hwl] at hw
      obtain ⟨t, ht, hq⟩ := hs.wgw w hw
      exact ⟨t, List.mem_append.mpr (Or.inl ht), hq⟩
  · exact hs.nopanic

theorem safe_frame {s s1 : State} (hs : Safe s) (f : SendFrame s s1) : Safe s1 := by
  have hobj : s1.obj 0 = s.obj 0 := by simp [State.obj, f.objs]
  constructor
  · rw [f.objs]; exact hs.objs1
  · rw [f.tasks]; exact hs.obj0
  · rw [hobj, f.tasks]; exact hs.readers
  · intro c hc; rw [f.closed]; exact hs.opn c (hobj ▸ hc)
  · rw [hobj]; exact hs.nodup
  · intro c hc; rw [f.has]; exact hs.exist c (hobj ▸ hc)
  · rw [hobj, f.tasks]; exact hs.targ
  · rw [f.wgs, f.tasks]; exact hs.wgc
  · rw [f.wgs, f.tasks]; exact hs.wgw
  · rw [f.panicked]; exact hs.nopanic

theorem frame_logTimeout (s : State) (it : Item) : SendFrame s (s.logTimeout it) :=
  ⟨rfl, rfl, rfl, rfl, fun _ => rfl, fun _ => rfl⟩

theorem sender_target {i : Nat} {t tfin tcb : Task} {it : Item} {cb : Bool} {fin : State → State}
    (h : Sender i t it cb fin tfin tcb) : it.c ∈ targets t := by
  cases h <;> simp [targets]

/-- a send by a task whose target is subscribed cannot hit a closed channel -/
theorem no_send_panic {s : State} {i : Nat} {t : Task} {it : Item} (hs : Safe s) (hi : s.tasks[i]? = some t)
    (ht : it.c ∈ targets t) : sendTo s it ≠ .panic := by
  intro h
  have h1 := sendTo_eq_panic h
  have h2 := hs.opn it.c (hs.targ t (List.mem_of_getElem? hi) it.c ht)
  rw [h1] at h2; cases h2

theorem lt_length_of_getD_pos (l : List Nat) (w : Nat) (h : 0 < l.getD w 0) : w < l.length := by
  rcases Nat.lt_or_ge w l.length with h1 | h1
  · exact h1
  · simp [List.getD_eq_getElem?_getD, List.getElem?_eq_none h1] at h

/-- `wg.Done()` by a live sender of the group: the counter is positive -/
theorem safe_wgDone {s : State} {i o w : Nat} {it : Item} {cb : Bool} (hs : Safe s)
    (hi : s.tasks[i]? = some (.wgSend o w it cb)) : Safe ((wgDone s w).setTask i .done) := by
  have hpos : 0 < s.wgs.getD w 0 := wg_pos hs (List.mem_of_getElem? hi) (by simp [isWgSend])
  have hlt := lt_length_of_getD_pos _ _ hpos
  have hwd : wgDone s w = { s with wgs := s.wgs.set w (s.wgs.getD w 0 - 1) } := by
    simp only [wgDone, beq_eq_false_iff_ne.mpr (Nat.ne_of_gt hpos), Bool.false_eq_true, ↓reduceIte]
  rw [hwd]
  refine safe_replace (t' := .done) hs hi rfl hs.objs1 rfl rfl (fun _ => rfl) (fun _ h => h) ?_
    (fun _ h => nomatch h) (fun _ h => nomatch h) trivial (fun _ h => nomatch h) hs.nopanic
  intro w'
  simp only [State.setTask, getD_set_of_lt _ _ _ _ _ hlt, isWgSend]
  by_cases h : w' = w
  · subst h
    simp only [beq_self_eq_true, Bool.false_eq_true, ↓reduceIte]
    omega
  · simp only [h, beq_eq_false_iff_ne.mpr (Ne.symm h), ↓reduceIte, Bool.false_eq_true]

/-- A task inside a read-locked region leaves it: the reader count is positive there, so the truncated `- 1` of `RUnlock`
is exact. -/
theorem safe_runlock {s : State} {i : Nat} {t t' : Task} (hs : Safe s) (hi : s.tasks[i]? = some t)
    (hr : holdsRead t = true) (hr' : holdsRead t' = false) (hwg : ∀ w, isWgSend w t' = isWgSend w t)
    (hww : ∀ w, isWaitWg w t = true → isWaitWg w t' = true ∨ s.wgs.getD w 0 = 0)
    (hobj : objOk t') (htarg : ∀ c ∈ targets t', c ∈ (s.obj 0).subs) : Safe ((s.runlock 0).setTask i t') := by
  have hpos := readers_pos hs hi hr
  refine safe_rw (s.obj 0).rw.runlock hs hi ?_ hwg hww hobj htarg
  rw [hr, hr']
  show (s.obj 0).rw.readers - 1 + 1 = (s.obj 0).rw.readers + 0
  omega

/-- what a sender does once the hand-off has ended -/
theorem safe_fin {i : Nat} {t tfin tcb : Task} {it : Item} {cb : Bool} {fin : State → State}
    (h : Sender i t it cb fin tfin tcb) {s : State} (hs : Safe s) (hi : s.tasks[i]? = some t) : Safe (fin s) := by
  have hobj : objOk t := hs.obj0 t (List.mem_of_getElem? hi)
  cases h with
  | syncLast p o it cb =>
    cases hobj
    exact safe_runlock hs hi rfl rfl (fun _ => rfl) (fun _ h => nomatch h) trivial (fun _ h => nomatch h)
  | syncMore p o it a rest cb =>
    exact safe_setTask hs hi rfl (fun _ => rfl) (fun _ h => nomatch h) hobj
      (fun c hc => hs.targ _ (List.mem_of_getElem? hi) c (List.mem_cons_of_mem _ hc))
  | async o it cb =>
    cases hobj
    exact safe_runlock hs hi rfl rfl (fun _ => rfl) (fun _ h => nomatch h) trivial (fun _ h => nomatch h)
  | wg o w it cb => exact safe_wgDone hs hi

/-- the timer of a sender fires -/
theorem safe_cb {i : Nat} {t tfin tcb : Task} {it : Item} {fin : State → State}
    (h : Sender i t it false fin tfin tcb) {s : State} (hs : Safe s) (hi : s.tasks[i]? = some t) :
    Safe (s.setTask i tcb) := by
  have hobj : objOk t := hs.obj0 t (List.mem_of_getElem? hi)
  have htarg := hs.targ t (List.mem_of_getElem? hi)
  cases h <;> exact safe_setTask hs hi rfl (fun _ => rfl) (fun _ h => nomatch h) hobj htarg

/-- with no reader inside, no task is about to send -/
theorem quiet {s : State} (hs : Safe s) (h0 : (s.obj 0).rw.readers = 0) : ∀ t ∈ s.tasks, targets t = [] := by
  have hc : s.tasks.countP holdsRead = 0 := by rw [← hs.readers]; exact h0
  have hno : ∀ t ∈ s.tasks, holdsRead t = false := fun t ht => by
    simpa using (List.countP_eq_zero.mp hc) t ht
  intro t ht
  cases t with
  | syncLoop p o work cb => exact nomatch hno _ ht
  | asyncSend o it cb => exact nomatch hno _ ht
  | wgSend o w it cb =>
    -- its `Pub*Wait` would still be waiting, holding the read lock
    obtain ⟨t2, ht2, hq⟩ := hs.wgw w (wg_pos hs ht (by simp [isWgSend]))
    cases t2 with
    | waitWg p' o' w' => exact nomatch hno _ ht2
    | _ => exact nomatch hq
  | _ => rfl

theorem isClosed_of_not_hasChan (cs : List ChanSt) (c : Chan) (h : hasChan cs c = false) : isClosed cs c = false := by
  simp only [hasChan, List.any_eq_false] at h
  simp only [isClosed, List.any_eq_false]
  intro ch hch
  simp [h ch hch]

/-- a writer's critical section: it runs when no reader is inside, so whatever it does to `subs` and to the channels
concerns no live sender -/
theorem safe_writer {s : State} {i : Nat} {t t' : Task} (cs' : List ChanSt) (subs' : List Chan) (hs : Safe s)
    (hi : s.tasks[i]? = some t) (hlock : (s.obj 0).rw.canLock = true)
    (ht : holdsRead t = false) (hw : ∀ w, isWgSend w t = false) (hww : ∀ w, isWaitWg w t = false)
    (ht' : holdsRead t' = false) (hw' : ∀ w, isWgSend w t' = false) (hobj : objOk t') (htarg : targets t' = [])
    (hopn : ∀ c ∈ subs', isClosed cs' c = false) (hnd : subs'.Nodup) (hex : ∀ c ∈ subs', hasChan cs' c = true) :
    Safe (({ s with chans := cs' }.setObj 0
      { s.obj 0 with subs := subs', rw := (s.obj 0).rw.lockUnlock }).setTask i t') := by
  have e : ∀ x, (({ s with chans := cs' }.setObj 0 x).setTask i t').obj 0 = x :=
    obj0_setObj (s := { s with chans := cs' }) hs.objs1
  have hq := quiet hs (readers_of_canLock hlock)
  constructor
  · exact (length_setObj ..).trans hs.objs1
  · exact forall_mem_set _ hs.obj0 hobj
  · have h1 := countP_set_eq holdsRead s.tasks i t t' hi
    rw [ht, ht'] at h1
    rw [e]
    exact hs.readers.trans (Nat.add_right_cancel h1).symm
  · rw [e]; exact hopn
  · rw [e]; exact hnd
  · rw [e]; exact hex
  · intro x hx c hc
    rw [forall_mem_set (P := fun t => targets t = []) _ hq htarg x hx] at hc
    cases hc
  · intro w
    have h1 := countP_set_eq (isWgSend w) s.tasks i t t' hi
    rw [hw w, hw' w] at h1
    exact (hs.wgc w).trans (Nat.add_right_cancel h1).symm
  · intro w hwp
    exact exists_set (isWaitWg w) s.tasks i t t' hi (hs.wgw w hwp) (fun h => nomatch (hww w).symm.trans h)
  · exact hs.nopanic

theorem closeAll_some : ∀ (l : List Chan) (cs : List ChanSt), (∀ c ∈ l, isClosed cs c = false) → l.Nodup →
    ∃ cs', closeAll cs l = some cs'
  | [], cs, _, _ => ⟨cs, rfl⟩
  | c :: rest, cs, hop, hnd => by
    have hc : isClosed cs c = false := hop c (List.mem_cons_self ..)
    simp only [closeAll, hc, Bool.false_eq_true, if_false]
    have hnd' := List.nodup_cons.mp hnd
    refine closeAll_some rest (closeChan cs c) ?_ hnd'.2
    intro x hx
    have hne : x ≠ c := fun h => hnd'.1 (h ▸ hx)
    rw [isClosed_closeChan_ne _ _ _ hne]
    exact hop x (List.mem_cons_of_mem _ hx)

theorem safe_taskStep {cfg : Cfg} {s s' : State} {i : Nat} {t : Task} (hs : Safe s)
    (hi : s.tasks[i]? = some t) (h : TaskStep cfg s i t s') : Safe s' := by
  have hobj : objOk t := hs.obj0 t (List.mem_of_getElem? hi)
  cases h with
  | plain hp => cases hp <;> exact safe_inert hs hi rfl rfl (fun _ => rfl) (fun _ => rfl) (fun _ => rfl) trivial rfl
  | rw o r hr =>
    cases hr with
    | pubSync p v evs _ _ _ =>
      cases hobj
      exact safe_rw _ hs hi rfl (fun _ => rfl) (fun _ h => nomatch h) rfl
        (fun c hc => by obtain ⟨it, hit, rfl⟩ := List.mem_map.mp hc; exact mkItems_c_mem hit)
    | asyncGo it _ hm =>
      cases hobj
      exact safe_rw _ hs hi rfl (fun _ => rfl) (fun _ h => nomatch h) rfl (fun c hc => List.mem_singleton.mp hc ▸ hm)
    | waitRet p w hz =>
      cases hobj
      exact safe_runlock hs hi rfl rfl (fun _ => rfl)
        (fun w' h => Or.inr ((show w = w' by simpa [isWaitWg] using h) ▸ hz)) trivial (fun _ h => nomatch h)
    | subLock | unsubLock | uaLock | unsubAbsent =>
      cases hobj
      exact safe_rw _ hs hi rfl (fun _ => rfl) (fun _ h => nomatch h) (by trivial) (fun _ h => nomatch h)
  | pubWait p o v evs _ _ _ =>
    cases hobj
    have h1 : Safe ((s.rlock 0).setTask i (.waitWg p 0 s.wgs.length)) :=
      safe_rw _ hs hi rfl (fun _ => rfl) (fun _ h => nomatch h) rfl (fun _ h => nomatch h)
    -- `safe_spawnWg` is stated for `{ x with wgs := …, tasks := … }` with `x` the state of `h1`; the model sets the task last:
    -- the two records are definitionally equal
    exact safe_spawnWg _ h1
      ⟨_, List.mem_set (List.getElem?_eq_some_iff.mp hi).1 _, by simp [isWaitWg, State.setTask, State.rlock, State.setObj]⟩
      (fun it hit => (subs_rlock s 0 0).symm ▸ mkItems_c_mem hit)
  | pubAsync p o v evs _ _ _ =>
    cases hobj
    have h1 : Safe (s.setTask i (.pubRet p)) :=
      safe_inert hs hi rfl rfl (fun _ => rfl) (fun _ => rfl) (fun _ => rfl) trivial rfl
    refine safe_spawn _ h1 fun t ht => ?_
    obtain ⟨it, _, rfl⟩ := List.mem_map.mp ht
    exact ⟨rfl, rfl, rfl, fun _ => rfl⟩
  | sub o c cap hk hnew =>
    cases hobj
    refine safe_writer _ _ hs hi hk rfl (fun _ => rfl) (fun _ => rfl) rfl (fun _ => rfl) trivial rfl ?_ ?_ ?_
    · intro x hx
      rw [isClosed_append_open _ _ _ rfl]
      rcases List.mem_append.mp hx with h1 | h1
      · exact hs.opn x h1
      · exact List.mem_singleton.mp h1 ▸ isClosed_of_not_hasChan _ _ hnew
    · refine List.nodup_append.mpr ⟨hs.nodup, (List.nodup_cons.mpr ⟨List.not_mem_nil, List.nodup_nil⟩), fun a ha b hb hab => ?_⟩
      have := hs.exist a ha
      rw [hab, List.mem_singleton.mp hb, hnew] at this
      cases this
    · intro x hx
      rw [hasChan_append]
      rcases List.mem_append.mp hx with h1 | h1
      · rw [hs.exist x h1]; rfl
      · simp [List.mem_singleton.mp h1]
  | unsub u o c hk hm hc =>
    cases hobj
    refine safe_writer _ _ hs hi hk rfl (fun _ => rfl) (fun _ => rfl) rfl (fun _ => rfl) trivial rfl ?_
      (hs.nodup.erase c) ?_
    · intro x hx
      obtain ⟨hne, hx'⟩ := hs.nodup.mem_erase_iff.mp hx
      rw [isClosed_closeChan_ne _ _ _ hne]
      exact hs.opn x hx'
    · intro x hx
      rw [hasChan_closeChan]
      exact hs.exist x (List.mem_of_mem_erase hx)
  | unsubClosed u o c _ hm hc =>
    cases hobj
    rw [hs.opn c hm] at hc
    cases hc
  | unsubAll u o cs hk hc =>
    cases hobj
    exact safe_writer _ _ hs hi hk rfl (fun _ => rfl) (fun _ => rfl) rfl (fun _ => rfl) trivial rfl
      (fun _ h => nomatch h) List.nodup_nil (fun _ h => nomatch h)
  | unsubAllClosed u o _ hc =>
    cases hobj
    obtain ⟨cs', hcs⟩ := closeAll_some _ _ hs.opn hs.nodup
    rw [hcs] at hc
    cases hc
  | withOnly w o c _ => exact hobj.elim
  | sendCb hsnd => exact safe_fin hsnd hs hi
  | sent hsnd hst =>
    have f := sendTo_sent hst
    exact safe_fin hsnd (safe_frame hs f) (f.tasks ▸ hi)
  | sendClosed hsnd hp => exact absurd hp (no_send_panic hs hi (sender_target hsnd))
  | timeout hsnd _ => exact safe_cb hsnd (safe_frame hs (frame_logTimeout s _)) hi

theorem safe_chans {s : State} (hs : Safe s) (cs' : List ChanSt)
    (hcl : ∀ c, isClosed cs' c = isClosed s.chans c) (hex : ∀ c, hasChan s.chans c = true → hasChan cs' c = true) :
    Safe { s with chans := cs' } :=
  ⟨hs.objs1, hs.obj0, hs.readers, fun c hc => (hcl c).trans (hs.opn c hc), hs.nodup,
   fun c hc => hex c (hs.exist c hc), hs.targ, hs.wgc, hs.wgw, hs.nopanic⟩

theorem safe_updChan {s : State} (hs : Safe s) (c : Chan) (f : ChanSt → ChanSt)
    (hf : ∀ ch, (f ch).id = ch.id ∧ (f ch).closed = ch.closed) :
    Safe { s with chans := updChan s.chans c f } :=
  safe_chans hs _ (fun c' => isClosed_updChan _ _ _ _ (fun x => (hf x).1) (fun x => (hf x).2))
    (fun c' h => by rw [hasChan_updChan _ _ _ _ (fun x => (hf x).1)]; exact h)

theorem validObj_zero {s : State} (hs : Safe s) {o : Nat} (h : s.validObj o = true) : o = 0 := by
  simp only [State.validObj, hs.objs1, Bool.and_eq_true, decide_eq_true_eq] at h
  omega

theorem safe_envStep {cfg : Cfg} {s s' : State} {e : Event} (hc : cfg.allowClone = false) (hs : Safe s)
    (h : EnvStep cfg s e s') : Safe s' := by
  cases h with
  | sub c cap _ => exact safe_spawn1 _ hs rfl rfl rfl (fun _ => rfl)
  | mkchan c _ =>
    exact safe_chans hs _ (fun c' => isClosed_append_open _ _ _ rfl) (fun c' h => by rw [hasChan_append, h]; rfl)
  | withonly via c h1 _ => rw [hc] at h1; cases h1
  | pubinv p via v evs _ hv =>
    cases validObj_zero hs hv
    exact safe_spawn1 (s := { s with pids := s.pids ++ [p] }) _
      ⟨hs.objs1, hs.obj0, hs.readers, hs.opn, hs.nodup, hs.exist, hs.targ, hs.wgc, hs.wgw, hs.nopanic⟩
      rfl rfl rfl (fun _ => rfl)
  | allow c n _ => exact safe_updChan hs _ _ (fun _ => ⟨rfl, rfl⟩)
  | unsubinv _ _ _ hv | unsuballinv _ _ hv =>
    cases validObj_zero hs hv
    exact safe_spawn1 _ hs rfl rfl rfl (fun _ => rfl)

theorem safe_work {cfg : Cfg} {s s' : State} (hs : Safe s) (h : Work cfg s s') : Safe s' := by
  cases h with
  | task hi ht => exact safe_taskStep hs hi ht
  | recv _ hf => exact safe_updChan hs _ _ hf.keeps

theorem safe_step {cfg : Cfg} {s s' : State} (hc : cfg.allowClone = false) (hs : Safe s) (h : Step cfg s s') :
    Safe s' := by
  cases h with
  | exit => exact ⟨hs.objs1, hs.obj0, hs.readers, hs.opn, hs.nodup, hs.exist, hs.targ, hs.wgc, hs.wgw, hs.nopanic⟩
  | env he => exact safe_envStep hc hs he
  | work hw => exact safe_work hs hw

/-- `Safe` holds in every reachable state of the system without clones; `Safe.nopanic`: no schedule reaches a panic -/
theorem no_panic_noClone (cfg : Cfg) (hc : cfg.allowClone = false) :
    ∀ s, Conc.Reachable (sys cfg) s → Safe s :=
  Conc.invariant (sys cfg) Safe safe_init (fun _ _ _ hs h => safe_step hc hs (step_of_mem_succ h))

end TypVerif.Lemmas.PubSubSafe
