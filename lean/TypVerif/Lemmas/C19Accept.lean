import TypVerif.Lemmas.ConcAccept
import TypVerif.Drv.C19
import TypVerif.Lemmas.ChanSend
import TypVerif.Lemmas.ChanRecv
/-
The timed-helper lines of the judge `Drv/C19.lean` (`sendLine`, `recvLine`): what a line is (`IsLine`: `verdict` against the
rendered outcomes, read both ways), and acceptance soundness.

The judge enumerates the outcomes of the scenario system with `sendOutcomes` / `recvOutcomes` (the generic `Conc.tauClosure`
from the initial state, projected by `sendFinal` / `recvFinal`), renders them (`renderSend` / `renderRecv`) and accepts the
implementation's result string iff it is one of the rendered outcomes.  Here: every enumerated outcome is the outcome of an
execution from the initial state; an accepted result string is the rendering of such an outcome.

Rendering (`Proto.Val.render`, a `partial def`) is opaque; nothing about it is needed: "the rendered outcome is `impl`" is
`renderSend o = impl`.
-/
namespace TypVerif.Lemmas.C19Accept
open TypVerif TypVerif.Conc TypVerif.Model.Chan TypVerif.Model.ChanHelpers TypVerif.Drv.C19 TypVerif.Proto

/-! ### outcome enumeration -/

theorem sendOutcomes_sound (fuel : Nat) (p : Params) : ∀ o ∈ sendOutcomes fuel p,
    ∃ (ls : List (Option Unit)) (s : SState),
      Exec (sendSys p) (initS p) ls s ∧ visible ls = [] ∧ sendFinal s = some o :=
  outcomes_sound (sendSys p) sendFinal fuel

theorem recvOutcomes_sound (fuel : Nat) (p : Params) : ∀ o ∈ recvOutcomes fuel p,
    ∃ (ls : List (Option Unit)) (s : RState),
      Exec (recvSys p) (initR p) ls s ∧ visible ls = [] ∧ recvFinal s = some o :=
  outcomes_sound (recvSys p) recvFinal fuel

/-! ### what the projections say -/

theorem sendFinal_eq {s : SState} {o : Bool × List Int × List Int} (h : sendFinal s = some o) :
    s.pc = .done o.1 ∧ (s.budget = 0 ∨ s.ch.buf = []) ∧ o.2.1 = s.taken ∧ o.2.2 = s.ch.buf := by
  unfold sendFinal at h
  split at h
  · rename_i r hpc
    split at h
    · rename_i hb
      simp only [Option.some.injEq] at h
      subst h
      exact ⟨hpc, hb, rfl, rfl⟩
    · cases h
  · cases h

/-- a completed send scenario without peer senders, under the judge's timing assumption, has no successor: it is a
terminated execution -/
theorem sendFinal_terminal (p : Params) (hp : p.promptPoll = true) (hps : p.peerSends = []) {s : SState}
    (hr : Reachable (sendSys p) s) {o : Bool × List Int × List Int} (h : sendFinal s = some o) : succS p s = [] := by
  obtain ⟨hpc, hb, _, _⟩ := sendFinal_eq h
  have hs : s.supply = [] := List.suffix_nil.1 (hps ▸ (ChanSend.good_reachable p s hr).supply)
  have hfire : fireOk p s.armed s.fired (decide (s.pc = SPc.wait)) = false := by
    simp [fireOk, hp, hpc]
  unfold succS envS
  rw [hfire, hs]
  unfold stepSH
  rw [hpc]
  rcases hb with hb | hb
  · have : peerRecvOkS p s = false := by simp [peerRecvOkS, hb]
    cases hbuf : s.ch.buf <;> simp [this]
  · simp [hb]

/-! ### the verdict -/

/-- the strings the judge itself produces as diagnostics; an implementation result (`<bool> <list> <list>`, resp.
`<int> <bool> <list>`) is none of them -/
def Diagnostic (impl : String) : Prop :=
  impl = "bad-op" ∨ (∃ x, impl = "rejected:not-in-{" ++ x) ∨ (∃ x, impl = "violated:" ++ x)

theorem diag_head {s : String} (h : Diagnostic s) :
    s.toList.head? = some 'b' ∨ s.toList.head? = some 'r' ∨ s.toList.head? = some 'v' := by
  rcases h with h | ⟨x, h⟩ | ⟨x, h⟩
  · left; rw [h]; decide
  · right; left; rw [h]; simp
  · right; right; rw [h]; simp

theorem verdict_model (impl : String) (allowed : List String) (cons : Option String) (tags : List String)
    (h : (verdict impl allowed cons tags).model = impl) : impl ∈ allowed ∨ Diagnostic impl := by
  unfold verdict at h
  cases hc : allowed.contains impl with
  | true => exact Or.inl (List.contains_iff_mem.1 hc)
  | false =>
    right
    cases cons with
    | none =>
      simp only [hc] at h
      exact Or.inr (Or.inl ⟨_, by rw [← h, String.append_assoc]⟩)
    | some what =>
      simp only [hc] at h
      exact Or.inr (Or.inr ⟨_, by rw [← h, String.append_assoc, String.append_assoc]⟩)

theorem verdict_accepts (impl : String) (allowed : List String) (cons : Option String) (tags : List String)
    (h : impl ∈ allowed) : (verdict impl allowed cons tags).model = impl := by
  unfold verdict
  have hc : allowed.contains impl = true := List.contains_iff_mem.2 h
  cases cons <;> simp only [hc]

/-- a timed-helper line of the judge: `bad-op` on ill-formed arguments, otherwise `verdict` against the rendered outcomes of its
scenario -/
def IsLine (bad : Prop) (out : Out) (impl : String) (allowed : List String) : Prop :=
  (bad → out = { model := "bad-op" }) ∧ (¬ bad → ∃ cons tags, out = verdict impl allowed cons tags)

theorem IsLine.model {bad : Prop} {out : Out} {impl : String} {allowed : List String} (hl : IsLine bad out impl allowed)
    (h : out.model = impl) : impl ∈ allowed ∨ Diagnostic impl := by
  by_cases hb : bad
  · exact .inr (.inl (h.symm.trans (congrArg Out.model (hl.1 hb))))
  · obtain ⟨cons, tags, e⟩ := hl.2 hb
    exact verdict_model _ _ cons tags (e ▸ h)

theorem IsLine.accepts {bad : Prop} {out : Out} {impl : String} {allowed : List String} (hl : IsLine bad out impl allowed)
    (hb : ¬ bad) (h : impl ∈ allowed) : out.model = impl := by
  obtain ⟨cons, tags, e⟩ := hl.2 hb
  rw [e]
  exact verdict_accepts _ _ _ _ h

theorem sendLine_line (op : String) (mode : Mode) (blocking : Bool) (cap fill peer : Nat) (impl : String) :
    IsLine (fill > cap ∨ peer > 2) (sendLine op mode blocking cap fill peer impl) impl
      ((sendOutcomes fuel (sendScenario mode cap fill peer)).map renderSend) := by
  unfold sendLine
  refine ⟨fun hb => if_pos hb, fun hok => ?_⟩
  rw [if_neg hok]
  dsimp only
  split
  · split
    · exact ⟨_, _, rfl⟩
    · exact ⟨_, _, rfl⟩
  · exact ⟨_, _, rfl⟩

theorem recvLine_line (op : String) (mode : Mode) (blocking : Bool) (cap fill : Nat) (closed : Bool) (peer : Nat)
    (impl : String) : IsLine (fill > cap ∨ peer > 1) (recvLine op mode blocking cap fill closed peer impl) impl
      ((recvOutcomes fuel (recvScenario mode cap fill closed peer)).map renderRecv) := by
  unfold recvLine
  refine ⟨fun hb => if_pos hb, fun hok => ?_⟩
  rw [if_neg hok]
  dsimp only
  split
  · split
    · exact ⟨_, _, rfl⟩
    · exact ⟨_, _, rfl⟩
  · exact ⟨_, _, rfl⟩

theorem sendLine_accept_sound (op : String) (mode : Mode) (blocking : Bool) (cap fill peer : Nat) (impl : String)
    (h : (sendLine op mode blocking cap fill peer impl).model = impl) (hnd : ¬ Diagnostic impl) :
    ∃ (ls : List (Option Unit)) (s : SState) (o : Bool × List Int × List Int),
      Exec (sendSys (sendScenario mode cap fill peer)) (initS (sendScenario mode cap fill peer)) ls s ∧
      sendFinal s = some o ∧ renderSend o = impl := by
  rcases (sendLine_line op mode blocking cap fill peer impl).model h with hm | hd
  · obtain ⟨o, ho, hr⟩ := List.mem_map.1 hm
    obtain ⟨ls, s, hex, _, hf⟩ := sendOutcomes_sound fuel _ o ho
    exact ⟨ls, s, o, hex, hf, hr⟩
  · exact absurd hd hnd

theorem recvLine_accept_sound (op : String) (mode : Mode) (blocking : Bool) (cap fill : Nat) (closed : Bool) (peer : Nat)
    (impl : String) (h : (recvLine op mode blocking cap fill closed peer impl).model = impl) (hnd : ¬ Diagnostic impl) :
    ∃ (ls : List (Option Unit)) (s : RState) (o : Int × Bool × List Int),
      Exec (recvSys (recvScenario mode cap fill closed peer)) (initR (recvScenario mode cap fill closed peer)) ls s ∧
      recvFinal s = some o ∧ renderRecv o = impl := by
  rcases (recvLine_line op mode blocking cap fill closed peer impl).model h with hm | hd
  · obtain ⟨o, ho, hr⟩ := List.mem_map.1 hm
    obtain ⟨ls, s, hex, _, hf⟩ := recvOutcomes_sound fuel _ o ho
    exact ⟨ls, s, o, hex, hf, hr⟩
  · exact absurd hd hnd

/-! ### frame facts used by the corollaries -/

theorem preFired_never {p : Params} (hm : p.mode = .context false false) : p.preFired = false := by
  rw [Params.preFired, hm]

/-- a context that is neither cancelled before the call nor may be cancelled later is never cancelled -/
theorem never_firedS (p : Params) (hm : p.mode = .context false false) :
    ∀ s, Reachable (sendSys p) s → SState.fired s = false :=
  Conc.invariant (sendSys p) (fun s => SState.fired s = false) (preFired_never hm)
    fun _ _ _ hP hs => ((ChanSend.step_of_mem hs).2.ctl.fired hm).trans hP

theorem never_firedR (p : Params) (hm : p.mode = .context false false) :
    ∀ s, Reachable (recvSys p) s → RState.fired s = false :=
  Conc.invariant (recvSys p) (fun s => RState.fired s = false) (preFired_never hm)
    fun _ _ _ hP hs => ((ChanRecv.step_of_mem hs).2.ctl.fired hm).trans hP

/-- what entered the channel plus what the peers still hold is constant -/
theorem sent_supply_step {p : Params} {s s' : RState} (h : ChanRecv.RStep p s s') :
    s'.sent ++ s'.supply = s.sent ++ s.supply := by
  cases h with
  | recvHandoff v vs _ hs | peerSend v vs hs | peerHandoff v vs hs => exact (List.append_assoc ..).trans (congrArg _ hs.symm)
  | _ => rfl

/-- everything that ever entered the channel, followed by what the peer senders still hold, is the initial content followed by
the peers' values -/
theorem sent_supply (p : Params) :
    ∀ s, Reachable (recvSys p) s → RState.sent s ++ RState.supply s = p.fill ++ p.peerSends :=
  Conc.invariant (recvSys p) (fun s => RState.sent s ++ RState.supply s = p.fill ++ p.peerSends) rfl
    fun _ _ _ hP hs => (sent_supply_step (ChanRecv.step_of_mem hs).2).trans hP

end TypVerif.Lemmas.C19Accept
