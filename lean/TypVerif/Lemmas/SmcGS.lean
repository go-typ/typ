import TypVerif.Lemmas.SmcDefs
/-
`GS`: the part of the global invariant `G` that talks about the shared state only, with the list of
not-yet-processed `read.m` pairs (`unprocessed s`) as a parameter — so that the effect of a step on the shared
state can be analysed independently of the program counters.
-/
namespace TypVerif.Lemmas.Smc
open TypVerif.Model TypVerif.Model.SyncMapConc TypVerif.Model.RelObj
open TypVerif.Model.SyncMap (alookup ainsert aerase akeys)

variable {K V : Type} [DecidableEq K] [DecidableEq V]

structure GS (sh : Shared K V) (U : List (K × EId)) : Prop where
  keysR : (akeys sh.readM).Nodup
  valsR : (vals sh.readM).Nodup
  keysD : (akeys (dirtyMap sh)).Nodup
  valsD : (vals (dirtyMap sh)).Nodup
  boundR : ∀ p ∈ sh.readM, p.2 < sh.entries.length
  boundD : ∀ p ∈ dirtyMap sh, p.2 < sh.entries.length
  s1 : sh.dirty = none → sh.amended = false
  nofault : sh.fault = false
  readDirty : ∀ p ∈ sh.readM, p ∉ U →
    if (getP sh p.2).isExpunged then
      sh.dirty.isSome = true ∧ alookup p.1 (dirtyMap sh) = none ∧ p.2 ∉ vals (dirtyMap sh)
    else (sh.dirty.isSome = true → alookup p.1 (dirtyMap sh) = some p.2)
  dirtySub : sh.amended = false → ∀ p ∈ dirtyMap sh, alookup p.1 sh.readM = some p.2
  dirtyLive : ∀ p ∈ dirtyMap sh, alookup p.1 sh.readM = none → isVal (getP sh p.2) = true

/-- the thread-indexed clauses of `G` -/
structure GT (s : State K V) (apcs : Nat → APc K V) : Prop where
  muBound : ∀ t, s.sh.mu = some t → t < s.pcs.length
  unlinked : ∀ t u, t < s.pcs.length → u < s.pcs.length → t ≠ u →
    ∀ e ∈ unlinkedPc (s.pc t) (apcs t), e ∉ unlinkedPc (s.pc u) (apcs u)

omit [DecidableEq V] in
theorem G_iff (s : State K V) (apcs : Nat → APc K V) :
    G s apcs ↔ GS s.sh (unprocessed s) ∧ GT s apcs := by
  constructor
  · intro h
    exact ⟨⟨h.keysR, h.valsR, h.keysD, h.valsD, h.boundR, h.boundD, h.s1, h.nofault, h.readDirty, h.dirtySub, h.dirtyLive⟩,
           ⟨h.muBound, h.unlinked⟩⟩
  · rintro ⟨h, g⟩
    exact ⟨h.keysR, h.valsR, h.keysD, h.valsD, h.boundR, h.boundD, h.s1, h.nofault, g.muBound, h.readDirty, h.dirtySub,
           h.dirtyLive, g.unlinked⟩

omit [DecidableEq V] in
theorem G.gs {s : State K V} {apcs : Nat → APc K V} (g : G s apcs) : GS s.sh (unprocessed s) :=
  ((G_iff s apcs).mp g).1

namespace GS

omit [DecidableEq V] in
/-- a smaller unprocessed set is a stronger statement; a larger one is weaker -/
theorem weaken {sh : Shared K V} {U U' : List (K × EId)} (h : GS sh U) (hU : ∀ p, p ∈ U → p ∈ U') : GS sh U' :=
  { h with readDirty := fun p hp hn => h.readDirty p hp (fun hm => hn (hU p hm)) }

omit [DecidableEq V] in
/-- `GS` only depends on the MEMBERS of `U` -/
theorem congr {sh : Shared K V} {U U' : List (K × EId)} (h : GS sh U) (hU : ∀ p, p ∈ U' ↔ p ∈ U) : GS sh U' :=
  h.weaken fun p => (hU p).mpr

end GS

end TypVerif.Lemmas.Smc
