import TypVerif.Model.RecvQueuedConc
import TypVerif.Lemmas.ChanQueued
import TypVerif.Lemmas.ConcAccept
import TypVerif.Lemmas.ListSet
/-
Lemmas for C19 / concurrent `RecvQueued` (`Model/RecvQueuedConc.lean`): the relational form of a step, the
inductive invariant `Inv`, and what follows from it.
-/
namespace TypVerif.Lemmas.RecvQueuedConc
open TypVerif TypVerif.Conc TypVerif.Model.Chan TypVerif.Model.RecvQueuedConc
open TypVerif.Model.ChanHelpers (Stop fillList)
open ChanQueued (trySelectRecv_cons trySelectRecv_nil)

/-! ### steps, relationally -/

/-- one step of the system, as a relation: exactly the three things a goroutine that is still in its loop can do.
`closed` is the channel's flag as a parameter (`retEmpty` demands `s.ch.closed = closed`): no step changes the flag, so
the invariant speaks of the one constant `p.closed` and the stop reason of `retEmpty` does not mention the state -/
inductive Step (limit : Int) (closed : Bool) (s : State) : State → Prop where
  /-- below the limit, a value is queued: take the head -/
  | recv (i : Nat) (g : Gor) (v : Int) (rest : List Int) :
      s.gs[i]? = some g → g.status = none → (g.acc.length : Int) < limit → s.ch.buf = v :: rest →
      Step limit closed s
        { ch := { s.ch with buf := rest }, gs := s.gs.set i { g with acc := g.acc ++ [v] }, log := s.log ++ [(i, v)] }
  /-- below the limit, nothing queued (`!ok` on a closed channel, `default` on an open one): return -/
  | retEmpty (i : Nat) (g : Gor) :
      s.gs[i]? = some g → g.status = none → (g.acc.length : Int) < limit → s.ch.buf = [] → s.ch.closed = closed →
      Step limit closed s
        { s with gs := s.gs.set i { g with status := some (if closed then Stop.closed else Stop.default) } }
  /-- the `for` condition fails: return -/
  | retLimit (i : Nat) (g : Gor) :
      s.gs[i]? = some g → g.status = none → limit ≤ (g.acc.length : Int) →
      Step limit closed s { s with gs := s.gs.set i { g with status := some Stop.limit } }

theorem step_of_stepG {limit : Int} {s : State} {i : Nat} {x : Option Event × State}
    (h : stepG limit s i = some x) : Step limit s.ch.closed s x.2 := by
  unfold stepG at h
  split at h
  · cases h
  · rename_i g hg
    split at h
    · cases h
    · rename_i hst
      split at h
      · rename_i hlt
        cases hb : s.ch.buf with
        | nil =>
          cases hc : s.ch.closed with
          | true | false =>
            rw [trySelectRecv_nil hb, hc] at h
            cases h
            exact Step.retEmpty i g hg hst hlt hb hc
        | cons v rest =>
          rw [trySelectRecv_cons hb] at h
          cases h
          exact Step.recv i g v rest hg hst hlt hb
      · rename_i hge
        cases h
        exact Step.retLimit i g hg hst (Int.not_lt.1 hge)

theorem stepG_lt {limit : Int} {s : State} {i : Nat} {x : Option Event × State}
    (h : stepG limit s i = some x) : i < s.gs.length := by
  apply Classical.byContradiction
  intro hn
  have : s.gs[i]? = none := List.getElem?_eq_none (by omega)
  simp [stepG, this] at h

theorem mem_succ_iff {limit : Int} {s : State} {x : Option Event × State} :
    x ∈ succ limit s ↔ ∃ i, stepG limit s i = some x := by
  unfold succ
  rw [List.mem_filterMap]
  constructor
  · rintro ⟨i, _, h⟩; exact ⟨i, h⟩
  · rintro ⟨i, h⟩; exact ⟨i, List.mem_range.2 (stepG_lt h), h⟩

theorem step_of_mem_succ {limit : Int} {s : State} {x : Option Event × State}
    (h : x ∈ succ limit s) : Step limit s.ch.closed s x.2 := by
  obtain ⟨i, hi⟩ := mem_succ_iff.1 h
  exact step_of_stepG hi

/-! ### list facts -/

theorem getElem?_set_cases {α : Type} {l : List α} {i j : Nat} {a b : α} (h : (l.set i a)[j]? = some b) :
    (j = i ∧ b = a) ∨ (j ≠ i ∧ l[j]? = some b) := by
  rw [List.getElem?_set] at h
  split at h
  · rename_i hij
    split at h
    · exact .inl ⟨hij.symm, (Option.some.inj h).symm⟩
    · cases h
  · rename_i hij
    exact .inr ⟨fun e => hij e.symm, h⟩

theorem owned_append_self (log : List (Nat × Int)) (i : Nat) (v : Int) :
    owned (log ++ [(i, v)]) i = owned log i ++ [v] := by
  simp [owned, List.filter_append]

theorem owned_append_ne (log : List (Nat × Int)) (i j : Nat) (v : Int) (h : i ≠ j) :
    owned (log ++ [(i, v)]) j = owned log j := by
  simp [owned, List.filter_append, h]

theorem delivered_append (log : List (Nat × Int)) (i : Nat) (v : Int) :
    delivered (log ++ [(i, v)]) = delivered log ++ [v] := by
  simp [delivered]

theorem owned_sublist (log : List (Nat × Int)) (i : Nat) : (owned log i).Sublist (delivered log) :=
  List.Sublist.map _ List.filter_sublist

theorem mem_owned {log : List (Nat × Int)} {i : Nat} {v : Int} : v ∈ owned log i ↔ (i, v) ∈ log := by
  simp only [owned, List.mem_map, List.mem_filter, beq_iff_eq]
  constructor
  · rintro ⟨⟨j, w⟩, ⟨hm, hj⟩, hw⟩
    simp only at hj hw
    subst hj; subst hw; exact hm
  · intro h; exact ⟨(i, v), ⟨h, rfl⟩, rfl⟩

theorem owner_unique : ∀ (log : List (Nat × Int)), (delivered log).Nodup →
    ∀ i j v, (i, v) ∈ log → (j, v) ∈ log → i = j := by
  intro log
  induction log with
  | nil => intro _ i j v h; simp at h
  | cons a log ih =>
    intro hn i j v hi hj
    have hn' : a.2 ∉ delivered log ∧ (delivered log).Nodup := by
      simpa [delivered] using hn
    have key : ∀ k, (k, v) ∈ log → v ∈ delivered log := by
      intro k hk
      simp only [delivered, List.mem_map]
      exact ⟨(k, v), hk, rfl⟩
    rcases List.mem_cons.1 hi with hi | hi <;> rcases List.mem_cons.1 hj with hj | hj
    · rw [← hi] at hj; exact (Prod.mk.inj hj).1.symm
    · exfalso; apply hn'.1; rw [← hi]; exact key j hj
    · exfalso; apply hn'.1; rw [← hj]; exact key i hi
    · exact ih hn'.2 i j v hi hj

theorem flatten_set_append {α : Type} : ∀ (l : List (List α)) (i : Nat) (a : List α) (v : α), l[i]? = some a →
    (l.set i (a ++ [v])).flatten.Perm (l.flatten ++ [v]) := by
  intro l
  induction l with
  | nil => intro i a v h; simp at h
  | cons b l ih =>
    intro i a v h
    cases i with
    | zero =>
      simp only [List.getElem?_cons_zero, Option.some.injEq] at h
      subst h
      simp only [List.set_cons_zero, List.flatten_cons, List.append_assoc]
      exact List.Perm.append_left _ List.perm_append_comm
    | succ i =>
      simp only [List.getElem?_cons_succ] at h
      simp only [List.set_cons_succ, List.flatten_cons, List.append_assoc]
      exact List.Perm.append_left _ (ih i a v h)

theorem map_acc_set_same (gs : List Gor) (i : Nat) (g g' : Gor) (h : gs[i]? = some g) (ha : g'.acc = g.acc) :
    (gs.set i g').map (·.acc) = gs.map (·.acc) := by
  apply List.ext_getElem?
  intro j
  simp only [List.getElem?_map, List.getElem?_set]
  split
  · rename_i hij
    subst hij
    obtain ⟨hlt, heq⟩ := List.getElem?_eq_some_iff.1 h
    simp [hlt, ha, heq]
  · rfl

/-! ### `fillList` = `1..fill` -/

theorem fillList_length (n : Nat) : (fillList n).length = n := by simp [fillList]

theorem fillList_pairwise (n : Nat) : (fillList n).Pairwise (· < ·) := by
  unfold fillList
  rw [List.pairwise_map]
  exact List.Pairwise.imp (fun h => by omega) List.pairwise_lt_range

theorem fillList_nodup (n : Nat) : (fillList n).Nodup :=
  List.Pairwise.imp (fun h => by omega) (fillList_pairwise n)

theorem mem_fillList {n : Nat} {v : Int} (h : v ∈ fillList n) : 1 ≤ v ∧ v ≤ (n : Int) := by
  simp only [fillList, List.mem_map, List.mem_range] at h
  obtain ⟨i, hi, rfl⟩ := h
  omega

theorem incr_of_pairwise : ∀ (l : List Int), l.Pairwise (· < ·) → incr l = true := by
  intro l
  induction l with
  | nil => intro _; rfl
  | cons a l ih =>
    intro h
    cases l with
    | nil => rfl
    | cons b l =>
      have h' := List.pairwise_cons.1 h
      have hab : a < b := h'.1 b List.mem_cons_self
      have := ih h'.2
      simp only [incr, List.tail_cons, List.zip_cons_cons, List.all_cons, Bool.and_eq_true, decide_eq_true_eq] at this ⊢
      exact ⟨hab, this⟩

/-! ### the invariant -/

structure Inv (p : Params) (s : State) : Prop where
  /-- what left the channel, in that order, followed by what is still queued, is the initial content -/
  cons : delivered s.log ++ s.ch.buf = p.fill
  /-- a goroutine holds exactly the values the log attributes to it, in that order -/
  own : ∀ i g, s.gs[i]? = some g → g.acc = owned s.log i
  /-- together the goroutines hold what left the channel -/
  perm : s.lists.flatten.Perm (delivered s.log)
  len : s.gs.length = p.g
  chan : s.ch.cap = p.cap ∧ s.ch.closed = p.closed
  limit : ∀ g ∈ s.gs, g.acc.length ≤ p.limit.toNat
  /-- a goroutine that has returned did so at the limit, or below it and then the channel is empty (and stays so) -/
  early : ∀ g ∈ s.gs, ∀ st, g.status = some st →
    (st = Stop.limit ∧ p.limit ≤ (g.acc.length : Int)) ∨
    (st = (if p.closed then Stop.closed else Stop.default) ∧ (g.acc.length : Int) < p.limit ∧ s.ch.buf = [])

theorem inv_init (p : Params) : Inv p (init p) where
  cons := by simp [init, delivered, Chan.mk']
  own := by
    intro i g h
    simp only [init, List.getElem?_replicate] at h
    split at h
    · simp only [Option.some.injEq] at h; subst h; rfl
    · simp at h
  perm := by simp [init, State.lists, delivered]
  len := by simp [init]
  chan := by simp [init, Chan.mk']
  limit := by
    intro g hg
    simp only [init] at hg
    rw [(List.mem_replicate.1 hg).2]; simp
  early := by
    intro g hg st hst
    simp only [init] at hg
    rw [(List.mem_replicate.1 hg).2] at hst
    simp at hst

theorem inv_ret {p : Params} {s : State} (inv : Inv p s) (i : Nat) (g : Gor) (st : Stop)
    (hg : s.gs[i]? = some g)
    (hst : (st = Stop.limit ∧ p.limit ≤ (g.acc.length : Int)) ∨
      (st = (if p.closed then Stop.closed else Stop.default) ∧ (g.acc.length : Int) < p.limit ∧ s.ch.buf = [])) :
    Inv p { s with gs := s.gs.set i { g with status := some st } } where
  cons := inv.cons
  own := by
    intro j g2 h
    rcases getElem?_set_cases h with ⟨rfl, rfl⟩ | ⟨-, h⟩
    · exact inv.own j g hg
    · exact inv.own j g2 h
  perm := by
    have : ({ s with gs := s.gs.set i { g with status := some st } } : State).lists = s.lists := by
      simp only [State.lists]
      exact map_acc_set_same s.gs i g _ hg rfl
    rw [this]; exact inv.perm
  len := by simp only [List.length_set]; exact inv.len
  chan := inv.chan
  limit := forall_mem_set i inv.limit (inv.limit g (List.mem_of_getElem? hg))
  early := forall_mem_set i inv.early fun _ e => Option.some.inj e ▸ hst

theorem inv_step {p : Params} {s s' : State} (inv : Inv p s) (h : Step p.limit p.closed s s') : Inv p s' := by
  cases h with
  | retEmpty i g hg hst hlt hb hc => exact inv_ret inv i g _ hg (Or.inr ⟨rfl, hlt, hb⟩)
  | retLimit i g hg hst hge => exact inv_ret inv i g _ hg (Or.inl ⟨rfl, hge⟩)
  | recv i g v rest hg hst hlt hb =>
    refine ⟨?_, ?_, ?_, ?_, inv.chan, ?_, ?_⟩
    · have := inv.cons
      rw [hb] at this
      simp only [delivered_append, List.append_assoc, List.singleton_append]
      exact this
    · intro j g2 h
      rcases getElem?_set_cases h with ⟨rfl, rfl⟩ | ⟨hij, h⟩
      · rw [owned_append_self, ← inv.own j g hg]
      · rw [owned_append_ne _ _ _ _ (Ne.symm hij)]
        exact inv.own j g2 h
    · simp only [State.lists, List.map_set, delivered_append]
      have hl : (s.gs.map (·.acc))[i]? = some g.acc := by simp [List.getElem?_map, hg]
      exact (flatten_set_append _ i g.acc v hl).trans (List.Perm.append_right _ inv.perm)
    · simp only [List.length_set]; exact inv.len
    · refine forall_mem_set i inv.limit ?_
      rw [List.length_append, List.length_singleton]
      omega
    · refine forall_mem_set i (fun g2 h2 st2 hst2 => ?_) fun _ e => nomatch hst.symm.trans e
      exact (inv.early g2 h2 st2 hst2).imp_right fun h3 => absurd (hb.symm.trans h3.2.2) (List.cons_ne_nil _ _)

theorem inv_reachable (p : Params) (s : State) (hr : Reachable (sys p) s) : Inv p s := by
  refine invariant (sys p) (Inv p) (inv_init p) ?_ s hr
  intro s l s' inv hmem
  have hs : Step p.limit s.ch.closed s s' := step_of_mem_succ (x := (l, s')) hmem
  rw [inv.chan.2] at hs
  exact inv_step inv hs

/-! ### consequences -/

theorem acc_sublist {p : Params} {s : State} (inv : Inv p s) (g : Gor) (hg : g ∈ s.gs) : g.acc.Sublist p.fill := by
  obtain ⟨i, hi⟩ := List.getElem?_of_mem hg
  rw [inv.own i g hi, ← inv.cons]
  exact (owned_sublist s.log i).trans (List.sublist_append_left _ _)

theorem all_perm {p : Params} {s : State} (inv : Inv p s) : (s.lists.flatten ++ s.ch.buf).Perm p.fill := by
  rw [← inv.cons]
  exact List.Perm.append_right _ inv.perm

theorem disjoint {p : Params} {s : State} (inv : Inv p s) (hn : p.fill.Nodup) (i j : Nat) (a b : Gor)
    (hij : i ≠ j) (ha : s.gs[i]? = some a) (hb : s.gs[j]? = some b) (v : Int) (hv : v ∈ a.acc) : v ∉ b.acc := by
  intro hv'
  rw [inv.own i a ha, mem_owned] at hv
  rw [inv.own j b hb, mem_owned] at hv'
  have hd : (delivered s.log).Nodup := by
    have : (delivered s.log).Sublist p.fill := by rw [← inv.cons]; exact List.sublist_append_left _ _
    exact this.nodup hn
  exact hij (owner_unique s.log hd i j v hv hv')

theorem final_full_or_empty {p : Params} {s : State} (inv : Inv p s) (hf : s.final) :
    (∀ g ∈ s.gs, g.acc.length = p.limit.toNat) ∨ s.ch.buf = [] := by
  by_cases hb : s.ch.buf = []
  · exact Or.inr hb
  · left
    intro g hg
    have hl := inv.limit g hg
    cases hst : g.status with
    | none => exact absurd hst (hf g hg)
    | some st =>
      rcases inv.early g hg st hst with h | h
      · have := h.2; omega
      · exact absurd h.2.2 hb

theorem step_buf_suffix {limit : Int} {closed : Bool} {s s' : State} (h : Step limit closed s s') :
    s'.ch.buf <:+ s.ch.buf := by
  cases h with
  | retEmpty => exact List.suffix_refl _
  | retLimit => exact List.suffix_refl _
  | recv i g v rest hg hst hlt hb => rw [hb]; exact List.suffix_cons v rest

theorem exec_buf_suffix (p : Params) : ∀ (ls : List (Option (sys p).Event)) (s s' : (sys p).State),
    Exec (sys p) s ls s' → (s' : State).ch.buf <:+ (s : State).ch.buf := by
  intro ls s s' h
  induction h with
  | nil s => exact List.suffix_refl _
  | cons hmem _ ih =>
    exact ih.trans (step_buf_suffix (step_of_mem_succ hmem))

/-- the step in which a goroutine returns with fewer values than the limit is taken on an empty channel -/
theorem step_return_short {limit : Int} {closed : Bool} {s s' : State} (h : Step limit closed s s')
    (i : Nat) (g g' : Gor) (hg : s.gs[i]? = some g) (hg' : s'.gs[i]? = some g')
    (hst : g.status = none) (hst' : g'.status ≠ none) (hshort : (g'.acc.length : Int) < limit) :
    s.ch.buf = [] ∧ s'.ch.buf = [] := by
  cases h with
  | recv k gk v rest hk hkst hlt hb =>
    rcases getElem?_set_cases hg' with ⟨-, rfl⟩ | ⟨-, h⟩
    · exact absurd hkst hst'
    · exact absurd (Option.some.inj (hg.symm.trans h) ▸ hst) hst'
  | retEmpty k gk hk hkst hlt hb hc => exact ⟨hb, hb⟩
  | retLimit k gk hk hkst hge =>
    rcases getElem?_set_cases hg' with ⟨-, rfl⟩ | ⟨-, h⟩
    · exact absurd hshort (Int.not_lt.2 hge)
    · exact absurd (Option.some.inj (hg.symm.trans h) ▸ hst) hst'

/-! ### the judge's predicate -/

/-- each hypothesis is named after the verdict it rules out -/
theorem concVerdict_none {fill g : Nat} {limit : Int} {lists : List (List Int)} {rem : List Int}
    (count : lists.length = g)
    (range : ∀ v ∈ lists.flatten ++ rem, 1 ≤ v ∧ v ≤ (fill : Int))
    (nodup : (lists.flatten ++ rem).Nodup)
    (total : (lists.flatten ++ rem).length = fill)
    (fifo : ∀ l ∈ lists, incr l = true)
    (atMost : ∀ l ∈ lists, l.length ≤ limit.toNat)
    (suffix : rem = (fillList fill).drop (fill - rem.length))
    (fullOrEmpty : (∀ l ∈ lists, l.length = limit.toNat) ∨ rem = []) :
    concVerdict fill g limit lists rem = none := by
  have notInvented : ¬ (lists.flatten ++ rem).any (fun v => decide (v < 1 ∨ v > (fill : Int))) = true := by
    intro h
    obtain ⟨v, hv, hd⟩ := List.any_eq_true.1 h
    have := range v hv
    simp only [decide_eq_true_eq] at hd
    omega
  have notTwice : ¬ (lists.flatten ++ rem).length ≠ (Conc.dedup (lists.flatten ++ rem)).length := by
    rw [dedup_of_nodup _ nodup]
    exact fun h => h rfl
  have notUnordered : ¬ lists.any (fun l => !incr l) = true := by
    intro h
    obtain ⟨l, hl, hd⟩ := List.any_eq_true.1 h
    rw [fifo l hl] at hd
    cases hd
  have notOver : ¬ lists.any (fun l => decide (l.length > limit.toNat)) = true := by
    intro h
    obtain ⟨l, hl, hd⟩ := List.any_eq_true.1 h
    have := atMost l hl
    simp only [decide_eq_true_eq] at hd
    omega
  have notEarly : ¬ (lists.any (fun l => decide (l.length < limit.toNat)) = true ∧ (!rem.isEmpty) = true) := by
    rintro ⟨ha, hb⟩
    rcases fullOrEmpty with h | h
    · obtain ⟨l, hl, hlt⟩ := List.any_eq_true.1 ha
      have := h l hl
      simp only [decide_eq_true_eq] at hlt
      omega
    · subst h; simp at hb
  unfold concVerdict
  dsimp only
  rw [if_neg (fun h => h count), if_neg notInvented, if_neg notTwice, if_neg (fun h => h total), if_neg notUnordered,
    if_neg notOver, if_neg (fun h => h suffix), if_neg notEarly]

theorem verdict_final {p : Params} {s : State} (n : Nat) (hfill : p.fill = fillList n) (inv : Inv p s) (hf : s.final) :
    concVerdict n p.g p.limit s.lists s.ch.buf = none := by
  have hp := all_perm inv
  rw [hfill] at hp
  refine concVerdict_none (count := ?count) (range := fun v hv => mem_fillList (hp.subset hv))
    (nodup := hp.nodup_iff.2 (fillList_nodup n)) (total := ?total) (fifo := ?fifo) (atMost := List.forall_mem_map.2 inv.limit)
    (suffix := ?suffix) (fullOrEmpty := (final_full_or_empty inv hf).imp_left List.forall_mem_map.2)
  case count => simp [State.lists, inv.len]
  case total => rw [hp.length_eq, fillList_length]
  case fifo =>
    exact List.forall_mem_map.2 fun g hg =>
      incr_of_pairwise _ (List.Pairwise.sublist (hfill ▸ acc_sublist inv g hg) (fillList_pairwise n))
  case suffix =>
    have hc := inv.cons
    rw [hfill] at hc
    have hlen : (delivered s.log).length + s.ch.buf.length = n := by
      rw [← List.length_append, hc, fillList_length]
    rw [← hc, List.drop_left' (by omega)]

/-! ### witnesses -/

theorem reachable_run (p : Params) : ∀ (sched : List Nat) (s s' : State),
    Reachable (sys p) s → run p.limit s sched = some s' → Reachable (sys p) s' := by
  intro sched
  induction sched with
  | nil => intro s s' hr h; simp only [run, Option.some.injEq] at h; subst h; exact hr
  | cons i is ih =>
    intro s s' hr h
    unfold run at h
    split at h
    · rename_i l s1 heq
      exact ih s1 s' (Reachable.step (sys := sys p) (l := l) hr (mem_succ_iff.2 ⟨i, heq⟩)) h
    · simp at h

theorem reachable_of_run (p : Params) (sched : List Nat) (s' : State)
    (h : run p.limit (init p) sched = some s') : Reachable (sys p) s' :=
  reachable_run p sched (init p) s' Reachable.init h

end TypVerif.Lemmas.RecvQueuedConc
