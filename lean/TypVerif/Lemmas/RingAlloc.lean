import TypVerif.Lemmas.RingHeap
/-
Allocation: `NewRing(n)` and the zero value `new(Ring)`.  Both extend the heap by a block of fresh cells
`h.size … h.size+m-1` that forms one new ring and leave every old cell alone (`wf_extend`).
-/
namespace TypVerif.Lemmas.Ring
open TypVerif.Model TypVerif.Model.Ring TypVerif.Spec.RingOp TypVerif.Spec.RingSeq

theorem worldWF_extend {w : RWorld} (wf : WorldWF w) (m : Nat) (hm : 0 < m) :
    WorldWF ⟨List.range' w.size m :: w.cycles, w.size + m⟩ where
  nodup := by
    show (List.range' w.size m ++ w.cycles.flatten).Nodup
    rw [List.nodup_append]
    refine ⟨List.nodup_range' 1, wf.nodup, ?_⟩
    intro a ha b hb e
    exact Nat.lt_irrefl b (Nat.lt_of_lt_of_le ((wf.mem_iff b).1 hb) (e ▸ (List.mem_range'_1.1 ha).1))
  mem_iff := by
    intro i
    show i ∈ List.range' w.size m ++ w.cycles.flatten ↔ i < w.size + m
    rw [List.mem_append, List.mem_range'_1, wf.mem_iff]
    omega
  length_eq := by
    show (List.range' w.size m ++ w.cycles.flatten).length = w.size + m
    rw [List.length_append, List.length_range', wf.length_eq, Nat.add_comm]
  nonempty := by
    intro c hc
    rcases List.mem_cons.1 hc with rfl | hc
    · exact fun e => Nat.ne_of_gt hm (List.range'_eq_nil_iff.1 e)
    · exact wf.nonempty c hc

/-- a heap `g` that agrees with `h` outside the fresh block `h.size … h.size+m-1`, stores `Value = id` in the
block and lays the block out as one ring, represents the world with that ring added -/
theorem wf_extend {h g : RHeap} {w : RWorld} (wf : RingWF h w) {m : Nat} (hm : 0 < m)
    (hsz : g.size = h.size + m)
    (hnx : ∀ x, x ∉ List.range' h.size m → g.nx x = h.nx x)
    (hpv : ∀ x, x ∉ List.range' h.size m → g.pv x = h.pv x)
    (hval : ∀ x, g.val x = if x ∈ List.range' h.size m then (x : Int) else h.val x)
    (hgood : Good g.nx g.pv (List.range' h.size m)) :
    RingWF g ⟨List.range' w.size m :: w.cycles, w.size + m⟩ where
  size_eq := by rw [hsz, wf.size_eq]
  world := worldWF_extend wf.world m hm
  value_eq := by
    intro i hi
    rw [hval]
    split
    · rfl
    · next hn => exact wf.value_eq i (Nat.lt_of_not_le fun hle => hn (List.mem_range'_1.2 ⟨hle, hsz ▸ hi⟩))
  good := by
    intro c hc
    rcases List.mem_cons.1 hc with rfl | hc
    · rw [← wf.size_eq]; exact hgood
    · have old : ∀ x ∈ c, x ∉ List.range' h.size m := fun x hx hb =>
        Nat.lt_irrefl x (Nat.lt_of_lt_of_le (wf.size_eq ▸ mem_lt wf.world hc hx) (List.mem_range'_1.1 hb).1)
      exact good_congr (fun x hx => hnx x (old x hx)) (fun x hx => hpv x (old x hx)) (wf.good c hc)
  fresh := by
    intro i hi
    have out : i ∉ List.range' h.size m := fun hb =>
      Nat.lt_irrefl i (Nat.lt_of_lt_of_le (List.mem_range'_1.1 hb).2 (hsz ▸ hi))
    rw [hnx i out, hpv i out, hval, if_neg out]
    exact wf.fresh i (Nat.le_trans (Nat.le_add_right _ _) (hsz ▸ hi))

theorem outside_succ {s k x : Nat} (hx : x ∉ List.range' s (k + 1)) : x ≠ s ∧ x ∉ List.range' (s + 1) k :=
  ⟨fun e => hx (e ▸ List.mem_cons_self), fun hb => hx (List.mem_cons_of_mem _ hb)⟩

/-- the closed form of `val` on a block grows by the cell just allocated in front of it -/
theorem val_block_succ (s k x : Nat) (v : Int) :
    (if x ∈ List.range' (s + 1) k then (x : Int) else if x = s then (s : Int) else v)
      = if x ∈ List.range' s (k + 1) then (x : Int) else v := by
  rw [List.range'_succ]
  by_cases h1 : x ∈ List.range' (s + 1) k
  · rw [if_pos h1, if_pos (List.mem_cons_of_mem _ h1)]
  · by_cases h2 : x = s
    · rw [if_neg h1, if_pos h2, if_pos (h2 ▸ List.mem_cons_self), h2]
    · rw [if_neg h1, if_neg h2, if_neg fun h3 => (List.mem_cons.1 h3).elim h2 h1]

theorem zero_spec {h : RHeap} {w : RWorld} (wf : RingWF h w) :
    RingWF (h.alloc none).1 ⟨[w.size] :: w.cycles, w.size + 1⟩ := by
  apply wf_extend wf Nat.one_pos rfl
  · intro x hx
    rw [nx_alloc, upd_ne _ _ (outside_succ hx).1]
  · intro x hx
    rw [pv_alloc, upd_ne _ _ (outside_succ hx).1]
  · intro x
    have h0 : x ∉ List.range' (h.size + 1) 0 := List.not_mem_nil
    rw [val_alloc, ← val_block_succ h.size 0 x, if_neg h0]
  · exact Or.inl ⟨h.size, rfl, by rw [nx_alloc, upd_same], by rw [pv_alloc, upd_same]⟩

/-- the loop of `NewRing` started at the last cell `p`: it appends the block `h.size … h.size+k-1` as a
doubly linked chain behind `p` and writes nothing else but `p.next` -/
theorem newLoop_spec : ∀ (k : Nat) (h : RHeap) (p : Nat), p < h.size →
    (newLoop k h p).1.size = h.size + k ∧
    (∀ x, x ≠ p → x ∉ List.range' h.size k → (newLoop k h p).1.nx x = h.nx x) ∧
    (∀ x, x ∉ List.range' h.size k → (newLoop k h p).1.pv x = h.pv x) ∧
    (∀ x, (newLoop k h p).1.val x = if x ∈ List.range' h.size k then (x : Int) else h.val x) ∧
    Linked (newLoop k h p).1.nx (newLoop k h p).1.pv (p :: List.range' h.size k) ∧
    (p :: List.range' h.size k).getLast? = some (newLoop k h p).2 := by
  intro k
  induction k with
  | zero =>
    intro h p _
    exact ⟨rfl, fun _ _ _ => rfl, fun _ _ => rfl, fun x => (if_neg List.not_mem_nil).symm, trivial, rfl⟩
  | succ k ih =>
    intro h p hp
    obtain ⟨i1, i2, i3, i4, i5, i6⟩ := ih ((h.alloc (some p)).1.setNext p (some h.size)) h.size (Nat.lt_succ_self _)
    have e : newLoop (k + 1) h p = newLoop k ((h.alloc (some p)).1.setNext p (some h.size)) h.size := rfl
    rw [e]
    refine ⟨i1.trans (Nat.add_right_comm _ 1 k), ?_, ?_, ?_, ?_, ?_⟩
    · intro x hxp hx
      rw [i2 x (outside_succ hx).1 (outside_succ hx).2, nx_setNext, nx_alloc, upd_ne _ _ hxp,
        upd_ne _ _ (outside_succ hx).1]
    · intro x hx
      rw [i3 x (outside_succ hx).2, pv_setNext, pv_alloc, upd_ne _ _ (outside_succ hx).1]
    · intro x
      rw [i4, val_setNext, val_alloc]
      exact val_block_succ _ _ _ _
    · rw [List.range'_succ, linked_cons_cons]
      refine ⟨?_, ?_, i5⟩
      · have out : p ∉ List.range' (h.size + 1) k := fun hb =>
          Nat.lt_irrefl p (Nat.lt_of_lt_of_le (Nat.lt_succ_of_lt hp) (List.mem_range'_1.1 hb).1)
        rw [i2 p (Nat.ne_of_lt hp) out, nx_setNext, upd_same]
      · have out : h.size ∉ List.range' (h.size + 1) k := fun hb =>
          Nat.not_succ_le_self _ (List.mem_range'_1.1 hb).1
        rw [i3 h.size out, pv_setNext, pv_alloc, upd_same]
    · rw [List.range'_succ, List.getLast?_cons_cons]
      exact i6

theorem NewRing_spec {h : RHeap} {w : RWorld} (wf : RingWF h w) {n : Int} (hn : ¬ n ≤ 0) :
    RingWF (NewRing h n).1 ⟨List.range' w.size n.toNat :: w.cycles, w.size + n.toNat⟩ ∧
      (NewRing h n).2 = some w.size := by
  obtain ⟨k, hk⟩ : ∃ k, n.toNat = k + 1 := Nat.exists_eq_succ_of_ne_zero (mt Int.toNat_eq_zero.1 hn)
  have spec := newLoop_spec k (h.alloc none).1 h.size (Nat.lt_succ_self _)
  have e : NewRing h n =
      ((((newLoop k (h.alloc none).1 h.size).1.setNext (newLoop k (h.alloc none).1 h.size).2 (some h.size)).setPrev
          h.size (some (newLoop k (h.alloc none).1 h.size).2)), some h.size) := by
    unfold NewRing
    rw [if_neg hn, hk]
    rfl
  rw [e, hk]
  generalize newLoop k (h.alloc none).1 h.size = L at spec ⊢
  obtain ⟨i1, i2, i3, i4, i5, i6⟩ := spec
  refine ⟨?_, congrArg some wf.size_eq⟩
  -- the chain of the loop is the whole block; `L.2` is its last cell
  have i5 : Linked L.1.nx L.1.pv (List.range' h.size (k + 1)) := i5
  have i6 : (List.range' h.size (k + 1)).getLast? = some L.2 := i6
  have ndc : (List.range' h.size (k + 1)).Nodup := List.nodup_range' 1
  apply wf_extend wf (Nat.succ_pos k)
  · exact i1.trans (Nat.add_right_comm _ 1 k)
  · intro x hx
    have hxp : x ≠ L.2 := fun e => hx (e ▸ List.mem_of_getLast? i6)
    rw [nx_setPrev, nx_setNext, upd_ne _ _ hxp, i2 x (outside_succ hx).1 (outside_succ hx).2, nx_alloc,
      upd_ne _ _ (outside_succ hx).1]
  · intro x hx
    rw [pv_setPrev, pv_setNext, upd_ne _ _ (outside_succ hx).1, i3 x (outside_succ hx).2, pv_alloc,
      upd_ne _ _ (outside_succ hx).1]
  · intro x
    rw [val_setPrev, val_setNext, i4, val_alloc]
    exact val_block_succ _ _ _ _
  · right
    show Linked _ _ (List.range' h.size (k + 1) ++ [h.size])
    rw [nx_setPrev, nx_setNext, pv_setPrev, pv_setNext]
    exact linked_join (linked_upd_pv _ _ (not_mem_tail_of_nodup ndc rfl)
      (linked_upd_nx _ _ (not_mem_dropLast_of_nodup ndc i6) i5)) trivial i6 rfl ⟨upd_same _ _ _, upd_same _ _ _⟩

end TypVerif.Lemmas.Ring
