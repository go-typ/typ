import TypVerif.Lemmas.SmcNew
/-
C04 concurrent half: `StepOK` for the non-quiet steps of `Store`:
`tryStoreCas` (the CAS of the fast path), `storeRead2` (the re-read under the mutex, with the new-key tail when the
map is already amended), `storeUnexp` (un-expunge under the mutex) and `storeLocked` (the store under the mutex).
`R_storeVal` (a value is stored into the current entry of a key) and `R_unexp` also serve `LoadOrStore` (`SmcLos`).
-/
namespace TypVerif.Lemmas.Smc
open TypVerif.Model TypVerif.Model.SyncMapConc TypVerif.Model.RelObj
open TypVerif.Model.SyncMap (alookup ainsert aerase akeys)

variable {K V : Type} [DecidableEq K] [DecidableEq V]

/-- The linearization step of a pending call whose outcome is `put a.obj k v`: a value is stored into the current,
non-expunged entry of `k`; afterwards at most `mu/misses` change (a `Tail`) and `t` does not hold the mutex. -/
theorem R_storeVal {s : State K V} {a : AState K V} {t : Tid} (hR : R s a) (ht : t < s.pcs.length) {op : Op K V}
    {k : K} {v : V} {r : Res K V} (hpend : Pend (a.pcs t) op) (hlin : isLin s.sh (s.pc t) (a.pcs t) = true)
    (happ : applyOp a.obj op = [(put a.obj k v, r)]) (hr : ∀ l, r ≠ .pairs l) {e : EId}
    (hx : (getP s.sh e).isExpunged = false) (hcur : Cur s.sh k e) {sh' : Shared K V}
    (hT : Tail (storeVal s.sh e v) t sh') (hno : ¬ Own sh' t)
    (hunp : unprocPc (s.pc t) = []) : R (setPc s t sh' (.ret r)) (witness s t none a) :=
  R_lin_ret hR ht hpend hlin happ hr (storeVal_effect hR v hx hcur) rfl hT hno hunp

/-- Un-expunge by the owner `t` of the mutex (`e.unexpungeLocked()` succeeded, then `m.dirty[key] = e`): not a
linearization step.  At its next pc `t` may rely on `read.m[k] = e` and on `e` being no longer expunged. -/
theorem R_unexp {s : State K V} {a : AState K V} {t : Tid} (hR : R s a) (ht : t < s.pcs.length)
    (hlin : isLin s.sh (s.pc t) (a.pcs t) = false) (hown : Own s.sh t) (hunp : unprocPc (s.pc t) = []) {k : K} {e : EId}
    (hr : alookup k s.sh.readM = some e) (hx : (getP s.sh e).isExpunged = true) {pc' : Pc K V}
    (hself : ∀ sh' : Shared K V, Own sh' t → alookup k sh'.readM = some e → (getP sh' e).isExpunged = false →
      T sh' t pc' (a.pcs t))
    (hunl : unlinkedPc pc' (.done .range .done) = []) :
    R (setPc s t (setDirty (setP s.sh e .nil) k e) pc') (witness s t none a) := by
  have hemp : ∀ p, p ∉ unprocessed s := fun _ => unprocessed_eq_nil_of_own hR.thr hown hunp ▸ List.not_mem_nil
  exact R_effect hR ht (.tau hlin) (unexp_effect hR hown hemp hr hx) (unexp_mu _ _ _) (.refl _ _)
    (hself _ ((unexp_mu _ _ _).trans hown) (by rw [unexp_readM]; exact hr)
      (unexp_not_expunged hR.g.gs hemp hr hx))
    (subset_of_eq_nil hunp) (subset_of_eq_nil (unlinkedPc_eq_nil_of_done hunl _))

variable [Inhabited V] {menu : List (Op K V)} {s : State K V} {a : AState K V} {t : Tid}

theorem stepOK_tryStoreCas {k : K} {v : V} {e : EId} {p : Ptr V} (hR : R s a) (ht : t < s.pcs.length)
    (hpc : s.pc t = .tryStoreCas k v e p) : StepOK menu s a t := by
  obtain ⟨hpend, hown, hhold, hpx⟩ := hpc ▸ hR.thr t
  refine stepOK_exec hR ht hpc nofun (fun _ => nofun) rfl ?_
  dsimp only [exec]
  cases hs : (getP s.sh e).same p with
  | false =>
    rintro _ _ ⟨⟩
    exact Quiet.toR (.same ⟨hpend, hown, hhold⟩ rfl) hR ht hpc hs rfl
  | true =>
    rintro _ _ ⟨⟩
    have hx : (getP s.sh e).isExpunged = false := by rw [same_isExpunged hs]; exact hpx
    exact R_storeVal hR ht hpend (hpc ▸ hs) rfl nofun hx (Cur_of_read (hhold.read_of_not_expunged hx))
      (.refl _ _) hown (hpc ▸ rfl)

theorem stepOK_storeLocked {k : K} {v : V} {e : EId} (hR : R s a) (ht : t < s.pcs.length)
    (hpc : s.pc t = .storeLocked k v e) : StepOK menu s a t := by
  obtain ⟨hpend, hown, htgt⟩ := hpc ▸ hR.thr t
  refine stepOK_exec hR ht hpc nofun (fun _ => nofun) rfl ?_
  rintro _ _ ⟨⟩
  exact R_storeVal hR ht hpend (hpc ▸ rfl) rfl nofun (htgt.not_expunged (GS_nil_of_own hR hown (hpc ▸ rfl))) htgt.cur
    (.unlock hown) (Own_unlock _ _) (hpc ▸ rfl)

theorem stepOK_storeUnexp {k : K} {v : V} {e : EId} (hR : R s a) (ht : t < s.pcs.length)
    (hpc : s.pc t = .storeUnexp k v e) : StepOK menu s a t := by
  obtain ⟨hpend, hown, hr⟩ := hpc ▸ hR.thr t
  have hlin : isLin s.sh (s.pc t) (a.pcs t) = false := hpc ▸ rfl
  refine stepOK_exec hR ht hpc nofun (fun _ => nofun) rfl ?_
  dsimp only [exec]
  cases hx : (getP s.sh e).isExpunged with
  | false =>
    rintro _ _ ⟨⟩
    exact Quiet.toR (.same ⟨hpend, hown, Or.inl ⟨hr, hx⟩⟩ rfl) hR ht hpc rfl rfl
  | true =>
    rintro _ _ ⟨⟩
    exact R_unexp hR ht hlin hown (hpc ▸ rfl) hr hx (fun _ ho hr' hx' => ⟨hpend, ho, Or.inl ⟨hr', hx'⟩⟩) rfl

theorem stepOK_storeRead2 {k : K} {v : V} (hR : R s a) (ht : t < s.pcs.length)
    (hpc : s.pc t = .storeRead2 k v) : StepOK menu s a t := by
  obtain ⟨hpend, hown⟩ := hpc ▸ hR.thr t
  refine stepOK_exec hR ht hpc nofun (fun _ => nofun) rfl ?_
  dsimp only [exec]
  cases hr : alookup k s.sh.readM with
  | some e =>
    rintro _ _ ⟨⟩
    exact Quiet.toR (.same ⟨hpend, hown, hr⟩ rfl) hR ht hpc
      (by simp [isLin, hr]) rfl
  | none =>
    cases hd : alookup k (dirtyMap s.sh) with
    | some e =>
      rintro _ _ ⟨⟩
      exact Quiet.toR (.same ⟨hpend, hown, Or.inr ⟨hr, hd⟩⟩ rfl) hR ht hpc
        (by simp [isLin, hr, hd]) rfl
    | none =>
      intro sh' pc' hex
      exact R_newTail (c := .store) hR ht hpend hown (hpc ▸ rfl) hr hd (by rw [hpc]; simp [isLin, hr, hd]) (Option.some.inj hex)

end TypVerif.Lemmas.Smc
