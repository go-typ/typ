import TypVerif.Lemmas.ChanSend
/-
The RecvTimeout / RecvContext transition system (all schedules, arbitrary environment): control flow through the shared
automaton `ChanCtl.CStep` (`RStep.ctl`), conservation through the ghost lists `sent`, `log`, `taken`, `consumed` (`RGood`).
-/
namespace TypVerif.Lemmas.ChanRecv
open TypVerif TypVerif.Conc TypVerif.Model.ChanHelpers TypVerif.Model.Chan
open ChanSend (AllSteps)
open ChanCtl

theorem recv_cons {c : Chan} {v : Int} {rest : List Int} (h : c.buf = v :: rest) :
    c.recv = ((v, true), { c with buf := rest }) := by
  simp [Chan.recv, h]

theorem recv_nil {c : Chan} (h : c.buf = []) : c.recv = ((0, false), c) := by
  simp [Chan.recv, h]

theorem canRecv_nil {c : Chan} (h : c.buf = []) : c.canRecv = c.closed := by
  simp [Chan.canRecv, h]

def atRecv (pc : RPc) : Prop := pc = .blk ∨ pc = .sel ∨ pc = .wait

inductive RStep (p : Params) (s : RState) : RState → Prop where
  | startBlk (tmo : Int) : s.pc = .start → p.mode = .timeout tmo → tmo ≤ 0 → RStep p s { s with pc := .blk }
  | startArm (tmo : Int) : s.pc = .start → p.mode = .timeout tmo → 0 < tmo →
      RStep p s { s with pc := .sel, armed := true }
  | startCtx (pre mc : Bool) : s.pc = .start → p.mode = .context pre mc → RStep p s { s with pc := .sel }
  | recvBuf (v : Int) (rest : List Int) : atRecv s.pc → s.ch.buf = v :: rest →
      RStep p s { s with ch := { s.ch with buf := rest }, pc := recvNext p s.pc v true,
                         consumed := s.consumed ++ [v], log := s.log ++ [v], recvFired := true, headAt := some v }
  | recvClosed : atRecv s.pc → s.ch.buf = [] → s.ch.closed = true →
      RStep p s { s with pc := recvNext p s.pc 0 false, recvFired := true, headAt := none }
  | recvHandoff (v : Int) (vs : List Int) : atRecv s.pc → s.supply = v :: vs → s.ch.buf = [] → s.ch.closed = false →
      RStep p s { s with supply := vs, pc := recvNext p s.pc v true, consumed := s.consumed ++ [v],
                         sent := s.sent ++ [v], log := s.log ++ [v], recvFired := true, headAt := some v }
  | timer : (s.pc = .sel ∨ s.pc = .wait) → s.fired = true → RStep p s { s with pc := .done 0 false }
  | park : s.pc = .sel → s.ch.canRecv = false → s.fired = false → RStep p s { s with pc := .wait }
  | stop (v : Int) (ok : Bool) : s.pc = .stop v ok → RStep p s { s with pc := .done v ok }
  | fire : fireOk p s.armed s.fired (decide (s.pc = .wait)) = true → RStep p s { s with fired := true }
  | peerRecv (v : Int) (rest : List Int) : s.ch.buf = v :: rest → peerRecvOkR p s = true →
      RStep p s { s with ch := { s.ch with buf := rest }, budget := s.budget - 1, taken := s.taken ++ [v],
                         log := s.log ++ [v] }
  | peerSend (v : Int) (vs : List Int) : s.supply = v :: vs → s.ch.canSend = true →
      RStep p s { s with ch := s.ch.send v, supply := vs, sent := s.sent ++ [v] }
  | peerHandoff (v : Int) (vs : List Int) : s.supply = v :: vs → handoffOkR p s = true →
      RStep p s { s with supply := vs, budget := s.budget - 1, taken := s.taken ++ [v],
                         sent := s.sent ++ [v], log := s.log ++ [v] }
  | close : p.mayClose = true → s.ch.closed = false → RStep p s { s with ch := s.ch.close }

theorem recvAlts_steps {p : Params} {s : RState} (hpc : atRecv s.pc) : AllSteps (RStep p s) (recvAlts p s) := by
  refine .append (.ite fun hc => ?_) ?_
  · cases hb : s.ch.buf with
    | nil =>
      rw [canRecv_nil hb] at hc
      simpa [recv_nil hb, hb] using RStep.recvClosed (p := p) hpc hb hc
    | cons v rest => simpa [recv_cons hb, hb] using RStep.recvBuf (p := p) v rest hpc hb
  · split
    · refine .ite fun hc => ?_
      rw [Bool.and_eq_true, List.isEmpty_iff, Bool.not_eq_true'] at hc
      exact .recvHandoff _ _ hpc ‹_› hc.1 hc.2
    · exact .nil

theorem timerAltR_steps {p : Params} {s : RState} (hpc : s.pc = .sel ∨ s.pc = .wait) :
    AllSteps (RStep p s) (timerAltR s) :=
  .ite (.timer hpc)

theorem stepRH_steps {p : Params} {s : RState} : AllSteps (RStep p s) (stepRH p s) := by
  unfold stepRH
  split
  · split
    · split
      · exact .single (.startBlk _ ‹_› ‹_› ‹_›)
      · exact .single (.startArm _ ‹_› ‹_› (Int.not_le.1 ‹_›))
    · exact .single (.startCtx _ _ ‹_› ‹_›)
  · exact recvAlts_steps (.inl ‹_›)
  · refine .append (.append (recvAlts_steps (.inr (.inl ‹_›))) (timerAltR_steps (.inl ‹_›))) ?_
    split
    · exact .nil
    · rename_i hc
      rw [Bool.or_eq_true, not_or, Bool.not_eq_true, Bool.not_eq_true] at hc
      exact .single (.park ‹_› hc.1 hc.2)
  · exact .append (recvAlts_steps (.inr (.inr ‹_›))) (timerAltR_steps (.inr ‹_›))
  · exact .single (.stop _ _ ‹_›)
  · exact .nil

theorem envR_steps {p : Params} {s : RState} : AllSteps (RStep p s) (envR p s) := by
  unfold envR
  refine .append (.append (.append (.ite .fire) ?_) ?_) (.ite fun hc => ?_)
  · split
    · exact .ite (.peerRecv _ _ ‹_›)
    · exact .nil
  · split
    · exact .append (.ite (.peerSend _ _ ‹_›)) (.ite (.peerHandoff _ _ ‹_›))
    · exact .nil
  · rw [Bool.and_eq_true, Bool.not_eq_true'] at hc
    exact .close hc.1 hc.2

theorem step_of_mem {p : Params} {s s' : RState} {l : Option Unit} (h : (l, s') ∈ succR p s) :
    l = none ∧ RStep p s s' :=
  AllSteps.append stepRH_steps envR_steps _ h


/-! ### the invariant -/

/-- what a (pending or delivered) result `(v, ok)` of the helper means -/
def RetOk (s : RState) (v : Int) (ok : Bool) : Prop :=
  (s.recvFired = true → ok = true → s.consumed = [v] ∧ s.headAt = some v) ∧
  (s.recvFired = true → ok = false →
     v = 0 ∧ s.consumed = [] ∧ s.headAt = none ∧ s.ch.closed = true ∧ s.ch.buf = []) ∧
  (s.recvFired = false → v = 0 ∧ ok = false ∧ s.consumed = [] ∧ s.fired = true)

def RPcOk (s : RState) : Prop :=
  match s.pc with
  | .start | .blk | .sel | .wait => s.recvFired = false ∧ s.consumed = []
  | .stop v ok => s.recvFired = true ∧ RetOk s v ok
  | .done v ok => RetOk s v ok

def RModeOk (p : Params) (s : RState) : Prop :=
  match p.mode with
  | .timeout tmo =>
    (s.armed = true → 0 < tmo) ∧ (s.fired = true → s.armed = true) ∧
    (s.pc = .blk → tmo ≤ 0) ∧ (s.pc = .sel → 0 < tmo) ∧ (s.pc = .wait → 0 < tmo) ∧ (∀ v ok, s.pc = .stop v ok → 0 < tmo)
  | .context _ _ => s.armed = false ∧ s.pc ≠ .blk ∧ ∀ v ok, s.pc ≠ .stop v ok

/-- `split` is conservation by count; `single` (no peer receipt: the log is what the helper consumed) with `budgetOk` (no peer
budget: no peer receipt) turns it into the list equation `sent = consumed ++ buf` of `recv_conservation` -/
structure RGood (p : Params) (s : RState) : Prop where
  fifo : s.sent = s.log ++ s.ch.buf
  split : ∀ x, s.log.count x = s.taken.count x + s.consumed.count x
  single : s.taken = [] → s.log = s.consumed
  budgetOk : s.taken.length + s.budget = p.peerRecvs
  pcOk : RPcOk s
  modeOk : RModeOk p s

theorem handoffOkR_eq {p : Params} {s : RState} (h : handoffOkR p s = true) :
    s.ch.buf = [] ∧ s.ch.closed = false ∧ peerRecvOkR p s = true := by
  simpa [handoffOkR, List.isEmpty_iff, and_assoc] using h

theorem peerRecvOkR_budget {p : Params} {s : RState} (h : peerRecvOkR p s = true) : 0 < s.budget := by
  simp only [peerRecvOkR, Bool.and_eq_true, decide_eq_true_eq] at h
  exact h.1

theorem canSend_open {c : Chan} (h : c.canSend = true) : c.closed = false := by
  simp only [Chan.canSend, Bool.and_eq_true, Bool.not_eq_true'] at h
  exact h.1

/-! Only the two receive steps of the helper and the three peer steps touch the lists the first four clauses speak of. -/

theorem fifo_step {p : Params} {s s' : RState} (hg : RGood p s) (h : RStep p s s') :
    s'.sent = s'.log ++ s'.ch.buf := by
  have h1 := hg.fifo
  cases h with
  | recvBuf v rest _ hb => simpa [hb] using h1
  | recvHandoff v vs _ _ hb _ => simpa [hb] using h1
  | peerRecv v rest hb _ => simpa [hb] using h1
  | peerSend v vs _ _ => simp [h1, Chan.send]
  | peerHandoff v vs _ hh => simpa [(handoffOkR_eq hh).1] using h1
  | _ => exact h1

theorem split_step {p : Params} {s s' : RState} (hg : RGood p s) (h : RStep p s s') :
    ∀ x, s'.log.count x = s'.taken.count x + s'.consumed.count x := by
  intro x
  have h1 := hg.split x
  cases h with
  | recvBuf | recvHandoff => rw [List.count_append, List.count_append, h1, Nat.add_assoc]
  | peerRecv | peerHandoff => rw [List.count_append, List.count_append, h1, Nat.add_right_comm]
  | _ => exact h1

theorem single_step {p : Params} {s s' : RState} (hg : RGood p s) (h : RStep p s s') :
    s'.taken = [] → s'.log = s'.consumed := by
  have h1 := hg.single
  cases h with
  | recvBuf | recvHandoff => exact fun ht => congrArg (· ++ _) (h1 ht)
  | peerRecv | peerHandoff => exact fun ht => absurd ht (List.append_ne_nil_of_right_ne_nil _ (List.cons_ne_nil _ _))
  | _ => exact h1

theorem budget_step {p : Params} {s s' : RState} (hg : RGood p s) (h : RStep p s s') :
    s'.taken.length + s'.budget = p.peerRecvs := by
  have h1 := hg.budgetOk
  cases h with
  | peerRecv v rest _ hok =>
    have := peerRecvOkR_budget hok
    simp only [List.length_append, List.length_singleton]
    omega
  | peerHandoff v vs _ hh =>
    have := peerRecvOkR_budget (handoffOkR_eq hh).2.2
    simp only [List.length_append, List.length_singleton]
    omega
  | _ => exact h1


/-! `RPcOk` by the kind of program counter, and the three ways a result comes about -/

theorem RPcOk_pre {s : RState} (h : s.pc = .start ∨ atRecv s.pc) :
    RPcOk s ↔ s.recvFired = false ∧ s.consumed = [] := by
  unfold RPcOk
  rcases h with h | h | h | h <;> rw [h]

theorem RPcOk_stop {s : RState} {v : Int} {ok : Bool} (h : s.pc = .stop v ok) :
    RPcOk s ↔ s.recvFired = true ∧ RetOk s v ok := by
  unfold RPcOk
  rw [h]

theorem RPcOk_done {s : RState} {v : Int} {ok : Bool} (h : s.pc = .done v ok) : RPcOk s ↔ RetOk s v ok := by
  unfold RPcOk
  rw [h]

theorem RetOk_value {s : RState} {v : Int} (hf : s.recvFired = true) (hc : s.consumed = [v]) (hh : s.headAt = some v) :
    RetOk s v true :=
  ⟨fun _ _ => ⟨hc, hh⟩, fun _ h => Bool.noConfusion h, fun h => Bool.noConfusion (hf.symm.trans h)⟩

theorem RetOk_closed {s : RState} (hf : s.recvFired = true) (hc : s.consumed = []) (hh : s.headAt = none)
    (hcl : s.ch.closed = true) (hb : s.ch.buf = []) : RetOk s 0 false :=
  ⟨fun _ h => Bool.noConfusion h, fun _ _ => ⟨rfl, hc, hh, hcl, hb⟩, fun h => Bool.noConfusion (hf.symm.trans h)⟩

theorem RetOk_timer {s : RState} (hf : s.recvFired = false) (hc : s.consumed = []) (hfd : s.fired = true) :
    RetOk s 0 false :=
  ⟨fun h => Bool.noConfusion (hf.symm.trans h), fun h => Bool.noConfusion (hf.symm.trans h), fun _ => ⟨rfl, rfl, hc, hfd⟩⟩

theorem recvNext_cases (p : Params) (pc : RPc) (v : Int) (ok : Bool) :
    recvNext p pc v ok = .done v ok ∨ recvNext p pc v ok = .stop v ok := by
  unfold recvNext
  split <;> simp

/-- after the receive statement / case, wherever it continues -/
theorem RPcOk_recvNext {p : Params} {pc : RPc} {s : RState} {v : Int} {ok : Bool}
    (hpc : s.pc = recvNext p pc v ok) (hf : s.recvFired = true) (hr : RetOk s v ok) : RPcOk s := by
  rcases recvNext_cases p pc v ok with h | h
  · exact (RPcOk_done (hpc.trans h)).2 hr
  · exact (RPcOk_stop (hpc.trans h)).2 ⟨hf, hr⟩

/-- a step of the environment (it touches the channel, the timer flag, the peers' and the ghost lists only) leaves the helper's
knowledge intact: a closed and drained channel stays so, a fired timer stays fired -/
theorem RPcOk_env {s : RState} (h : RPcOk s) {c : Chan} {f : Bool} {b : Nat} {su t se l : List Int}
    (hcl : s.ch.closed = true → s.ch.buf = [] → c.closed = true ∧ c.buf = []) (hfd : s.fired = true → f = true) :
    RPcOk { s with ch := c, fired := f, budget := b, supply := su, taken := t, sent := se, log := l } := by
  have hr (v ok) : RetOk s v ok →
      RetOk { s with ch := c, fired := f, budget := b, supply := su, taken := t, sent := se, log := l } v ok :=
    fun ⟨x, y, z⟩ => ⟨x, fun i j => ⟨(y i j).1, (y i j).2.1, (y i j).2.2.1, hcl (y i j).2.2.2.1 (y i j).2.2.2.2⟩,
      fun i => ⟨(z i).1, (z i).2.1, (z i).2.2.1, hfd (z i).2.2.2⟩⟩
  unfold RPcOk at h ⊢
  dsimp only
  generalize s.pc = pc at h ⊢
  cases pc with
  | stop v ok => exact ⟨h.1, hr v ok h.2⟩
  | done v ok => exact hr v ok h
  | _ => exact h

theorem pcOk_step {p : Params} {s s' : RState} (hg : RGood p s) (h : RStep p s s') : RPcOk s' := by
  have h3 := hg.pcOk
  have hpre := fun hat => (RPcOk_pre (.inr hat)).1 h3
  cases h with
  | startBlk _ hpc | startArm _ hpc | startCtx _ _ hpc => exact (RPcOk_pre (.inl hpc)).1 h3
  | park hpc => exact hpre (.inr (.inl hpc))
  | recvBuf v _ hat | recvHandoff v _ hat =>
    exact RPcOk_recvNext rfl rfl (RetOk_value rfl (congrArg (· ++ [v]) (hpre hat).2) rfl)
  | recvClosed hat hb hc => exact RPcOk_recvNext rfl rfl (RetOk_closed rfl (hpre hat).2 rfl hc hb)
  | timer hpc hfd => exact RetOk_timer (hpre (.inr hpc)).1 (hpre (.inr hpc)).2 hfd
  | stop v ok hpc => exact ((RPcOk_stop hpc).1 h3).2
  | fire => exact RPcOk_env h3 (fun a b => ⟨a, b⟩) fun _ => rfl
  | peerRecv v rest hb => exact RPcOk_env h3 (fun _ h => absurd (hb.symm.trans h) (List.cons_ne_nil _ _)) id
  | peerSend v vs _ hs => exact RPcOk_env h3 (fun h => Bool.noConfusion ((canSend_open hs).symm.trans h)) id
  | peerHandoff v vs _ hh => exact RPcOk_env h3 (fun h => Bool.noConfusion ((handoffOkR_eq hh).2.1.symm.trans h)) id
  | close => exact RPcOk_env h3 (fun _ hb => ⟨rfl, hb⟩) id

/-! `RModeOk` says `ModeOk` of the place the program counter stands for -/

def _root_.TypVerif.Model.ChanHelpers.RPc.loc : RPc → Loc
  | .start => .start
  | .blk => .blk
  | .sel => .sel
  | .wait => .wait
  | .stop _ _ => .stop
  | .done _ _ => .done

theorem recvNext_loc (p : Params) (pc : RPc) (v : Int) (ok : Bool) :
    (recvNext p pc v ok).loc = Loc.next p.mode pc.loc := by
  unfold recvNext Loc.next
  cases pc <;> cases p.mode <;> rfl

theorem loc_at {pc : RPc} (h : atRecv pc) : pc.loc = .blk ∨ pc.loc = .sel ∨ pc.loc = .wait :=
  h.imp (congrArg _) (Or.imp (congrArg _) (congrArg _))

/-- the bridge from `RModeOk`, stated on the receive program counters, to the `ModeOk` lemmas shared with send -/
theorem RModeOk_iff {p : Params} {s : RState} : RModeOk p s ↔ ModeOk p.mode s.armed s.fired s.pc.loc := by
  unfold RModeOk ModeOk
  generalize s.pc = pc
  cases p.mode <;> cases pc <;> simp [RPc.loc]

def _root_.TypVerif.Model.ChanHelpers.RState.ctl (s : RState) : Ctl :=
  ⟨s.pc.loc, s.armed, s.fired, s.budget + s.supply.length + if s.ch.closed then 0 else 1⟩

theorem RStep.ctl {p : Params} {s s' : RState} (h : RStep p s s') : CStep p s.ctl s'.ctl := by
  cases h with
  | startBlk tmo hpc hm ht => exact .startBlk tmo (congrArg RPc.loc hpc) hm ht
  | startArm tmo hpc hm ht => exact .startArm tmo (congrArg RPc.loc hpc) hm ht
  | startCtx pre mc hpc hm => exact .startCtx pre mc (congrArg RPc.loc hpc) hm
  | recvBuf _ _ hat | recvClosed hat => exact .chan _ _ (loc_at hat) (recvNext_loc p s.pc _ _) (Nat.le_refl _)
  | recvHandoff _ _ hat hv =>
    exact .chan _ _ (loc_at hat) (recvNext_loc p s.pc _ _)
      (Nat.add_le_add_right (Nat.add_le_add_left (hv ▸ Nat.le_succ _) _) _)
  | timer hpc => exact .done (hpc.elim (fun h => .inl (congrArg RPc.loc h)) fun h => .inr (.inl (congrArg RPc.loc h)))
  | park hpc => exact .park (congrArg RPc.loc hpc)
  | stop _ _ hpc => exact .done (.inr (.inr (congrArg RPc.loc hpc)))
  | fire hf => exact .fire _ hf
  | peerRecv _ _ _ hok =>
    exact .env _ (Nat.add_lt_add_right (Nat.add_lt_add_right (Nat.sub_lt (peerRecvOkR_budget hok) Nat.one_pos) _) _)
  | peerSend _ _ hv => exact .env _ (Nat.add_lt_add_right (Nat.add_lt_add_left (hv ▸ Nat.lt_succ_self _) _) _)
  | peerHandoff _ _ hv =>
    exact .env _ (Nat.add_lt_add_right (Nat.add_lt_add_of_le_of_lt (Nat.sub_le _ _) (hv ▸ Nat.lt_succ_self _)) _)
  | close _ hc =>
    refine .env _ ?_
    show _ + (if true = true then 0 else 1) < _ + (if s.ch.closed = true then 0 else 1)
    rw [hc]
    exact Nat.lt_succ_self _

theorem good_init (p : Params) : RGood p (initR p) where
  fifo := (List.nil_append _).symm
  split _ := rfl
  single _ := rfl
  budgetOk := Nat.zero_add _
  pcOk := ⟨rfl, rfl⟩
  modeOk := RModeOk_iff.2 (.init p)

theorem good_step {p : Params} {s s' : RState} (hg : RGood p s) (h : RStep p s s') : RGood p s' :=
  ⟨fifo_step hg h, split_step hg h, single_step hg h, budget_step hg h, pcOk_step hg h,
    RModeOk_iff.2 (h.ctl.modeOk (RModeOk_iff.1 hg.modeOk))⟩

theorem good_reachable (p : Params) : ∀ s, Reachable (recvSys p) s → RGood p s :=
  Conc.invariant (recvSys p) (RGood p) (good_init p) (fun _ _ _ hg hm => good_step hg (step_of_mem hm).2)

/-! ### consequences -/

/-- the result of RecvTimeout / RecvContext tells exactly what the helper took from the channel -/
theorem recv_iff (p : Params) (s : RState) (hr : Reachable (recvSys p) s) (v : Int) (ok : Bool)
    (hpc : s.pc = .done v ok) :
    (ok = true ↔ s.consumed = [v]) ∧
    (ok = true → s.recvFired = true ∧ s.headAt = some v) ∧
    (ok = false → v = 0 ∧ s.consumed = []) ∧
    (ok = false → s.recvFired = true → s.headAt = none ∧ s.ch.closed = true ∧ s.ch.buf = []) ∧
    (ok = false → s.recvFired = false → s.fired = true) := by
  obtain ⟨a1, a2, a3⟩ := (RPcOk_done hpc).1 (good_reachable p s hr).pcOk
  cases hf : s.recvFired with
  | false =>
    obtain ⟨h0, hok, hc, hfd⟩ := a3 hf
    subst hok
    exact ⟨⟨nofun, fun h => nomatch hc.symm.trans h⟩, nofun, fun _ => ⟨h0, hc⟩, nofun, fun _ _ => hfd⟩
  | true =>
    cases ok with
    | true =>
      obtain ⟨hc, hh⟩ := a1 hf rfl
      exact ⟨⟨fun _ => hc, fun _ => rfl⟩, fun _ => ⟨rfl, hh⟩, nofun, nofun, nofun⟩
    | false =>
      obtain ⟨h0, hc, hh, hcl, hb⟩ := a2 hf rfl
      exact ⟨⟨nofun, fun h => nomatch hc.symm.trans h⟩, nofun, fun _ => ⟨h0, hc⟩, fun _ _ => ⟨hh, hcl, hb⟩, nofun⟩

/-- FIFO conservation in every reachable state: everything that ever entered the channel is, in this
order, what has been delivered followed by what is still buffered; the deliveries are the peers' and
the helper's receipts; with the helper as the only consumer the lists coincide. -/
theorem recv_conservation (p : Params) (s : RState) (hr : Reachable (recvSys p) s) :
    s.sent = s.log ++ s.ch.buf ∧
    s.log.Perm (s.taken ++ s.consumed) ∧
    (p.peerRecvs = 0 → s.taken = [] ∧ s.sent = s.consumed ++ s.ch.buf) := by
  have hg := good_reachable p s hr
  refine ⟨hg.fifo, List.perm_iff_count.2 fun x => (hg.split x).trans List.count_append.symm, fun h0 => ?_⟩
  have ht : s.taken = [] := List.eq_nil_of_length_eq_zero (Nat.eq_zero_of_add_eq_zero_right (hg.budgetOk.trans h0))
  exact ⟨ht, hg.single ht ▸ hg.fifo⟩

/-- with a non-positive timeout no timer exists: RecvTimeout returns false only on a closed, drained channel -/
theorem nonpositive_recv (p : Params) (tmo : Int) (hm : p.mode = .timeout tmo) (ht : tmo ≤ 0)
    (s : RState) (hr : Reachable (recvSys p) s) :
    s.armed = false ∧ s.fired = false ∧ s.pc ≠ .sel ∧ s.pc ≠ .wait ∧
    (∀ v, s.pc = .done v false → v = 0 ∧ s.recvFired = true ∧ s.ch.closed = true ∧ s.ch.buf = [] ∧ s.consumed = []) := by
  have hg := good_reachable p s hr
  obtain ⟨ha, hf, h4, h5, -⟩ := (hm ▸ RModeOk_iff.1 hg.modeOk).nonpositive ht
  refine ⟨ha, hf, fun e => h4 (congrArg RPc.loc e), fun e => h5 (congrArg RPc.loc e), fun v h => ?_⟩
  obtain ⟨-, b2, b3⟩ := (RPcOk_done h).1 hg.pcOk
  cases hrf : s.recvFired with
  | true =>
    obtain ⟨h0, hc, -, hcl, hb⟩ := b2 hrf rfl
    exact ⟨h0, rfl, hcl, hb, hc⟩
  | false => exact Bool.noConfusion (hf.symm.trans (b3 hrf).2.2.2)

end TypVerif.Lemmas.ChanRecv
