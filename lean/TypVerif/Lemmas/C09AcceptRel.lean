import TypVerif.Drv.C09
/-
Acceptance soundness for the judge `Drv/C09.lean`: DEFINITIONS.

The judge keeps *normalised* states (`Drv.C09.norm`: unreferenced heap cells dropped, mutex ids renumbered, map and sets
sorted).  A judge state `x` stands for a model state `a` when `x` is `a` up to
  * an injective renaming `f` of the *live* mutex ids (those referenced by the map or by a goroutine's local),
  * garbage (heap cells that are not live are unconstrained),
  * the order of the map (whose keys are distinct), of the ghost sets `wh` / `rh` and of the sets `readers`, `pending`, `wq`
    of every live mutex (the model only tests them for membership / emptiness, conses, filters and erases).
This is `Rel f a x`; `R a x` adds well-formedness of `a` (`WF`: distinct keys, live ids inside the heap — both hold in every
state reached from an initial state).
-/
namespace TypVerif.Lemmas.C09Accept
open TypVerif TypVerif.Conc TypVerif.Model.KeyedMutex TypVerif.Drv.C09

def Live (s : State) (m : Nat) : Prop := (∃ k, (k, m) ∈ s.map) ∨ (∃ p ∈ s.pcs, pcLocal p = some m)

/-- used judge cell first (`Rel.mu`), whereas `Rel f a x` and `R a x` take the model state first -/
def MuEq (a b : Mu) : Prop :=
  a.writer = b.writer ∧ a.readers.Perm b.readers ∧ a.pending.Perm b.pending ∧ a.wq.Perm b.wq

structure WF (s : State) : Prop where
  keysNd : (s.map.map (·.1)).Nodup
  liveLt : ∀ m, Live s m → m < s.heap.length

/-- `x` is `a` with the live mutex ids renamed by `f`, up to garbage and order -/
structure Rel (f : Nat → Nat) (a x : State) : Prop where
  pcs : x.pcs = a.pcs.map (renPc f)
  map : x.map.Perm (a.map.map (fun p => (p.1, f p.2)))
  inj : ∀ m m', Live a m → Live a m' → f m = f m' → m = m'
  ltX : ∀ m, Live a m → f m < x.heap.length
  mu : ∀ m, Live a m → MuEq (x.mu (f m)) (a.mu m)
  wh : x.wh.Perm a.wh
  rh : x.rh.Perm a.rh

/-- the judge state `x` stands for the (well-formed) model state `a` -/
def R (a x : State) : Prop := WF a ∧ ∃ f, Rel f a x

/-! ### `norm`, with its local definitions named -/

def normMap (s : State) : List (Nat × Nat) := sortPairs s.map

/-- the live ids in the order `norm` numbers them -/
def normLive (s : State) : List Nat :=
  s.pcs.foldl (fun acc p => match pcLocal p with
    | some m => if acc.contains m then acc else acc ++ [m]
    | none => acc) ((normMap s).map (·.2))

/-- the renaming `norm` applies -/
def normF (s : State) (m : Nat) : Nat := ((normLive s).findIdx? (· == m)).getD m

def normCell (s : State) (m : Nat) : Mu :=
  { writer := (s.mu m).writer, readers := sortNat (s.mu m).readers, pending := sortNat (s.mu m).pending,
    wq := sortNat (s.mu m).wq }

theorem norm_eq (s : State) :
    norm s = { pcs := s.pcs.map (renPc (normF s)), map := (normMap s).map (fun p => (p.1, normF s p.2)),
               heap := (normLive s).map (normCell s), wh := sortPairs s.wh, rh := sortPairs s.rh } := rfl

def padBy (k : Nat) (s : State) : State := { s with pcs := s.pcs ++ List.replicate k .idle }

theorem pad_eq_padBy (t : Nat) (s : State) : pad t s = padBy (t + 1 - s.pcs.length) s := by
  unfold pad padBy
  split
  · rfl
  · rename_i h
    rw [Nat.sub_eq_zero_of_le (Nat.lt_of_not_le h)]
    show s = { s with pcs := s.pcs ++ [] }
    rw [List.append_nil]

end TypVerif.Lemmas.C09Accept
