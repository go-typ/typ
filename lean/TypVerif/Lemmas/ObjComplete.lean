import TypVerif.Lemmas.ObjAccept
import TypVerif.Lemmas.ConcComplete
/-
COMPLETENESS of the atomic-object judges (`Lemmas/ObjAccept.lean` is the soundness half).

1. `exec_of_linearizable`: every linearizable history (the project's `Model.AtomicObj.Linearizable`) is the visible trace of
   an execution of `AtomicObj.sys S menu N` from its initial state — the converse of `Lemmas.AtomicObj.linearizable`.  No
   extra well-formedness condition is needed: the clause `∀ t, (runThread t log).isSome` of `Linearizable` already says that
   every goroutine follows `inv · lin · res`; the witness log is replayed entry by entry (`replay`), with
   `N` = 1 + the largest goroutine id of the log, `menu` = the operations invoked in the log.
   Hence `linearizable_iff_exec`.

2. `stepObjF_complete`: one step of the judges (`stepObjF`: pad to `n`, `Conc.stepEvent` with closure fuel `fuel`, erase the
   log, dedup) loses nothing as long as `n ≤ fuel`.  Reason: the only internal steps are linearization steps, each turns one
   `pending` goroutine into a `done` one (`tau_pend`), so from a state with `n` goroutines at most `n ≤ fuel` internal steps
   are possible (`tauN_bound`) and `Conc.tauClosure` with fuel `fuel` loses nothing (`OnceRed.stepEvent_complete`: generic over
   `Conc.Sys`, in `ConcComplete.lean`, whatever its namespace says).
   The real execution (any `N`, any `menu`, ghost log) is followed through the relation `Rel n s x`: the judge's state `x`
   has the first `n` goroutines of `s` and the same object; goroutines `≥ n` of `s` are idle (`IdleFrom`).
   The folds (`fold_stepObj_complete`, `fold_stepObj_iff`, `fold_stepObj_iff_linearizable`) are in `ObjCompleteFull.lean`.
-/
namespace TypVerif.Lemmas.ObjComplete
open TypVerif TypVerif.Conc TypVerif.Model.AtomicObj TypVerif.Lemmas.AtomicObj TypVerif.Lemmas.ObjAccept
open TypVerif.Lemmas.OnceRed (TauN tauClosure_complete stepEvent_complete)

variable {σ Op Res : Type}

/-! ## 1. every linearizable history is a history of the atomic-object system -/

def logN (log : List (Entry Op Res)) : Nat := log.foldr (fun e n => max (e.tid + 1) n) 0

def logMenu (log : List (Entry Op Res)) : List Op :=
  log.filterMap (fun e => match e with | .inv _ op => some op | _ => none)

theorem tid_lt_logN (log : List (Entry Op Res)) : ∀ e ∈ log, e.tid < logN log := by
  induction log with
  | nil => intro e h; cases h
  | cons a log ih =>
    intro e h
    have hl : logN (a :: log) = max (a.tid + 1) (logN log) := rfl
    rw [hl]
    rcases List.mem_cons.1 h with rfl | h
    · omega
    · have := ih e h; omega

theorem mem_logMenu (log : List (Entry Op Res)) (t : Nat) (op : Op) (h : Entry.inv t op ∈ log) : op ∈ logMenu log :=
  List.mem_filterMap.2 ⟨Entry.inv t op, h, rfl⟩

section Replay
variable (S : Spec) [DecidableEq S.Op] [DecidableEq S.Res]

/-- a well-formed log with a legal sequential history is the ghost log of an execution -/
theorem replay (menu : List S.Op) (N : Nat) :
    ∀ (log : List (Entry S.Op S.Res)) (o : S.σ),
      (∀ e ∈ log, e.tid < N) → (∀ t op, Entry.inv t op ∈ log → op ∈ menu) →
      (∀ t, (runThread t log).isSome = true) → SeqRun S (linsOf log) o →
      ∃ (ls : List (Option (Event S.Op S.Res))) (s : State S.σ S.Op S.Res),
        Exec (sys S menu N) (init S N) ls s ∧ s.obj = o ∧ s.log = log ∧ s.pcs.length = N := by
  intro log
  induction log with
  | nil =>
    intro o _ _ _ hseq
    have hseq' : SeqRun S [] o := hseq
    cases hseq'
    exact ⟨[], init S N, Exec.nil _, rfl, rfl, by simp [init]⟩
  | cons e log ih =>
    intro o htid hmenu hthr hseq
    have het : e.tid < N := htid e List.mem_cons_self
    -- the goroutine of `e` is where the protocol automaton accepts `e`
    obtain ⟨p, _, hp, ha, _⟩ := runThread_cons_isSome rfl (hthr e.tid)
    have key : ∀ o0, SeqRun S (linsOf log) o0 →
        ∃ (ls : List (Option (Event S.Op S.Res))) (s : State S.σ S.Op S.Res),
          Exec (sys S menu N) (init S N) ls s ∧ s.obj = o0 ∧ s.log = log ∧ s.pcs.length = N ∧ s.pc e.tid = p := by
      intro o0 h0
      obtain ⟨ls, s, hex, ho, hlog, hlen⟩ := ih o0 (fun e' h => htid e' (List.mem_cons_of_mem _ h))
        (fun t op h => hmenu t op (List.mem_cons_of_mem _ h)) (fun t => runThread_append_isSome t [e] log (hthr t)) h0
      have := (good_reachable S menu N s (Exec.reachable hex Reachable.init)).thread e.tid
      rw [hlog, hp] at this
      exact ⟨ls, s, hex, ho, hlog, hlen, (Option.some.inj this).symm⟩
    cases ha with
    | inv t op =>
      obtain ⟨ls, s, hex, ho, hlog, hlen, hpc⟩ := key o hseq
      exact ⟨ls ++ [some (.inv t op)], ⟨s.pcs.set t (.pending op), s.obj, .inv t op :: s.log⟩,
        Exec.snoc hex (mem_succ_iff.2 (.inv (hlen ▸ het) hpc (hmenu t op List.mem_cons_self))), ho,
        congrArg (Entry.inv t op :: ·) hlog, by simpa using hlen⟩
    | lin t op r =>
      have hseq' : SeqRun S ((op, r) :: linsOf log) o := hseq
      cases hseq' with
      | @cons _ o0 _ _ _ h0 happ =>
        obtain ⟨ls, s, hex, ho, hlog, hlen, hpc⟩ := key o0 h0
        exact ⟨ls ++ [none], ⟨s.pcs.set t (.done op r), o, .lin t op r :: s.log⟩,
          Exec.snoc hex (mem_succ_iff.2 (.lin (hlen ▸ het) hpc (ho ▸ happ))), rfl, congrArg (Entry.lin t op r :: ·) hlog, by simpa using hlen⟩
    | res t op r =>
      obtain ⟨ls, s, hex, ho, hlog, hlen, hpc⟩ := key o hseq
      exact ⟨ls ++ [some (.res t r)], ⟨s.pcs.set t .idle, s.obj, .res t r :: s.log⟩, Exec.snoc hex (mem_succ_iff.2 (.res (hlen ▸ het) hpc)), ho,
        congrArg (Entry.res t r :: ·) hlog, by simpa using hlen⟩

/-- **Every linearizable history is a history of the atomic-object system** (converse of `AtomicObj.linearizable`) -/
theorem exec_of_linearizable {tr : List (Event S.Op S.Res)} (h : Linearizable S tr) :
    ∃ (N : Nat) (menu : List S.Op) (ls : List (Option (Event S.Op S.Res))) (s : State S.σ S.Op S.Res),
      Exec (sys S menu N) (sys S menu N).init ls s ∧ visible ls = tr := by
  obtain ⟨log, hhist, ⟨o, hseq⟩, hthr⟩ := h
  obtain ⟨ls, s, hex, _, hlog, _⟩ :=
    replay S (logMenu log) (logN log) log o (tid_lt_logN log) (mem_logMenu log) hthr hseq
  refine ⟨logN log, logMenu log, ls, s, hex, ?_⟩
  have := hist_exec S (logMenu log) (logN log) hex
  rw [hlog, hhist] at this
  simpa [init, histOf] using this.symm

theorem linearizable_iff_exec (tr : List (Event S.Op S.Res)) :
    Linearizable S tr ↔
      ∃ (N : Nat) (menu : List S.Op) (ls : List (Option (Event S.Op S.Res))) (s : State S.σ S.Op S.Res),
        Exec (sys S menu N) (sys S menu N).init ls s ∧ visible ls = tr := by
  constructor
  · exact exec_of_linearizable S
  · rintro ⟨N, menu, ls, s, hex, rfl⟩
    exact Lemmas.AtomicObj.linearizable S menu N hex

end Replay

/-! ## 2. completeness of the fold -/

/-- the goroutine of an event (`Drv.C18.evTid` is the same function) -/
def evT : Event Op Res → Nat
  | .inv t _ | .res t _ => t

def isPend : TPc Op Res → Bool
  | .pending _ => true
  | _ => false

/-- number of pending goroutines = number of internal steps still possible -/
def pend (pcs : List (TPc Op Res)) : Nat := pcs.countP isPend

/-- the first `n` goroutines of `s` (missing ones are idle) -/
def view (n : Nat) (s : State σ Op Res) : List (TPc Op Res) := (List.range n).map s.pc

/-- the judge's state for `s` when it works with `n` goroutines -/
def proj (n : Nat) (s : State σ Op Res) : State σ Op Res := ⟨view n s, s.obj, []⟩

/-- `x` has the first `n` goroutines of `s` and the same object (any log) -/
def Rel (n : Nat) (s x : State σ Op Res) : Prop := x.pcs = view n s ∧ x.obj = s.obj

/-- goroutines `≥ n` of `s` are idle (or do not exist) -/
def IdleFrom (n : Nat) (s : State σ Op Res) : Prop := ∀ t, n ≤ t → s.pc t = .idle

theorem view_length (n : Nat) (s : State σ Op Res) : (view n s).length = n := by simp [view]

theorem view_getElem (n : Nat) (s : State σ Op Res) (i : Nat) (h : i < (view n s).length) :
    (view n s)[i] = s.pc i := by simp [view]

theorem pc_eq_getElem (x : State σ Op Res) (t : Nat) (h : t < x.pcs.length) : x.pc t = x.pcs[t] := by
  simp [State.pc, List.getD_eq_getElem?_getD, h]

theorem rel_pc {n : Nat} {s x : State σ Op Res} (h : Rel n s x) {t : Nat} (ht : t < n) : x.pc t = s.pc t := by
  have hl : t < x.pcs.length := by rw [h.1, view_length]; exact ht
  rw [pc_eq_getElem x t hl]
  have : x.pcs[t] = (view n s)[t]'(by rw [view_length]; exact ht) := by
    have := h.1
    simp [this]
  rw [this, view_getElem]

theorem rel_proj (n : Nat) (s : State σ Op Res) : Rel n s (proj n s) := ⟨rfl, rfl⟩

theorem eraseLog_of_rel {n : Nat} {s x : State σ Op Res} (h : Rel n s x) : eraseLog x = proj n s := by
  obtain ⟨h1, h2⟩ := h
  cases x
  simp only [eraseLog, proj] at *
  rw [h1, h2]

theorem view_set (n : Nat) (s : State σ Op Res) (t : Nat) (p : TPc Op Res) (ht : t < s.pcs.length) (o : σ)
    (l : List (Entry Op Res)) : view n ⟨s.pcs.set t p, o, l⟩ = (view n s).set t p := by
  apply List.ext_getElem
  · simp [view_length]
  · intro i h1 h2
    rw [view_getElem, pc_mk _ _ _ _ ht, List.getElem_set, view_getElem]
    by_cases h : i = t
    · subst h; simp
    · have h' : ¬ t = i := fun e => h e.symm
      simp [h, h']

theorem idleFrom_mono {n n' : Nat} {s : State σ Op Res} (h : IdleFrom n s) (hn : n ≤ n') : IdleFrom n' s :=
  fun t ht => h t (Nat.le_trans hn ht)

theorem view_pad {n0 n : Nat} {s : State σ Op Res} (hn : n0 ≤ n) (hi : IdleFrom n0 s) :
    view n s = view n0 s ++ List.replicate (n - n0) .idle := by
  apply List.ext_getElem
  · simp [view_length]; omega
  · intro i h1 h2
    rw [view_getElem, List.getElem_append]
    by_cases h : i < (view n0 s).length
    · rw [dif_pos h, view_getElem]
    · rw [dif_neg h, List.getElem_replicate]
      rw [view_length] at h
      exact hi i (by omega)

theorem padObj_proj {n0 n : Nat} {s : State σ Op Res} (hn : n0 ≤ n) (hi : IdleFrom n0 s) :
    padObj n (proj n0 s) = proj n s := by
  unfold padObj proj
  simp only [view_length]
  rw [← view_pad hn hi]

theorem init_pc (S : Spec) (N t : Nat) : (init S N).pc t = .idle :=
  getD_replicate N t TPc.idle

theorem proj_init (S : Spec) (n N : Nat) : proj n (init S N) = init S n := by
  unfold proj init
  congr 1
  apply List.ext_getElem
  · simp [view_length]
  · intro i h1 h2
    rw [view_getElem, List.getElem_replicate]
    exact init_pc S N i

theorem idleFrom_init (S : Spec) (n N : Nat) : IdleFrom n (init S N) := fun t _ => init_pc S N t

/-- the stepping goroutine is `< n` if goroutines `≥ n` are idle and none of them is invoked: only an idle goroutine's step
is an invocation -/
theorem step_tid_lt {n t : Nat} {s : State σ Op Res} {l : Option (Event Op Res)} (hi : IdleFrom n s)
    (hl : ∀ op, l = some (.inv t op) → t < n) (hpc : s.pc t = .idle → ∃ op, l = some (.inv t op)) : t < n := by
  apply Nat.lt_of_not_le
  intro hle
  obtain ⟨op, h⟩ := hpc (hi t hle)
  exact Nat.not_le_of_lt (hl op h) hle

/-- goroutines `≥ n` stay idle as long as no goroutine `≥ n` is invoked -/
theorem idle_step {apply : σ → Op → List (σ × Res)} {menu : List Op} {n : Nat} {s s' : State σ Op Res}
    {l : Option (Event Op Res)} (hs : (l, s') ∈ succ apply menu s) (hi : IdleFrom n s)
    (hl : ∀ t op, l = some (.inv t op) → t < n) : IdleFrom n s' := by
  obtain ⟨t, p, o, e, ht, hidle, rfl, _⟩ := succ_transfer hs
  have htn : t < n := step_tid_lt hi (hl t) hidle
  intro u hu
  have hne : ¬ u = t := fun h => Nat.not_le_of_lt htn (h ▸ hu)
  rw [pc_mk _ _ _ _ ht, if_neg hne]
  exact hi u hu

/-- a step of the real state `s` is a step of the judge's state `x` (first `n` goroutines, any log), in any system whose
menu contains the invoked operation -/
theorem lift_step {apply : σ → Op → List (σ × Res)} {menu menu' : List Op} {n : Nat} {s s' x : State σ Op Res}
    {l : Option (Event Op Res)} (hs : (l, s') ∈ succ apply menu s) (hr : Rel n s x) (hi : IdleFrom n s)
    (hl : ∀ t op, l = some (.inv t op) → t < n ∧ op ∈ menu') :
    ∃ x', (l, x') ∈ succ apply menu' x ∧ Rel n s' x' := by
  obtain ⟨t, p, o, e, ht, hidle, rfl, hx⟩ := succ_transfer hs
  have htn : t < n := step_tid_lt hi (fun op h => (hl t op h).1) hidle
  exact ⟨_, hx menu' x hr.2 (fun op h _ => (hl t op h).2) (by rw [hr.1, view_length]; exact htn) (rel_pc hr htn),
    by rw [view_set n s t p ht, hr.1], rfl⟩

/-- an internal step is a linearization step: one pending goroutine fewer -/
theorem tau_pend {apply : σ → Op → List (σ × Res)} {menu : List Op} {x x' : State σ Op Res}
    (h : (none, x') ∈ succ apply menu x) : pend x'.pcs + 1 = pend x.pcs := by
  cases mem_succ_iff.1 h with
  | @lin t op o r ht hpc _ =>
    rw [pc_eq_getElem x t ht] at hpc
    have hpos : 0 < pend x.pcs := by
      unfold pend
      rw [List.countP_pos_iff]
      exact ⟨x.pcs[t], List.getElem_mem ht, by rw [hpc]; rfl⟩
    show pend (x.pcs.set t (.done op r)) + 1 = pend x.pcs
    unfold pend at *
    rw [List.countP_set ht, hpc]
    simp only [isPend]
    simp
    omega

section Judge
variable (S : Spec)

/-- internal steps of the real system lift to the judge's system, and goroutines `≥ n` stay idle -/
theorem lift_tau (menu menu' : List S.Op) (N n : Nat) {k : Nat} {s s' : (sys S menu N).State}
    (h : TauN (sys S menu N) k s s') :
    ∀ x : State S.σ S.Op S.Res, Rel n s x → IdleFrom n s →
      ∃ x' : State S.σ S.Op S.Res, TauN (sys S menu' n) k x x' ∧ Rel n s' x' ∧ IdleFrom n s' :=
  fun x hr hi => h.sim (J' := sys S menu' n) (fun s x => Rel n s x ∧ IdleFrom n s)
    (fun _ _ _ hR hm =>
      let ⟨x1, hm1, hr1⟩ := lift_step (menu' := menu') hm hR.1 hR.2 (fun t op hl => by cases hl)
      ⟨x1, hm1, hr1, idle_step hm hR.2 (fun t op hl => by cases hl)⟩) x ⟨hr, hi⟩

/-- at most `pend` internal steps are possible -/
theorem tauN_bound (menu : List S.Op) (n : Nat) {k : Nat} {x x' : (sys S menu n).State}
    (h : TauN (sys S menu n) k x x') : TauN (sys S menu n) (pend x.pcs) x x' := by
  induction h with
  | refl k s => exact TauN.refl _ _
  | @step k s s1 s2 hm _ ih =>
    have := tau_pend hm
    rw [← this]
    exact TauN.step hm ih

theorem tauN_zero {sys : Sys} {a b : sys.State} (h : TauN sys 0 a b) : b = a := by
  cases h
  rfl

theorem pend_le_length (pcs : List (TPc Op Res)) : pend pcs ≤ pcs.length := List.countP_le_length

theorem pend_init (n : Nat) : pend (init S n).pcs = 0 := by
  unfold pend init
  rw [List.countP_eq_zero]
  intro a ha
  rw [List.eq_of_mem_replicate ha]
  simp [isPend]

variable [DecidableEq S.σ] [DecidableEq S.Op] [DecidableEq S.Res]

/-- **one step of the judge loses nothing**: if the judge's state for `s` (with `n0` goroutines) is in `ss`, then after a
visible step `e` of `s` and any number of internal steps, the judge's state for the result (with `n` goroutines,
`n0 ≤ n ≤ fuel`) is in `stepObjF S fuel n ss e`, and its goroutines `≥ n` are idle -/
theorem stepObjF_complete (fuel : Nat) (menu : List S.Op) (N n0 n : Nat) (hn : n0 ≤ n) (hf : n ≤ fuel)
    {ss : List (State S.σ S.Op S.Res)} {s s1 s' : State S.σ S.Op S.Res} {e : Event S.Op S.Res} {k : Nat}
    (hm : (some e, s1) ∈ succ S.apply menu s) (hi : IdleFrom n0 s) (he : ∀ t op, e = .inv t op → t < n)
    (h0 : proj n0 s ∈ ss) (ht : TauN (sys S menu N) k s1 s') :
    IdleFrom n s' ∧ proj n s' ∈ stepObjF S fuel n ss e := by
  have hin : IdleFrom n s := idleFrom_mono hi hn
  have h0' : padObj n (proj n0 s) ∈ ss.map (padObj n) := List.mem_map.2 ⟨proj n0 s, h0, rfl⟩
  rw [padObj_proj hn hi] at h0'
  obtain ⟨x1, hx1, hr1⟩ := lift_step (menu' := evMenu e) hm (rel_proj n s) hin (by
    intro t op hl
    injection hl with hl
    subst hl
    exact ⟨he t op rfl, List.mem_singleton.2 rfl⟩)
  have hi1 : IdleFrom n s1 := idle_step hm hin (by
    intro t op hl
    injection hl with hl
    exact he t op hl)
  obtain ⟨x', htx, hr', hi'⟩ := lift_tau S menu (evMenu e) N n ht x1 hr1 hi1
  have hb := tauN_bound S (evMenu e) n htx
  have hlen : x1.pcs.length = n := by rw [hr1.1, view_length]
  have hk : pend x1.pcs ≤ fuel := by
    have := pend_le_length x1.pcs
    omega
  have hmem : x' ∈ Conc.stepEvent (sys S (evMenu e) n) fuel (ss.map (padObj n)) e :=
    stepEvent_complete (sys S (evMenu e) n) fuel _ e (proj n s) x1 x' _ h0' hx1 hb hk
  rw [stepObjF_eq, ← eraseLog_of_rel hr']
  exact ⟨hi', mem_dedup (List.mem_map.2 ⟨x', hmem, rfl⟩)⟩

end Judge

end TypVerif.Lemmas.ObjComplete

#print axioms TypVerif.Lemmas.ObjComplete.exec_of_linearizable
#print axioms TypVerif.Lemmas.ObjComplete.linearizable_iff_exec
