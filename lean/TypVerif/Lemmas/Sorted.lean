import TypVerif.Model.Sorted
import TypVerif.Model.SortAdapters
import TypVerif.Spec.Sorted
import TypVerif.Spec.Order
/-
The binary search over a slice is characterised once, for any test that holds on a prefix of the slice and nowhere after
(`binarySearchFunc_spec`); the search of `Sorted` is the instance "less than the value" (`search_split`), and `Add`, `Index`,
`Remove` are read off it.
-/
namespace TypVerif.Lemmas.Sorted
open TypVerif.Model TypVerif.Model.Sorted TypVerif.Spec.Order
open TypVerif.Spec.Sorted (lowerBound)

theorem removeAt_eq_eraseIdx (l : List α) (i : Nat) : removeAt l i = l.eraseIdx i := by
  rw [removeAt, List.eraseIdx_eq_take_drop_succ]

theorem insertAt_perm (l : List α) (i : Nat) (v : α) : (insertAt l i v).Perm (v :: l) := by
  unfold insertAt
  have := @List.perm_middle _ v (l.take i) (l.drop i)
  rwa [List.take_append_drop] at this

theorem cons_removeAt_perm (l : List α) (i : Nat) (h : i < l.length) : (l[i] :: removeAt l i).Perm l := by
  unfold removeAt
  have h1 := (@List.perm_middle _ l[i] (l.take i) (l.drop (i + 1))).symm
  have h2 : l.take i ++ l[i] :: l.drop (i + 1) = l := by
    rw [← List.drop_eq_getElem_cons h, List.take_append_drop]
  rwa [h2] at h1

theorem eraseIdx_perm_erase [DecidableEq α] (l : List α) (i : Nat) (h : i < l.length) :
    (l.eraseIdx i).Perm (l.erase l[i]) := by
  have h1 := cons_removeAt_perm l i h
  rw [removeAt_eq_eraseIdx] at h1
  exact (h1.trans (List.perm_cons_erase (List.getElem_mem h))).cons_inv

theorem sorted_insertAt {less : α → α → Bool} (hw : StrictWeak less) (l : List α) (r : Nat) (v : α)
    (h : IsSorted less l) (hlo : ∀ x ∈ l.take r, less x v = true) (hhi : ∀ x ∈ l.drop r, less x v = false) :
    IsSorted less (insertAt l r v) := by
  unfold insertAt IsSorted
  rw [List.pairwise_append]
  refine ⟨h.take, ?_, ?_⟩
  · rw [List.pairwise_cons]
    exact ⟨hhi, h.drop⟩
  · intro a ha b hb
    rw [List.mem_cons] at hb
    rcases hb with rfl | hb
    · exact hw.asymm _ _ (hlo a ha)
    · exact h.rel_of_mem_take_of_mem_drop ha hb

theorem stableSort_perm (less : α → α → Bool) (l : List α) : (stableSort less l).Perm l :=
  List.mergeSort_perm l _

/-- the order `stableSort` sorts by, `a ≤ b := !less b a`, is transitive and total -/
theorem notLess_trans {less : α → α → Bool} (hw : StrictWeak less) (a b c : α) (hab : (!less b a) = true)
    (hbc : (!less c b) = true) : (!less c a) = true := by
  simp only [Bool.not_eq_true'] at hab hbc ⊢
  exact hw.negTrans c b a hbc hab

theorem notLess_total {less : α → α → Bool} (hw : StrictWeak less) (a b : α) : (!less b a || !less a b) = true := by
  cases hba : less b a with
  | false => simp
  | true => simp [hw.asymm b a hba]

theorem stableSort_sorted {less : α → α → Bool} (hw : StrictWeak less) (l : List α) :
    IsSorted less (stableSort less l) := by
  unfold stableSort IsSorted
  have := List.pairwise_mergeSort (le := fun a b => !less b a) (notLess_trans hw) (notLess_total hw) l
  exact this.imp (by intro a b h; simpa using h)

/-- stability: a sublist that is already in order stays a sublist, in particular two elements that `less` cannot
distinguish keep their relative order -/
theorem stableSort_stable {less : α → α → Bool} (hw : StrictWeak less) (l ys : List α)
    (hys : IsSorted less ys) (hsub : ys.Sublist l) : ys.Sublist (stableSort less l) := by
  unfold stableSort
  refine List.sublist_mergeSort (le := fun a b => !less b a) (notLess_trans hw) (notLess_total hw) ?_ hsub
  exact hys.imp (by intro a b h; simpa using h)

theorem pred_of_lt (s : Sorted α) (v : α) (i : Nat) (h : i < s.slice.length) :
    s.pred v i = !s.less s.slice[i] v := by
  simp [Sorted.pred, List.getElem?_eq_getElem h]

theorem search_le (s : Sorted α) (v : α) : s.search v ≤ s.slice.length :=
  GoSearch.search_le _ _

/-- `BinarySearchFunc` — `sort.Search` over a slice with the test `!less(slice[i])` — for a `less` that holds on a prefix
of the slice and nowhere after it: the length of that prefix -/
theorem binarySearchFunc_spec (slice : List α) (less : α → Bool)
    (hmono : ∀ i j (hi : i < slice.length) (hj : j < slice.length), i ≤ j → less slice[j] = true → less slice[i] = true) :
    SortAdapters.binarySearchFunc slice less ≤ slice.length ∧
    (∀ i (h : i < slice.length), i < SortAdapters.binarySearchFunc slice less → less slice[i] = true) ∧
    (∀ i (h : i < slice.length), SortAdapters.binarySearchFunc slice less ≤ i → less slice[i] = false) := by
  have hm : GoSearch.Monotone slice.length (fun i => match slice[i]? with | some x => !less x | none => true) := by
    intro i j hij hj hi
    have hi' : i < slice.length := by omega
    simp only [List.getElem?_eq_getElem hi', List.getElem?_eq_getElem hj, Bool.not_eq_true'] at hi ⊢
    cases hlj : less slice[j] with
    | false => rfl
    | true => rw [hmono i j hi' hj hij hlj] at hi; cases hi
  obtain ⟨h1, h2, h3⟩ := GoSearch.search_lower_bound _ _ hm
  refine ⟨h1, ?_, ?_⟩
  · intro i h hi
    have := h2 i hi
    simpa [List.getElem?_eq_getElem h] using this
  · intro i h hi
    have := h3 i hi h
    simpa [List.getElem?_eq_getElem h] using this

/-- the search of `Sorted` is `BinarySearchFunc` with "less than the value" -/
theorem search_eq_binarySearchFunc (s : Sorted α) (v : α) :
    s.search v = SortAdapters.binarySearchFunc s.slice (fun x => s.less x v) := rfl

theorem search_getElem (s : Sorted α) (hw : StrictWeak s.less) (hs : IsSorted s.less s.slice) (v : α) :
    (∀ i (h : i < s.slice.length), i < s.search v → s.less s.slice[i] v = true) ∧
    (∀ i (h : i < s.slice.length), s.search v ≤ i → s.less s.slice[i] v = false) := by
  rw [search_eq_binarySearchFunc]
  exact (binarySearchFunc_spec s.slice (fun x => s.less x v) fun i j hi hj hij h => by
    by_cases e : i = j
    · subst e; exact h
    · -- `slice[j]` is not below `slice[i]`: were `slice[i]` not below `v`, `slice[j]` would not be either
      refine Decidable.byContradiction fun hn => ?_
      rw [hw.negTrans _ _ _ (List.pairwise_iff_getElem.mp hs i j hi hj (by omega)) (Bool.eq_false_iff.2 hn)] at h
      cases h).2

theorem search_split (s : Sorted α) (hw : StrictWeak s.less) (hs : IsSorted s.less s.slice) (v : α) :
    (∀ x ∈ s.slice.take (s.search v), s.less x v = true) ∧
    (∀ x ∈ s.slice.drop (s.search v), s.less x v = false) := by
  obtain ⟨h2, h3⟩ := search_getElem s hw hs v
  constructor
  · intro x hx
    obtain ⟨j, hj, rfl⟩ := List.mem_take_iff_getElem.1 hx
    exact h2 j _ (Nat.lt_of_lt_of_le hj (Nat.min_le_left _ _))
  · intro x hx
    obtain ⟨j, hj, rfl⟩ := List.mem_drop_iff_getElem.1 hx
    exact h3 _ _ (Nat.le_add_right _ _)

/-- the search returns the lower bound: the number of elements `less` than `v` -/
theorem search_eq_lowerBound (s : Sorted α) (hw : StrictWeak s.less) (hs : IsSorted s.less s.slice) (v : α) :
    s.search v = lowerBound s.less s.slice v := by
  obtain ⟨hlo, hhi⟩ := search_split s hw hs v
  unfold lowerBound
  conv => rhs; rw [← List.take_append_drop (s.search v) s.slice]
  rw [List.countP_append]
  have h1 : List.countP (fun x => s.less x v) (s.slice.take (s.search v)) = (s.slice.take (s.search v)).length :=
    List.countP_eq_length.mpr hlo
  have h2 : List.countP (fun x => s.less x v) (s.slice.drop (s.search v)) = 0 :=
    List.countP_eq_zero.mpr (by intro a ha; simp [hhi a ha])
  rw [h1, h2, List.length_take]
  have := search_le s v
  omega

/-! ### Get / RemoveAt: the position is inside `[0, Len)` or the call panics -/

theorem get_eq (s : Sorted α) (i : Int) :
    s.get i = if h : 0 ≤ i ∧ i < s.slice.length then .ok (s.slice[i.toNat]'((Int.toNat_lt h.1).2 h.2))
      else .error "custom" := by
  by_cases h : 0 ≤ i ∧ i < s.slice.length
  · rw [dif_pos h]; exact dif_neg (not_or.2 ⟨Int.not_lt.2 h.1, Int.not_le.2 h.2⟩)
  · rw [dif_neg h]; exact dif_pos (by simp only [Sorted.len]; omega)

theorem removeAtIdx_eq (s : Sorted α) (i : Int) :
    s.removeAtIdx i = if 0 ≤ i ∧ i < s.slice.length then .ok { s with slice := s.slice.eraseIdx i.toNat }
      else .error "custom" := by
  rw [← removeAt_eq_eraseIdx]
  by_cases h : 0 ≤ i ∧ i < s.slice.length
  · rw [if_pos h]; exact if_neg (not_or.2 ⟨Int.not_lt.2 h.1, Int.not_le.2 h.2⟩)
  · rw [if_neg h]; exact if_pos (by simp only [Sorted.len]; omega)

theorem get_panic_iff (s : Sorted α) (i : Int) :
    s.get i = .error "custom" ↔ ¬ (0 ≤ i ∧ i < s.len) := by
  rw [get_eq]
  by_cases h : 0 ≤ i ∧ i < s.slice.length
  · rw [dif_pos h]; exact ⟨nofun, fun hn => absurd h hn⟩
  · rw [dif_neg h]; exact ⟨fun _ => h, fun _ => rfl⟩

theorem removeAtIdx_panic_iff (s : Sorted α) (i : Int) :
    s.removeAtIdx i = .error "custom" ↔ ¬ (0 ≤ i ∧ i < s.len) := by
  rw [removeAtIdx_eq]
  by_cases h : 0 ≤ i ∧ i < s.slice.length
  · rw [if_pos h]; exact ⟨nofun, fun hn => absurd h hn⟩
  · rw [if_neg h]; exact ⟨fun _ => h, fun _ => rfl⟩

theorem add_less (s : Sorted α) (v : α) : (s.add v).1.less = s.less := rfl

theorem add_sorted (s : Sorted α) (hw : StrictWeak s.less) (hs : IsSorted s.less s.slice) (v : α) :
    IsSorted s.less (s.add v).1.slice := by
  obtain ⟨hlo, hhi⟩ := search_split s hw hs v
  exact sorted_insertAt hw _ _ _ hs hlo hhi

section
variable [DecidableEq α]

/-! ### Index / Remove facts that hold for ANY `less` -/

theorem index_cases (s : Sorted α) (v : α) :
    s.index v = -1 ∨ ∃ (h : s.search v < s.slice.length), s.slice[s.search v] = v ∧ s.index v = (s.search v : Int) := by
  unfold Sorted.index
  by_cases h : s.search v < s.slice.length
  · rw [dif_pos h]
    by_cases hv : s.slice[s.search v] = v
    · exact Or.inr ⟨h, hv, if_neg (not_not_intro hv)⟩
    · exact Or.inl (if_pos hv)
  · exact Or.inl (dif_neg h)

theorem index_absent (s : Sorted α) (v : α) (h : v ∉ s.slice) : s.index v = -1 := by
  rcases index_cases s v with h1 | ⟨hlt, hv, _⟩
  · exact h1
  · exact absurd (hv ▸ List.getElem_mem hlt) h

theorem remove_absent (s : Sorted α) (v : α) (h : v ∉ s.slice) : s.remove v = (s, -1) := by
  rw [Sorted.remove, index_absent s v h]; rfl

theorem remove_cases (s : Sorted α) (v : α) :
    s.remove v = (s, -1) ∨
    ∃ (i : Nat) (h : i < s.slice.length), s.slice[i] = v ∧
      s.remove v = ({ s with slice := s.slice.eraseIdx i }, (i : Int)) := by
  rcases index_cases s v with h1 | ⟨hlt, hv, hidx⟩
  · left; rw [Sorted.remove, h1]; rfl
  · refine Or.inr ⟨s.search v, hlt, hv, ?_⟩
    rw [Sorted.remove, hidx, Int.toNat_natCast, removeAt_eq_eraseIdx]
    exact if_neg (mt beq_iff_eq.1 (by omega))

theorem step_slice_cases (s : Sorted α) (op : Op α) :
    (step s op).1 = s ∨ (∃ v, (step s op).1 = (s.add v).1) ∨
      ∃ i, (step s op).1 = { s with slice := s.slice.eraseIdx i } := by
  cases op with
  | add v => exact Or.inr (Or.inl ⟨v, rfl⟩)
  | remove v =>
    rcases remove_cases s v with h | ⟨i, _, _, h⟩
    · exact Or.inl (congrArg Prod.fst h)
    · exact Or.inr (Or.inr ⟨i, congrArg Prod.fst h⟩)
  | removeAt i =>
    rw [step, removeAtIdx_eq]
    by_cases h : 0 ≤ i ∧ i < s.slice.length
    · rw [if_pos h]; exact Or.inr (Or.inr ⟨_, rfl⟩)
    · rw [if_neg h]; exact Or.inl rfl
  | get i =>
    rw [step, get_eq]
    by_cases h : 0 ≤ i ∧ i < s.slice.length
    · rw [dif_pos h]; exact Or.inl rfl
    · rw [dif_neg h]; exact Or.inl rfl
  | index v => exact Or.inl rfl
  | contains v => exact Or.inl rfl
  | len => exact Or.inl rfl

theorem step_less (s : Sorted α) (op : Op α) : (step s op).1.less = s.less := by
  rcases step_slice_cases s op with h | ⟨v, h⟩ | ⟨i, h⟩ <;> rw [h] <;> rfl

theorem step_sorted (s : Sorted α) (hw : StrictWeak s.less) (hs : IsSorted s.less s.slice) (op : Op α) :
    IsSorted s.less (step s op).1.slice := by
  rcases step_slice_cases s op with h | ⟨v, h⟩ | ⟨i, h⟩ <;> rw [h]
  · exact hs
  · exact add_sorted s hw hs v
  · exact hs.eraseIdx i

theorem runFrom_less (s : Sorted α) (ops : List (Op α)) : (runFrom s ops).less = s.less := by
  induction ops generalizing s with
  | nil => rfl
  | cons op ops ih => rw [runFrom, ih, step_less]

theorem runFrom_sorted (s : Sorted α) (hw : StrictWeak s.less) (hs : IsSorted s.less s.slice) (ops : List (Op α)) :
    IsSorted s.less (runFrom s ops).slice := by
  induction ops generalizing s with
  | nil => exact hs
  | cons op ops ih =>
    rw [runFrom]
    have := ih (step s op).1 (by rw [step_less]; exact hw) (by rw [step_less]; exact step_sorted s hw hs op)
    rwa [step_less] at this

/-- The values "put in and not taken out": `Add v` puts `v` in; `Remove v` takes one `v` out when it reports a
position (≠ -1); `RemoveAt i` takes out the element that `Get i` shows, when `i` is in range. -/
def bagStep (s : Sorted α) (bag : List α) : Op α → List α
  | .add v => v :: bag
  | .remove v => if (s.remove v).2 = -1 then bag else bag.erase v
  | .removeAt i =>
    match s.get i with
    | .ok a => bag.erase a
    | .error _ => bag
  | _ => bag

def bagFrom (s : Sorted α) (bag : List α) : List (Op α) → List α
  | [] => bag
  | op :: ops => bagFrom (step s op).1 (bagStep s bag op) ops

/-- init + added − removed, over the operation history -/
def bagOf (less : α → α → Bool) (init : List α) (ops : List (Op α)) : List α :=
  bagFrom (newSorted init less).s init ops

theorem step_perm (s : Sorted α) (bag : List α) (h : s.slice.Perm bag) (op : Op α) :
    (step s op).1.slice.Perm (bagStep s bag op) := by
  cases op with
  | add v => exact (insertAt_perm _ _ _).trans (h.cons v)
  | remove v =>
    show (s.remove v).1.slice.Perm (if (s.remove v).2 = -1 then bag else bag.erase v)
    rcases remove_cases s v with h1 | ⟨i, hi, hv, h1⟩
    · rw [h1]; exact h
    · rw [h1, if_neg (show ¬ ((i : Int) = -1) by omega)]
      exact hv ▸ (eraseIdx_perm_erase s.slice i hi).trans (h.erase _)
  | removeAt i =>
    rw [step, bagStep, removeAtIdx_eq, get_eq]
    by_cases hr : 0 ≤ i ∧ i < s.slice.length
    · rw [if_pos hr, dif_pos hr]; exact (eraseIdx_perm_erase _ _ _).trans (h.erase _)
    · rw [if_neg hr, dif_neg hr]; exact h
  | get i =>
    rw [step, get_eq]
    by_cases hr : 0 ≤ i ∧ i < s.slice.length
    · rw [dif_pos hr]; exact h
    · rw [dif_neg hr]; exact h
  | index v => exact h
  | contains v => exact h
  | len => exact h

theorem runFrom_perm (s : Sorted α) (bag : List α) (h : s.slice.Perm bag) (ops : List (Op α)) :
    (runFrom s ops).slice.Perm (bagFrom s bag ops) := by
  induction ops generalizing s bag with
  | nil => exact h
  | cons op ops ih => exact ih _ _ (step_perm s bag h op)

omit [DecidableEq α] in
theorem add_slice (s : Sorted α) (v : α) :
    (s.add v).1.slice = s.slice.take (s.search v) ++ v :: s.slice.drop (s.search v) := rfl

omit [DecidableEq α] in
theorem add_ret (s : Sorted α) (v : α) : (s.add v).2 = (s.search v : Int) := rfl

omit [DecidableEq α] in
theorem add_getElem (s : Sorted α) (v : α) : (s.add v).1.slice[s.search v]? = some v := by
  rw [add_slice]
  have hle := search_le s v
  have hlen : (s.slice.take (s.search v)).length = s.search v := by rw [List.length_take]; omega
  rw [List.getElem?_append_right (by omega)]
  simp [hlen]

theorem idxOf_of_split (l₁ l₂ : List α) (v : α) (h : v ∉ l₁) : (l₁ ++ v :: l₂).idxOf v = l₁.length := by
  rw [List.idxOf_append]
  simp [h]

omit [DecidableEq α] in
theorem not_mem_take_search (s : Sorted α) (hw : StrictWeak s.less) (hs : IsSorted s.less s.slice) (v : α) :
    v ∉ s.slice.take (s.search v) := by
  intro hmem
  have := (search_split s hw hs v).1 v hmem
  rw [hw.irrefl] at this; cases this

theorem add_idxOf (s : Sorted α) (hw : StrictWeak s.less) (hs : IsSorted s.less s.slice) (v : α) :
    (s.add v).1.slice.idxOf v = s.search v := by
  rw [add_slice, idxOf_of_split _ _ _ (not_mem_take_search s hw hs v), List.length_take]
  have := search_le s v
  omega

theorem search_of_mem (s : Sorted α) (ht : StrictTotal s.less) (hs : IsSorted s.less s.slice) (v : α)
    (hv : v ∈ s.slice) :
    ∃ (h : s.search v < s.slice.length), s.slice[s.search v] = v ∧ s.slice.idxOf v = s.search v := by
  have hw := ht.toStrictWeak
  have hnot := not_mem_take_search s hw hs v
  have hdrop : v ∈ s.slice.drop (s.search v) := by
    rw [← List.take_append_drop (s.search v) s.slice, List.mem_append] at hv
    exact hv.resolve_left hnot
  have hlt : s.search v < s.slice.length := by
    have := List.length_pos_of_mem hdrop
    rw [List.length_drop] at this; omega
  have hsplit : s.slice.drop (s.search v) = s.slice[s.search v] :: s.slice.drop (s.search v + 1) :=
    List.drop_eq_getElem_cons hlt
  have h1 : s.less s.slice[s.search v] v = false :=
    (search_split s hw hs v).2 _ (by rw [hsplit]; exact List.mem_cons_self)
  have h2 : s.less v s.slice[s.search v] = false := by
    rw [hsplit, List.mem_cons] at hdrop
    rcases hdrop with heq | hmem
    · rw [← heq]; exact hw.irrefl v
    · have hp : IsSorted s.less (s.slice.drop (s.search v)) := hs.drop
      rw [hsplit] at hp
      exact (List.pairwise_cons.mp hp).1 v hmem
  have heq : s.slice[s.search v] = v := ht.tri _ _ h1 h2
  refine ⟨hlt, heq, ?_⟩
  conv => lhs; rw [← List.take_append_drop (s.search v) s.slice, hsplit, heq]
  rw [idxOf_of_split _ _ _ hnot, List.length_take]
  omega

theorem index_first (s : Sorted α) (ht : StrictTotal s.less) (hs : IsSorted s.less s.slice) (v : α) :
    s.index v = if v ∈ s.slice then (s.slice.idxOf v : Int) else -1 := by
  by_cases hv : v ∈ s.slice
  · obtain ⟨hlt, heq, hidx⟩ := search_of_mem s ht hs v hv
    simp only [hv, if_true, hidx]
    unfold Sorted.index
    simp [hlt, heq]
  · simp [hv, index_absent s v hv]

theorem contains_iff (s : Sorted α) (ht : StrictTotal s.less) (hs : IsSorted s.less s.slice) (v : α) :
    s.contains v = true ↔ v ∈ s.slice := by
  unfold Sorted.contains
  rw [index_first s ht hs v]
  by_cases hv : v ∈ s.slice
  · simp only [hv, if_true, iff_true, bne_iff_ne, ne_eq]; omega
  · simp [hv]

theorem remove_present (s : Sorted α) (ht : StrictTotal s.less) (hs : IsSorted s.less s.slice) (v : α)
    (hv : v ∈ s.slice) :
    s.remove v = ({ s with slice := s.slice.erase v }, (s.slice.idxOf v : Int)) := by
  obtain ⟨hlt, heq, hidx⟩ := search_of_mem s ht hs v hv
  have hi : s.index v = (s.search v : Int) := by
    unfold Sorted.index; simp [hlt, heq]
  unfold Sorted.remove
  have hne : ((s.search v : Int) == -1) = false := by apply beq_false_of_ne; omega
  simp only [hi, hne, Bool.false_eq_true, if_false, Int.toNat_natCast, removeAt_eq_eraseIdx, hidx]
  rw [List.erase_eq_eraseIdx_of_idxOf hidx]

def resultsFrom (s : Sorted α) : List (Op α) → List (Res α)
  | [] => []
  | op :: ops => (step s op).2 :: resultsFrom (step s op).1 ops

/-- one operation of the specification `Spec.Sorted` (state: the sorted arrangement of the multiset) -/
def specStep (less : α → α → Bool) (l : List α) : Op α → List α × Res α
  | .add v => let (l', i) := Spec.Sorted.add less l v; (l', .int i)
  | .remove v => let (l', i) := Spec.Sorted.remove l v; (l', .int i)
  | .removeAt i =>
    match Spec.Sorted.removeAt l i with
    | .ok l' => (l', .ok)
    | .error c => (l, .panic c)
  | .get i =>
    match Spec.Sorted.get l i with
    | .ok a => (l, .val a)
    | .error c => (l, .panic c)
  | .index v => (l, .int (Spec.Sorted.index l v))
  | .contains v => (l, .bool (Spec.Sorted.contains l v))
  | .len => (l, .int l.length)

def specRun (less : α → α → Bool) (l : List α) : List (Op α) → List α × List (Res α)
  | [] => (l, [])
  | op :: ops =>
    let (l', r) := specStep less l op
    let (l'', rs) := specRun less l' ops
    (l'', r :: rs)

omit [DecidableEq α] in
theorem sorted_perm_unique {less : α → α → Bool} (ht : StrictTotal less) (l₁ l₂ : List α)
    (h₁ : IsSorted less l₁) (h₂ : IsSorted less l₂) (hp : l₁.Perm l₂) : l₁ = l₂ :=
  List.Perm.eq_of_pairwise (le := fun a b => less b a = false)
    (fun a b _ _ hab hba => ht.tri a b hba hab) h₁ h₂ hp

theorem step_refines (s : Sorted α) (ht : StrictTotal s.less) (hs : IsSorted s.less s.slice) (op : Op α) :
    ((step s op).1.slice, (step s op).2) = specStep s.less s.slice op := by
  have hw := ht.toStrictWeak
  cases op with
  | add v =>
    simp only [step, specStep, Spec.Sorted.add]
    have hsl : (s.add v).1.slice = Spec.Sorted.sort s.less (v :: s.slice) :=
      sorted_perm_unique ht _ _ (add_sorted s hw hs v) (stableSort_sorted hw _)
        ((insertAt_perm _ _ _).trans (stableSort_perm s.less (v :: s.slice)).symm)
    rw [← hsl, add_idxOf s hw hs v]
    rfl
  | remove v =>
    show ((s.remove v).1.slice, Res.int (s.remove v).2) = _
    rw [specStep, Spec.Sorted.remove]
    by_cases hv : v ∈ s.slice
    · rw [remove_present s ht hs v hv, if_pos hv]
    · rw [remove_absent s v hv, if_neg hv]
  | removeAt i =>
    rw [step, specStep, Spec.Sorted.removeAt, removeAtIdx_eq]
    by_cases h : 0 ≤ i ∧ i < s.slice.length
    · rw [if_pos h, if_pos h]
    · rw [if_neg h, if_neg h]
  | get i =>
    rw [step, specStep, Spec.Sorted.get, get_eq]
    by_cases h : 0 ≤ i ∧ i < s.slice.length
    · rw [dif_pos h, if_pos h, List.getElem?_eq_getElem]
    · rw [dif_neg h, if_neg h]
  | index v =>
    show (s.slice, Res.int (s.index v)) = _
    rw [index_first s ht hs v]; rfl
  | contains v =>
    show (s.slice, Res.bool (s.contains v)) = (s.slice, Res.bool (decide (v ∈ s.slice)))
    rw [Bool.eq_iff_iff.2 ((contains_iff s ht hs v).trans decide_eq_true_iff.symm)]
  | len => rfl

theorem runFrom_refines (s : Sorted α) (ht : StrictTotal s.less) (hs : IsSorted s.less s.slice) (ops : List (Op α)) :
    ((runFrom s ops).slice, resultsFrom s ops) = specRun s.less s.slice ops := by
  induction ops generalizing s with
  | nil => rfl
  | cons op ops ih =>
    have hst := step_refines s ht hs op
    have hless := step_less s op
    have := ih (step s op).1 (by rw [hless]; exact ht) (by rw [hless]; exact step_sorted s ht.toStrictWeak hs op)
    rw [hless] at this
    simp only [runFrom, resultsFrom, specRun, ← hst, ← this]

end

end TypVerif.Lemmas.Sorted
