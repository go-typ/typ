/-
Tables kept in lists and updated by `List.set` (program counters, thread tables, entry tables, counters): reading one through
`getD`, and what holds of every entry afterwards.
-/
namespace TypVerif.Lemmas

theorem getD_set {α : Type} (l : List α) (i j : Nat) (a d : α) :
    (l.set i a).getD j d = if j = i ∧ i < l.length then a else l.getD j d := by
  simp only [List.getD_eq_getElem?_getD, List.getElem?_set]
  by_cases h : i = j
  · subst h
    by_cases h1 : i < l.length
    · simp [h1]
    · simp [h1]
  · have h' : ¬ j = i := fun h2 => h h2.symm
    simp [h, h']

theorem getD_set_of_lt {α : Type} (l : List α) (i j : Nat) (a d : α) (hi : i < l.length) :
    (l.set i a).getD j d = if j = i then a else l.getD j d := by
  simp only [getD_set, hi, and_true]

theorem forall_mem_set {α : Type} {P : α → Prop} {l : List α} {a : α} (i : Nat) (h : ∀ x ∈ l, P x) (ha : P a) :
    ∀ x ∈ l.set i a, P x :=
  fun _ hx => (List.mem_or_eq_of_mem_set hx).elim (h _) (· ▸ ha)

end TypVerif.Lemmas
