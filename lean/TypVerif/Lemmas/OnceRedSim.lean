import TypVerif.Lemmas.OnceRedStep
/-
The reduced system simulates the model up to normalisation: `s ↦ nf s` maps every step of `Model.Once.sys` to at most two
steps of `red` with the same visible label (`step_red`).  An urgent step is a stutter; a non-urgent step of goroutine `t` from
`s` is also a step of `t` from `nf s`, with the same label, and the two results have the same normal form (`nonurgent_step`).
-/
namespace TypVerif.Lemmas.OnceRed
open TypVerif TypVerif.Conc TypVerif.Model.Once TypVerif.Drv.C17 TypVerif.Lemmas.Once

theorem pick_step (x x' : State) (hg : GoodX x) (h : pick x = some x') :
    GoodX x' ∧ nf x' = nf x ∧ nu x' < nu x := by
  obtain ⟨t, ht, hu, hm⟩ := ConcAcceptC17.pick_spec (fun _ => []) x x' h
  obtain ⟨_, h2, h3⟩ := urgent_step_nf _ x t none x' hg ht hu hm
  exact ⟨goodX_step _ x none x' hg (mem_succ.2 ⟨t, ht, hm⟩), h2, h3⟩

theorem normalize_props : ∀ (fuel : Nat) (x : State), GoodX x →
    GoodX (normalize fuel x) ∧ nf (normalize fuel x) = nf x ∧ (nu x ≤ fuel → pick (normalize fuel x) = none) := by
  intro fuel
  induction fuel with
  | zero =>
    intro x hg
    refine ⟨hg, rfl, ?_⟩
    intro h
    show pick x = none
    cases hp : pick x with
    | none => rfl
    | some x' =>
      have := (pick_step x x' hg hp).2.2
      omega
  | succ fuel ih =>
    intro x hg
    unfold normalize
    cases hp : pick x with
    | none => exact ⟨hg, rfl, fun _ => hp⟩
    | some x' =>
      obtain ⟨h1, h2, h3⟩ := pick_step x x' hg hp
      obtain ⟨i1, i2, i3⟩ := ih x' h1
      exact ⟨i1, i2.trans h2, fun h => i3 (by omega)⟩

/-- the fuel of `normalize` in `red` is sufficient: it computes the normal form -/
theorem normalize_eq_nf (x : State) (hg : GoodX x) (fuel : Nat) (h : nu x ≤ fuel) : normalize fuel x = nf x := by
  obtain ⟨h1, h2, h3⟩ := normalize_props fuel x hg
  rw [← h2]
  exact (nf_fix _ h1 ((pick_eq_none_iff _).mp (h3 h))).symm

/-- `4 * n` bounds `nu` (`nu_le`); the `+ 8` is the slack in `Drv.C17.red` -/
theorem normalize_red_eq_nf (x : State) (hg : GoodX x) : normalize (4 * x.pcs.length + 8) x = nf x :=
  normalize_eq_nf x hg _ (by have := nu_le x; omega)

/-- not read off the definition of `nf`: `nf x` is what `normalize` reaches from `x` by steps of the model, which keep `GoodX` -/
theorem goodX_nf (x : State) (hg : GoodX x) : GoodX (nf x) := by
  rw [← normalize_red_eq_nf x hg]
  exact (normalize_props _ x hg).1

section
variable {res : Nat → List Int} {s s1 r1 : State} {t : Nat} {l : Option Event}

theorem willDone_nf (s : State) : willDone (nf s) = willDone s := by
  conv => lhs; unfold willDone
  cases (nf s).mu with
  | none => exact Bool.or_false _
  | some w =>
    show (willDone s || isAS ((nf s).pc w)) = willDone s
    rw [nf_pc, isAS_nfPc]
    exact Bool.or_false _

/-- normalising twice, the second time possibly after the result has been recorded.  Only `check` reads the flag both
ways, hence `hc`; the caller discharges it by mutual exclusion (a goroutine at `check` holds the mutex) -/
theorem nfPc_nfPc {W W1 : Bool} {p : Pc} (hle : W = true → W1 = true) (hc : p = .check → W1 = W) :
    nfPc W1 (nfPc W p) = nfPc W1 p := by
  cases W1 with
  | false =>
    cases W with
    | false => exact nfPc_idem _ p
    | true => cases hle rfl
  | true =>
    cases W with
    | false => exact nfPc_true_false p fun e => nomatch hc e
    | true => exact nfPc_idem _ p

/-- where a goroutine goes depends on `done` only at urgent program counters -/
theorem nextPc_done (hu : urgent s t = false) (d d' : Bool) (r : List Int) :
    nextPc d r (s.pc t) = nextPc d' r (s.pc t) := by
  cases hpc : s.pc t
  case fast | check => exact (not_urgent_pc hu hpc).elim
  all_goals rfl

/-- the same non-urgent step of `t` from a state and from its normal form: the results have the same normal form -/
theorem nf_step_comm (hg : GoodX s) (ht : t < s.pcs.length) (hu : urgent s t = false) (hp : (nf s).pc t = s.pc t)
    (h : Step res s t l s1) (h' : Step res (nf s) t l r1) : nf r1 = nf s1 := by
  have htx : t < (nf s).pcs.length := (nf_len s).symm ▸ ht
  have hT := hg.good.thread t
  unfold ThreadOk at hT
  have hW1 := willDone_step hg.good ht h
  have hW1' := willDone_step (goodX_nf s hg).good htx h'
  rw [willDone_nf] at hW1'
  have hfr : r1.fres = s1.fres := h'.fres.trans h.fres.symm
  have hcases := step_records hg.good ht h
  have hle : willDone s = true → willDone s1 = true := fun hw =>
    hcases.elim (fun e => e.1.trans hw) (fun e => e.2.1)
  refine nf_congr r1 s1 _ (hW1'.trans hW1.symm) rfl (h'.length_eq.trans ((nf_len s).trans h.length_eq.symm))
    (fun u _ => ?_) (fun hw => ?_) ?_ (h'.invoked.trans h.invoked.symm) hfr
  · by_cases e : u = t
    · rw [e, h'.pc_self htx, h.pc_self ht, hp]
      exact congrArg _ (nextPc_done hu _ _ _)
    · rw [h'.pc_ne htx e, h.pc_ne ht e, nf_pc]
      refine nfPc_nfPc hle fun hc => hcases.elim (fun e => e.1) fun ⟨hpc, _⟩ => ?_
      have hU := hg.good.thread u
      unfold ThreadOk at hU
      rw [hc] at hU
      rw [hpc] at hT
      exact absurd (Option.some.inj (hU.symm.trans hT.1)) e
  · have hWf : willDone s = false := by
      cases hWs : willDone s with
      | false => rfl
      | true => exact (hle hWs).symm.trans hw
    have hxmu : (nf s).mu = s.mu := by
      show (if willDone s = true then none else s.mu) = s.mu
      rw [hWf]
      rfl
    rcases h.mu with ⟨hpc, _, e⟩ | ⟨hpc, _⟩ | ⟨n1, n2, e⟩
    · rcases h'.mu with ⟨_, _, e'⟩ | ⟨hpc', _⟩ | ⟨n1', _, _⟩
      · exact e'.trans e.symm
      · exact nomatch hpc.symm.trans (hp.symm.trans hpc')
      · exact absurd (hp.trans hpc) n1'
    · exact (not_urgent_pc hu hpc).elim
    · rcases h'.mu with ⟨hpc', _, _⟩ | ⟨hpc', _⟩ | ⟨_, _, e'⟩
      · exact absurd (hp.symm.trans hpc') n1
      · exact absurd (hp.symm.trans hpc') n2
      · exact e'.trans (hxmu.trans e.symm)
  · have hf1 : s1.fields = s.fields :=
      h.fields.resolve_right fun ⟨_, hpc, _⟩ => (not_urgent_pc hu hpc).elim
    have hf1' : r1.fields = (nf s).fields :=
      h'.fields.resolve_right fun ⟨_, hpc, _⟩ => (not_urgent_pc hu (hp.symm.trans hpc)).elim
    rw [hfr, hf1, hf1']
    rcases hcases with ⟨e1, e2⟩ | ⟨_, e1, r, e2⟩
    · rw [e1, e2]
      show (if willDone s = true then s.fres.getD (if willDone s = true then s.fres.getD s.fields else s.fields)
        else if willDone s = true then s.fres.getD s.fields else s.fields) = _
      cases willDone s with
      | false => rfl
      | true => cases s.fres <;> rfl
    · rw [e1, e2]
      rfl

theorem nonurgent_step (res : Nat → List Int) (s : State) (t : Nat) (l : Option Event) (s1 : State)
    (hg : GoodX s) (ht : t < s.pcs.length) (hu : urgent s t = false) (hstep : (l, s1) ∈ stepT res s t) :
    ∃ r1, (l, r1) ∈ stepT res (nf s) t ∧ nf r1 = nf s1 := by
  have h := mem_stepT.mp hstep
  -- `Lock` is taken while the mutex is free and `done` is not set: nothing has been recorded
  have hl : s.pc t = .lock → s.mu = none ∧ willDone s = false := fun hpc => by
    have hm : s.mu = none := by
      rcases h.mu with ⟨_, hm, _⟩ | ⟨hpc', _⟩ | ⟨n, _, _⟩
      · exact hm
      · exact nomatch hpc.symm.trans hpc'
      · exact absurd hpc n
    refine ⟨hm, ?_⟩
    unfold urgent at hu
    rw [hpc, hm] at hu
    unfold willDone
    rw [hm]
    exact (Bool.or_false _).trans hu
  have hp : (nf s).pc t = s.pc t := (nf_pc s t).trans (nfPc_of_not_urgent hu fun hpc => (hl hpc).2)
  have hx : ∃ r1, Step res (nf s) t l r1 := by
    cases h with
    | call hpc => exact ⟨_, .call (hp.trans hpc)⟩
    | fstart hpc => exact ⟨_, .fstart (hp.trans hpc)⟩
    | fend hpc => exact ⟨_, .fend (hp.trans hpc)⟩
    | lock _ hpc =>
      refine ⟨_, .lock ?_ (hp.trans hpc)⟩
      show (if willDone s = true then none else s.mu) = none
      rw [(hl hpc).2]
      exact (hl hpc).1
    | ret hpc =>
      have hT := hg.good.thread t
      unfold ThreadOk at hT
      rw [hpc] at hT
      have hf : (nf s).fields = s.fields := by
        show (if willDone s = true then s.fres.getD s.fields else s.fields) = s.fields
        rw [willDone_of_done hT, (hg.good.doneT hT).2]
        rfl
      have hr := Step.ret (res := res) (hp.trans hpc)
      rw [hf] at hr
      exact ⟨_, hr⟩
    | fast hpc | check hpc | assign hpc | store hpc | unlock hpc => exact (not_urgent_pc hu hpc).elim
  obtain ⟨r1, h'⟩ := hx
  exact ⟨r1, mem_stepT.mpr h', nf_step_comm hg ht hu hp h h'⟩

end

variable (n a : Nat) (res : Nat → List Int)

theorem red_succ_some (x x' : State) (h : pick x = some x') :
    (red n a res).succ x = [(none, normalize (4 * x.pcs.length + 8) x)] := by
  show (match pick x with
      | some _ => [((none : Option Event), normalize (4 * x.pcs.length + 8) x)]
      | none => succ res x) = _
  rw [h]
  rfl

theorem red_succ_none (x : State) (h : pick x = none) :
    (red n a res).succ x = succ res x := by
  show (match pick x with
      | some _ => [((none : Option Event), normalize (4 * x.pcs.length + 8) x)]
      | none => succ res x) = _
  rw [h]

theorem red_to_nf (x : State) (hg : GoodX x) :
    ∃ ls, Exec (red n a res) x ls (nf x) ∧ visible ls = [] ∧ ls.length ≤ 1 := by
  cases hp : pick x with
  | none =>
    have : nf x = x := nf_fix x hg ((pick_eq_none_iff x).mp hp)
    rw [this]
    exact ⟨[], Exec.nil _, rfl, by simp⟩
  | some x' =>
    refine ⟨[none], Exec.single ?_, rfl, by simp⟩
    rw [red_succ_some n a res x x' hp, normalize_red_eq_nf x hg]
    exact List.mem_singleton.2 rfl

/-- what the internal steps the model may yet take before its next visible event cost in internal steps of `red`: 2 (the winner's
`Lock`, one normalisation) while the winner has not taken the mutex -/
def bud (s : State) : Nat := if s.done = false ∧ s.mu = none then 2 else 0

/-- the correspondence between the model and `red` through `nf`: a step of the model is an urgent step, which `nf` does not
see, or it is a step of `red` from `nf s` with the same label, after which `red` normalises; the only internal step of
that kind is the winner's `Lock` -/
theorem step_red (s s1 : State) (l : Option Event) (hg : GoodX s) (hm : (l, s1) ∈ succ res s) :
    (l = none ∧ nf s1 = nf s) ∨
    ∃ r1 ls, (l, r1) ∈ (red n a res).succ (nf s) ∧ Exec (red n a res) r1 ls (nf s1) ∧ visible ls = [] ∧
      ls.length ≤ 1 ∧ (l = none → bud s = 2 ∧ bud s1 = 0) := by
  obtain ⟨t, ht, hstep⟩ := mem_succ.mp hm
  cases hu : urgent s t with
  | true =>
    obtain ⟨hl, h2, _⟩ := urgent_step_nf res s t l s1 hg ht hu hstep
    exact .inl ⟨hl, h2⟩
  | false =>
    obtain ⟨r1, hr1, hnf⟩ := nonurgent_step res s t l s1 hg ht hu hstep
    have hmem : (l, r1) ∈ succ res (nf s) := mem_succ.2 ⟨t, (nf_len s).symm ▸ ht, hr1⟩
    obtain ⟨ls, hex, hv, hlen⟩ := red_to_nf n a res r1 (goodX_step res _ l r1 (goodX_nf s hg) hmem)
    refine .inr ⟨r1, ls, ?_, hnf ▸ hex, hv, hlen, fun hl => ?_⟩
    · rw [red_succ_none n a res _ ((pick_eq_none_iff _).mpr (urgent_nf s))]
      exact hmem
    · subst hl
      cases mem_stepT.mp hstep with
      | lock hmu hpc =>
        unfold urgent at hu
        rw [hpc, hmu] at hu
        exact ⟨if_pos ⟨hu, hmu⟩, if_neg fun c => absurd c.2 (Option.some_ne_none t)⟩
      | fast hpc | check hpc | assign hpc | store hpc | unlock hpc => exact (not_urgent_pc hu hpc).elim

theorem sim_step (n a : Nat) (res : Nat → List Int) (s s1 : State) (l : Option Event) (hg : GoodX s)
    (hm : (l, s1) ∈ succ res s) :
    ∃ ls, Exec (red n a res) (nf s) ls (nf s1) ∧ visible ls = visible [l] ∧ ls.length ≤ 2 := by
  rcases step_red n a res s s1 l hg hm with ⟨rfl, h2⟩ | ⟨r1, ls, hmem, hex, hv, hlen, _⟩
  · rw [h2]
    exact ⟨[], Exec.nil _, rfl, by simp⟩
  · refine ⟨l :: ls, Exec.cons hmem hex, ?_, Nat.succ_le_succ hlen⟩
    cases l with
    | none => exact hv
    | some e => exact congrArg (List.cons e) hv

theorem nf_init (n a : Nat) : nf (init n a) = init n a :=
  nf_fix _ (goodX_init n a) (by
    intro t
    unfold urgent
    rw [init_pc])

theorem red_complete (n arity : Nat) (res : Nat → List Int) (ls : List (Option Event)) (s : State)
    (h : Exec (sys n arity res) (sys n arity res).init ls s) :
    ∃ ls' s', Exec (red n arity res) (red n arity res).init ls' s' ∧ visible ls' = visible ls := by
  obtain ⟨s', ls', hex, hv, _⟩ := Exec.rel_sim (i' := (red n arity res).init) (succ' := (red n arity res).succ)
    (fun s t => t = nf s ∧ GoodX s)
    (fun s l s1 _ ht hm =>
      let ⟨ls, hex, hv, _⟩ := sim_step n arity res s s1 l ht.2 hm
      ⟨nf s1, ls, ht.1 ▸ hex, hv, rfl, goodX_step res s l s1 ht.2 hm⟩)
    h (init n arity) ⟨(nf_init n arity).symm, goodX_init n arity⟩
  exact ⟨ls', s', hex, hv⟩

end TypVerif.Lemmas.OnceRed
