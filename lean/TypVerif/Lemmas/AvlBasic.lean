import TypVerif.Model.Avl
import TypVerif.Spec.Avl
/-
Basic facts about the AVL model: rotations and `rebalance` preserve the in-order walk, the model functions are the
integer kernels applied to the fields, and the cases of the search path that `find` and `remove` share.
-/
namespace TypVerif.Lemmas.Avl
open TypVerif.Model.Avl TypVerif.Model.Avl.Node TypVerif.Spec.Avl

variable {α : Type}

@[simp] theorem inorder_nil : inorder (nil : Node α) = [] := rfl
@[simp] theorem inorder_node (l : Node α) v h r : inorder (node l v h r) = inorder l ++ v :: inorder r := rfl
@[simp] theorem inorder_mk (l : Node α) v r : inorder (mk l v r) = inorder l ++ v :: inorder r := rfl
@[simp] theorem inorder_leaf (v : α) : inorder (leaf v) = [v] := rfl

@[simp] theorem inorder_refresh (t : Node α) : inorder (refresh t) = inorder t := by
  cases t <;> rfl

@[simp] theorem inorder_rotateLeft (t : Node α) : inorder (rotateLeft t) = inorder t := by
  unfold rotateLeft; split <;> simp

@[simp] theorem inorder_rotateRight (t : Node α) : inorder (rotateRight t) = inorder t := by
  unfold rotateRight; split <;> simp

@[simp] theorem inorder_rotateLeftRight (t : Node α) : inorder (rotateLeftRight t) = inorder t := by
  unfold rotateLeftRight; split <;> simp

@[simp] theorem inorder_rotateRightLeft (t : Node α) : inorder (rotateRightLeft t) = inorder t := by
  unfold rotateRightLeft; split <;> simp

@[simp] theorem inorder_rebalance (t : Node α) : inorder (rebalance t) = inorder t := by
  unfold rebalance
  repeat' split
  all_goals simp

/-! the model functions are the integer kernels applied to the fields (DESIGN §4B) -/

theorem hgt_kernel (l : Node α) v h r : hgt (nil : Node α) = nilHeightK ∧ hgt (node l v h r) = h := ⟨rfl, rfl⟩

theorem balance_kernel (l : Node α) v h r : balance (node l v h r) = balanceK (hgt l) (hgt r) := rfl

theorem calcHeight_kernel (l r : Node α) : calcHeight l r = calcHeightK l.isNil r.isNil (hgt l) (hgt r) := by
  cases l <;> cases r <;> rfl

/-- `rebalance` takes exactly the branch computed by `rebalanceK` -/
theorem rebalance_kernel (l : Node α) v h r :
    rebalance (node l v h r) =
      match rebalanceK (balance (node l v h r)) (!r.isNil) (match r with | node rl _ _ _ => hgt rl | nil => 0)
          (match r with | node _ _ _ rr => hgt rr | nil => 0) (!l.isNil)
          (match l with | node _ _ _ lr => hgt lr | nil => 0) (match l with | node ll _ _ _ => hgt ll | nil => 0) with
      | 0 => node l v h r
      | 1 => rotateLeft (node l v h r)
      | 2 => rotateLeftRight (node l v h r)
      | 3 => rotateRight (node l v h r)
      | _ => rotateRightLeft (node l v h r) := by
  unfold rebalance rebalanceK
  by_cases h1 : balance (node l v h r) = 1
  · simp only [h1, if_true]
    cases r with
    | nil => simp [isNil]
    | node rl rv rh rr => by_cases c : hgt rl > hgt rr <;> simp [isNil, c]
  · by_cases h2 : balance (node l v h r) = -1
    · simp only [h2, if_true]
      cases l with
      | nil => simp [isNil]
      | node ll lv lh lr => by_cases c : hgt lr > hgt ll <;> simp [isNil, c]
    · simp [h1, h2]

theorem isNil_eq_true {t : Node α} : t.isNil = true ↔ t = nil := by
  cases t <;> simp [isNil]
theorem isNil_eq_false {t : Node α} : t.isNil = false ↔ t ≠ nil := by
  cases t <;> simp [isNil]

/-! ### the search path

`find`, `remove` and their counting variants descend through the same `switch`; its cases are stated once, as an
induction principle and as equations for `find` and `remove`. -/

section search
variable {cmp : α → α → Int} {x v : α} {l r : Node α} {h : Int}

/-- the guard `current.left != nil && compare(value, current.value) < 0` -/
abbrev goLeft (cmp : α → α → Int) (x : α) (l : Node α) (v : α) : Prop :=
  (!l.isNil && decide (cmp x v < 0)) = true

theorem goLeft_iff : goLeft cmp x l v ↔ l ≠ nil ∧ cmp x v < 0 := by
  simp [goLeft, isNil_eq_false]

variable [DecidableEq α]

theorem search_ind {P : Node α → Prop} (cmp : α → α → Int) (x : α) (nil : P nil)
    (found : ∀ l h r, P (node l x h r))
    (left : ∀ l v h r, ¬ v = x → goLeft cmp x l v → P l → P (node l v h r))
    (right : ∀ l v h r, ¬ v = x → ¬ goLeft cmp x l v → (!r.isNil) = true → P r → P (node l v h r))
    (stop : ∀ l v h r, ¬ v = x → ¬ goLeft cmp x l v → ¬ (!r.isNil) = true → P (node l v h r))
    (t : Node α) : P t := by
  induction t with
  | nil => exact nil
  | node l v h r ihl ihr =>
    by_cases e : v = x
    · exact e ▸ found l h r
    · by_cases gl : goLeft cmp x l v
      · exact left l v h r e gl ihl
      · by_cases gr : (!r.isNil) = true
        · exact right l v h r e gl gr ihr
        · exact stop l v h r e gl gr

theorem find_found : find cmp x (node l x h r) = some (node l x h r) := if_pos rfl
theorem find_left (e : ¬ v = x) (gl : goLeft cmp x l v) : find cmp x (node l v h r) = find cmp x l :=
  (if_neg e).trans (if_pos gl)
theorem find_right (e : ¬ v = x) (gl : ¬ goLeft cmp x l v) (gr : (!r.isNil) = true) :
    find cmp x (node l v h r) = find cmp x r :=
  (if_neg e).trans ((if_neg gl).trans (if_pos gr))
theorem find_stop (e : ¬ v = x) (gl : ¬ goLeft cmp x l v) (gr : ¬ (!r.isNil) = true) :
    find cmp x (node l v h r) = none :=
  (if_neg e).trans ((if_neg gl).trans (if_neg gr))

theorem remove_found_nil_left : remove cmp x (node nil x h r) = (r, true) := by
  cases r <;> exact if_pos rfl
theorem remove_found_nil_right : remove cmp x (node l x h nil) = (l, true) := by
  cases l <;> exact if_pos rfl
theorem remove_found_node {ll lr rl rr : Node α} {lv rv : α} {lh rh : Int} :
    remove cmp x (node (node ll lv lh lr) x h (node rl rv rh rr)) =
      (rebalance (mk (node ll lv lh lr) (popLeftMost rl rv rr).2 (popLeftMost rl rv rr).1), true) :=
  if_pos rfl
theorem remove_found_snd : (remove cmp x (node l x h r)).2 = true := by
  cases l <;> cases r <;> exact congrArg Prod.snd (if_pos rfl)
theorem remove_left (e : ¬ v = x) (gl : goLeft cmp x l v) :
    remove cmp x (node l v h r) =
      if (remove cmp x l).2 then (rebalance (mk (remove cmp x l).1 v r), true) else (node l v h r, false) :=
  (if_neg e).trans (if_pos gl)
theorem remove_right (e : ¬ v = x) (gl : ¬ goLeft cmp x l v) (gr : (!r.isNil) = true) :
    remove cmp x (node l v h r) =
      if (remove cmp x r).2 then (rebalance (mk l v (remove cmp x r).1), true) else (node l v h r, false) :=
  (if_neg e).trans ((if_neg gl).trans (if_pos gr))
theorem remove_stop (e : ¬ v = x) (gl : ¬ goLeft cmp x l v) (gr : ¬ (!r.isNil) = true) :
    remove cmp x (node l v h r) = (node l v h r, false) :=
  (if_neg e).trans ((if_neg gl).trans (if_neg gr))

end search

end TypVerif.Lemmas.Avl
