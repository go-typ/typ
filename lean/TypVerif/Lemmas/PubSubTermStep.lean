import TypVerif.Lemmas.PubSubTermDefs
/-
Every step of a PubSub goroutine and every receiver step strictly decreases `measure` (system without
clones: `Safe`; channel ids distinct: `ChanIdsOk`).  `Dec` also records that the number of pending `Sub`s
does not grow (for `istep_lasting`) and that `exited` stays (for `run_reachable`).
-/
namespace TypVerif.Lemmas.PubSubTerm
open TypVerif TypVerif.Model.PubSub TypVerif.Lemmas.PubSubStep TypVerif.Lemmas.PubSubSafe TypVerif.Lemmas.PubSubLive

structure Dec (cfg : Cfg) (s s' : State) : Prop where
  lt : measure cfg s' < measure cfg s
  pend : s'.tasks.countP pendingSub ≤ s.tasks.countP pendingSub
  exited : s'.exited = s.exited

/-- Task `i` becomes `t'` and spawns `new`.  It is enough that the weights decrease at the OLD bound (`hw`), since the
bound does not grow (`hsubs`, `hpend`) and `tasksW` is monotone in it. -/
theorem dec_of {cfg : Cfg} {s s' : State} {i : Nat} {t t' : Task} {new : List Task} (hi : s.tasks[i]? = some t)
    (htasks : s'.tasks = s.tasks.set i t' ++ new)
    (hpend : (if pendingSub t' then 1 else 0) + new.countP pendingSub ≤ (if pendingSub t then 1 else 0))
    (hsubs : (s'.obj 0).subs.length + (if pendingSub t' then 1 else 0) + new.countP pendingSub
              ≤ (s.obj 0).subs.length + (if pendingSub t then 1 else 0))
    (hw : taskW (bound s) t' + tasksW (bound s) new + chansW s'.chans + flagW s'
            < taskW (bound s) t + chansW s.chans + flagW s)
    (hx : s'.exited = s.exited) : Dec cfg s s' := by
  have h1 := countP_set_eq pendingSub s.tasks i t t' hi
  have hcp : s'.tasks.countP pendingSub = (s.tasks.set i t').countP pendingSub + new.countP pendingSub := by
    rw [htasks, List.countP_append]
  have hb : bound s' ≤ bound s := by
    unfold bound; omega
  have h2 := tasksW_mono hb s'.tasks
  have h3 := tasksW_set (bound s) s.tasks i t t' hi
  have h4 : tasksW (bound s) s'.tasks = tasksW (bound s) (s.tasks.set i t') + tasksW (bound s) new := by
    rw [htasks, tasksW_append]
  refine ⟨?_, by omega, hx⟩
  unfold measure
  omega

/-- task `i` is replaced; channels, `subs` untouched -/
structure Frame (x y : State) (i : Nat) (t' : Task) : Prop where
  tasks : y.tasks = x.tasks.set i t'
  chans : y.chans = x.chans
  subs : (y.obj 0).subs = (x.obj 0).subs
  flag : flagW y ≤ flagW x
  exited : y.exited = x.exited

theorem dec_frame {cfg : Cfg} {s s' : State} {i : Nat} {t t' : Task} (hi : s.tasks[i]? = some t)
    (f : Frame s s' i t')
    (hp : (if pendingSub t' then 1 else 0) ≤ (if pendingSub t then 1 else 0))
    (hw : ∀ n, taskW n t' < taskW n t) : Dec cfg s s' := by
  have := hw (bound s)
  have := f.flag
  refine dec_of (t' := t') (new := []) hi (by simp [f.tasks]) (by simpa using hp) (by rw [f.subs]; simpa using hp) ?_
    f.exited
  rw [f.chans]; simp only [tasksW]; omega

theorem dec_sent {cfg : Cfg} {s s1 s' : State} {i : Nat} {t t' : Task} {it : Item} (hu : ChanIdsOk s)
    (hi : s.tasks[i]? = some t) (hst : sendTo s it = .sent s1) (f : Frame s1 s' i t')
    (hp : pendingSub t' = false)
    (hw : ∀ n, taskW n t' + 2 < taskW n t) : Dec cfg s s' := by
  have g := sendTo_sent_frame hu hst
  have := hw (bound s)
  have := f.flag
  have hfl : flagW s1 = flagW s := by unfold flagW; rw [g.panicked]
  have := g.weight
  refine dec_of (t' := t') (new := []) hi (by simp [f.tasks, g.tasks]) (by simp [hp])
    (by rw [f.subs, obj_congr g.objs 0]; simp [hp]) ?_ (f.exited.trans g.exited)
  rw [f.chans]; simp only [tasksW]; omega

theorem dec_panic {cfg : Cfg} {s : State} (m : String) (h : s.panicked = none) : Dec cfg s (s.panic m) := by
  refine ⟨?_, Nat.le_refl _, rfl⟩
  show tasksW (bound s) s.tasks + chansW s.chans + (if (some m : Option String) = none then 1 else 0)
    < tasksW (bound s) s.tasks + chansW s.chans + (if s.panicked = none then 1 else 0)
  rw [h]; simp

theorem frame_setTask (x : State) (i : Nat) (t' : Task) : Frame x (x.setTask i t') i t' :=
  ⟨rfl, rfl, rfl, Nat.le_refl _, rfl⟩

theorem frame_rw (x : State) (r : RW) (i : Nat) (t' : Task) :
    Frame x ((x.setObj 0 { x.obj 0 with rw := r }).setTask i t') i t' :=
  ⟨rfl, rfl, subs_setObj_rw x 0 0 r, Nat.le_refl _, rfl⟩

theorem wgDone_flag (s : State) (w : Nat) : flagW (wgDone s w) ≤ flagW s := by
  unfold wgDone
  split
  · unfold flagW; simp [State.panic]
  · exact Nat.le_refl _

theorem frame_fin {i : Nat} {t tfin tcb : Task} {it : Item} {cb : Bool} {fin : State → State}
    (h : Sender i t it cb fin tfin tcb) (h0 : objOk t) (x : State) : Frame x (fin x) i tfin := by
  cases h with
  | syncLast p o it cb => cases h0; exact frame_rw x _ i _
  | syncMore p o it a rest cb => exact frame_setTask x i _
  | async o it cb => cases h0; exact frame_rw x _ i _
  | wg o w it cb =>
    obtain ⟨ws, p, e⟩ := wgDone_eq x w
    have hf := wgDone_flag x w
    show Frame x ((wgDone x w).setTask i .done) i .done
    rw [e] at hf ⊢
    exact ⟨rfl, rfl, rfl, hf, rfl⟩

/-- a sender's step makes it lighter: by 1 if it only runs its callback or its timer fires, by 3 if it hands off
(the value adds at most 2 to the channel) -/
theorem sender_weight {i : Nat} {t tfin tcb : Task} {it : Item} {cb : Bool} {fin : State → State}
    (h : Sender i t it cb fin tfin tcb) (n : Nat) :
    pendingSub tfin = false ∧ pendingSub tcb = false ∧ taskW n tfin + (if cb then 0 else 2) < taskW n t ∧
      (cb = false → taskW n tcb < taskW n t) := by
  cases h <;> cases cb <;> simp [taskW, pendingSub] <;> omega

theorem items_le_bound (s : State) (p : Nat) (evs : List Int) :
    (mkItems p evs (s.obj 0).subs).length ≤ evs.length * bound s := by
  rw [mkItems_length]
  exact Nat.mul_le_mul_left _ (Nat.le_add_right _ _)

/-- the snapshot of a publish call: `pubStart` (weight `4k + 3` for at most `k` items) becomes `t'` and spawns `new`,
which together weigh at most `4k + 2` and contain no pending `Sub`; nothing else changes but the lock -/
theorem dec_snapshot {cfg : Cfg} {s s' : State} {i p : Nat} {v : Variant} {evs : List Int} {t' : Task} {new : List Task}
    (hi : s.tasks[i]? = some (.pubStart p 0 v evs)) (htasks : s'.tasks = s.tasks.set i t' ++ new)
    (hsubs : (s'.obj 0).subs = (s.obj 0).subs) (hch : s'.chans = s.chans) (hfl : flagW s' = flagW s)
    (hx : s'.exited = s.exited) (hp : pendingSub t' = false) (hnew : new.countP pendingSub = 0)
    (hw : taskW (bound s) t' + tasksW (bound s) new ≤ 4 * (mkItems p evs (s.obj 0).subs).length + 2) :
    Dec cfg s s' := by
  have hlen := items_le_bound s p evs
  refine dec_of hi htasks (by rw [hp, hnew]; exact Nat.zero_le _) (by rw [hsubs, hp, hnew]; exact Nat.le_add_right _ _) ?_ hx
  rw [hch, hfl]
  show _ < 4 * (evs.length * bound s) + 3 + _ + _
  omega

/-- a writer's critical section: task `i` (weight 2 or 3) becomes a returning task (weight 1), `subs` of the root and
the channel table change -/
theorem dec_writer {cfg : Cfg} {s : State} {i : Nat} {t t' : Task} (cs' : List ChanSt) (subs' : List Chan)
    (hs : Safe s) (hi : s.tasks[i]? = some t) (hp' : pendingSub t' = false)
    (hsubs : subs'.length ≤ (s.obj 0).subs.length + (if pendingSub t then 1 else 0))
    (hw : taskW (bound s) t' + chansW cs' < taskW (bound s) t + chansW s.chans) :
    Dec cfg s (({ s with chans := cs' }.setObj 0
      { s.obj 0 with subs := subs', rw := (s.obj 0).rw.lockUnlock }).setTask i t') := by
  refine dec_of (t' := t') (new := []) hi (List.append_nil _).symm (by rw [hp']; exact Nat.zero_le _) ?_ ?_ rfl
  · rw [show ((({ s with chans := cs' } : State).setObj 0 _).setTask i t').obj 0 = _ from
      obj0_setObj (s := { s with chans := cs' }) hs.objs1 _, hp']
    exact hsubs
  · show taskW _ t' + tasksW _ [] + chansW cs' + flagW s < _
    simp only [tasksW]
    omega

theorem dec_taskStep {cfg : Cfg} {s s' : State} {i : Nat} {t : Task} (hs : Safe s)
    (hu : ChanIdsOk s) (hi : s.tasks[i]? = some t) (h : TaskStep cfg s i t s') : Dec cfg s s' := by
  have hobj : objOk t := hs.obj0 t (List.mem_of_getElem? hi)
  cases h with
  | plain hp =>
    cases hp <;> exact dec_frame hi (frame_setTask s i _) (Nat.le_refl _) (fun n => by simp only [taskW]; omega)
  | rw o r hr =>
    obtain rfl : o = 0 := by cases hr <;> exact hobj
    cases hr with
    | pubSync p v evs _ _ _ =>
      exact dec_snapshot (new := []) hi (List.append_nil _).symm (subs_rlock s 0 0) rfl rfl rfl rfl rfl
        (by simp only [taskW, tasksW, Bool.false_eq_true, if_false]; omega)
    | _ => exact dec_frame hi (frame_rw s _ i _) (Nat.le_refl _) (fun n => by simp [taskW])
  | pubWait p o v evs _ _ _ =>
    cases hobj
    exact dec_snapshot hi rfl (subs_rlock s 0 0) rfl rfl rfl rfl (countP_map_false pendingSub _ (fun _ => rfl) _)
      (by rw [tasksW_map_const (bound s) 3 _ (fun _ => rfl)]; simp only [taskW]; omega)
  | pubAsync p o v evs _ _ _ =>
    cases hobj
    exact dec_snapshot hi rfl rfl rfl rfl rfl rfl (countP_map_false pendingSub _ (fun _ => rfl) _)
      (by rw [tasksW_map_const (bound s) 4 _ (fun _ => rfl)]; simp only [taskW]; omega)
  | sub o c cap _ _ =>
    cases hobj
    refine dec_writer _ _ hs hi rfl (by simp [pendingSub]) ?_
    rw [chansW_append]
    simp [taskW, chansW, chanW]
    omega
  | unsub u o c _ hm _ =>
    cases hobj
    refine dec_writer _ _ hs hi rfl ?_ ?_
    · rw [List.length_erase_of_mem hm]; omega
    · rw [show chansW (closeChan s.chans c) = chansW s.chans from
        chansW_updChan_eq c (fun ch => { ch with closed := true }) (fun _ => rfl) s.chans]
      simp [taskW]
  | unsubAll u o cs _ hc =>
    cases hobj
    refine dec_writer _ _ hs hi rfl (Nat.zero_le _) ?_
    rw [chansW_closeAll hc]
    simp [taskW]
  | unsubClosed | unsubAllClosed | sendClosed => exact dec_panic _ hs.nopanic
  | withOnly w o c _ => exact hobj.elim
  | sendCb hsnd =>
    exact dec_frame hi (frame_fin hsnd hobj s) (by rw [(sender_weight hsnd 0).1]; exact Nat.zero_le _)
      (fun n => (sender_weight hsnd n).2.2.1)
  | sent hsnd hst =>
    exact dec_sent hu hi hst (frame_fin hsnd hobj _) (sender_weight hsnd 0).1 (fun n => (sender_weight hsnd n).2.2.1)
  | timeout hsnd _ =>
    exact dec_frame hi ⟨rfl, rfl, rfl, Nat.le_refl _, rfl⟩ (by rw [(sender_weight hsnd 0).2.1]; exact Nat.zero_le _)
      (fun n => (sender_weight hsnd n).2.2.2 rfl)

theorem dec_recv_upd {cfg : Cfg} {s : State} {ch : ChanSt} (hu : ChanIdsOk s) (hm : ch ∈ s.chans)
    (f : ChanSt → ChanSt) (hw : chanW (f ch) + 1 ≤ chanW ch) :
    Dec cfg s { s with chans := updChan s.chans ch.id f } := by
  refine ⟨?_, Nat.le_refl _, rfl⟩
  have := chansW_updChan_dec f ch hw s.chans (hu ch.id) hm
  show tasksW (bound s) s.tasks + chansW (updChan s.chans ch.id f) + flagW s
    < tasksW (bound s) s.tasks + chansW s.chans + flagW s
  omega

theorem dec_work {cfg : Cfg} {s s' : State} (hs : Safe s) (hu : ChanIdsOk s) (h : Work cfg s s') : Dec cfg s s' := by
  cases h with
  | task hi ht => exact dec_taskStep hs hu hi ht
  | recv hm hf =>
    cases hf with
    | stamp v _ hv => exact dec_recv_upd hu hm _ (by simp [chanW, hv]; omega)
    | take v rest _ hv _ hb =>
      exact dec_recv_upd hu hm _ (by simp [chanW, hv, hb]; omega)
    | seeClose hrd _ _ _ _ =>
      exact dec_recv_upd hu hm _ (by simp [chanW, hrd])

end TypVerif.Lemmas.PubSubTerm
