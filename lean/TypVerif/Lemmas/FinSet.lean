import TypVerif.Spec.FinSet
/-
The list functions of `Spec/FinSet.lean` (used by the C03 judge as the specification) are the set algebra
they are named after, and keep lists duplicate-free: this is what ties the judge to the Boolean algebra on `mem` in which
`C03.*` is stated.  Only the three product facts are cited elsewhere (`SetsOps.product_ok`).
-/
namespace TypVerif.Lemmas.FinSet
open TypVerif.Spec.FinSet

set_option linter.unusedSectionVars false

variable {α : Type} [DecidableEq α]

theorem has_iff (s : FinSet α) (v : α) : has s v = true ↔ v ∈ s := by simp [has]

theorem mem_union (a b : FinSet α) (x : α) : x ∈ union a b ↔ x ∈ a ∨ x ∈ b := by
  simp only [union, List.mem_append, List.mem_filter, has]
  constructor
  · rintro (h | ⟨h, _⟩)
    · exact Or.inl h
    · exact Or.inr h
  · rintro (h | h)
    · exact Or.inl h
    · by_cases ha : x ∈ a
      · exact Or.inl ha
      · exact Or.inr ⟨h, by simpa using ha⟩

theorem mem_inter (a b : FinSet α) (x : α) : x ∈ inter a b ↔ x ∈ a ∧ x ∈ b := by
  simp [inter, has]

theorem mem_diff (a b : FinSet α) (x : α) : x ∈ diff a b ↔ x ∈ a ∧ x ∉ b := by
  simp [diff, has]

theorem mem_symDiff (a b : FinSet α) (x : α) : x ∈ symDiff a b ↔ (x ∈ a ∧ x ∉ b) ∨ (x ∈ b ∧ x ∉ a) := by
  simp [symDiff, mem_diff]

theorem nodup_inter {a : FinSet α} (b : FinSet α) (h : a.Nodup) : (inter a b).Nodup :=
  List.Sublist.nodup List.filter_sublist h

theorem nodup_diff {a : FinSet α} (b : FinSet α) (h : a.Nodup) : (diff a b).Nodup :=
  List.Sublist.nodup List.filter_sublist h

theorem nodup_union {a b : FinSet α} (ha : a.Nodup) (hb : b.Nodup) : (union a b).Nodup := by
  unfold union
  rw [List.nodup_append]
  refine ⟨ha, List.Sublist.nodup List.filter_sublist hb, ?_⟩
  intro x hx y hy hxy
  subst hxy
  have := (List.mem_filter.mp hy).2
  simp [has] at this
  exact this hx

theorem nodup_symDiff {a b : FinSet α} (ha : a.Nodup) (hb : b.Nodup) : (symDiff a b).Nodup := by
  unfold symDiff
  rw [List.nodup_append]
  refine ⟨nodup_diff b ha, nodup_diff a hb, ?_⟩
  intro x hx y hy hxy
  subst hxy
  exact ((mem_diff b a x).mp hy).2 ((mem_diff a b x).mp hx).1

theorem add_spec (s : FinSet α) (v : α) (h : s.Nodup) :
    (add s v).1.Nodup ∧ (∀ x, x ∈ (add s v).1 ↔ x = v ∨ x ∈ s) ∧ ((add s v).2 = true ↔ v ∉ s) := by
  unfold add
  by_cases hv : v ∈ s
  · rw [if_pos ((has_iff s v).mpr hv)]
    exact ⟨h, fun x => ⟨Or.inr, fun o => o.elim (· ▸ hv) id⟩, nofun, fun n => absurd hv n⟩
  · rw [if_neg fun c => hv ((has_iff s v).mp c)]
    exact ⟨List.nodup_cons.mpr ⟨hv, h⟩, fun x => List.mem_cons, fun _ => hv, fun _ => rfl⟩

theorem remove_spec (s : FinSet α) (v : α) (h : s.Nodup) :
    (remove s v).1.Nodup ∧ (∀ x, x ∈ (remove s v).1 ↔ x ≠ v ∧ x ∈ s) ∧ ((remove s v).2 = true ↔ v ∈ s) := by
  unfold remove
  by_cases hv : v ∈ s
  · rw [if_pos ((has_iff s v).mpr hv)]
    refine ⟨h.sublist List.filter_sublist, fun x => ?_, fun _ => hv, fun _ => rfl⟩
    rw [List.mem_filter, Bool.not_eq_true', decide_eq_false_iff_not, and_comm]
  · rw [if_neg fun c => hv ((has_iff s v).mp c)]
    exact ⟨h, fun x => ⟨fun hx => ⟨fun e => hv (e ▸ hx), hx⟩, And.right⟩, nofun, fun m => absurd m hv⟩

theorem mem_product {β : Type} (a : FinSet α) (b : FinSet β) (x : α) (y : β) :
    (x, y) ∈ product a b ↔ x ∈ a ∧ y ∈ b := by
  simp [product, List.mem_flatMap]

theorem nodup_product {β : Type} {a : FinSet α} {b : FinSet β} (ha : a.Nodup) (hb : b.Nodup) : (product a b).Nodup := by
  induction a with
  | nil => exact List.nodup_nil
  | cons x rest ih =>
    rw [List.nodup_cons] at ha
    show (b.map (fun y => (x, y)) ++ product rest b).Nodup
    rw [List.nodup_append]
    refine ⟨List.Pairwise.map _ (fun _ _ hab h2 => hab (Prod.mk.inj h2).2) hb, ih ha.2, ?_⟩
    rintro p hp _ hq rfl
    obtain ⟨y, _, rfl⟩ := List.mem_map.mp hp
    exact ha.1 ((mem_product rest b x y).mp hq).1

theorem length_product {β : Type} (a : FinSet α) (b : FinSet β) : (product a b).length = a.length * b.length := by
  unfold product
  induction a with
  | nil => simp
  | cons x rest ih => simp [List.flatMap_cons, ih, Nat.succ_mul, Nat.add_comm]

end TypVerif.Lemmas.FinSet
