import TypVerif.Lemmas.RingHeap
import TypVerif.Lemmas.RingLinkPure
/-
`Link`, `Unlink`.  `Link` is its four pointer writes seen on the views of the final heap (`link_core`): `link_cycles`
says which rings result, `link_same`/`link_diff` that the writes link them.
-/
namespace TypVerif.Lemmas.Ring
open TypVerif.Model TypVerif.Model.Ring TypVerif.Spec.RingOp TypVerif.Spec.RingSeq

/-- the `let`s of `Link` as projections of `Next h r` and `Prev _ s`, so that `rw [Next_spec]`, `rw [Prev_spec]` find them -/
theorem Link_some_eq (h : RHeap) (r s : RingId) :
    Link h r (some s) =
      (match (Prev (Next h r).1 s).2 with
       | none => (((((Prev (Next h r).1 s).1.setNext r (some s)).setPrev s (some r)).setPrev (Next h r).2 none),
                   .error "nilfunc")
       | some p => ((((((Prev (Next h r).1 s).1.setNext r (some s)).setPrev s (some r)).setPrev (Next h r).2
                    (some p))).setNext p (some (Next h r).2), .ok (Next h r).2)) := by
  unfold Link
  rcases Next h r with ⟨h1, n⟩
  dsimp only
  rcases Prev h1 s with ⟨h2, p⟩
  cases p <;> rfl

theorem good_upd {nx pv : PF} {d : List RingId} {r s n p : RingId} (v1 v2 u1 u2)
    (hr : r ∉ d) (hs : s ∉ d) (hn : n ∉ d) (hp : p ∉ d) (h : Good nx pv d) :
    Good (upd (upd nx r v1) p v2) (upd (upd pv s u1) n u2) d := by
  apply good_congr _ _ h
  · intro x hx
    rw [upd_ne _ _ (ne_of_mem_of_not_mem hx hp), upd_ne _ _ (ne_of_mem_of_not_mem hx hr)]
  · intro x hx
    rw [upd_ne _ _ (ne_of_mem_of_not_mem hx hn), upd_ne _ _ (ne_of_mem_of_not_mem hx hs)]

/-- the four writes of `Link(s)`, `s ≠ nil`, on a heap where `r` and `s` are live, realise `link_cycles`: no cell of
another ring is written (`good_upd`), `link_same` cuts the ring of `r`, `link_diff` merges two rings -/
theorem link_core {h2 hf : RHeap} {w : RWorld} (wf2 : RingWF h2 w) {r s n p : RingId}
    (hr : r < h2.size) (ls : Live h2 s)
    (hn : h2.nx r = some n) (hp : h2.pv s = some p)
    (hnx : hf.nx = upd (upd h2.nx r (some s)) p (some n))
    (hpv : hf.pv = upd (upd h2.pv s (some r)) n (some p))
    (hval : hf.val = h2.val) (hsz : hf.size = h2.size) :
    RingWF hf (link w r (some s)).1 := by
  have nd := wf2.world.nodup
  have hir : h2.nx r ≠ none := by rw [hn]; exact nofun
  obtain ⟨cr, R, hcr, hrcr, hcyR, hpermR, _, hlR⟩ := bridge wf2 ⟨hr, hir⟩
  obtain ⟨cs, S, hcs, hscs, hcyS, hpermS, _, hlS⟩ := bridge wf2 ls
  have ndR : (r :: R).Nodup := hpermR.nodup_iff.2 (cycle_nodup nd hcr)
  have nmem : n ∈ cr :=
    hpermR.mem_iff.1 (Option.some.inj (hn.symm.trans (linked_head hlR)) ▸ headD_mem r R)
  have pmem : p ∈ cs :=
    hpermS.mem_iff.1 (Option.some.inj (hp.symm.trans (linked_last hlS)) ▸ getLastD_mem s S)
  obtain ⟨ww, hgood⟩ := link_cycles (P := Good hf.nx hf.pv) wf2.world hcr hcs hcyR hcyS hpermR hpermS
    (fun c hc h1 h2 => by
      rw [hnx, hpv]
      exact good_upd _ _ _ _ (h1 r hrcr) (h2 s hscs) (h1 n nmem) (h2 p pmem) (wf2.good c hc))
    (fun A Y hAY hY => by
      -- the closed walk `r :: R ++ [r]` is `r :: A ++ s :: T`, and `r :: s :: T` is the closed form of `r :: Y`
      obtain ⟨T, hT⟩ := List.head?_eq_some_iff.1 hY
      have e : R ++ [r] = A ++ s :: T := by rw [hAY, List.append_assoc, hT]
      rw [List.cons_append, e] at hlR
      have := link_same hlR (e ▸ (List.perm_append_singleton r R).nodup_iff.2 ndR)
        (hT ▸ List.getLast?_concat) hn hp
      rw [hnx, hpv]
      exact ⟨Or.inr (by show Linked _ _ (r :: (Y ++ [r])); rw [hT]; exact this.1), fun _ => Or.inr this.2⟩)
    (fun dj => by
      have nd' : ((r :: R) ++ (s :: S)).Nodup := List.nodup_append.2 ⟨ndR, hpermS.nodup_iff.2 (cycle_nodup nd hcs),
        fun a ha b hb e => dj a (hpermR.mem_iff.1 ha) (e ▸ hpermS.mem_iff.1 hb)⟩
      have := link_diff hlR hlS nd' hn hp
      rw [hnx, hpv]
      exact Or.inr (by unfold CycLinked; simpa using this))
  refine ⟨by rw [hsz, link_size]; exact wf2.size_eq, ww, by rw [hsz, hval]; exact wf2.value_eq, hgood, ?_⟩
  intro i hi
  rw [hsz] at hi
  have lt : ∀ {c x}, c ∈ w.cycles → x ∈ c → i ≠ x := fun hc hx =>
    Nat.ne_of_gt (Nat.lt_of_lt_of_le (wf2.size_eq ▸ mem_lt wf2.world hc hx) hi)
  rw [hnx, hpv, hval, upd_ne _ _ (lt hcs pmem), upd_ne _ _ (lt hcr hrcr), upd_ne _ _ (lt hcr nmem),
    upd_ne _ _ (lt hcs hscs)]
  exact wf2.fresh i hi

theorem Link_spec {h : RHeap} {w : RWorld} (wf : RingWF h w) {r : RingId} (hr : r < h.size)
    (s : Option RingId) (hs : validRef h.size s = true) :
    ∃ g, Link h r s = (g, .ok (link w r s).2) ∧ RingWF g (link w r s).1 := by
  obtain ⟨wf1, lv1⟩ := wf_lazy wf hr
  cases s with
  | none =>
    refine ⟨lazy h r, ?_, wf1⟩
    show ((Next h r).1, Except.ok (Next h r).2) = _
    rw [Next_spec wf hr, link_snd]
  | some s =>
    have hs' : s < (lazy h r).size := by rw [size_lazy]; simpa [validRef] using hs
    obtain ⟨wf2, lv2⟩ := wf_lazy wf1 hs'
    have hn2 : (lazy (lazy h r) s).nx r = some (nextOf w r) := by
      rw [nx_lazy_keep _ _ lv1.2, nx_lazy_self, Next_spec wf hr]
    rw [Link_some_eq, Next_spec wf hr]
    dsimp only
    rw [Prev_spec wf1 hs', link_snd]
    dsimp only
    exact ⟨_, rfl, link_core wf2 (by simpa using hr) lv2 hn2 (Live.links wf2 lv2).2.1 (by simp) (by simp) (by simp)
      (by simp)⟩

theorem Unlink_spec {h : RHeap} {w : RWorld} (wf : RingWF h w) {r : RingId} (hr : r < h.size) (n : Int) :
    ∃ g, Unlink h r n = (g, .ok (unlink w r n).2) ∧ RingWF g (unlink w r n).1 := by
  unfold Unlink unlink
  by_cases hn : n ≤ 0
  · rw [if_pos hn, if_pos hn]
    exact ⟨h, rfl, wf⟩
  · rw [if_neg hn, if_neg hn]
    obtain ⟨hm, lv⟩ := Move_spec wf hr (n + 1)
    obtain ⟨wf1, _⟩ := wf_lazy wf hr
    obtain ⟨g, hl, wf2⟩ := Link_spec wf1 (r := r) (by simpa using hr) (some (moveOf w r (n + 1)))
      (by simpa [validRef] using lv.1)
    rw [hm]
    dsimp only
    rw [hl]
    exact ⟨g, rfl, wf2⟩

end TypVerif.Lemmas.Ring
