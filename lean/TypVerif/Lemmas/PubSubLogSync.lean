import TypVerif.Lemmas.PubSubLogCall
/-
Ghost logs of one call: a PubSync / PubSliceSync call (`SyncInv`: exactly once, in order) and a PubWait / PubSliceWait call (`WaitInv`).

PubSync / PubSliceSync: the order invariant.  From the snapshot on, task `i` is the loop of the call (or has
returned); `keys = pre ++ (keys of the items still to do)`; the entries of `p` in `delivered` and in `timedOut`
are sublists of `pre` (so they appear in publication order) and together they are exactly `pre` (as multisets);
no other task holds an item of `p`.  No reachability / clone hypothesis is needed.
-/
namespace TypVerif.Lemmas.PubSubLog
open TypVerif TypVerif.Model.PubSub TypVerif.Lemmas.PubSubSafe
open PubSubStep (lt_length_of_getElem?)

/-- entries of publisher `p` in `delivered` / `timedOut`, in log order -/
def dP (p : Nat) (s : State) : List Key := s.delivered.filter (fun k => k.1 == p)
def tP (p : Nat) (s : State) : List Key := s.timedOut.filter (fun k => k.1 == p)

/-- the shapes task `i` of a PubSync call of `p` on `o` goes through after the snapshot (every `isCtl` shape, not only the
final `.done`: `TStep.ctl` does not tell them apart) -/
def callTask (p o : Nat) : Task → Bool
  | .syncLoop p' o' _ _ => p' == p && o' == o
  | .pubRet p' => p' == p
  | t => isCtl t

theorem callTask_of_ctl {p o : Nat} {t : Task} (h : isCtl t = true) : callTask p o t = true := by
  cases t <;> first | rfl | cases h

theorem callTask_syncNext (p o : Nat) (w : List Item) : callTask p o (syncNext p o w) = true := by
  cases w <;> simp [syncNext, callTask]

/-- the second part (a loop state comes only from a loop state) is what `subsInv_step` needs -/
theorem tstep_callTask {cfg : Cfg} {s : State} {t t' : Task} {new : List Task} {dl tl : List Key} {p o : Nat}
    (h : TStep cfg s t t' new dl tl) (hc : callTask p o t = true) :
    callTask p o t' = true ∧ ∀ w c, t' = .syncLoop p o w c → ∃ w0 c0, t = .syncLoop p o w0 c0 := by
  have loop : ∀ {p' o' w c}, callTask p o (.syncLoop p' o' w c) = true → p' = p ∧ o' = o := fun h => by
    simpa [callTask] using h
  induction h with
  | stuck _ hn => exact ⟨hc, fun w c e => ⟨w, c, e⟩⟩
  | ctl h1 h2 => exact ⟨callTask_of_ctl h2, fun w c e => by rw [e] at h2; cases h2⟩
  | ret p' => exact ⟨rfl, fun _ _ e => nomatch e⟩
  | syncCb p' o' it rest =>
    obtain ⟨rfl, rfl⟩ := loop hc
    exact ⟨callTask_syncNext _ _ rest, fun _ _ _ => ⟨_, _, rfl⟩⟩
  | syncSent p' o' it rest =>
    obtain ⟨rfl, rfl⟩ := loop hc
    exact ⟨callTask_syncNext _ _ rest, fun _ _ _ => ⟨_, _, rfl⟩⟩
  | syncTmo p' o' it rest htm =>
    obtain ⟨rfl, rfl⟩ := loop hc
    exact ⟨hc, fun _ _ _ => ⟨_, _, rfl⟩⟩
  | _ => cases hc

/-- a transition of the call's own task: it spawns nothing, keeps its shape, and moves at most its head item into
exactly one of the two logs -/
theorem tstep_mine {cfg : Cfg} {s : State} {t t' : Task} {new : List Task} {dl tl : List Key} {p o : Nat}
    (h : TStep cfg s t t' new dl tl) (hc : callTask p o t = true) :
    new = [] ∧ callTask p o t' = true ∧ ∃ moved : List Key, pk t = moved ++ pk t' ∧
      ((dl = moved ∧ tl = []) ∨ (dl = [] ∧ tl = moved ∧ (moved ≠ [] → cfg.timeout > 0))) := by
  have hc' := (tstep_callTask h hc).1
  cases tstep_kind h with
  | quiet _ e hnew hdl htl =>
    subst hnew hdl htl
    exact ⟨rfl, hc', [], by rw [pk, pk, e]; rfl, .inl ⟨rfl, rfl⟩⟩
  | handOff _ _ hnew it e _ hl =>
    subst hnew
    refine ⟨rfl, hc', [key it], by rw [pk, pk, e]; rfl, ?_⟩
    rcases hl with ⟨rfl, rfl⟩ | ⟨rfl, rfl, htm⟩
    · exact .inl ⟨rfl, rfl⟩
    · exact .inr ⟨rfl, rfl, fun _ => htm⟩
  | snapshot _ _ _ _ ht =>
    subst ht
    cases hc
  | drop _ _ ht =>
    subst ht
    cases hc

theorem filter_pid_eq_nil {p : Nat} {l : List Key} (h : ∀ k ∈ l, k.1 ≠ p) : l.filter (fun k => k.1 == p) = [] := by
  rw [List.filter_eq_nil_iff]
  intro k hk hq
  exact h k hk (by simpa using hq)

theorem filter_pid_eq_self {p : Nat} {l : List Key} (h : ∀ k ∈ l, k.1 = p) : l.filter (fun k => k.1 == p) = l := by
  rw [List.filter_eq_self]
  intro k hk
  simpa using h k hk

theorem count_eq_zero_of_pid {p : Nat} {l : List Key} {k : Key} (h : ∀ k ∈ l, k.1 ≠ p) (hk : k.1 = p) :
    l.count k = 0 := by
  rw [List.count_eq_zero]; intro hm; exact h k hm hk

structure SyncInv (i p o : Nat) (keys : List Key) (s : State) : Prop where
  used : p ∈ s.pids
  started : nPS p s = 0
  others : ∀ j t, j ≠ i → s.tasks[j]? = some t → ∀ it ∈ pend t, it.pid ≠ p
  mine : ∃ t pre, s.tasks[i]? = some t ∧ callTask p o t = true ∧ keys = pre ++ pk t ∧
    (dP p s).Sublist pre ∧ (tP p s).Sublist pre ∧ (∀ k : Key, k.1 = p → cL k s = pre.count k)

theorem spawn_getElem? {s s' : State} {ts : List Task} (h : Spawn s s' ts) {j : Nat} {x : Task}
    (hx : s'.tasks[j]? = some x) : s.tasks[j]? = some x ∨ x ∈ ts := by
  rw [h.tasks] at hx
  by_cases hjl : j < s.tasks.length
  · exact .inl (List.getElem?_append_left hjl ▸ hx)
  · exact .inr (List.mem_of_getElem? (List.getElem?_append_right (Nat.le_of_not_lt hjl) ▸ hx))

theorem syncInv_bstep {cfg : Cfg} {i p o : Nat} {keys : List Key} {s s' : State} (hkeys : ∀ k ∈ keys, k.1 = p)
    (hI : SyncInv i p o keys s) (h : BStep cfg s s') : SyncInv i p o keys s' := by
  obtain ⟨t, pre, hi, hct, hk, hd, hto, hcl⟩ := hI.mine
  have hlt := lt_length_of_getElem? hi
  have hu := bstep_pids h hI.used
  have hst := bstep_nPS_zero h hI.used hI.started
  rcases h with ⟨ts, hs⟩ | ⟨j0, t0, hj0, t', new, dl, tl, hT, h1, h2, h3, _⟩
  · refine ⟨hu, hst, fun j x hji hx => ?_, t, pre, ?_, hct, hk, ?_, ?_, fun k hkp => ?_⟩
    · rcases spawn_getElem? hs hx with hx | hx
      · exact hI.others j x hji hx
      · rw [(hs.quiet x hx).1]
        exact fun _ h => nomatch h
    · rw [hs.tasks, List.getElem?_append_left hlt]
      exact hi
    · rw [dP, hs.delivered]
      exact hd
    · rw [tP, hs.timedOut]
      exact hto
    · rw [(spawn_counts hs k).2]
      exact hcl k hkp
  · by_cases hj0i : j0 = i
    · -- the call's own task moves
      subst hj0i
      cases hi.symm.trans hj0
      obtain ⟨rfl, hct', moved, hpk, hlog⟩ := tstep_mine hT hct
      have hmk : ∀ k ∈ moved, k.1 = p := fun k hkm =>
        hkeys k (hk ▸ hpk ▸ List.mem_append_right _ (List.mem_append_left _ hkm))
      refine ⟨hu, hst, fun j x hji hx => ?_, t', pre ++ moved, ?_, hct', by rw [hk, hpk, List.append_assoc], ?_, ?_,
        fun k hkp => ?_⟩
      · rw [h1] at hx
        rcases getElem?_set_append_cases hx with ⟨hjj, _⟩ | ⟨_, hx'⟩ | hx'
        · exact absurd hjj hji
        · exact hI.others j x hji hx'
        · cases hx'
      · rw [h1, List.append_nil]
        exact List.getElem?_set_self hlt
      · rw [dP, h2, List.filter_append]
        rcases hlog with ⟨rfl, rfl⟩ | ⟨rfl, rfl, _⟩
        · rw [filter_pid_eq_self hmk]
          exact hd.append (List.Sublist.refl _)
        · rw [List.filter_nil, List.append_nil]
          exact hd.trans (List.sublist_append_left _ _)
      · rw [tP, h3, List.filter_append]
        rcases hlog with ⟨rfl, rfl⟩ | ⟨rfl, rfl, _⟩
        · rw [List.filter_nil, List.append_nil]
          exact hto.trans (List.sublist_append_left _ _)
        · rw [filter_pid_eq_self hmk]
          exact hto.append (List.Sublist.refl _)
      · rw [cL_append h2 h3 k, hcl k hkp, List.count_append]
        rcases hlog with ⟨rfl, rfl⟩ | ⟨rfl, rfl, _⟩ <;> rfl
    · -- another task moves: nothing of `p` is involved
      have nop : ∀ k : Key, k ∈ pk t' ∨ k ∈ new.flatMap pk ∨ k ∈ dl ∨ k ∈ tl → k.1 ≠ p := fun k hk e => by
        obtain ⟨it, hit, rfl⟩ := List.mem_map.mp (tstep_from hT (e ▸ countP_zero_getElem? hI.started hj0) hk)
        exact hI.others j0 t0 hj0i hj0 it hit e
      have c : ∀ k ∈ dl, k.1 ≠ p := fun k hk => nop k (.inr (.inr (.inl hk)))
      have d : ∀ k ∈ tl, k.1 ≠ p := fun k hk => nop k (.inr (.inr (.inr hk)))
      refine ⟨hu, hst, fun j x hji hx => ?_, t, pre, ?_, hct, hk, ?_, ?_, fun k hkp => ?_⟩
      · rw [h1] at hx
        rcases getElem?_set_append_cases hx with ⟨_, rfl⟩ | ⟨_, hx'⟩ | hx'
        · exact fun it hit => nop _ (.inl (List.mem_map_of_mem hit))
        · exact hI.others j x hji hx'
        · exact fun it hit => nop _ (.inr (.inl (List.mem_flatMap.mpr ⟨x, hx', List.mem_map_of_mem hit⟩)))
      · rw [h1, getElem?_set_append_ne _ _ _ _ _ hj0i hlt]
        exact hi
      · rw [dP, h2, List.filter_append, filter_pid_eq_nil c, List.append_nil]
        exact hd
      · rw [tP, h3, List.filter_append, filter_pid_eq_nil d, List.append_nil]
        exact hto
      · rw [cL_append h2 h3 k, hcl k hkp, count_eq_zero_of_pid c hkp, count_eq_zero_of_pid d hkp]
        rfl

theorem Snapshot.nothing {cfg : Cfg} {s0 s1 : State} {i p o : Nat} {v : Variant} {evs : List Int}
    (h : Snapshot cfg s0 s1 i p o v evs) :
    (∀ t ∈ s0.tasks, ∀ it ∈ pend t, it.pid ≠ p) ∧ ∀ k ∈ logs s0, k.1 ≠ p := by
  refine ⟨cP_zero_iff.mp fun k hk => Nat.eq_zero_of_add_eq_zero_right (h.zero0 k hk), ?_⟩
  · intro k hk hp
    have h0 : cL k s0 = 0 := Nat.eq_zero_of_add_eq_zero_left (h.zero0 k hp)
    exact List.count_eq_zero.mp h0 hk

theorem Snapshot.syncInv {cfg : Cfg} {s0 s1 : State} {i p o : Nat} {v : Variant} {evs : List Int}
    (h : Snapshot cfg s0 s1 i p o v evs) (hv : v.isSync = true) :
    SyncInv i p o (callKeys p evs (s0.obj o).subs) s1 := by
  obtain ⟨a, b, c⟩ := h.counts
  obtain ⟨t', new, hT, h1, _⟩ := h.trans
  have hlt := lt_length_of_getElem? h.at0
  obtain ⟨hz, hlog0⟩ := h.nothing
  rcases (tstep_pubStart hT).2.2 with ⟨_, rfl, rfl⟩ | ⟨hs, _⟩ | ⟨hs, _⟩
  · refine ⟨b, a, fun j x hji hx => ?_, _, [], ?_, callTask_syncNext p o _, (pk_syncNext p o _).symm, ?_, ?_,
      fun k hk => (c k hk).2⟩
    · rw [h1] at hx
      rcases getElem?_set_append_cases hx with ⟨hjj, _⟩ | ⟨_, hx'⟩ | hx'
      · exact absurd hjj hji
      · exact hz x (List.mem_of_getElem? hx')
      · cases hx'
    · rw [h1, List.append_nil]
      exact List.getElem?_set_self hlt
    · rw [dP, h.delivered, filter_pid_eq_nil (fun k hk => hlog0 k (List.mem_append_left _ hk))]
      exact List.Sublist.refl _
    · rw [tP, h.timedOut, filter_pid_eq_nil (fun k hk => hlog0 k (List.mem_append_right _ hk))]
      exact List.Sublist.refl _
  · rw [hv] at hs; cases hs
  · rw [hv] at hs; cases hs

theorem SyncInv.returned {i p o : Nat} {keys : List Key} {s : State} (hI : SyncInv i p o keys s)
    (hret : s.tasks[i]? = some (.pubRet p) ∨ s.tasks[i]? = some .done) :
    (dP p s).Sublist keys ∧ (tP p s).Sublist keys ∧ ∀ k : Key, k.1 = p → cL k s = keys.count k := by
  obtain ⟨t, pre, hi, hct, hk, hd, hto, hcl⟩ := hI.mine
  have hpk : pk t = [] := by
    rcases hret with h | h <;> (rw [hi] at h; cases h; rfl)
  rw [hpk, List.append_nil] at hk
  subst hk
  exact ⟨hd, hto, hcl⟩

/-- a sublist with at least the same counts is the whole list -/
theorem sublist_eq_of_count {α : Type} [BEq α] [LawfulBEq α] {l₁ l₂ : List α} (h : l₁.Sublist l₂)
    (hc : ∀ k, l₂.count k ≤ l₁.count k) : l₁ = l₂ :=
  h.eq_of_length (List.perm_iff_count.mpr fun k => Nat.le_antisymm (h.count_le k) (hc k)).length_eq

/-
PubWait / PubSliceWait: every pending item of the call sits in a `sendWaitGroup` goroutine of the call's WaitGroup
`w`; the call returns only when the counter of `w` is 0, i.e. (counting invariant `Safe.wgc`, system without clones)
when no such goroutine is alive — so nothing of the call is pending any more, and by `CallEq` everything is logged.
-/

/-- a `sendWaitGroup` goroutine holds its item until it stops, and spawns nothing -/
theorem tstep_wgSend {cfg : Cfg} {s : State} {t t' : Task} {new : List Task} {dl tl : List Key} {w : Nat}
    (h : TStep cfg s t t' new dl tl) (hw : isWgSend w t = true) : (t' = t ∨ pend t' = []) ∧ new = [] := by
  cases h with
  | stuck _ hn => exact ⟨.inl rfl, rfl⟩
  | ctl _ h2 => exact ⟨.inr (ctl_quiet h2).1, rfl⟩
  | wgCb o w' it => exact ⟨.inr rfl, rfl⟩
  | wgSent o w' it => exact ⟨.inr rfl, rfl⟩
  | wgTmo o w' it htm => exact ⟨.inr rfl, rfl⟩
  | _ => cases hw

/-- the items of `p` stay in `sendWaitGroup` goroutines of `w`: by `tstep_from` they come from the stepping task, which
then is such a goroutine -/
theorem tstep_wg {cfg : Cfg} {s : State} {t t' : Task} {new : List Task} {dl tl : List Key}
    (h : TStep cfg s t t' new dl tl) (p w : Nat) (hq : isPubStart p t = false)
    (hp : ∀ it ∈ pend t, it.pid = p → isWgSend w t = true) :
    (∀ it ∈ pend t', it.pid = p → isWgSend w t' = true) ∧
    (∀ x ∈ new, ∀ it ∈ pend x, it.pid = p → isWgSend w x = true) := by
  have hw : ∀ it : Item, it.pid = p → key it ∈ pk t' ∨ key it ∈ new.flatMap pk ∨ key it ∈ dl ∨ key it ∈ tl →
      isWgSend w t = true := fun it e hk => by
    subst e
    obtain ⟨it0, h0, e0⟩ := List.mem_map.mp (tstep_from h (k := key it) hq hk)
    exact hp it0 h0 (congrArg (·.1) e0)
  refine ⟨fun it hit e => ?_, fun x hx it hit e => ?_⟩
  · have hwt := hw it e (.inl (List.mem_map_of_mem hit))
    rcases (tstep_wgSend h hwt).1 with rfl | e'
    · exact hwt
    · rw [e'] at hit
      cases hit
  · have hwt := hw it e (.inr (.inl (List.mem_flatMap.mpr ⟨x, hx, List.mem_map_of_mem hit⟩)))
    rw [(tstep_wgSend h hwt).2] at hx
    cases hx

/-- the task of a PubWait call after its snapshot: it waits, returns once the counter is 0, and is finished -/
theorem tstep_waitTask {cfg : Cfg} {s : State} {t t' : Task} {new : List Task} {dl tl : List Key}
    (h : TStep cfg s t t' new dl tl) :
    (∀ p o w, t = .waitWg p o w → t' = t ∨ (t' = .pubRet p ∧ s.wgs.getD w 0 = 0)) ∧
    (∀ p, t = .pubRet p → t' = t ∨ t' = .done) ∧ (isCtl t = true → isCtl t' = true) := by
  induction h with
  | stuck _ hn => exact ⟨fun _ _ _ _ => .inl rfl, fun _ _ => .inl rfl, id⟩
  | ctl h1 h2 =>
    exact ⟨fun _ _ _ e => (by rw [e] at h1; cases h1), fun _ e => (by rw [e] at h1; cases h1), fun _ => h2⟩
  | ret p' => exact ⟨(fun _ _ _ e => nomatch e), fun _ _ => .inr rfl, (fun hc => nomatch hc)⟩
  | waitRet p' o' w' hz =>
    exact ⟨fun _ _ _ e => (by cases e; exact .inr ⟨rfl, hz⟩), (fun _ e => nomatch e), (fun hc => nomatch hc)⟩
  | _ => exact ⟨(fun _ _ _ e => nomatch e), (fun _ e => nomatch e), (fun hc => nomatch hc)⟩

structure WaitInv (i p o w : Nat) (s : State) : Prop where
  started : nPS p s = 0
  wg : ∀ t ∈ s.tasks, ∀ it ∈ pend t, it.pid = p → isWgSend w t = true
  mine : s.tasks[i]? = some (.waitWg p o w) ∨
    ∃ t, s.tasks[i]? = some t ∧ (t = .pubRet p ∨ isCtl t = true) ∧ ∀ k : Key, k.1 = p → cP k s = 0

theorem waitInv_bstep {cfg : Cfg} {i p o w : Nat} {s s' : State} (hs : Safe s) (hused : p ∈ s.pids)
    (hI : WaitInv i p o w s) (h : BStep cfg s s') : WaitInv i p o w s' := by
  have hcP : ∀ k : Key, k.1 = p → cP k s' ≤ cP k s := fun k hk => by
    subst hk
    exact (bstep_counts h k hI.started).2.2
  refine ⟨bstep_nPS_zero h hused hI.started, fun x hx => ?_, ?_⟩
  · rcases h with ⟨ts, hsp⟩ | ⟨j0, t0, hj0, t', new, dl, tl, hT, h1, _⟩
    · rw [hsp.tasks] at hx
      rcases List.mem_append.mp hx with hx | hx
      · exact hI.wg x hx
      · rw [(hsp.quiet x hx).1]
        exact fun _ h => nomatch h
    · rw [h1] at hx
      obtain ⟨a, b⟩ := tstep_wg hT p w (countP_zero_getElem? hI.started hj0) (hI.wg t0 (List.mem_of_getElem? hj0))
      rcases mem_set_append hx with rfl | hx | hx
      · exact a
      · exact hI.wg x hx
      · exact b x hx
  · rcases hI.mine with hi | ⟨t, hi, hshape, hz⟩
    · rcases bstep_at h hi with hi' | ⟨t', new, dl, tl, hT, hi', _⟩
      · exact .inl hi'
      · rcases (tstep_waitTask hT).1 p o w rfl with rfl | ⟨rfl, hz⟩
        · exact .inl hi'
        · -- the counter is 0, so (`Safe.wgc`) no sender of `w` is alive: nothing of `p` is pending
          refine .inr ⟨_, hi', .inl rfl, fun k hk => ?_⟩
          have hc := hs.wgc w
          rw [hz] at hc
          have hnone : ∀ t ∈ s.tasks, ∀ it ∈ pend t, it.pid ≠ p := fun t ht it hit hpid =>
            List.countP_eq_zero.mp hc.symm t ht (hI.wg t ht it hit hpid)
          exact Nat.eq_zero_of_le_zero (cP_zero_iff.mpr hnone k hk ▸ hcP k hk)
    · have hz' : ∀ k : Key, k.1 = p → cP k s' = 0 := fun k hk =>
        Nat.eq_zero_of_le_zero (hz k hk ▸ hcP k hk)
      rcases bstep_at h hi with hi' | ⟨t', new, dl, tl, hT, hi', _⟩
      · exact .inr ⟨t, hi', hshape, hz'⟩
      · refine .inr ⟨t', hi', ?_, hz'⟩
        rcases hshape with rfl | hc
        · rcases (tstep_waitTask hT).2.1 p rfl with rfl | rfl
          · exact .inl rfl
          · exact .inr rfl
        · exact .inr ((tstep_waitTask hT).2.2 hc)

/-- the snapshot step of a PubWait / PubSliceWait call establishes `WaitInv` for a fresh WaitGroup -/
theorem Snapshot.waitInv {cfg : Cfg} {s0 s1 : State} {i p o : Nat} {v : Variant} {evs : List Int}
    (h : Snapshot cfg s0 s1 i p o v evs) (hv : v.isSync = false) (hw : v.isWait = true) :
    WaitInv i p o s0.wgs.length s1 := by
  obtain ⟨t', new, hT, h1, _⟩ := h.trans
  rcases (tstep_pubStart hT).2.2 with ⟨hs, _⟩ | ⟨_, _, rfl, rfl⟩ | ⟨_, hw', _⟩
  · rw [hv] at hs; cases hs
  · refine ⟨h.counts.1, fun x hx it hit hpid => ?_,
      .inl (h1 ▸ getElem?_set_append_self _ _ _ _ (lt_length_of_getElem? h.at0))⟩
    rw [h1] at hx
    rcases mem_set_append hx with rfl | hx | hx
    · cases hit
    · exact absurd hpid (h.nothing.1 x hx it hit)
    · obtain ⟨_, _, rfl⟩ := List.mem_map.mp hx
      exact beq_self_eq_true _
  · rw [hw] at hw'; cases hw'

theorem WaitInv.returned {i p o w : Nat} {s : State} (hI : WaitInv i p o w s)
    (hret : s.tasks[i]? = some (.pubRet p) ∨ s.tasks[i]? = some .done) : ∀ k : Key, k.1 = p → cP k s = 0 := by
  rcases hI.mine with hi | ⟨t, _, _, hz⟩
  · rcases hret with h | h <;> (rw [hi] at h; cases h)
  · exact hz

end TypVerif.Lemmas.PubSubLog
