import TypVerif.Lemmas.ConcAccept
import TypVerif.Lemmas.Once
import TypVerif.Drv.C17
/-
The reduced system `Drv.C17.red` that the C17 judge steps is sound w.r.t. `Model.Once.sys`: each of its steps is a
finite sequence of steps of the model with the same visible label.

`pick` computes the urgent step with `stepT (fun _ => [])`, i.e. with a result function different from the `res` of the
system.  This is harmless: an urgent step is taken at a program counter (`fast`, `check`, `assign _`, `store`, `unlock`,
`lock`) at which `stepT` does not consult `res` (only `inF` does), see `stepT_urgent_res`.
-/
namespace TypVerif.Lemmas.ConcAcceptC17
open TypVerif TypVerif.Conc TypVerif.Model.Once TypVerif.Drv.C17 TypVerif.Lemmas.Once

theorem stepT_urgent_res (res res' : Nat → List Int) (s : State) (t : Nat) (h : urgent s t = true) :
    stepT res s t = stepT res' s t := by
  refine stepT_res res res' s t (fun hpc => ?_)
  rw [urgent, hpc] at h
  cases h

section
variable {res : Nat → List Int} {s s' : State} {t : Nat} {e : Event}

theorem _root_.TypVerif.Lemmas.Once.Step.tid (h : Step res s t (some e) s') : Event.tid e = t := by
  cases h <;> rfl

theorem _root_.TypVerif.Lemmas.Once.Step.not_urgent (h : Step res s t (some e) s') : urgent s t = false := by
  unfold urgent
  cases h <;> rename_i hpc <;> rw [hpc]

end

theorem stepT_urgent_internal (res : Nat → List Int) (s : State) (t : Nat) (h : urgent s t = true) :
    ∀ p ∈ stepT res s t, p.1 = none := by
  intro (l, s') hp
  cases l with
  | none => rfl
  | some e => cases h.symm.trans (mem_stepT.mp hp).not_urgent

/-- `pick` takes an urgent step of the model, whatever the result function of the system -/
theorem pick_spec (res : Nat → List Int) (x x' : State) (h : pick x = some x') :
    ∃ t, t < x.pcs.length ∧ urgent x t = true ∧ (none, x') ∈ stepT res x t := by
  unfold pick at h
  obtain ⟨t, ht, hf⟩ := List.exists_of_findSome?_eq_some h
  split at hf
  · rename_i hu
    obtain ⟨⟨l, q⟩, hp, rfl⟩ := Option.map_eq_some_iff.mp hf
    have hmem : (l, q) ∈ stepT res x t := by
      rw [stepT_urgent_res res (fun _ => []) x t hu]
      exact List.mem_of_head? hp
    cases stepT_urgent_internal res x t hu _ hmem
    exact ⟨t, List.mem_range.1 ht, hu, hmem⟩
  · cases hf

theorem normalize_sound (n arity : Nat) (res : Nat → List Int) (fuel : Nat) :
    ∀ s : State, ∃ ls, Exec (sys n arity res) s ls (normalize fuel s) ∧ visible ls = [] := by
  induction fuel with
  | zero => intro s; exact ⟨[], Exec.nil _, rfl⟩
  | succ fuel ih =>
    intro s
    unfold normalize
    split
    · rename_i s' hp
      obtain ⟨t, ht, _, hm⟩ := pick_spec res s s' hp
      obtain ⟨ls, hex, hv⟩ := ih s'
      exact ⟨none :: ls, Exec.cons (mem_succ.2 ⟨t, ht, hm⟩) hex, by simpa using hv⟩
    · exact ⟨[], Exec.nil _, rfl⟩

theorem red_step_sound (n arity : Nat) (res : Nat → List Int) (s s' : State) (l : Option Event)
    (h : (l, s') ∈ (red n arity res).succ s) :
    ∃ ls, Exec (sys n arity res) s ls s' ∧
      visible ls = (match (generalizing := false) l with | some e => [e] | none => []) := by
  have h : (l, s') ∈ (match pick s with
      | some _ => [((none : Option Event), normalize (4 * s.pcs.length + 8) s)]
      | none => succ res s) := h
  split at h
  · simp only [List.mem_singleton, Prod.mk.injEq] at h
    obtain ⟨rfl, rfl⟩ := h
    exact normalize_sound n arity res _ s
  · exact ⟨[l], Exec.single h, by cases l <;> rfl⟩

theorem red_exec_sound (n arity : Nat) (res : Nat → List Int) {a b : State} {ls' : List (Option Event)}
    (h : Exec (red n arity res) a ls' b) :
    ∃ ls, Exec (sys n arity res) a ls b ∧ visible ls = visible ls' := by
  obtain ⟨_, ls, hex, hv, rfl⟩ := Exec.rel_sim (i' := init n arity) (succ' := succ res) (fun s t => s = t)
    (fun s l s' _ e hm => by
      subst e
      obtain ⟨ls, hex, hv⟩ := red_step_sound n arity res s s' l hm
      exact ⟨s', ls, hex, by cases l <;> exact hv, rfl⟩) h a rfl
  exact ⟨ls, hex, hv⟩

end TypVerif.Lemmas.ConcAcceptC17
