import TypVerif.Lemmas.RingHeap
/-
The read-only loops of `Len`, `Do` and of the forward / backward walks, run on a linked ring.
-/
namespace TypVerif.Lemmas.Ring
open TypVerif.Model TypVerif.Model.Ring TypVerif.Spec.RingOp TypVerif.Spec.RingSeq

/-- following `f` from `p` visits the cells of `l`, none of them `r`, and then arrives at `r` -/
def Walk (f : PF) (r : RingId) : Option RingId → List RingId → Prop
  | p, [] => p = some r
  | p, a :: l => p = some a ∧ a ≠ r ∧ Walk f r (f a) l

theorem Chain.walk {f : PF} {r : RingId} : ∀ {l : List RingId} {a : RingId}, Chain f (a :: (l ++ [r])) → r ∉ l →
    Walk f r (f a) l
  | [], _, h, _ => h.1
  | _ :: _, _, h, hr => ⟨h.1, fun e => hr (e ▸ List.mem_cons_self), Chain.walk h.2 fun h' => hr (List.mem_cons_of_mem _ h')⟩

theorem Next_of_some {h : RHeap} {a q : RingId} (e : h.nx a = some q) : Next h a = (h, q) := by
  unfold Next; rw [e]

theorem Prev_of_some {h : RHeap} {a q : RingId} (e : h.nx a = some q) : Prev h a = (h, h.pv a) := by
  unfold Prev; rw [e]

theorem lenLoop_walk (h : RHeap) (r : RingId) : ∀ (l : List RingId) (fuel : Nat) (p : Option RingId) (n : Int),
    Walk h.nx r p l → l.length ≤ fuel → lenLoop h r fuel p n = .ok (n + (l.length : Int)) := by
  intro l
  induction l with
  | nil =>
    intro fuel p n hw _
    cases hw
    cases fuel <;> simp [lenLoop]
  | cons a l' ih =>
    intro fuel p n hw hf
    obtain ⟨rfl, hne, hw⟩ := hw
    cases fuel with
    | zero => simp at hf
    | succ fuel =>
      simp only [lenLoop, Option.some.injEq, hne, if_false]
      rw [ih fuel _ (n + 1) hw (by simp at hf; omega)]
      simp only [List.length_cons]
      congr 1
      omega

theorem doLoop_walk (h : RHeap) (r : RingId) : ∀ (l : List RingId) (fuel : Nat) (p : Option RingId) (acc : List Int),
    Walk h.nx r p l → l.length ≤ fuel → doLoop h r fuel p acc = .ok (acc ++ l.map h.val) := by
  intro l
  induction l with
  | nil =>
    intro fuel p acc hw _
    cases hw
    cases fuel <;> simp [doLoop]
  | cons a l' ih =>
    intro fuel p acc hw hf
    obtain ⟨rfl, hne, hw⟩ := hw
    cases fuel with
    | zero => simp at hf
    | succ fuel =>
      simp only [doLoop, Option.some.injEq, hne, if_false]
      rw [ih fuel _ _ hw (by simp at hf; omega)]
      simp

theorem fwdLoop_walk (h : RHeap) (r : RingId) : ∀ (l : List RingId) (fuel : Nat) (p : RingId),
    Walk h.nx r (some p) l → fwdLoop r fuel h p = (h, l.take fuel) := by
  intro l
  induction l with
  | nil =>
    intro fuel p hw
    cases hw
    cases fuel <;> simp [fwdLoop]
  | cons a l' ih =>
    intro fuel p hw
    obtain ⟨e, hne, hw⟩ := hw
    cases e
    cases fuel with
    | zero => simp [fwdLoop]
    | succ fuel =>
      obtain ⟨q, hq⟩ : ∃ q, h.nx a = some q := by
        cases l' with
        | nil => exact ⟨_, hw⟩
        | cons _ _ => exact ⟨_, hw.1⟩
      rw [hq] at hw
      simp only [fwdLoop, hne, if_false, Next_of_some hq]
      rw [ih fuel q hw]
      simp

theorem bwdLoop_walk (h : RHeap) (r : RingId) : ∀ (l : List RingId) (fuel : Nat) (p : Option RingId),
    Walk h.pv r p l → (∀ y ∈ l, h.nx y ≠ none) → bwdLoop r fuel h p = (h, .ok (l.take fuel)) := by
  intro l
  induction l with
  | nil =>
    intro fuel p hw _
    cases hw
    cases fuel <;> simp [bwdLoop]
  | cons a l' ih =>
    intro fuel p hw hi
    obtain ⟨rfl, hne, hw⟩ := hw
    cases fuel with
    | zero => simp [bwdLoop]
    | succ fuel =>
      obtain ⟨q, hq⟩ := Option.ne_none_iff_exists'.1 (hi a List.mem_cons_self)
      simp only [bwdLoop, Option.some.injEq, hne, if_false, Prev_of_some hq]
      rw [ih fuel (h.pv a) hw fun y hy => hi y (List.mem_cons_of_mem _ hy)]
      simp

/-- fewer cells than the heap: fuel `size` is enough for one round of a loop -/
theorem bridge_bounded {h : RHeap} {w : RWorld} (wf : RingWF h w) {r : RingId} (hr : Live h r) :
    ∃ t, cycOf w r = r :: t ∧ Linked h.nx h.pv (r :: t ++ [r]) ∧ (r :: t).Nodup ∧ t.length < h.size ∧
      ∀ y ∈ r :: t, Live h y := by
  obtain ⟨c, t, hc, _, hcy, hperm, live, hl⟩ := bridge wf hr
  refine ⟨t, hcy, hl, hperm.nodup_iff.2 (cycle_nodup wf.world.nodup hc), ?_, fun y hy => live y (hperm.mem_iff.1 hy)⟩
  have := cycle_length_le wf.world hc
  rw [← hperm.length_eq, ← wf.size_eq] at this
  exact this

theorem next_walk {h : RHeap} {w : RWorld} (wf : RingWF h w) {r : RingId} (hr : r < h.size) :
    ∃ t, cycOf w r = r :: t ∧ Walk (lazy h r).nx r (some (nextOf w r)) t ∧ t.length ≤ h.size ∧
      ∀ y ∈ t, y < h.size := by
  obtain ⟨wf1, lv⟩ := wf_lazy wf hr
  obtain ⟨t, hcy, hl, hnd, hlen, hmem⟩ := bridge_bounded wf1 lv
  rw [size_lazy] at hlen
  exact ⟨t, hcy, (Live.links wf1 lv).1.1 ▸ hl.chain_nx.walk (List.nodup_cons.1 hnd).1, Nat.le_of_lt hlen,
    fun y hy => size_lazy h r ▸ (hmem y (List.mem_cons_of_mem _ hy)).1⟩

theorem Len_spec {h : RHeap} {w : RWorld} (wf : RingWF h w) {r : RingId} (hr : r < h.size) :
    Len h r = (lazy h r, .ok ((cycOf w r).length : Int)) := by
  obtain ⟨t, hcy, hw, hlen, _⟩ := next_walk wf hr
  show (lazy h r, lenLoop (lazy h r) r (lazy h r).size (some (Next h r).2) 1) = _
  rw [Next_spec wf hr, size_lazy, lenLoop_walk (lazy h r) r t _ _ 1 hw hlen, hcy, List.length_cons,
    Int.natCast_add, Int.add_comm]
  rfl

theorem Do_spec {h : RHeap} {w : RWorld} (wf : RingWF h w) {r : RingId} (hr : r < h.size) :
    Do h r = (lazy h r, .ok ((cycOf w r).map (fun (i : RingId) => (i : Int)))) := by
  obtain ⟨t, hcy, hw, hlen, hmem⟩ := next_walk wf hr
  show (lazy h r, doLoop (lazy h r) r (lazy h r).size (some (Next h r).2) [h.val r]) = _
  rw [Next_spec wf hr, size_lazy, doLoop_walk (lazy h r) r t _ _ _ hw hlen, hcy, List.map_cons,
    wf.value_eq r hr, val_lazy]
  exact congrArg (fun l => (lazy h r, Except.ok ((r : Int) :: l)))
    (List.map_congr_left fun y hy => wf.value_eq y (hmem y hy))

theorem Fwd_spec {h : RHeap} {w : RWorld} (wf : RingWF h w) {r : RingId} (hr : r < h.size) (fuel : Nat) :
    Fwd h r (fuel + 1) = (lazy h r, (cycOf w r).take (fuel + 1)) := by
  obtain ⟨t, hcy, hw, _, _⟩ := next_walk wf hr
  have e2 : Fwd h r (fuel + 1) = ((fwdLoop r fuel (Next h r).1 (Next h r).2).1, r :: (fwdLoop r fuel (Next h r).1 (Next h r).2).2) := rfl
  rw [e2, Next_spec wf hr, fwdLoop_walk (lazy h r) r t fuel (nextOf w r) hw, hcy]
  rfl

theorem Bwd_spec {h : RHeap} {w : RWorld} (wf : RingWF h w) {r : RingId} (hr : r < h.size) (fuel : Nat) :
    Bwd h r (fuel + 1) = (lazy h r, .ok ((r :: (cycOf w r).tail.reverse).take (fuel + 1))) := by
  obtain ⟨wf1, lv⟩ := wf_lazy wf hr
  obtain ⟨t, hcy, hl, hnd, _, hmem⟩ := bridge_bounded wf1 lv
  have hrev : Chain (lazy h r).pv (r :: (t.reverse ++ [r])) := by
    have := hl.chain_pv
    simpa using this
  have e := bwdLoop_walk (lazy h r) r t.reverse fuel _
    (hrev.walk fun hy => (List.nodup_cons.1 hnd).1 (List.mem_reverse.1 hy))
    fun y hy => (hmem y (List.mem_cons_of_mem _ (List.mem_reverse.1 hy))).2
  have e2 : Bwd h r (fuel + 1) = (match bwdLoop r fuel (Prev h r).1 (Prev h r).2 with
    | (h2, .ok l) => (h2, .ok (r :: l))
    | (h2, .error e) => (h2, .error e)) := rfl
  rw [e2, Prev_eq, e, hcy]
  simp

end TypVerif.Lemmas.Ring
