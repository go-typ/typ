import TypVerif.Lemmas.C09AcceptStep
/-
Acceptance soundness for the judge `Drv/C09.lean`: the fold of `Drv.C09.step` over the lines of a scenario.
-/
namespace TypVerif.Lemmas.C09Accept
open TypVerif TypVerif.Conc TypVerif.Model.KeyedMutex TypVerif.Drv.C09 TypVerif.Proto

/-- the event an `inv` / `res` line stands for (lines the judge answers with `bad-op`, the header and the `step` / `iter` lines
stand for none) -/
def lineEvent (toks : List Val) : Option Event :=
  match toks with
  | [.w "inv", .i t, .w kd, .i k] =>
    match kindOf kd with
    | some kind => if t < 0 || k < 0 then none else some (.inv t.toNat ⟨kind, k.toNat⟩)
    | none => none
  | [.w "res", .i t, .w r] =>
    match resOf r with
    | some res => if t < 0 then none else some (.res t.toNat res)
    | none => none
  | _ => none

def evT : Event → Nat
  | .inv t _ => t
  | .res t _ => t

/-- the alphabet the judge uses for the event: the operation of an invocation -/
def evOps : Event → List Op
  | .inv _ op => [op]
  | .res _ _ => []

/-- what `Drv.C09.modelStep` does to the state set: pad, then `Conc.stepEvent` (reference judge) or `Drv.C09.stepEvent` -/
def advance (ref : Bool) (rw : Bool) (ss : List State) (e : Event) : List State :=
  if ref then Conc.stepEvent (sys rw 0 (evOps e)) 64 (ss.map (pad (evT e))) e
  else Drv.C09.stepEvent rw (evOps e) (ss.map (pad (evT e))) e

/-- the judge's state after the lines, outputs dropped -/
def runLines (ref : Bool) (st : St) (lines : List (List Val × String)) : St :=
  lines.foldl (fun st l => (step ref st l.1 l.2).1) st

/-- the two judge states agree on the model side -/
def SameModel (s s' : St) : Prop :=
  s.started = s'.started ∧ s.rw = s'.rw ∧ s.ss = s'.ss ∧ s.rejected = s'.rejected ∧ s.outside = s'.outside

theorem SameModel.refl (s : St) : SameModel s s := ⟨rfl, rfl, rfl, rfl, rfl⟩

theorem SameModel.ite {α : Type} (g : α → St) {c : Prop} [Decidable c] {a b : α} {st : St}
    (ha : SameModel (g a) st) (hb : SameModel (g b) st) : SameModel (g (if c then a else b)) st := by
  split
  · exact ha
  · exact hb

/-- only the specification side changes -/
theorem SameModel.spec {s st : St} (h : SameModel s st) (wh rh : List (Nat × Nat)) (pend : List Pend)
    (violated : Option String) : SameModel ⟨s.started, s.rw, s.ss, s.rejected, wh, rh, pend, violated, s.outside⟩ st := h

theorem violate_model (st : St) (msg : String) : SameModel (violate st msg) st := by
  unfold violate
  split <;> exact .refl st

theorem specRes_model (st : St) (t : Nat) (r : Res) : SameModel (specRes st t r).1 st := by
  unfold specRes
  split
  · exact .refl st
  · dsimp only
    split
    · exact (SameModel.ite id (violate_model _ _) (.refl _)).spec ..
    · exact (SameModel.ite id (violate_model _ _) (.refl _)).spec ..
    · exact (SameModel.ite id (violate_model _ _) (.refl _)).spec ..
    · exact (SameModel.ite id (violate_model _ _) (.refl _)).spec ..
    · exact SameModel.ite Prod.fst (.refl _) (violate_model _ _)
    · exact SameModel.ite Prod.fst (.refl _) (violate_model _ _)
    · exact .refl _

theorem specInv_model (st : St) (t : Nat) (kd : Kind) (k : Nat) : SameModel (specInv st t kd k).1 st := by
  cases kd
  case unlock => exact SameModel.ite Prod.fst (.refl _) (.refl _)
  case runlock => exact SameModel.ite Prod.fst (.refl _) (.refl _)
  all_goals exact .refl _

theorem modelStep_cases (ref : Bool) (st : St) (e : Event) (name : String) :
    (∃ r, st.rejected = some r ∧ modelStep ref st (evT e) (evOps e) e name = (st, r)) ∨
    (st.rejected = none ∧ advance ref st.rw st.ss e = [] ∧
      modelStep ref st (evT e) (evOps e) e name =
        ({ st with ss := [], rejected := some ("rejected:" ++ name) }, "rejected:" ++ name)) ∨
    (st.rejected = none ∧ advance ref st.rw st.ss e ≠ [] ∧
      modelStep ref st (evT e) (evOps e) e name = ({ st with ss := advance ref st.rw st.ss e }, "ok")) := by
  unfold modelStep
  cases hr : st.rejected with
  | some r => exact .inl ⟨r, rfl, rfl⟩
  | none =>
    right
    dsimp only
    generalize hadv : (if ref then Conc.stepEvent (sys st.rw 0 (evOps e)) 64 (st.ss.map (pad (evT e))) e
      else Drv.C09.stepEvent st.rw (evOps e) (st.ss.map (pad (evT e))) e) = adv
    rw [show advance ref st.rw st.ss e = adv from hadv]
    cases adv with
    | nil => exact .inl ⟨rfl, rfl, rfl⟩
    | cons y ys => exact .inr ⟨rfl, List.cons_ne_nil _ _, rfl⟩

theorem lineEvent_cases {toks : List Val} {e : Event} (hp : lineEvent toks = some e) :
    (∃ t kd k kind, toks = [.w "inv", .i t, .w kd, .i k] ∧ kindOf kd = some kind ∧ (t < 0 || k < 0) = false ∧
      e = .inv t.toNat ⟨kind, k.toNat⟩) ∨
    (∃ t r res, toks = [.w "res", .i t, .w r] ∧ resOf r = some res ∧ ¬ t < 0 ∧ e = .res t.toNat res) := by
  unfold lineEvent at hp
  split at hp
  · rename_i t kd k
    split at hp
    · rename_i kind hkind
      split at hp
      · cases hp
      · rename_i hneg
        exact .inl ⟨t, kd, k, kind, rfl, hkind, Bool.eq_false_iff.mpr hneg, (Option.some.inj hp).symm⟩
    · cases hp
  · rename_i t r
    split at hp
    · rename_i res hres
      split at hp
      · cases hp
      · rename_i hneg
        exact .inr ⟨t, r, res, rfl, hres, hneg, (Option.some.inj hp).symm⟩
    · cases hp
  · cases hp

/-- `Drv.C09.step` on a line that stands for an event: either the ClearKey proviso puts (or keeps) the judge outside the property
and the model is not consulted, or the model side of the new state and the model verdict are those of `Drv.C09.modelStep` -/
theorem step_event (ref : Bool) (st : St) (toks : List Val) (impl : String) (e : Event)
    (hp : lineEvent toks = some e) (hst : st.started = true) :
    ((step ref st toks impl).1.outside = true ∧ (step ref st toks impl).1.started = true ∧
      (step ref st toks impl).1.rw = st.rw ∧ (step ref st toks impl).1.rejected = st.rejected ∧
      (step ref st toks impl).2.model = "ok") ∨
    (st.outside = false ∧ ∃ name, SameModel (step ref st toks impl).1 (modelStep ref st (evT e) (evOps e) e name).1 ∧
      (step ref st toks impl).2.model = (modelStep ref st (evT e) (evOps e) e name).2) := by
  rcases lineEvent_cases hp with ⟨t, kd, k, kind, rfl, hkind, hneg, rfl⟩ | ⟨t, r, res, rfl, hres, hneg, rfl⟩
  · simp only [step, hst, hkind, hneg, Bool.false_eq_true, if_false]
    split
    · exact .inl ⟨rfl, rfl, rfl, rfl, rfl⟩
    · rename_i hout
      refine .inr ⟨?_, _, specInv_model _ _ _ _, rfl⟩
      cases ho : st.outside with
      | false => rfl
      | true => rw [ho] at hout; exact absurd rfl hout
  · simp only [step, hst, hres, hneg, if_false]
    split
    · rename_i hout
      exact .inl ⟨hout, hst, rfl, rfl, rfl⟩
    · rename_i hout
      exact .inr ⟨Bool.eq_false_iff.mpr hout, _, specRes_model _ _ _, rfl⟩

/-- the outcomes of `Drv.C09.step` on a line that stands for an event `e`, read off the state `st'` and the model verdict it
returns: outside the property (the model is not consulted); already rejected; `advance` is empty and the judge rejects; or the
state set becomes `advance` and the verdict is `ok` -/
inductive StepCase (ref : Bool) (st : St) (e : Event) (st' : St) (model : String) : Prop
  | outside (out : st'.outside = true) (rej : st'.rejected = st.rejected) (ok : model = "ok")
  | rejectedBefore (r : String) (in0 : st.outside = false) (rej0 : st.rejected = some r) (rej : st'.rejected = some r)
  | rejects (r : String) (in0 : st.outside = false) (in1 : st'.outside = false)
      (adv : advance ref st.rw st.ss e = []) (ss : st'.ss = []) (rej : st'.rejected = some r)
  | advances (in0 : st.outside = false) (in1 : st'.outside = false) (rej0 : st.rejected = none)
      (adv : advance ref st.rw st.ss e ≠ []) (ss : st'.ss = advance ref st.rw st.ss e) (rej : st'.rejected = none)
      (ok : model = "ok")

theorem step_cases (ref : Bool) (st : St) (toks : List Val) (impl : String) (e : Event)
    (hp : lineEvent toks = some e) (hst : st.started = true) :
    (step ref st toks impl).1.started = true ∧ (step ref st toks impl).1.rw = st.rw ∧
    StepCase ref st e (step ref st toks impl).1 (step ref st toks impl).2.model := by
  rcases step_event ref st toks impl e hp hst with ⟨h1, h2, h3, h4, h5⟩ | ⟨ho, name, ⟨s1, s2, s3, s4, s5⟩, hm⟩
  · exact ⟨h2, h3, .outside h1 h4 h5⟩
  · rcases modelStep_cases ref st e name with ⟨r, hr, hs⟩ | ⟨hr, ha, hs⟩ | ⟨hr, ha, hs⟩
    all_goals rw [hs] at s1 s2 s3 s4 s5 hm
    · exact ⟨s1.trans hst, s2, .rejectedBefore r ho hr (s4.trans hr)⟩
    · exact ⟨s1.trans hst, s2, .rejects _ ho (s5.trans ho) ha s3 s4⟩
    · exact ⟨s1.trans hst, s2, .advances ho (s5.trans ho) hr ha s3 (s4.trans hr) hm⟩

/-- what soundness reads off `step_cases` -/
theorem step_parsed (ref : Bool) (st : St) (toks : List Val) (impl : String) (e : Event)
    (hp : lineEvent toks = some e) (hst : st.started = true) :
    (step ref st toks impl).1.started = true ∧ (step ref st toks impl).1.rw = st.rw ∧
    ((step ref st toks impl).1.outside = false → st.outside = false) ∧
    ((step ref st toks impl).1.rejected = none → st.rejected = none) ∧
    ((step ref st toks impl).1.outside = false → (step ref st toks impl).1.rejected = none →
      (step ref st toks impl).1.ss = advance ref st.rw st.ss e ∧ (step ref st toks impl).1.ss ≠ []) := by
  obtain ⟨h1, h2, h⟩ := step_cases ref st toks impl e hp hst
  refine ⟨h1, h2, ?_⟩
  cases h with
  | outside out rej _ =>
    exact ⟨fun h => absurd (h.symm.trans out) Bool.false_ne_true, fun h => rej.symm.trans h,
      fun h => absurd (h.symm.trans out) Bool.false_ne_true⟩
  | rejectedBefore r in0 _ rej =>
    exact ⟨fun _ => in0, fun h => absurd (rej.symm.trans h) (Option.some_ne_none r),
      fun _ h => absurd (rej.symm.trans h) (Option.some_ne_none r)⟩
  | rejects r in0 _ _ _ rej =>
    exact ⟨fun _ => in0, fun h => absurd (rej.symm.trans h) (Option.some_ne_none r),
      fun _ h => absurd (rej.symm.trans h) (Option.some_ne_none r)⟩
  | advances in0 _ rej0 adv ss _ _ => exact ⟨fun _ => in0, fun _ => rej0, fun _ _ => ⟨ss, ss ▸ adv⟩⟩

/-- what completeness reads off `step_cases` (with `step_model_ok`) -/
theorem step_parsed_complete (ref : Bool) (st : St) (toks : List Val) (impl : String) (e : Event)
    (hp : lineEvent toks = some e) (hst : st.started = true) (hrej : st.rejected = none) :
    ((step ref st toks impl).1.outside = true ∧ (step ref st toks impl).1.rejected = none) ∨
    ((step ref st toks impl).1.outside = false ∧ st.outside = false ∧
      (step ref st toks impl).1.ss = advance ref st.rw st.ss e ∧
      (advance ref st.rw st.ss e ≠ [] → (step ref st toks impl).1.rejected = none)) := by
  cases (step_cases ref st toks impl e hp hst).2.2 with
  | outside out rej _ => exact .inl ⟨out, rej.trans hrej⟩
  | rejectedBefore r _ rej0 _ => exact absurd (rej0.symm.trans hrej) (Option.some_ne_none r)
  | rejects _ in0 in1 adv ss _ => exact .inr ⟨in1, in0, ss.trans adv.symm, fun h => absurd adv h⟩
  | advances in0 in1 _ _ ss rej _ => exact .inr ⟨in1, in0, ss, fun _ => rej⟩

theorem step_model_ok (ref : Bool) (st : St) (toks : List Val) (impl : String) (e : Event)
    (hp : lineEvent toks = some e) (hst : st.started = true)
    (hrej : (step ref st toks impl).1.rejected = none) : (step ref st toks impl).2.model = "ok" := by
  cases (step_cases ref st toks impl e hp hst).2.2 with
  | outside _ _ ok => exact ok
  | rejectedBefore r _ _ rej => exact absurd (rej.symm.trans hrej) (Option.some_ne_none r)
  | rejects r _ _ _ _ rej => exact absurd (rej.symm.trans hrej) (Option.some_ne_none r)
  | advances _ _ _ _ _ _ ok => exact ok

/-- the judge state `x` stands (via `Q`) for a model state reached from an initial state by an execution with visible trace `tr`.
`N`, `ops` are existential: every event re-runs the execution so far with more idle goroutines and a larger alphabet (`track_advance`). -/
def Track (Q : State → State → Prop) (rw : Bool) (tr : List Event) (x : State) : Prop :=
  ∃ (N : Nat) (ops : List Op) (ls : List (Option Event)) (a : State),
    Ex rw ops (init N) ls a ∧ visible ls = tr ∧ Q a x

theorem track_advance (Q : State → State → Prop) (hpad : ∀ t a x, Q a x → Q (pad t a) (pad t x))
    (rw : Bool) (ops : List Op) (e : Event) (t : Nat) (tr : List Event) (ss ss' : List State)
    (hall : ∀ x ∈ ss, Track Q rw tr x) (hs : StepSound Q rw ops e (ss.map (pad t)) ss') :
    ∀ y ∈ ss', Track Q rw (tr ++ [e]) y := by
  intro y hy
  obtain ⟨x', hx', hq⟩ := hs y hy
  obtain ⟨x, hx, rfl⟩ := List.mem_map.1 hx'
  obtain ⟨N, ops0, ls, a, hex, hv, hQ⟩ := hall x hx
  obtain ⟨ls', a', hex', hv', hQ'⟩ := hq (pad t a) (hpad t a x hQ)
  rw [pad_eq_padBy] at hex'
  have h1 := (hex.padBy (t + 1 - a.pcs.length)).ops_mono (ops' := ops0 ++ ops) (fun _ h => List.mem_append_left _ h)
  rw [padBy_init] at h1
  have h2 := hex'.ops_mono (ops' := ops0 ++ ops) (fun _ h => List.mem_append_right _ h)
  exact ⟨_, _, ls ++ ls', a', h1.append h2, by simp [hv, hv'], hQ'⟩

/-- invariant of the fold: while the judge is inside the property and has not rejected, its state set is non-empty and every state
stands for a model state reached by an execution with the events read so far as visible trace -/
def Inv (Q : State → State → Prop) (st : St) (tr : List Event) : Prop :=
  st.started = true ∧
  (st.outside = false → st.rejected = none → st.ss ≠ [] ∧ ∀ x ∈ st.ss, Track Q st.rw tr x)

theorem inv_runLines (ref : Bool) (Q : State → State → Prop) (hpad : ∀ t a x, Q a x → Q (pad t a) (pad t x))
    (hadv : ∀ rw ss e, StepSound Q rw (evOps e) e (ss.map (pad (evT e))) (advance ref rw ss e)) :
    ∀ (lines : List (List Val × String)) (tr : List Event) (st : St) (tr0 : List Event),
      Inv Q st tr0 → lines.map (fun l => lineEvent l.1) = tr.map some →
      Inv Q (runLines ref st lines) (tr0 ++ tr) ∧ (runLines ref st lines).rw = st.rw := by
  intro lines
  induction lines with
  | nil =>
    intro tr st tr0 hI hp
    cases tr with
    | nil => simpa [runLines] using hI
    | cons _ _ => simp at hp
  | cons l lines ih =>
    intro tr st tr0 hI hp
    cases tr with
    | nil => simp at hp
    | cons e tr =>
      simp only [List.map_cons, List.cons.injEq] at hp
      obtain ⟨hpe, hp⟩ := hp
      obtain ⟨p1, p2, p3, p4, p5⟩ := step_parsed ref st l.1 l.2 e hpe hI.1
      have hI' : Inv Q (step ref st l.1 l.2).1 (tr0 ++ [e]) := by
        refine ⟨p1, fun ho hr => ?_⟩
        obtain ⟨hss, hne⟩ := p5 ho hr
        refine ⟨hne, ?_⟩
        rw [hss, p2]
        exact track_advance Q hpad st.rw (evOps e) e (evT e) tr0 st.ss _ (hI.2 (p3 ho) (p4 hr)).2 (hadv st.rw st.ss e)
      obtain ⟨hfin, hrw⟩ := ih tr (step ref st l.1 l.2).1 (tr0 ++ [e]) hI' hp
      refine ⟨?_, ?_⟩
      · simpa [runLines, List.append_assoc] using hfin
      · show (runLines ref (step ref st l.1 l.2).1 lines).rw = st.rw
        rw [hrw, p2]

theorem sticky_runLines (ref : Bool) :
    ∀ (lines : List (List Val × String)) (tr : List Event) (st : St), st.started = true →
      lines.map (fun l => lineEvent l.1) = tr.map some →
      (runLines ref st lines).started = true ∧
      ((runLines ref st lines).outside = false → st.outside = false) ∧
      ((runLines ref st lines).rejected = none → st.rejected = none) := by
  intro lines
  induction lines with
  | nil => intro tr st hs _; exact ⟨hs, fun h => h, fun h => h⟩
  | cons l lines ih =>
    intro tr st hs hp
    cases tr with
    | nil => simp at hp
    | cons e tr =>
      simp only [List.map_cons, List.cons.injEq] at hp
      obtain ⟨hpe, hp⟩ := hp
      obtain ⟨p1, _, p3, p4, _⟩ := step_parsed ref st l.1 l.2 e hpe hs
      obtain ⟨q1, q2, q3⟩ := ih tr (step ref st l.1 l.2).1 p1 hp
      exact ⟨q1, fun h => p3 (q2 h), fun h => p4 (q3 h)⟩

theorem runLines_append (ref : Bool) (st : St) (l1 l2 : List (List Val × String)) :
    runLines ref st (l1 ++ l2) = runLines ref (runLines ref st l1) l2 := by
  simp [runLines, List.foldl_append]

theorem step_header (ref : Bool) (st0 : St) (rwi : Int) (impl0 : String) :
    (step ref st0 [.w "km", .i rwi] impl0).1 = { started := true, rw := rwi != 0, ss := [init 0] } := rfl

theorem fold_sound (ref : Bool) (Q : State → State → Prop) (hQ0 : Q (init 0) (init 0))
    (hpad : ∀ t a x, Q a x → Q (pad t a) (pad t x))
    (hadv : ∀ rw ss e, StepSound Q rw (evOps e) e (ss.map (pad (evT e))) (advance ref rw ss e))
    (st0 : St) (rwi : Int) (impl0 : String) (lines1 lines2 : List (List Val × String)) (tr1 tr2 : List Event)
    (hp1 : lines1.map (fun l => lineEvent l.1) = tr1.map some)
    (hp2 : lines2.map (fun l => lineEvent l.1) = tr2.map some)
    (hout : (runLines ref (step ref st0 [.w "km", .i rwi] impl0).1 lines1).outside = false)
    (hok : (runLines ref (step ref st0 [.w "km", .i rwi] impl0).1 (lines1 ++ lines2)).rejected = none) :
    ∃ (N : Nat) (ops : List Op) (ls : List (Option Event)) (s : State),
      Exec (sys (rwi != 0) N ops) (sys (rwi != 0) N ops).init ls s ∧ visible ls = tr1 := by
  rw [step_header] at hout hok
  have hI0 : Inv Q ({ started := true, rw := rwi != 0, ss := [init 0] } : St) [] := by
    refine ⟨rfl, fun _ _ => ⟨by simp, ?_⟩⟩
    intro x hx
    rw [List.mem_singleton.1 hx]
    exact ⟨0, [], [], init 0, .nil _, rfl, hQ0⟩
  obtain ⟨hI, hrw⟩ := inv_runLines ref Q hpad hadv lines1 tr1 _ [] hI0 hp1
  rw [runLines_append] at hok
  have hrej := (sticky_runLines ref lines2 tr2 _ hI.1 hp2).2.2 hok
  obtain ⟨hne, hall⟩ := hI.2 hout hrej
  cases hss : (runLines ref ({ started := true, rw := rwi != 0, ss := [init 0] } : St) lines1).ss with
  | nil => exact absurd hss hne
  | cons x _ =>
    obtain ⟨N, ops, ls, a, hex, hv, _⟩ := hall x (by rw [hss]; exact List.mem_cons_self)
    rw [hrw] at hex
    exact ⟨N, ops, ls, a, exec_of_ex N hex, by simpa using hv⟩

theorem advance_ref_sound (rw : Bool) (ss : List State) (e : Event) :
    StepSound Eq rw (evOps e) e (ss.map (pad (evT e))) (advance true rw ss e) := by
  intro y hy
  rw [show advance true rw ss e = Conc.stepEvent (sys rw 0 (evOps e)) 64 (ss.map (pad (evT e))) e from if_pos rfl] at hy
  obtain ⟨x, hx, ls, hex, hv⟩ := Conc.stepEvent_sound (sys rw 0 (evOps e)) 64 _ e y hy
  exact ⟨x, hx, fun a ha => ha ▸ ⟨ls, y, ex_of_exec hex, hv, rfl⟩⟩

theorem advance_fast_sound (hcl : ∀ rw, CloseSound rw (close rw)) (rw : Bool) (ss : List State) (e : Event) :
    StepSound R rw (evOps e) e (ss.map (pad (evT e))) (advance false rw ss e) := by
  show StepSound R rw (evOps e) e _ (Drv.C09.stepEvent rw (evOps e) (ss.map (pad (evT e))) e)
  exact stepEventWith_sound (close rw) rw (hcl rw) _ _ e

end TypVerif.Lemmas.C09Accept
