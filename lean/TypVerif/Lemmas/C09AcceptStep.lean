import TypVerif.Lemmas.C09AcceptPad
import TypVerif.Lemmas.C09AcceptNorm
import TypVerif.Lemmas.C09AcceptSim
import TypVerif.Lemmas.C09AcceptCanon
/-
Acceptance soundness for the judge `Drv/C09.lean`: one event.

The closure under internal steps is a parameter here (`stepEventWith cl`; `Drv.C09.stepEvent rw = stepEventWith (close rw) rw` by
`rfl`): soundness needs of it exactly the closure property `CloseSound rw cl`, which holds for `closeF rw fuel` whatever the fuel,
in particular for `Drv.C09.close rw = closeF rw closeBudget`.
-/
namespace TypVerif.Lemmas.C09Accept
open TypVerif TypVerif.Conc TypVerif.Model.KeyedMutex TypVerif.Drv.C09

/-- `ss'` is a sound successor set of `ss` for the visible event `e`, states being related to model states by `Q`: every state of
`ss'` comes from a state `x` of `ss` such that whatever model state `a` the state `x` stands for, `a` has an execution with visible
trace `[e]` to a model state that the new state stands for -/
def StepSound (Q : State → State → Prop) (rw : Bool) (ops : List Op) (e : Event) (ss ss' : List State) : Prop :=
  ∀ y ∈ ss', ∃ x ∈ ss, ∀ a, Q a x → ∃ (ls : List (Option Event)) (a' : State),
    Ex rw ops a ls a' ∧ visible ls = [e] ∧ Q a' y

/-- `Drv.C09.stepEvent` with the closure function as a parameter -/
def stepEventWith (cl : Std.HashSet State → List State → Array State → Array State)
    (rw : Bool) (ops : List Op) (ss : List State) (e : Event) : List State :=
  let next := ss.flatMap (fun s => (succ rw true ops s).filterMap (fun p => match p.1 with
    | some e' => if e' = e then some (norm p.2) else none
    | none => none))
  let (seen, start) := next.foldl (fun (x : Std.HashSet State × Array State) s' =>
      if x.1.contains s' then x else (x.1.insert s', x.2.push s')) (({} : Std.HashSet State), #[])
  (cl seen start.toList start).toList

/-- what is needed of a closure function: it only adds normal forms of internal successors -/
def CloseSound (rw : Bool) (cl : Std.HashSet State → List State → Array State → Array State) : Prop :=
  ∀ (P : State → Prop), (∀ x z, P x → (none, z) ∈ succ rw true [] x → P (norm z)) →
    ∀ (seen : Std.HashSet State) (todo : List State) (acc : Array State),
      (∀ y ∈ todo, P y) → (∀ y ∈ acc.toList, P y) → ∀ y ∈ (cl seen todo acc).toList, P y

/-- one step of the inner fold of `closeF` -/
def closeStep (x : Std.HashSet State × List State × Array State) (s' : State) :
    Std.HashSet State × List State × Array State :=
  if x.1.contains s' then x else (x.1.insert s', s' :: x.2.1, x.2.2.push s')

/-- one step of the start fold of `stepEvent` -/
def startStep (x : Std.HashSet State × Array State) (s' : State) : Std.HashSet State × Array State :=
  if x.1.contains s' then x else (x.1.insert s', x.2.push s')

/-- the start fold is the inner fold of `closeF` without the work list -/
theorem start_eq_close (ns : List State) :
    ∀ (seen : Std.HashSet State) (todo : List State) (acc : Array State),
      ns.foldl startStep (seen, acc) =
        ((ns.foldl closeStep (seen, todo, acc)).1, (ns.foldl closeStep (seen, todo, acc)).2.2) := by
  induction ns with
  | nil => intro _ _ _; rfl
  | cons s' rest ih =>
    intro seen todo acc
    rw [List.foldl_cons, List.foldl_cons]
    by_cases hc : seen.contains s' = true
    · rw [show startStep (seen, acc) s' = (seen, acc) from if_pos hc,
        show closeStep (seen, todo, acc) s' = (seen, todo, acc) from if_pos hc]
      exact ih seen todo acc
    · rw [show startStep (seen, acc) s' = _ from if_neg hc, show closeStep (seen, todo, acc) s' = _ from if_neg hc]
      exact ih _ _ _

end TypVerif.Lemmas.C09Accept

namespace TypVerif.Lemmas.C09Complete
open TypVerif TypVerif.Conc TypVerif.Model.KeyedMutex TypVerif.Drv.C09

/-- the list `next` of `stepEvent` -/
def evNexts (rw : Bool) (ops : List Op) (ss : List State) (e : Event) : List State :=
  ss.flatMap (fun s => (succ rw true ops s).filterMap (fun p => match p.1 with
    | some e' => if e' = e then some (norm p.2) else none
    | none => none))

theorem mem_evNexts_iff {rw : Bool} {ops : List Op} {ss : List State} {e : Event} {y : State} :
    y ∈ evNexts rw ops ss e ↔ ∃ x ∈ ss, ∃ z, (some e, z) ∈ succ rw true ops x ∧ y = norm z := by
  unfold evNexts
  rw [List.mem_flatMap]
  refine exists_congr fun x => and_congr_right fun _ => ?_
  rw [List.mem_filterMap]
  constructor
  · rintro ⟨⟨l, z⟩, hp, hpe⟩
    cases l with
    | none => cases hpe
    | some e' =>
      dsimp only at hpe
      split at hpe
      · next heq => exact ⟨z, heq ▸ hp, (Option.some.inj hpe).symm⟩
      · cases hpe
  · rintro ⟨z, hz, rfl⟩
    exact ⟨(some e, z), hz, if_pos rfl⟩

/-- what `closeF` adds for `s` -/
def intNexts (rw : Bool) (s : State) : List State :=
  (succ rw true [] s).filterMap (fun p => match p.1 with | none => some (norm p.2) | some _ => none)

theorem mem_intNexts_iff {rw : Bool} {s y : State} :
    y ∈ intNexts rw s ↔ ∃ z, (none, z) ∈ succ rw true [] s ∧ y = norm z := by
  unfold intNexts
  rw [List.mem_filterMap]
  constructor
  · rintro ⟨⟨l, z⟩, hp, hpe⟩
    cases l with
    | none => exact ⟨z, hp, (Option.some.inj hpe).symm⟩
    | some _ => cases hpe
  · rintro ⟨z, hz, rfl⟩
    exact ⟨(none, z), hz, rfl⟩

/-- the hash set holds exactly the elements of `acc` -/
def SeenIs (seen : Std.HashSet State) (acc : Array State) : Prop :=
  ∀ s, seen.contains s = true ↔ s ∈ acc.toList

theorem seenIs_insert {seen : Std.HashSet State} {acc : Array State} (h : SeenIs seen acc) (s' : State) :
    SeenIs (seen.insert s') (acc.push s') := by
  intro s
  rw [Std.HashSet.contains_insert]
  simp only [Bool.or_eq_true, beq_iff_eq, Array.toList_push, List.mem_append, List.mem_singleton]
  constructor
  · rintro (rfl | h')
    · exact Or.inr rfl
    · exact Or.inl ((h s).1 h')
  · rintro (h' | rfl)
    · exact Or.inr ((h s).2 h')
    · exact Or.inl rfl

end TypVerif.Lemmas.C09Complete

namespace TypVerif.Lemmas.C09Accept
open TypVerif TypVerif.Conc TypVerif.Model.KeyedMutex TypVerif.Drv.C09
open TypVerif.Lemmas.C09Complete (intNexts mem_intNexts_iff evNexts mem_evNexts_iff SeenIs seenIs_insert)

theorem stepEventWith_unfold (cl : Std.HashSet State → List State → Array State → Array State)
    (rw : Bool) (ops : List Op) (ss : List State) (e : Event) :
    stepEventWith cl rw ops ss e =
      (cl ((evNexts rw ops ss e).foldl startStep (({} : Std.HashSet State), #[])).1
        ((evNexts rw ops ss e).foldl startStep (({} : Std.HashSet State), #[])).2.toList
        ((evNexts rw ops ss e).foldl startStep (({} : Std.HashSet State), #[])).2).toList := rfl

theorem closeF_eq_succ_cons (rw : Bool) (fuel : Nat) (seen : Std.HashSet State) (s : State) (rest : List State)
    (acc : Array State) :
    closeF rw (fuel + 1) seen (s :: rest) acc =
      closeF rw fuel ((intNexts rw s).foldl closeStep (seen, rest, acc)).1
        ((intNexts rw s).foldl closeStep (seen, rest, acc)).2.1
        ((intNexts rw s).foldl closeStep (seen, rest, acc)).2.2 := rfl

/-- `new`: the elements of `ns` not seen before, in order; appended to `acc`, pushed (so reversed) on the work list.  The last
conjunct is used by completeness only. -/
theorem close_fold_spec (ns : List State) :
    ∀ (x : Std.HashSet State × List State × Array State), ∃ new : List State,
      (ns.foldl closeStep x).2.2.toList = x.2.2.toList ++ new ∧ (ns.foldl closeStep x).2.1 = new.reverse ++ x.2.1 ∧
      (∀ y ∈ new, y ∈ ns) ∧
      (SeenIs x.1 x.2.2 → SeenIs (ns.foldl closeStep x).1 (ns.foldl closeStep x).2.2 ∧
        ∀ z ∈ ns, z ∈ (ns.foldl closeStep x).2.2.toList) := by
  induction ns with
  | nil => exact fun x => ⟨[], (List.append_nil _).symm, rfl, nofun, fun h => ⟨h, nofun⟩⟩
  | cons s' rest ih =>
    intro x
    rw [List.foldl_cons]
    by_cases hc : x.1.contains s' = true
    · rw [show closeStep x s' = x from if_pos hc]
      obtain ⟨new, h1, h2, h3, h4⟩ := ih x
      refine ⟨new, h1, h2, fun y hy => List.mem_cons_of_mem _ (h3 y hy), fun hs => ⟨(h4 hs).1, fun z hz => ?_⟩⟩
      rcases List.mem_cons.1 hz with rfl | hz
      · exact h1 ▸ List.mem_append_left _ ((hs _).1 hc)
      · exact (h4 hs).2 z hz
    · rw [show closeStep x s' = (x.1.insert s', s' :: x.2.1, x.2.2.push s') from if_neg hc]
      obtain ⟨new, h1, h2, h3, h4⟩ := ih (x.1.insert s', s' :: x.2.1, x.2.2.push s')
      rw [Array.toList_push, List.append_assoc] at h1
      refine ⟨s' :: new, h1, by rw [h2, List.reverse_cons, List.append_assoc]; rfl, fun y hy => ?_, fun hs => ?_⟩
      · exact (List.mem_cons.1 hy).elim (· ▸ List.mem_cons_self) (fun h => List.mem_cons_of_mem _ (h3 y h))
      · obtain ⟨k1, k2⟩ := h4 (seenIs_insert hs s')
        refine ⟨k1, fun z hz => ?_⟩
        rcases List.mem_cons.1 hz with rfl | hz
        · exact h1 ▸ List.mem_append_right _ List.mem_cons_self
        · exact k2 z hz

theorem close_fold_sound (P : State → Prop) (nexts : List State) (hn : ∀ y ∈ nexts, P y)
    (x : Std.HashSet State × List State × Array State) (h1 : ∀ y ∈ x.2.1, P y) (h2 : ∀ y ∈ x.2.2.toList, P y) :
    (∀ y ∈ (nexts.foldl closeStep x).2.1, P y) ∧ (∀ y ∈ (nexts.foldl closeStep x).2.2.toList, P y) := by
  obtain ⟨new, e1, e2, e3, _⟩ := close_fold_spec nexts x
  rw [e1, e2]
  exact ⟨fun y hy => (List.mem_append.1 hy).elim (fun h => hn y (e3 y (List.mem_reverse.1 h))) (h1 y),
    fun y hy => (List.mem_append.1 hy).elim (h2 y) (fun h => hn y (e3 y h))⟩

theorem start_fold_sound (P : State → Prop) (next : List State) (hn : ∀ y ∈ next, P y)
    (seen : Std.HashSet State) (acc : Array State) (h : ∀ y ∈ acc.toList, P y) :
    ∀ y ∈ (next.foldl startStep (seen, acc)).2.toList, P y := by
  rw [start_eq_close next seen [] acc]
  exact (close_fold_sound P next hn (seen, [], acc) (fun _ h => nomatch h) h).2

theorem closeF_sound (rw : Bool) (fuel : Nat) : CloseSound rw (closeF rw fuel) := by
  intro P hP
  induction fuel with
  | zero => intro seen todo acc _ h2; exact h2
  | succ fuel ih =>
    intro seen todo acc h1 h2
    cases todo with
    | nil => exact h2
    | cons s rest =>
      rw [closeF_eq_succ_cons]
      have hn : ∀ y ∈ intNexts rw s, P y := fun y hy => by
        obtain ⟨z, hz, rfl⟩ := mem_intNexts_iff.1 hy
        exact hP s z (h1 s List.mem_cons_self) hz
      obtain ⟨h1', h2'⟩ := close_fold_sound P _ hn (seen, rest, acc)
        (fun y hy => h1 y (List.mem_cons_of_mem _ hy)) h2
      exact ih _ _ _ h1' h2'

/-- internal steps do not depend on the alphabet -/
theorem succ_of_nil_ops {rw g : Bool} (ops : List Op) {s : State} {p : Option Event × State}
    (h : p ∈ succ rw g [] s) : p ∈ succ rw g ops s :=
  succ_ops_mono (fun _ h => by cases h) h

/-- every state the fast judge produces stands for — and is the normal form of (`norm_eq_of_R`) — a model state reached by an
execution with visible trace `[e]` -/
theorem stepEventWith_sound_norm (cl : Std.HashSet State → List State → Array State → Array State) (rw : Bool)
    (hcl : CloseSound rw cl) (ops : List Op) (ss : List State) (e : Event) :
    ∀ y ∈ stepEventWith cl rw ops ss e, ∃ x ∈ ss, ∀ a, R a x → ∃ (ls : List (Option Event)) (a' : State),
      Ex rw ops a ls a' ∧ visible ls = [e] ∧ R a' y ∧ y = norm a' := by
  let P : State → Prop := fun y => ∃ x ∈ ss, ∀ a, R a x → ∃ (ls : List (Option Event)) (a' : State),
    Ex rw ops a ls a' ∧ visible ls = [e] ∧ R a' y ∧ y = norm a'
  have hP : ∀ x z, P x → (none, z) ∈ succ rw true [] x → P (norm z) := by
    intro x' z ⟨x, hx, hall⟩ hz
    refine ⟨x, hx, fun a ha => ?_⟩
    obtain ⟨ls, a', hex, hv, hr, _⟩ := hall a ha
    obtain ⟨a'', hs, hr'⟩ := R_succ hr hz
    refine ⟨ls ++ [none], a'', hex.append (.cons (succ_of_nil_ops ops hs) (.nil _)), ?_, R_norm hr', norm_eq_of_R hr'⟩
    simp [hv]
  have hnext : ∀ y ∈ evNexts rw ops ss e, P y := by
    intro y hy
    obtain ⟨x, hx, z, hp, rfl⟩ := mem_evNexts_iff.1 hy
    refine ⟨x, hx, fun a ha => ?_⟩
    obtain ⟨a', hs, hr'⟩ := R_succ ha hp
    exact ⟨[some e], a', .cons hs (.nil _), rfl, R_norm hr', norm_eq_of_R hr'⟩
  intro y hy
  rw [stepEventWith_unfold] at hy
  have hstart := start_fold_sound P _ hnext ({} : Std.HashSet State) #[] (fun _ h => nomatch h)
  exact hcl P hP _ _ _ hstart hstart y hy

theorem stepEventWith_sound (cl : Std.HashSet State → List State → Array State → Array State) (rw : Bool)
    (hcl : CloseSound rw cl) (ops : List Op) (ss : List State) (e : Event) :
    StepSound R rw ops e ss (stepEventWith cl rw ops ss e) := by
  intro y hy
  obtain ⟨x, hx, h⟩ := stepEventWith_sound_norm cl rw hcl ops ss e y hy
  refine ⟨x, hx, fun a ha => ?_⟩
  obtain ⟨ls, a', hex, hv, hr, _⟩ := h a ha
  exact ⟨ls, a', hex, hv, hr⟩

end TypVerif.Lemmas.C09Accept
