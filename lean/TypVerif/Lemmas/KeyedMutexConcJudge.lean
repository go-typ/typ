import TypVerif.Drv.C09conc
import TypVerif.Lemmas.KeyedMutexConcBasic
/-
The judge `C09conc` (`Drv/C09conc.lean`) only takes steps of the composed model `Model/KeyedMutexConc.lean`: every accepted
`inv` / `step` / `iter` / `res` line moves the judge's model state along a step of `KeyedMutexConc.stepT` — an `inv` / `res` line
along the step with that event, a `step` / `iter` line along an internal one, whose hook label no statement here mentions
(`pad` only creates idle goroutines).  So the transition system real step traces are replayed in is the one the `C09.conc_*`
theorems (`Props/C09conc.lean`) are about.

These are facts about ONE line each (`doStep_sound`, `doIter_sound`, `doInv_sound`, `doRes_sound`); nothing here or elsewhere
folds them over a trace into "an accepted trace is an execution of the model".  The statement proved about whole traces of this
judge is the converse, completeness: `C09.conc_judge_accept_complete` (`Props/C09replaycomplete.lean`, proof in
`KmTraceComplete.lean`), every execution of the model is answered `ok` line by line.
-/
namespace TypVerif.Lemmas.KeyedMutexConc
open TypVerif TypVerif.Model TypVerif.Model.SyncMapConc
open TypVerif.Drv.C09conc (St KS doStep doInv doIter doRes mapStep pad resStr)

theorem mapStep_sound {s s' : KS} {t : Nat} {kind : KeyedMutexConc.Kind} {k : Int} {label : String}
    (h : mapStep s t kind k label = some s') :
    ∃ ms' ∈ KeyedMutexConc.mapSteps s.map t, s' = KeyedMutexConc.contMap s t kind k ms' ∧ (s.map.pc t).label = label := by
  unfold mapStep at h
  simp only at h
  split at h
  · cases h
  · rename_i hl
    cases he : exec s.map.sh t (s.map.pc t) with
    | none => rw [he] at h; cases h
    | some p =>
      rw [he] at h
      cases h
      refine ⟨_, ?_, rfl, ?_⟩
      · unfold KeyedMutexConc.mapSteps
        rw [he]
        exact List.mem_append_left _ (List.mem_singleton.mpr rfl)
      · simpa using hl

/-- an accepted `step` line is an internal step of the model -/
theorem doStep_sound (menu : List (KeyedMutexConc.Op Int)) {st : St} {t : Nat} {label : String} {s' : KS}
    (h : doStep st t label = some s') : (none, s') ∈ KeyedMutexConc.stepT menu st.s t := by
  unfold doStep at h
  split at h
  · next kind k hp =>
    obtain ⟨ms', hms, rfl, _⟩ := mapStep_sound h
    rw [stepT_inMap menu hp]
    exact List.mem_map.mpr ⟨ms', hms, rfl⟩
  · next kind k m hp =>
    split at h
    · cases h
    · rw [stepT_atHook menu hp, h]; exact List.mem_singleton.mpr rfl
  · cases h

/-- an accepted `iter` line is an internal step of the model (a choice of the map's `range read.m` loop) -/
theorem doIter_sound (menu : List (KeyedMutexConc.Op Int)) {st : St} {t : Nat} {k : Int} {s' : KS}
    (h : doIter st t k = some s') : (none, s') ∈ KeyedMutexConc.stepT menu st.s t := by
  unfold doIter at h
  split at h
  · next kind k' hp =>
    rw [stepT_inMap menu hp]
    split at h
    · next c pc' hf =>
      cases h
      refine List.mem_map.mpr ⟨setPc st.s.map t st.s.map.sh pc', ?_, rfl⟩
      unfold KeyedMutexConc.mapSteps
      exact List.mem_append_right _ (List.mem_map.mpr ⟨_, List.mem_of_find?_eq_some hf, rfl⟩)
    · cases h
  · cases h

/-- an accepted `inv` line is an invocation step of the model (discipline `invOk` included), after creating goroutines -/
theorem doInv_sound {st : St} {t : Nat} {kind : KeyedMutexConc.Kind} {k : Int} {s' : KS}
    (h : doInv st t kind k = some s') :
    (some (.inv t ⟨kind, k⟩), s') ∈ KeyedMutexConc.stepT [⟨kind, k⟩] (pad st.s (t + 1)) t := by
  unfold doInv at h
  simp only at h
  split at h
  · next hp =>
    rw [stepT_idle _ hp]
    split at h
    · next hok =>
      cases h
      exact List.mem_map.mpr ⟨⟨kind, k⟩, List.mem_filter.mpr ⟨List.mem_singleton.mpr rfl, hok⟩, rfl⟩
    · cases h
  · cases h

/-- an accepted `res` line is the response step of the model with that result -/
theorem doRes_sound (menu : List (KeyedMutexConc.Op Int)) {st : St} {t : Nat} {r : String} {s' : KS}
    (h : doRes st t r = some s') :
    ∃ r', r = resStr r' ∧ (some (.res t r'), s') ∈ KeyedMutexConc.stepT menu st.s t := by
  unfold doRes at h
  split at h
  · next r' hp =>
    rw [stepT_ret menu hp]
    split at h
    · next hr =>
      cases h
      exact ⟨r', by simpa using hr, List.mem_singleton.mpr rfl⟩
    · cases h
  · cases h

/-- creating goroutines: the initial state with more goroutines -/
theorem pad_init (n m : Nat) : pad (KeyedMutexConc.init n) m = KeyedMutexConc.init (n + (m - n)) := by
  simp [pad, KeyedMutexConc.init, SyncMapConc.init, List.replicate_append_replicate]

end TypVerif.Lemmas.KeyedMutexConc
