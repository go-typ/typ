import TypVerif.Lemmas.PubSubLive
/-
Why a task of the PubSub model cannot step (`blocked_reason`), and why something can always step while the subscribers
keep receiving (`all_done_of_stuck`, by the rank `waitRank` of the waits-for order).
-/
namespace TypVerif.Lemmas.PubSubLive
open TypVerif TypVerif.Model.PubSub TypVerif.Lemmas.PubSubStep TypVerif.Lemmas.PubSubSafe

/-- the item the task is handing off right now (timer not fired) -/
def sending : Task → Option Item
  | .syncLoop _ _ (it :: _) false => some it
  | .asyncSend _ it false => some it
  | .wgSend _ _ it false => some it
  | _ => none

/-- the task is about to take the read lock -/
def isReaderStart : Task → Bool
  | .pubStart .. => true
  | .asyncStart .. => true
  | _ => false

theorem sender_of_sending (i : Nat) {t : Task} {it : Item} (h : sending t = some it) :
    ∃ fin tfin tcb, Sender i t it false fin tfin tcb := by
  unfold sending at h
  split at h
  · next p o _ rest =>
    cases h
    cases rest with
    | nil => exact ⟨_, _, _, .syncLast p o it false⟩
    | cons a r => exact ⟨_, _, _, .syncMore p o it a r false⟩
  · next o _ =>
    cases h
    exact ⟨_, _, _, .async o it false⟩
  · next o w _ =>
    cases h
    exact ⟨_, _, _, .wg o w it false⟩
  · cases h

theorem sending_target {t : Task} {it : Item} (h : sending t = some it) : it.c ∈ targets t :=
  have ⟨_, _, _, hs⟩ := sender_of_sending 0 h
  sender_target hs

theorem getChan_of_hasChan {cs : List ChanSt} {c : Chan} (h : hasChan cs c = true) :
    ∃ ch, getChan cs c = some ch ∧ ch ∈ cs ∧ ch.id = c := by
  simp only [hasChan, List.any_eq_true] at h
  obtain ⟨x, hx, hxc⟩ := h
  cases hg : getChan cs c with
  | none =>
    simp only [getChan, List.find?_eq_none] at hg
    exact absurd hxc (hg x hx)
  | some ch =>
    simp only [getChan] at hg
    exact ⟨ch, rfl, List.mem_of_find?_eq_some hg, by simpa using List.find?_some hg⟩

/-- a send on an open, existing channel whose receiver is still willing to take a value blocks only when the
receiver itself can step: the buffer is full and nonempty, or (unbuffered) the receiver holds an undelivered value -/
theorem blocked_send {s : State} {it : Item} (hl : Live s)
    (hopen : isClosed s.chans it.c = false) (hex : hasChan s.chans it.c = true)
    (hrecv : ∀ ch ∈ s.chans, ch.id = it.c → ch.rdone = false → 0 < ch.allow)
    (hb : sendTo s it = .blocked) :
    ∃ ch ∈ s.chans, ch.id = it.c ∧ ch.closed = false ∧ ch.rdone = false ∧ 0 < ch.allow ∧
      ch.cap ≤ ch.buf.length ∧ recvSteps s ch ≠ [] := by
  obtain ⟨ch, hg, hm, hid⟩ := getChan_of_hasChan hex
  obtain ⟨hclosed, hfull, hno⟩ := sendTo_eq_blocked hb hg
  have hrdone : ch.rdone = false := by
    cases hc : ch.rdone with
    | false => rfl
    | true =>
      have := hl.rd ch hm hc
      rw [hid, hopen] at this; cases this
  have hallow := hrecv ch hm hid hrdone
  refine ⟨ch, hm, hid, hclosed, hrdone, hallow, hfull, ?_⟩
  -- the receiver holds a value, or the buffer is not empty: otherwise the unbuffered hand-off would go through
  unfold recvSteps
  rw [if_neg (by rw [hrdone]; exact Bool.false_ne_true)]
  cases hh : ch.holding with
  | some v => exact List.cons_ne_nil _ _
  | none =>
    dsimp only
    rw [if_neg (by rw [beq_iff_eq]; omega)]
    cases hbuf : ch.buf with
    | cons v rest => exact List.cons_ne_nil _ _
    | nil =>
      exfalso
      have hcap : ch.cap = 0 := by rw [hbuf] at hfull; exact Nat.le_zero.mp hfull
      simp [hcap, hallow, hh, hrdone] at hno

-- the `_nil` lemmas: an empty step list names the guard that failed
theorem stepSend_nil {cfg : Cfg} {s : State} {it : Item} {cb : Bool} {fin setCb : State → State}
    (h : stepSend cfg s it cb fin setCb = []) : cb = false ∧ sendTo s it = .blocked ∧ cfg.timeout ≤ 0 := by
  unfold stepSend at h
  cases cb with
  | true => simp at h
  | false =>
    simp only [Bool.false_eq_true, if_false, List.append_eq_nil_iff] at h
    obtain ⟨h1, h2⟩ := h
    refine ⟨rfl, ?_, ?_⟩
    · cases hst : sendTo s it with
      | blocked => rfl
      | panic => simp [hst] at h1
      | sent s1 => simp [hst] at h1
    · split at h2
      · simp at h2
      · omega

theorem stepPubStart_nil {s : State} {i p o : Nat} {v : Variant} {evs : List Int}
    (h : stepPubStart s i p o v evs = []) : (s.obj o).rw.canRLock = false := by
  cases hc : (s.obj o).rw.canRLock with
  | false => rfl
  | true =>
    exfalso
    unfold stepPubStart at h
    simp only [hc, Bool.not_true, Bool.false_eq_true, if_false] at h
    split at h
    · split at h <;> simp at h
    · split at h <;> simp at h

theorem stepAsyncStart_nil {s : State} {i o : Nat} {it : Item}
    (h : stepAsyncStart s i o it = []) : (s.obj o).rw.canRLock = false := by
  cases hc : (s.obj o).rw.canRLock with
  | false => rfl
  | true =>
    exfalso
    unfold stepAsyncStart at h
    simp only [hc, Bool.not_true, Bool.false_eq_true, if_false] at h
    split at h <;> simp at h

theorem stepUnsubWait_nil {s : State} {i u o : Nat} {c : Chan}
    (h : stepUnsubWait s i u o c = []) : (s.obj o).rw.canLock = false := by
  cases hc : (s.obj o).rw.canLock with
  | false => rfl
  | true =>
    exfalso
    unfold stepUnsubWait at h
    simp only [hc, Bool.not_true, Bool.false_eq_true, if_false] at h
    split at h
    · split at h <;> simp at h
    · simp at h

theorem stepUaWait_nil {s : State} {i u o : Nat}
    (h : stepUaWait s i u o = []) : (s.obj o).rw.canLock = false := by
  cases hc : (s.obj o).rw.canLock with
  | false => rfl
  | true =>
    exfalso
    unfold stepUaWait at h
    simp only [hc, Bool.not_true, Bool.false_eq_true, if_false] at h
    split at h <;> simp at h

theorem stepSubWait_nil {s : State} {i o : Nat} {c : Chan} {cap : Nat}
    (h : stepSubWait s i o c cap = []) : (s.obj o).rw.canLock = false ∨ hasChan s.chans c = true := by
  cases hc : (s.obj o).rw.canLock with
  | false => exact Or.inl rfl
  | true =>
    cases hh : hasChan s.chans c with
    | true => exact Or.inr rfl
    | false =>
      exfalso
      unfold stepSubWait at h
      simp [hc, hh] at h

theorem exists_task_of_countP_pos {s : State} {q : Task → Bool} (h : 0 < s.tasks.countP q) :
    ∃ (j : Nat) (t' : Task), s.tasks[j]? = some t' ∧ q t' = true := by
  obtain ⟨t', hm, hq⟩ := List.countP_pos_iff.mp h
  obtain ⟨j, hj, hjt⟩ := List.getElem_of_mem hm
  exact ⟨j, t', by rw [List.getElem?_eq_getElem hj, hjt], hq⟩

/-- a reader is kept out only by a waiting writer -/
theorem waiter_of_not_canRLock {s : State} (hl : Live s) (h : (s.obj 0).rw.canRLock = false) :
    ∃ (j : Nat) (t' : Task), s.tasks[j]? = some t' ∧ isWaiter t' = true := by
  apply exists_task_of_countP_pos
  rw [← hl.waiting]
  simp only [RW.canRLock, hl.writer, Bool.not_false, Bool.true_and, beq_eq_false_iff_ne] at h
  omega

/-- a writer is kept out only by a task inside a read-locked region -/
theorem holder_of_not_canLock {s : State} (hs : Safe s) (hl : Live s) (h : (s.obj 0).rw.canLock = false) :
    ∃ (j : Nat) (t' : Task), s.tasks[j]? = some t' ∧ holdsRead t' = true := by
  apply exists_task_of_countP_pos
  rw [← hs.readers]
  simp only [RW.canLock, hl.writer, Bool.not_false, Bool.and_true, beq_eq_false_iff_ne] at h
  omega

/-- A task that is not done and cannot step is (1) a sender blocked on a full, open channel whose receiver can step,
(2) a `Pub*Wait` whose group has a live sender, (3) about to `RLock` behind a waiting writer, (4) a writer waiting for a
task that holds the read lock, or (5) a `Sub` in `Lock()` whose channel name exists already.  Each alternative names
another party, which is what `all_done_of_stuck` follows; (5) names none and is excluded there by `hfresh` (in
reachable states by `NamesOk`, `PubSubLiveNames`). -/
theorem blocked_reason {cfg : Cfg} {s : State} (hs : Safe s) (hl : Live s)
    (hrecv : ∀ ch ∈ s.chans, ch.id ∈ (s.obj 0).subs → ch.rdone = false → 0 < ch.allow)
    {i : Nat} {t : Task} (ht : s.tasks[i]? = some t) (hne : t ≠ .done) (hblk : taskSteps cfg s i = []) :
    (∃ it, sending t = some it ∧ cfg.timeout ≤ 0 ∧ sendTo s it = .blocked ∧
        ∃ ch ∈ s.chans, ch.id = it.c ∧ ch.closed = false ∧ ch.rdone = false ∧ 0 < ch.allow ∧
          ch.cap ≤ ch.buf.length ∧ recvSteps s ch ≠ []) ∨
    (∃ w, isWaitWg w t = true ∧ 0 < s.wgs.getD w 0 ∧ ∃ (j : Nat) (t' : Task), s.tasks[j]? = some t' ∧ isWgSend w t' = true) ∨
    (isReaderStart t = true ∧ (s.obj 0).rw.writer = false ∧
        ∃ (j : Nat) (t' : Task), s.tasks[j]? = some t' ∧ isWaiter t' = true) ∨
    (isWaiter t = true ∧ ∃ (j : Nat) (t' : Task), s.tasks[j]? = some t' ∧ holdsRead t' = true) ∨
    (∃ o c cap, t = .subWait o c cap ∧ hasChan s.chans c = true) := by
  have hmem : t ∈ s.tasks := List.mem_of_getElem? ht
  have hobj : objOk t := hs.obj0 t hmem
  have hsync := hl.sync t hmem
  unfold taskSteps at hblk
  rw [ht] at hblk
  simp only at hblk
  -- the common treatment of a task inside a send
  have send_case : ∀ it, sending t = some it → sendTo s it = .blocked → cfg.timeout ≤ 0 →
      ∃ it, sending t = some it ∧ cfg.timeout ≤ 0 ∧ sendTo s it = .blocked ∧
        ∃ ch ∈ s.chans, ch.id = it.c ∧ ch.closed = false ∧ ch.rdone = false ∧ 0 < ch.allow ∧
          ch.cap ≤ ch.buf.length ∧ recvSteps s ch ≠ [] := by
    intro it hsd hb hto
    have hsub : it.c ∈ (s.obj 0).subs := hs.targ t hmem it.c (sending_target hsd)
    exact ⟨it, hsd, hto, hb, blocked_send hl (hs.opn _ hsub) (hs.exist _ hsub)
      (fun ch hm hid => hrecv ch hm (hid ▸ hsub)) hb⟩
  cases t with
  | pubStart p o v evs =>
    cases hobj
    exact Or.inr (Or.inr (Or.inl ⟨rfl, hl.writer, waiter_of_not_canRLock hl (stepPubStart_nil hblk)⟩))
  | syncLoop p o work cb =>
    cases work with
    | nil => simp [emptySync] at hsync
    | cons it rest =>
      simp only [stepTask, stepSyncLoop] at hblk
      obtain ⟨rfl, hb, hto⟩ := stepSend_nil hblk
      exact Or.inl (send_case it rfl hb hto)
  | waitWg p o w =>
    simp only [stepTask, stepWaitWg] at hblk
    split at hblk
    · simp at hblk
    · rename_i hz
      have hpos : 0 < s.wgs.getD w 0 := by
        have : s.wgs.getD w 0 ≠ 0 := by simpa using hz
        omega
      refine Or.inr (Or.inl ⟨w, by simp [isWaitWg], hpos, ?_⟩)
      apply exists_task_of_countP_pos
      rw [← hs.wgc]; exact hpos
  | pubRet p => cases hblk
  | asyncStart o it =>
    cases hobj
    exact Or.inr (Or.inr (Or.inl ⟨rfl, hl.writer, waiter_of_not_canRLock hl (stepAsyncStart_nil hblk)⟩))
  | asyncSend o it cb =>
    simp only [stepTask, stepAsyncSend] at hblk
    obtain ⟨rfl, hb, hto⟩ := stepSend_nil hblk
    exact Or.inl (send_case it rfl hb hto)
  | wgSend o w it cb =>
    simp only [stepTask, stepWgSend] at hblk
    obtain ⟨rfl, hb, hto⟩ := stepSend_nil hblk
    exact Or.inl (send_case it rfl hb hto)
  | subStart o c cap => cases hblk
  | subWait o c cap =>
    cases hobj
    rcases stepSubWait_nil hblk with h | h
    · exact Or.inr (Or.inr (Or.inr (Or.inl ⟨rfl, holder_of_not_canLock hs hl h⟩)))
    · exact Or.inr (Or.inr (Or.inr (Or.inr ⟨0, c, cap, rfl, h⟩)))
  | subRet c => cases hblk
  | unsubStart u o c => cases c <;> cases hblk
  | unsubWait u o c =>
    cases hobj
    exact Or.inr (Or.inr (Or.inr (Or.inl ⟨rfl, holder_of_not_canLock hs hl (stepUnsubWait_nil hblk)⟩)))
  | unsubRet u code => cases hblk
  | uaStart u o => cases hblk
  | uaWait u o =>
    cases hobj
    exact Or.inr (Or.inr (Or.inr (Or.inl ⟨rfl, holder_of_not_canLock hs hl (stepUaWait_nil hblk)⟩)))
  | uaRet u => cases hblk
  | woStart w o c => exact absurd hobj (by simp [objOk])
  | done => exact absurd rfl hne

/-- Whom a blocked task waits for has a smaller rank: a reader before `RLock` (3) waits for a writer in `Lock()` (2), that
one for a holder of the read lock (1), a `Pub*Wait` among these for a sender of its group (0); a sender waits for the
receiver, which can step (`blocked_send`).  So nothing is blocked while the receivers receive. -/
def waitRank : Task → Nat
  | .wgSend .. => 0
  | .syncLoop .. | .waitWg .. | .asyncSend .. => 1
  | .subWait .. | .unsubWait .. | .uaWait .. => 2
  | _ => 3

theorem rank_wgSend {w : Nat} {t : Task} (h : isWgSend w t = true) : waitRank t = 0 := by
  cases t with
  | wgSend => rfl
  | _ => exact nomatch h

theorem rank_holdsRead {t : Task} (h : holdsRead t = true) : waitRank t = 1 := by
  cases t with
  | syncLoop | waitWg | asyncSend => rfl
  | _ => exact nomatch h

theorem rank_waiter {t : Task} (h : isWaiter t = true) : waitRank t = 2 := by
  cases t with
  | subWait | unsubWait | uaWait => rfl
  | _ => exact nomatch h

theorem rank_readerStart {t : Task} (h : isReaderStart t = true) : waitRank t = 3 := by
  cases t with
  | pubStart | asyncStart => rfl
  | _ => exact nomatch h

theorem waitWg_holdsRead {w : Nat} {t : Task} (h : isWaitWg w t = true) : holdsRead t = true := by
  cases t with
  | waitWg p o w' => rfl
  | _ => exact nomatch h

/-- If no task and no receiver can step (while the receivers of the subscribed channels are willing to receive and
no pending `Sub` is stuck on a channel name that is already taken), every task has finished. -/
theorem all_done_of_stuck {cfg : Cfg} {s : State} (hs : Safe s) (hl : Live s)
    (hrecv : ∀ ch ∈ s.chans, ch.id ∈ (s.obj 0).subs → ch.rdone = false → 0 < ch.allow)
    (hfresh : ∀ o c cap, Task.subWait o c cap ∈ s.tasks → hasChan s.chans c = false)
    (hT : ∀ i, taskSteps cfg s i = []) (hR : ∀ ch ∈ s.chans, recvSteps s ch = []) :
    ∀ t ∈ s.tasks, t = .done := by
  have A : ∀ (i : Nat) (t : Task), s.tasks[i]? = some t → t ≠ .done →
      ∃ (j : Nat) (t' : Task), s.tasks[j]? = some t' ∧ t' ≠ .done ∧ waitRank t' < waitRank t := by
    intro i t ht hne
    rcases blocked_reason hs hl hrecv ht hne (hT i) with h | h | h | h | h
    · obtain ⟨_, _, _, _, ch, hm, _, _, _, _, _, hstep⟩ := h
      exact absurd (hR ch hm) hstep
    · obtain ⟨w, h1, _, j, t', ht', hw⟩ := h
      exact ⟨j, t', ht', (fun e => nomatch e ▸ hw),
        by rw [rank_wgSend hw, rank_holdsRead (waitWg_holdsRead h1)]; exact Nat.one_pos⟩
    · obtain ⟨h1, _, j, t', ht', hw⟩ := h
      exact ⟨j, t', ht', (fun e => nomatch e ▸ hw), by rw [rank_waiter hw, rank_readerStart h1]; exact Nat.lt_succ_self 2⟩
    · obtain ⟨h1, j, t', ht', hh⟩ := h
      exact ⟨j, t', ht', (fun e => nomatch e ▸ hh), by rw [rank_holdsRead hh, rank_waiter h1]; exact Nat.lt_succ_self 1⟩
    · obtain ⟨o, c, cap, rfl, hc⟩ := h
      rw [hfresh o c cap (List.mem_of_getElem? ht)] at hc
      cases hc
  have B : ∀ n (i : Nat) (t : Task), s.tasks[i]? = some t → waitRank t < n → t = .done := by
    intro n
    induction n with
    | zero => exact fun _ _ _ h => absurd h (Nat.not_lt_zero _)
    | succ n ih =>
      intro i t ht hn
      apply Classical.byContradiction
      intro hne
      obtain ⟨j, t', ht', hne', hlt⟩ := A i t ht hne
      exact hne' (ih j t' ht' (Nat.lt_of_lt_of_le hlt (Nat.le_of_lt_succ hn)))
  intro t hm
  obtain ⟨i, hi, hit⟩ := List.getElem_of_mem hm
  exact B _ i t (by rw [List.getElem?_eq_getElem hi, hit]) (Nat.lt_succ_self _)

/-- `all_done_of_stuck` read the other way: while some task has not finished, a task or a receiver can step. -/
theorem enabled_of_work {cfg : Cfg} {s : State} (hs : Safe s) (hl : Live s)
    (hrecv : ∀ ch ∈ s.chans, ch.id ∈ (s.obj 0).subs → ch.rdone = false → 0 < ch.allow)
    (hfresh : ∀ o c cap, Task.subWait o c cap ∈ s.tasks → hasChan s.chans c = false)
    (hwork : ∃ t ∈ s.tasks, t ≠ .done) :
    (∃ i, taskSteps cfg s i ≠ []) ∨ (∃ ch ∈ s.chans, recvSteps s ch ≠ []) := by
  apply Classical.byContradiction
  intro hcon
  obtain ⟨t, hm, hne⟩ := hwork
  refine hne (all_done_of_stuck (cfg := cfg) hs hl hrecv hfresh (fun i => ?_) (fun ch hc => ?_) t hm)
  · exact Classical.byContradiction fun h => hcon (Or.inl ⟨i, h⟩)
  · exact Classical.byContradiction fun h => hcon (Or.inr ⟨ch, hc, h⟩)

/-! ### `taskSteps` / `recvSteps` versus the successor list of the system -/

theorem taskSteps_all_nil_iff {cfg : Cfg} {s : State} :
    (List.range s.tasks.length).flatMap (taskSteps cfg s) = [] ↔ ∀ i, taskSteps cfg s i = [] := by
  constructor
  · intro h i
    rcases Nat.lt_or_ge i s.tasks.length with hi | hi
    · exact List.flatMap_eq_nil_iff.mp h i (List.mem_range.mpr hi)
    · exact taskSteps_nil_of_ge hi
  · intro h
    exact List.flatMap_eq_nil_iff.mpr (fun i _ => h i)

theorem mem_succ_of_task_or_recv {cfg : Cfg} {s : State} (hx : s.exited = false) (hp : s.panicked = none)
    {p : Option Event × State}
    (h : (∃ i, p ∈ taskSteps cfg s i) ∨ (∃ ch ∈ s.chans, p ∈ recvSteps s ch)) : p ∈ (sys cfg).succ s := by
  refine (PubSubRed.mem_succ_iff cfg s hx hp p).2 ?_
  rcases h with ⟨i, hi⟩ | ⟨ch, hm, hc⟩
  · exact ⟨some i, hi⟩
  · exact ⟨none, List.mem_append_left _ (List.mem_append_right _ (List.mem_flatMap.2 ⟨ch, hm, hc⟩))⟩

end TypVerif.Lemmas.PubSubLive
