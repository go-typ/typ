import TypVerif.Lemmas.ConcAccept
import TypVerif.Lemmas.AtomicObj
/-
Acceptance soundness for the judges that step the generic atomic-object system `Model.AtomicObj.sys` with a state-set
construction (`Drv.C18.stepObj`, `Drv.ObjLin.stepObj`): after every event they erase the ghost log, before every event
they pad every state with idle goroutines up to the current number of goroutines `n` (which grows while the trace is
read), and they run `Conc.stepEvent` on the system whose menu is just the operation of the event.

Facts used (all about `AtomicObj.succ`):
* `succ` never reads the ghost log                          (`eraseLog_bisim`);
* `succ` of goroutine `t` does not look at the other goroutines: appending idle goroutines is a simulation (`exec_pad`);
* a larger menu allows more steps                           (`exec_menu_mono`);
* the number of goroutines `n` of `sys S menu n` occurs only in its initial state (`exec_n_irrelevant`).
The first two are instances of one lemma, `exec_sim`, about the relation `Sim k s t` (`t` = `s` with `k` more idle
goroutines, up to the log), whose step is the one-step transfer `succ_transfer`; the third is that transfer along the
execution, the fourth a direct induction on it.  `acc_step` uses `exec_sim` itself (all three at once).

`stepObjF S fuel n` is the judges' `stepObj` with the closure fuel as a parameter (`Drv.C18.stepObj S n = stepObjF S 16 n`,
`Drv.ObjLin.stepObj S n = stepObjF S 24 n`, both by `rfl`: `ObjAcceptC18.stepObj_eq`, `ObjAcceptLin.stepObj_eq`).
`Acc S tr ss`: every state of the set `ss` is the log-erasure of a state reached by an execution, from the initial state of
some `sys S menu N`, whose visible trace is `tr`.  `acc_step`: `stepObjF` (with ANY `n`) preserves `Acc`, appending the event.
-/
namespace TypVerif.Lemmas.ObjAccept
open TypVerif TypVerif.Conc TypVerif.Model.AtomicObj TypVerif.Lemmas.AtomicObj

variable {σ Op Res : Type}

/-! ### the judges' state transformations -/

def eraseLog (s : State σ Op Res) : State σ Op Res := { s with log := [] }

def padObj (n : Nat) (s : State σ Op Res) : State σ Op Res :=
  { s with pcs := s.pcs ++ List.replicate (n - s.pcs.length) .idle }

def padBy (k : Nat) (s : State σ Op Res) : State σ Op Res :=
  { s with pcs := s.pcs ++ List.replicate k .idle }

theorem eraseLog_init (S : Spec) (n : Nat) : eraseLog (init S n) = init S n := rfl

/-- `t` is `s` with `k` more idle goroutines; nothing is said about the ghost logs -/
def Sim (k : Nat) (s t : State σ Op Res) : Prop :=
  t.pcs = s.pcs ++ List.replicate k .idle ∧ t.obj = s.obj

theorem sim_zero_iff (s t : State σ Op Res) : Sim 0 s t ↔ eraseLog t = eraseLog s := by
  unfold Sim eraseLog
  constructor
  · intro h
    obtain ⟨h1, h2⟩ := h
    simp only [List.replicate_zero, List.append_nil] at h1
    rw [h1, h2]
  · intro h
    injection h with h1 h2 _
    exact ⟨by simpa using h1, h2⟩

theorem sim_padBy (k : Nat) (s : State σ Op Res) : Sim k s (padBy k s) := ⟨rfl, rfl⟩

theorem eq_padBy_of_sim {k : Nat} {s t : State σ Op Res} (h : Sim k s t) (hl : t.log = s.log) : t = padBy k s := by
  obtain ⟨h1, h2⟩ := h
  cases t
  simp only [padBy] at *
  subst h1; subst h2; subst hl
  rfl

/-! ### one step -/

theorem pc_of_sim {k : Nat} {s t : State σ Op Res} (h : Sim k s t) {u : Nat} (hu : u < s.pcs.length) :
    t.pc u = s.pc u := by
  unfold State.pc
  rw [h.1]
  simp only [List.getD_eq_getElem?_getD]
  rw [List.getElem?_append_left hu]

/-- The shape of a step of `s`, for transfer to other states.  Some goroutine `u`, idle only if the step is its invocation,
moves to `p`, the object becomes `o` and the log grows by `e`; and the same happens in every state `x` with the same object
in which `u` exists and is where it is in `s`, in any system whose menu has the invoked operation.  (The clause on idle `u`
is for completeness: goroutines beyond the judge's `n` stay idle, `ObjComplete.step_tid_lt`.) -/
theorem succ_transfer {apply : σ → Op → List (σ × Res)} {menu : List Op} {s s' : State σ Op Res}
    {l : Option (Event Op Res)} (hs : (l, s') ∈ succ apply menu s) :
    ∃ u p o e, u < s.pcs.length ∧ (s.pc u = .idle → ∃ op, l = some (.inv u op)) ∧
      s' = ⟨s.pcs.set u p, o, e :: s.log⟩ ∧
      ∀ (menu' : List Op) (x : State σ Op Res), x.obj = s.obj → (∀ op, l = some (.inv u op) → op ∈ menu → op ∈ menu') →
        u < x.pcs.length → x.pc u = s.pc u → (l, ⟨x.pcs.set u p, o, e :: x.log⟩) ∈ succ apply menu' x := by
  cases mem_succ_iff.1 hs with
  | @inv u op hu hpc hop =>
    exact ⟨u, _, _, _, hu, fun _ => ⟨op, rfl⟩, rfl, fun _ x hobj hm hux hpx =>
      hobj ▸ mem_succ_iff.2 (.inv hux (hpx.trans hpc) (hm op rfl hop))⟩
  | @lin u op o r hu hpc happ =>
    refine ⟨u, _, _, _, hu, fun h => ?_, rfl, fun _ x hobj _ hux hpx =>
      mem_succ_iff.2 (.lin hux (hpx.trans hpc) (hobj ▸ happ))⟩
    exact nomatch h.symm.trans hpc
  | @res u op r hu hpc =>
    refine ⟨u, _, _, _, hu, fun h => ?_, rfl, fun _ x hobj _ hux hpx =>
      hobj ▸ mem_succ_iff.2 (.res hux (hpx.trans hpc))⟩
    exact nomatch h.symm.trans hpc

/-- a step of `s` is a step of every `t` that has more (idle) goroutines, a larger menu and any log; the log grows by the
same entry -/
theorem succ_sim {apply : σ → Op → List (σ × Res)} {menu menu' : List Op} (hm : ∀ op ∈ menu, op ∈ menu')
    {k : Nat} {s t : State σ Op Res} (h : Sim k s t) {l : Option (Event Op Res)} {s' : State σ Op Res}
    (hs : (l, s') ∈ succ apply menu s) :
    ∃ t', (l, t') ∈ succ apply menu' t ∧ Sim k s' t' ∧ (t.log = s.log → t'.log = s'.log) := by
  obtain ⟨u, p, o, e, hu, _, rfl, hx⟩ := succ_transfer hs
  have hu' : u < t.pcs.length := by
    rw [h.1, List.length_append]
    exact Nat.lt_of_lt_of_le hu (Nat.le_add_right _ _)
  exact ⟨_, hx menu' t h.2 (fun op _ => hm op) hu' (pc_of_sim h hu),
    ⟨by rw [h.1, List.set_append_left u p hu], rfl⟩, congrArg (e :: ·)⟩

/-! ### executions -/

/-- the master simulation: more idle goroutines, larger menu, any number of goroutines in the (irrelevant) initial state,
any ghost log -/
theorem exec_sim (S : Spec) {menu menu' : List S.Op} (hm : ∀ op ∈ menu, op ∈ menu') (n n' k : Nat)
    {a b : (sys S menu n).State} {ls : List (Option (sys S menu n).Event)}
    (he : Exec (sys S menu n) a ls b) :
    ∀ a' : State S.σ S.Op S.Res, Sim k a a' →
      ∃ b' : State S.σ S.Op S.Res, Exec (sys S menu' n') a' ls b' ∧ Sim k b b' ∧ (a'.log = a.log → b'.log = b.log) := by
  induction he with
  | nil s => intro a' h; exact ⟨a', Exec.nil _, h, id⟩
  | @cons s s1 s2 l ls hmem _ ih =>
    intro a' h
    obtain ⟨t1, hmem', hsim1, hlog1⟩ := succ_sim (menu' := menu') hm h hmem
    obtain ⟨b', hex, hsim2, hlog2⟩ := ih t1 hsim1
    exact ⟨b', Exec.cons hmem' hex, hsim2, fun hl => hlog2 (hlog1 hl)⟩

/-- **the ghost log is never read**: `eraseLog` is a bisimulation quotient of `AtomicObj.sys` — states that agree up to the
log have the same executions, ending in states that agree up to the log.  (The relation is symmetric, so this one
statement is both directions.) -/
theorem eraseLog_bisim (S : Spec) (menu : List S.Op) (n : Nat) {a a' b : State S.σ S.Op S.Res}
    {ls : List (Option (Event S.Op S.Res))} (he : Exec (sys S menu n) a ls b) (h : eraseLog a' = eraseLog a) :
    ∃ b' : State S.σ S.Op S.Res, Exec (sys S menu n) a' ls b' ∧ eraseLog b' = eraseLog b := by
  obtain ⟨b', hex, hsim, _⟩ := exec_sim S (fun _ h => h) n n 0 he a' ((sim_zero_iff _ _).2 h)
  exact ⟨b', hex, (sim_zero_iff _ _).1 hsim⟩

/-- in particular the judge may erase the log of the state it continues from -/
theorem exec_of_eraseLog (S : Spec) (menu : List S.Op) (n : Nat) {a b : State S.σ S.Op S.Res}
    {ls : List (Option (Event S.Op S.Res))} (he : Exec (sys S menu n) (eraseLog a) ls b) :
    ∃ b' : State S.σ S.Op S.Res, Exec (sys S menu n) a ls b' ∧ eraseLog b' = eraseLog b :=
  eraseLog_bisim S menu n he rfl

/-- **padding is a simulation** (lifting): an execution lifts to the states with `k` more idle goroutines -/
theorem exec_pad (S : Spec) (menu : List S.Op) (n n' k : Nat) {a b : State S.σ S.Op S.Res}
    {ls : List (Option (Event S.Op S.Res))} (he : Exec (sys S menu n) a ls b) :
    Exec (sys S menu n') (padBy k a) ls (padBy k b) := by
  obtain ⟨b', hex, hsim, hlog⟩ := exec_sim S (fun _ h => h) n n' k he (padBy k a) (sim_padBy k a)
  rw [eq_padBy_of_sim hsim (hlog rfl)] at hex
  exact hex

theorem exec_menu_mono (S : Spec) {menu menu' : List S.Op} (hm : ∀ op ∈ menu, op ∈ menu') (n : Nat)
    {a b : (sys S menu n).State} {ls : List (Option (sys S menu n).Event)} (he : Exec (sys S menu n) a ls b) :
    Exec (sys S menu' n) a ls b := by
  induction he with
  | nil s => exact Exec.nil _
  | cons hmem _ ih =>
    obtain ⟨u, p, o, e, hu, _, rfl, hx⟩ := succ_transfer hmem
    exact Exec.cons (hx menu' _ rfl (fun op _ => hm op) hu rfl) ih

/-- the `n` of `sys S menu n` matters only for the initial state -/
theorem exec_n_irrelevant (S : Spec) (menu : List S.Op) (n n' : Nat)
    {a b : (sys S menu n).State} {ls : List (Option (sys S menu n).Event)} (he : Exec (sys S menu n) a ls b) :
    Exec (sys S menu n') a ls b := by
  induction he with
  | nil s => exact Exec.nil _
  | cons hmem _ ih => exact Exec.cons hmem ih

/-! ### the judges' step -/

/-- the menu the judge steps an event with -/
def evMenu : Event Op Res → List Op
  | .inv _ op => [op]
  | .res _ _ => []

section Judge
variable (S : Spec) [DecidableEq S.σ] [DecidableEq S.Op] [DecidableEq S.Res]

/-- `Drv.C18.stepObj` / `Drv.ObjLin.stepObj` with the closure fuel as a parameter -/
def stepObjF (fuel n : Nat) (ss : List (State S.σ S.Op S.Res)) (e : Event S.Op S.Res) :
    List (State S.σ S.Op S.Res) :=
  let menu : List S.Op := match e with | .inv _ op => [op] | _ => []
  let ss' : List (State S.σ S.Op S.Res) := Conc.stepEvent (sys S menu n) fuel (ss.map (padObj n)) e
  Conc.dedup (ss'.map eraseLog)

/-- `stepObjF` spells the menu as a `match` on the event, as the drivers do, so that `Drv.*.stepObj = stepObjF` is `rfl`; for
the proofs the menu is `evMenu e` -/
theorem stepObjF_eq (fuel n : Nat) (ss : List (State S.σ S.Op S.Res)) (e : Event S.Op S.Res) :
    stepObjF S fuel n ss e =
      Conc.dedup ((Conc.stepEvent (sys S (evMenu e) n) fuel (ss.map (padObj n)) e).map eraseLog) := by
  cases e <;> rfl

theorem stepObjF_nil (fuel n : Nat) (e : Event S.Op S.Res) : stepObjF S fuel n [] e = [] := by
  rw [stepObjF_eq]
  have : Conc.stepEvent (sys S (evMenu e) n) fuel (([] : List (State S.σ S.Op S.Res)).map (padObj n)) e = [] :=
    tauClosure_nil (sys S (evMenu e) n) fuel
  rw [this]
  rfl

/-- every state in `stepObjF S fuel n ss e` is `eraseLog` of a state reached from the padding of some state of `ss` by an
execution with visible trace `[e]` -/
theorem stepObj_sound (fuel n : Nat) (ss : List (State S.σ S.Op S.Res)) (e : Event S.Op S.Res) :
    ∀ s' ∈ stepObjF S fuel n ss e, ∃ s ∈ ss, ∃ (ls : List (Option (Event S.Op S.Res))) (s1 : State S.σ S.Op S.Res),
      Exec (sys S (evMenu e) n) (padObj n s) ls s1 ∧ visible ls = [e] ∧ s' = eraseLog s1 := by
  intro s' h
  rw [stepObjF_eq] at h
  obtain ⟨s1, hs1, rfl⟩ := List.mem_map.1 (mem_of_mem_dedup h)
  obtain ⟨s0, hs0, ls, hex, hv⟩ := stepEvent_sound (sys S (evMenu e) n) fuel _ e s1 hs1
  obtain ⟨s, hs, rfl⟩ := List.mem_map.1 hs0
  exact ⟨s, hs, ls, s1, hex, hv, rfl⟩

/-- every state of `ss` is the log-erasure of a state reached, with visible trace `tr`, from the initial state of some
`sys S menu N` -/
def Acc (tr : List (Event S.Op S.Res)) (ss : List (State S.σ S.Op S.Res)) : Prop :=
  ∀ s ∈ ss, ∃ (N : Nat) (menu : List S.Op) (ls : List (Option (Event S.Op S.Res))) (s0 : State S.σ S.Op S.Res),
    Exec (sys S menu N) (init S N) ls s0 ∧ visible ls = tr ∧ eraseLog s0 = s

omit [DecidableEq S.σ] [DecidableEq S.Op] [DecidableEq S.Res] in
theorem acc_init (n : Nat) : Acc S [] [init S n] := by
  intro s hs
  rw [List.mem_singleton.1 hs]
  exact ⟨n, [], [], init S n, Exec.nil _, rfl, rfl⟩

omit [DecidableEq S.σ] [DecidableEq S.Op] [DecidableEq S.Res] in
theorem acc_nil (tr : List (Event S.Op S.Res)) : Acc S tr [] := by
  intro s hs
  cases hs

/-- one step of the judge (with any number of goroutines `n`, any fuel) -/
theorem acc_step (fuel n : Nat) {tr : List (Event S.Op S.Res)} {ss : List (State S.σ S.Op S.Res)}
    (h : Acc S tr ss) (e : Event S.Op S.Res) : Acc S (tr ++ [e]) (stepObjF S fuel n ss e) := by
  intro s' hs'
  obtain ⟨s, hs, ls1, s1, hex1, hv1, rfl⟩ := stepObj_sound S fuel n ss e s' hs'
  obtain ⟨N, menu, ls0, s0, hex0, hv0, rfl⟩ := h s hs
  -- the number of goroutines added by the padding
  let k := n - s0.pcs.length
  -- the execution so far, with `k` more idle goroutines and the larger menu
  obtain ⟨a, hexa, hsa, _⟩ := exec_sim S (menu' := menu ++ evMenu e) (fun op h => List.mem_append_left _ h) N (N + k) k
    hex0 (init S (N + k)) ⟨List.replicate_append_replicate.symm, rfl⟩
  -- the judge's execution for this event, replayed from the real (log-carrying) state
  obtain ⟨b, hexb, hsb, _⟩ := exec_sim S (menu' := menu ++ evMenu e) (fun op h => List.mem_append_right _ h) n (N + k) 0
    hex1 a ⟨by rw [hsa.1]; exact (List.append_nil _).symm, hsa.2⟩
  exact ⟨N + k, menu ++ evMenu e, ls0 ++ ls1, b, Exec.append hexa hexb, by rw [visible_append, hv0, hv1],
    (sim_zero_iff _ _).1 hsb⟩

omit [DecidableEq S.σ] [DecidableEq S.Op] [DecidableEq S.Res] in
theorem acc_nonempty {tr : List (Event S.Op S.Res)} {ss : List (State S.σ S.Op S.Res)} (h : Acc S tr ss)
    (hne : ss ≠ []) :
    ∃ (N : Nat) (menu : List S.Op) (ls : List (Option (Event S.Op S.Res))) (s : State S.σ S.Op S.Res),
      Exec (sys S menu N) (sys S menu N).init ls s ∧ visible ls = tr := by
  cases ss with
  | nil => exact absurd rfl hne
  | cons s rest =>
    obtain ⟨N, menu, ls, s0, hex, hv, _⟩ := h s List.mem_cons_self
    exact ⟨N, menu, ls, s0, hex, hv⟩

omit [DecidableEq S.σ] in
/-- a non-empty accounted-for state set: the history read so far is linearizable (by `Lemmas.AtomicObj.linearizable`) -/
theorem acc_linearizable {tr : List (Event S.Op S.Res)} {ss : List (State S.σ S.Op S.Res)} (h : Acc S tr ss)
    (hne : ss ≠ []) : Linearizable S tr := by
  obtain ⟨N, menu, ls, s, hex, hv⟩ := acc_nonempty S h hne
  rw [← hv]
  exact Lemmas.AtomicObj.linearizable S menu N hex

/-- the judges' fold: `nf` computes the number of goroutines used for an event from the previous one and the event
(`Drv.C18.step`: `if t + 1 > n then t + 1 else n`; `Drv.ObjLin.stepMap`: `max n (t + 1)` at `inv`, `n` at `res`) -/
def foldObj (fuel : Nat) (nf : Nat → Event S.Op S.Res → Nat) (j : Nat × List (State S.σ S.Op S.Res))
    (tr : List (Event S.Op S.Res)) : Nat × List (State S.σ S.Op S.Res) :=
  tr.foldl (fun j e => (nf j.1 e, stepObjF S fuel (nf j.1 e) j.2 e)) j

theorem foldObj_acc (fuel : Nat) (nf : Nat → Event S.Op S.Res → Nat) (tr : List (Event S.Op S.Res)) :
    ∀ (tr0 : List (Event S.Op S.Res)) (j : Nat × List (State S.σ S.Op S.Res)),
      Acc S tr0 j.2 → Acc S (tr0 ++ tr) (foldObj S fuel nf j tr).2 := by
  induction tr with
  | nil => intro tr0 j h; simpa [foldObj] using h
  | cons e tr ih =>
    intro tr0 j h
    have := ih (tr0 ++ [e]) (nf j.1 e, stepObjF S fuel (nf j.1 e) j.2 e) (acc_step S fuel _ h e)
    simpa [foldObj] using this

/-- if folding `stepObjF` over the events `tr`, with the judge's growing number of goroutines, from the initial state set
leaves a non-empty set, `tr` is the visible trace of an execution of some `AtomicObj.sys S menu N` from its initial state -/
theorem fold_stepObj_sound (fuel : Nat) (nf : Nat → Event S.Op S.Res → Nat) (n0 : Nat) (tr : List (Event S.Op S.Res))
    (hne : (foldObj S fuel nf (n0, [init S n0]) tr).2 ≠ []) :
    ∃ (N : Nat) (menu : List S.Op) (ls : List (Option (Event S.Op S.Res))) (s : State S.σ S.Op S.Res),
      Exec (sys S menu N) (sys S menu N).init ls s ∧ visible ls = tr := by
  have := foldObj_acc S fuel nf tr [] (n0, [init S n0]) (acc_init S n0)
  rw [List.nil_append] at this
  exact acc_nonempty S this hne

theorem fold_stepObj_linearizable (fuel : Nat) (nf : Nat → Event S.Op S.Res → Nat) (n0 : Nat)
    (tr : List (Event S.Op S.Res)) (hne : (foldObj S fuel nf (n0, [init S n0]) tr).2 ≠ []) :
    Linearizable S tr := by
  obtain ⟨N, menu, ls, s, hex, hv⟩ := fold_stepObj_sound S fuel nf n0 tr hne
  rw [← hv]
  exact Lemmas.AtomicObj.linearizable S menu N hex

end Judge

end TypVerif.Lemmas.ObjAccept

#print axioms TypVerif.Lemmas.ObjAccept.eraseLog_bisim
#print axioms TypVerif.Lemmas.ObjAccept.exec_pad
#print axioms TypVerif.Lemmas.ObjAccept.exec_menu_mono
#print axioms TypVerif.Lemmas.ObjAccept.stepObj_sound
#print axioms TypVerif.Lemmas.ObjAccept.acc_step
#print axioms TypVerif.Lemmas.ObjAccept.fold_stepObj_sound
#print axioms TypVerif.Lemmas.ObjAccept.fold_stepObj_linearizable
