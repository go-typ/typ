import TypVerif.Lemmas.AtomicObj
import TypVerif.Spec.Register
/-
AtomicValue (contract + wrapper) against the register.  Every outcome of the wrapper's `apply` is one of the register's
(`apply_refines`; equal once a value is stored), so a sequential run of the wrapper is one of the register (`seqRun_mono`)
and the linearization of `AtomicObj.linearizable` serves for both.
-/
namespace TypVerif.Lemmas.AtomicValue
open TypVerif TypVerif.Conc TypVerif.Model TypVerif.Model.AtomicObj TypVerif.Model.AtomicValue
open TypVerif.Spec.Register (lastStored cur)

/-- CompareAndSwap on a stored value -/
theorem atomCAS_some (c old new : Int) :
    atomCAS (some c) old new = (some (if c = old then new else c), decide (c = old)) := by
  unfold atomCAS
  by_cases e : c = old
  · rw [if_pos (congrArg some e), if_pos e, decide_eq_true e]
  · rw [if_neg (mt Option.some.inj e), if_neg e, decide_eq_false e]

/-- once a value has been stored the wrapper is exactly the register -/
theorem apply_eq_after_store (c : Int) (op : Op) :
    AtomicValue.apply (some c) op = Spec.Register.apply (some c) op := by
  cases op with
  | load => rfl
  | store v => rfl
  | swap v => rfl
  | cas old new =>
    by_cases e : c = old <;> simp [AtomicValue.apply, atomCAS, Spec.Register.apply, e]

theorem apply_refines (σ : Option Int) (op : Op) (p : Option Int × Res)
    (h : p ∈ AtomicValue.apply σ op) : p ∈ Spec.Register.apply σ op := by
  cases σ with
  | some c => exact apply_eq_after_store c op ▸ h
  | none =>
    -- on the empty value the two agree but for `CompareAndSwap`, which fails; the register allows that too
    cases op with
    | load => exact h
    | store v => exact h
    | swap v => exact h
    | cas old new => exact List.mem_singleton.mp h ▸ List.mem_cons_self

/-- each wrapper method is deterministic: exactly one atomic outcome -/
theorem apply_length (σ : Option Int) (op : Op) : (AtomicValue.apply σ op).length = 1 := by
  cases op <;> rfl

theorem seqRun_mono (S : Spec) (apply2 : S.σ → S.Op → List (S.σ × S.Res))
    (hsub : ∀ σ op p, p ∈ S.apply σ op → p ∈ apply2 σ op) {h : List (S.Op × S.Res)} {σ : S.σ}
    (hr : SeqRun S h σ) : SeqRun { S with apply := apply2 } h σ := by
  induction hr with
  | nil => exact SeqRun.nil
  | cons _ happ ih => exact SeqRun.cons ih (hsub _ _ _ happ)

theorem register_spec_eq : Spec.Register.spec = { AtomicValue.spec with apply := Spec.Register.apply } := rfl

/-- every execution of the AtomicValue system is linearizable to the register -/
theorem linearizable_register (menu : List Op) (n : Nat)
    {ls : List (Option (Event Op Res))} {s : (sys AtomicValue.spec menu n).State}
    (he : Exec (sys AtomicValue.spec menu n) (sys AtomicValue.spec menu n).init ls s) :
    Linearizable Spec.Register.spec (visible ls) := by
  obtain ⟨log, h1, ⟨σ, h2⟩, h3⟩ := Lemmas.AtomicObj.linearizable AtomicValue.spec menu n he
  refine ⟨log, h1, ⟨σ, ?_⟩, h3⟩
  exact seqRun_mono AtomicValue.spec Spec.Register.apply apply_refines h2

theorem apply_lastStored (a : Option Int) (op : Op) (o : Option Int) (r : Res) (hist : List (Op × Res))
    (h : (o, r) ∈ AtomicValue.apply a op) (ih : a = lastStored hist) :
    o = lastStored ((op, r) :: hist) := by
  cases op with
  | load => cases List.mem_singleton.mp h; exact ih
  | store v => cases List.mem_singleton.mp h; rfl
  | swap v => cases List.mem_singleton.mp h; rfl
  | cas old new =>
    have h' : (o, r) = ((atomCAS a old new).1, .bool (atomCAS a old new).2) := List.mem_singleton.mp h
    unfold atomCAS at h'
    split at h' <;> cases h'
    · rfl
    · exact ih

theorem seqRun_lastStored {h : List (AtomicValue.spec.Op × AtomicValue.spec.Res)} {σ : AtomicValue.spec.σ}
    (hr : SeqRun AtomicValue.spec h σ) : σ = lastStored h := by
  induction hr with
  | nil => rfl
  | cons _ happ ih => exact apply_lastStored _ _ _ _ _ happ ih

/-- the shared content is the most recently stored value (in linearization order) -/
theorem obj_eq_lastStored (menu : List Op) (n : Nat) (s : AtomicObj.State (Option Int) Op Res)
    (hr : Reachable (sys AtomicValue.spec menu n) s) : s.obj = lastStored (linsOf s.log) :=
  seqRun_lastStored (Lemmas.AtomicObj.good_reachable AtomicValue.spec menu n s hr).seq

/-- the linearization step of an operation of goroutine `t`, with its result -/
def LinStep (menu : List Op) (s s' : AtomicObj.State (Option Int) Op Res) (t : Nat) (op : Op) (r : Res) : Prop :=
  (none, s') ∈ AtomicObj.succ AtomicValue.apply menu s ∧ s'.log = AtomicObj.Entry.lin t op r :: s.log

theorem linStep_apply {menu : List Op} {s s' : AtomicObj.State (Option Int) Op Res} {t : Nat} {op : Op} {r : Res}
    (h : LinStep menu s s' t op r) : (s'.obj, r) ∈ AtomicValue.apply s.obj op := by
  obtain ⟨hmem, hlog⟩ := h
  cases Lemmas.AtomicObj.mem_succ_iff.1 hmem with
  | lin _ _ happ => cases hlog; exact happ

theorem linStep_lastStored {menu : List Op} {n : Nat} {s s' : AtomicObj.State (Option Int) Op Res} {t : Nat} {op : Op}
    {r : Res} (hr : Reachable (sys AtomicValue.spec menu n) s) (h : LinStep menu s s' t op r) :
    s.obj = lastStored (linsOf s.log) ∧ (s'.obj, r) ∈ AtomicValue.apply (lastStored (linsOf s.log)) op :=
  ⟨obj_eq_lastStored menu n s hr, obj_eq_lastStored menu n s hr ▸ linStep_apply h⟩

/-- `Load` changes nothing and returns what was stored last, unboxed (zero when nothing was) -/
theorem load_lastStored {menu : List Op} {n : Nat} {s s' : AtomicObj.State (Option Int) Op Res} {t : Nat} {r : Res}
    (hr : Reachable (sys AtomicValue.spec menu n) s) (h : LinStep menu s s' t .load r) :
    r = .val (unbox (atomLoad (lastStored (linsOf s.log)))) ∧ s'.obj = s.obj := by
  obtain ⟨ho, this⟩ := linStep_lastStored hr h
  obtain ⟨h1, h2⟩ := Prod.mk.inj (List.mem_singleton.mp this)
  exact ⟨h2, h1.trans ho.symm⟩

end TypVerif.Lemmas.AtomicValue
