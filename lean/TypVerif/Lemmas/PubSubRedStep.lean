import TypVerif.Lemmas.ConcAcceptC10
/-
C10, completeness of the judge's reduction (`Drv.C10.succJ`): the "lag" transformer `lagT` (definitions and algebra) and
its right-commutation with every step function of the model, state half (`Sub'`).

A LAG STEP is one of the two kinds of internal steps that the judge's reduced system may postpone:
* `rd`  — a `sendAsync` goroutine takes the read lock (`asyncStart o it ↦ asyncSend o it false`, `readers + 1`);
* `ann` — a writer announces (`subStart/unsubStart/uaStart ↦ …Wait`, `waiting + 1`).
Both only touch the task itself and one counter of the `RWMutex` of one object: `lagT o f g t'`.
-/
namespace TypVerif.Lemmas.PubSubRed
open TypVerif TypVerif.Conc TypVerif.Model.PubSub TypVerif.Drv.C10
open PubSubStep (obj_setObj obj_setObj_self obj_setObj_ne)

def updObj (o : Nat) (F : ObjSt → ObjSt) (x : State) : State := x.setObj o (F (x.obj o))

def rwMap (f : RW → RW) (ob : ObjSt) : ObjSt := { ob with rw := f ob.rw }

/-- the lag transformer: `f` on the RWMutex of object `o`, task `g` becomes `t'` -/
def lagT (o : Nat) (f : RW → RW) (g : Nat) (t' : Task) (x : State) : State :=
  (updObj o (rwMap f) x).setTask g t'

theorem rlock_eq (x : State) (o : Nat) : x.rlock o = updObj o (rwMap RW.rlock) x := rfl
theorem runlock_eq (x : State) (o : Nat) : x.runlock o = updObj o (rwMap RW.runlock) x := rfl
theorem announce_eq (x : State) (o : Nat) : x.announce o = updObj o (rwMap RW.announce) x := rfl

theorem setObj_setObj_same (x : State) (o : Nat) (A B : ObjSt) : (x.setObj o A).setObj o B = x.setObj o B := by
  simp [State.setObj, List.set_set]

theorem setObj_setObj_ne (x : State) (o o' : Nat) (A B : ObjSt) (h : o ≠ o') :
    (x.setObj o A).setObj o' B = (x.setObj o' B).setObj o A := by
  simp [State.setObj, List.set_comm _ _ h]

theorem updObj_updObj_same (x : State) (o : Nat) (F H : ObjSt → ObjSt) (ho : o < x.objs.length) :
    updObj o F (updObj o H x) = x.setObj o (F (H (x.obj o))) := by
  unfold updObj
  rw [obj_setObj_self _ _ ho, setObj_setObj_same]

theorem updObj_comm_ne (x : State) (o o' : Nat) (F H : ObjSt → ObjSt) (h : o ≠ o') :
    updObj o F (updObj o' H x) = updObj o' H (updObj o F x) := by
  unfold updObj
  rw [obj_setObj_ne _ _ _ _ h, obj_setObj_ne _ _ _ _ (Ne.symm h), setObj_setObj_ne _ _ _ _ _ (Ne.symm h)]

theorem updObj_comm (x : State) (o o' : Nat) (F H : ObjSt → ObjSt) (ho : o < x.objs.length)
    (h : o = o' → F (H (x.obj o)) = H (F (x.obj o))) :
    updObj o F (updObj o' H x) = updObj o' H (updObj o F x) := by
  by_cases hne : o = o'
  · subst hne
    rw [updObj_updObj_same _ _ _ _ ho, updObj_updObj_same _ _ _ _ ho, h rfl]
  · exact updObj_comm_ne x o o' F H hne

@[simp] theorem updObj_objs_length (x : State) (o : Nat) (F : ObjSt → ObjSt) : (updObj o F x).objs.length = x.objs.length := by
  simp [updObj, State.setObj]


section
variable (o : Nat) (f : RW → RW) (g : Nat) (t' : Task) (x : State)

@[simp] theorem lagT_chans : (lagT o f g t' x).chans = x.chans := rfl
@[simp] theorem lagT_wgs : (lagT o f g t' x).wgs = x.wgs := rfl
@[simp] theorem lagT_pids : (lagT o f g t' x).pids = x.pids := rfl
@[simp] theorem lagT_panicked : (lagT o f g t' x).panicked = x.panicked := rfl
@[simp] theorem lagT_exited : (lagT o f g t' x).exited = x.exited := rfl
@[simp] theorem lagT_delivered : (lagT o f g t' x).delivered = x.delivered := rfl
@[simp] theorem lagT_timedOut : (lagT o f g t' x).timedOut = x.timedOut := rfl
theorem lagT_tasks : (lagT o f g t' x).tasks = x.tasks.set g t' := rfl
@[simp] theorem lagT_tasks_length : (lagT o f g t' x).tasks.length = x.tasks.length := by simp [lagT_tasks]
@[simp] theorem lagT_objs_length : (lagT o f g t' x).objs.length = x.objs.length := by
  show (updObj o (rwMap f) x).objs.length = _
  simp

theorem lagT_task_ne (k : Nat) (hk : k ≠ g) : (lagT o f g t' x).tasks[k]? = x.tasks[k]? := by
  rw [lagT_tasks, List.getElem?_set_ne (Ne.symm hk)]

theorem lagT_task_self (hg : g < x.tasks.length) : (lagT o f g t' x).tasks[g]? = some t' := by
  rw [lagT_tasks, List.getElem?_set_self hg]

theorem lagT_obj (ho : o < x.objs.length) (o' : Nat) :
    (lagT o f g t' x).obj o' = if o' = o then rwMap f (x.obj o) else x.obj o' := by
  show ((x.setObj o (rwMap f (x.obj o))).setTask g t').obj o' = _
  show (x.setObj o (rwMap f (x.obj o))).obj o' = _
  rw [obj_setObj]
  by_cases h : o = o'
  · subst h; simp [ho]
  · simp [h, Ne.symm h]

theorem lagT_obj_self (ho : o < x.objs.length) : (lagT o f g t' x).obj o = rwMap f (x.obj o) := by
  rw [lagT_obj _ _ _ _ _ ho]; simp

theorem lagT_obj_ne (o' : Nat) (h : o' ≠ o) : (lagT o f g t' x).obj o' = x.obj o' := by
  show (x.setObj o (rwMap f (x.obj o))).obj o' = _
  exact obj_setObj_ne _ _ _ _ h

@[simp] theorem rwMap_subs (ob : ObjSt) : (rwMap f ob).subs = ob.subs := rfl
@[simp] theorem rwMap_ready (ob : ObjSt) : (rwMap f ob).ready = ob.ready := rfl
@[simp] theorem rwMap_only (ob : ObjSt) : (rwMap f ob).only = ob.only := rfl
@[simp] theorem rwMap_rw (ob : ObjSt) : (rwMap f ob).rw = f ob.rw := rfl

theorem lagT_obj_subs (ho : o < x.objs.length) (o' : Nat) : ((lagT o f g t' x).obj o').subs = (x.obj o').subs := by
  rw [lagT_obj _ _ _ _ _ ho]; split
  · rename_i h; subst h; rfl
  · rfl

theorem lagT_obj_ready (ho : o < x.objs.length) (o' : Nat) : ((lagT o f g t' x).obj o').ready = (x.obj o').ready := by
  rw [lagT_obj _ _ _ _ _ ho]; split
  · rename_i h; subst h; rfl
  · rfl

theorem lagT_validObj (ho : o < x.objs.length) (o' : Nat) : (lagT o f g t' x).validObj o' = x.validObj o' := by
  unfold State.validObj
  rw [lagT_objs_length, lagT_obj_ready _ _ _ _ _ ho]

theorem lagT_setTask (k : Nat) (t'' : Task) (hk : k ≠ g) :
    (lagT o f g t' x).setTask k t'' = lagT o f g t' (x.setTask k t'') := by
  show { (updObj o (rwMap f) x) with tasks := (x.tasks.set g t').set k t'' } = { (updObj o (rwMap f) x) with tasks := (x.tasks.set k t'').set g t' }
  rw [List.set_comm _ _ (Ne.symm hk)]

theorem lagT_spawn (ts : List Task) (hg : g < x.tasks.length) :
    (lagT o f g t' x).spawn ts = lagT o f g t' (x.spawn ts) := by
  show { (updObj o (rwMap f) x) with tasks := x.tasks.set g t' ++ ts } = { (updObj o (rwMap f) x) with tasks := (x.tasks ++ ts).set g t' }
  rw [List.set_append_left _ _ hg]

theorem lagT_updObj (o' : Nat) (H : ObjSt → ObjSt) (ho : o < x.objs.length)
    (h : o = o' → rwMap f (H (x.obj o)) = H (rwMap f (x.obj o))) :
    updObj o' H (lagT o f g t' x) = lagT o f g t' (updObj o' H x) := by
  show (updObj o' H (updObj o (rwMap f) x)).setTask g t' = (updObj o (rwMap f) (updObj o' H x)).setTask g t'
  rw [updObj_comm x o o' (rwMap f) H ho h]

theorem lagT_panic (m : String) : (lagT o f g t' x).panic m = lagT o f g t' (x.panic m) := rfl
theorem lagT_logTimeout (it : Item) : (lagT o f g t' x).logTimeout it = lagT o f g t' (x.logTimeout it) := rfl
theorem lagT_wgDone (w : Nat) : wgDone (lagT o f g t' x) w = lagT o f g t' (wgDone x w) := by
  unfold wgDone
  by_cases h : (x.wgs.getD w 0 == 0) = true
  · rw [if_pos h, if_pos (show ((lagT o f g t' x).wgs.getD w 0 == 0) = true from h)]; rfl
  · rw [if_neg h, if_neg (show ¬ ((lagT o f g t' x).wgs.getD w 0 == 0) = true from h)]; rfl

end

end TypVerif.Lemmas.PubSubRed

/-
A lag step (`lagT`) of task `g` RIGHT-COMMUTES with every step of every other task, of a receiver, of the environment: whatever can
be done after the lag step can be done before it, with the same label, and the lag step then leads to the same state (`Sub'`; the
rest of this file).  That the lag step is still enabled then is `lagStep_kept` in `PubSubRedLag`.
-/
namespace TypVerif.Lemmas.PubSubRed
open TypVerif TypVerif.Conc TypVerif.Model.PubSub TypVerif.Drv.C10

/-- What the commutation needs of the function `f` (`rlock` or `announce`) that the lag step applies to the RWMutex.  `crl`, `cl`: a lock
that can be taken after `f` can be taken before it.  `rl`, `an`, `ru`, `lu`: `f` commutes with `rlock`, `announce`, `runlock`,
`lockUnlock`; the last two decrement `readers` / `waiting` with truncated subtraction, hence the positivity hypotheses (supplied by
the invariant `Good`). -/
structure FOK (f : RW → RW) : Prop where
  crl : ∀ rw, (f rw).canRLock = true → rw.canRLock = true
  cl : ∀ rw, (f rw).canLock = true → rw.canLock = true
  rl : ∀ rw, f rw.rlock = (f rw).rlock
  an : ∀ rw, f rw.announce = (f rw).announce
  ru : ∀ rw, 0 < rw.readers → f rw.runlock = (f rw).runlock
  lu : ∀ rw, (f rw).canLock = true → 0 < rw.waiting → f rw.lockUnlock = (f rw).lockUnlock

theorem fok_rlock : FOK RW.rlock where
  crl := by intro rw h; simpa [RW.canRLock, RW.rlock] using h
  cl := by intro rw h; simp [RW.canLock, RW.rlock] at h
  rl := by intro rw; rfl
  an := by intro rw; rfl
  ru := by
    intro rw h
    simp only [RW.rlock, RW.runlock]
    congr 1; omega
  lu := by intro rw h; simp [RW.canLock, RW.rlock] at h

theorem fok_announce : FOK RW.announce where
  crl := by intro rw h; simp [RW.canRLock, RW.announce] at h
  cl := by intro rw h; simpa [RW.canLock, RW.announce] using h
  rl := by intro rw; rfl
  an := by intro rw; rfl
  ru := by intro rw _; rfl
  lu := by
    intro rw _ h
    simp only [RW.announce, RW.lockUnlock]
    congr 1; omega

/-- every step of `A` is a step of `B` followed by `T`, and the state reached by `B` satisfies `P` -/
def Sub (T : State → State) (P : State → Prop) (A B : Steps) : Prop := ∀ p ∈ A, ∃ q ∈ B, p = (q.1, T q.2) ∧ P q.2

theorem sub_map (T : State → State) (P : State → Prop) (B : Steps) (h : ∀ q ∈ B, P q.2) :
    Sub T P (B.map (fun q => (q.1, T q.2))) B := by
  intro p hp
  obtain ⟨q, hq, rfl⟩ := List.mem_map.1 hp
  exact ⟨q, hq, rfl, h q hq⟩

/-- `P` is trivial: that the lag step is still enabled in the state reached by `B` is `lagStep_kept` (`PubSubRedLag`) -/
abbrev Sub' (T : State → State) (A B : Steps) : Prop := Sub T (fun _ => True) A B

theorem sub_nil (T : State → State) (B : Steps) : Sub' T [] B := by intro p hp; cases hp

theorem sub_single (T : State → State) {l : Option Event} {a b : State} (h : a = T b) : Sub' T [(l, a)] [(l, b)] := by
  intro p hp
  rw [List.mem_singleton.1 hp]
  exact ⟨(l, b), List.mem_singleton.2 rfl, by rw [h], trivial⟩

theorem sub_ite (T : State → State) {c : Prop} [Decidable c] {A A' B B' : Steps}
    (h : c → Sub' T A B) (h' : ¬ c → Sub' T A' B') : Sub' T (if c then A else A') (if c then B else B') := by
  split
  · exact h ‹_›
  · exact h' ‹_›

/-- a guarded step list: if the guard holds after `T` it held before -/
theorem sub_guard (T : State → State) {c c' : Bool} {A B : Steps} (h : c = true → c' = true)
    (hs : c = true → Sub' T A B) : Sub' T (if (!c) = true then [] else A) (if (!c') = true then [] else B) := by
  cases hc : c with
  | false => exact sub_nil _ _
  | true => rw [h hc]; exact hs hc

theorem sub_append (T : State → State) {A A' B B' : Steps} (h : Sub' T A B) (h' : Sub' T A' B') : Sub' T (A ++ A') (B ++ B') := by
  intro p hp
  rcases List.mem_append.1 hp with hp | hp
  · obtain ⟨q, hq, e⟩ := h p hp; exact ⟨q, List.mem_append_left _ hq, e⟩
  · obtain ⟨q, hq, e⟩ := h' p hp; exact ⟨q, List.mem_append_right _ hq, e⟩

section
variable {o : Nat} {f : RW → RW} {g : Nat} {t' : Task} {x : State}

theorem canRLock_of_lag (hf : FOK f) (ho : o < x.objs.length) {o' : Nat}
    (h : ((lagT o f g t' x).obj o').rw.canRLock = true) : (x.obj o').rw.canRLock = true := by
  rw [lagT_obj _ _ _ _ _ ho] at h
  split at h
  · rename_i e; subst e; exact hf.crl _ h
  · exact h

theorem canLock_of_lag (hf : FOK f) (ho : o < x.objs.length) {o' : Nat}
    (h : ((lagT o f g t' x).obj o').rw.canLock = true) : (x.obj o').rw.canLock = true := by
  rw [lagT_obj _ _ _ _ _ ho] at h
  split at h
  · rename_i e; subst e; exact hf.cl _ h
  · exact h

/-- an update `r` of the RWMutex of `o'` commutes with the lag transformer if `r` commutes with `f` (needed when `o' = o` only);
`rlock`, `announce`, `runlock` are such updates by definition (`rlock_eq`, `announce_eq`, `runlock_eq`) -/
theorem lagT_rwMap (ho : o < x.objs.length) (o' : Nat) (r : RW → RW) (h : o = o' → f (r (x.obj o).rw) = r (f (x.obj o).rw)) :
    updObj o' (rwMap r) (lagT o f g t' x) = lagT o f g t' (updObj o' (rwMap r) x) :=
  lagT_updObj _ _ _ _ _ _ _ ho fun e => by
    show ({ (x.obj o) with rw := f (r (x.obj o).rw) } : ObjSt) = { (x.obj o) with rw := r (f (x.obj o).rw) }
    rw [h e]

theorem lagT_rlock (hf : FOK f) (ho : o < x.objs.length) (o' : Nat) :
    (lagT o f g t' x).rlock o' = lagT o f g t' (x.rlock o') :=
  lagT_rwMap ho o' RW.rlock fun _ => hf.rl _

theorem lagT_announce (hf : FOK f) (ho : o < x.objs.length) (o' : Nat) :
    (lagT o f g t' x).announce o' = lagT o f g t' (x.announce o') :=
  lagT_rwMap ho o' RW.announce fun _ => hf.an _

theorem lagT_runlock (hf : FOK f) (ho : o < x.objs.length) (o' : Nat) (hr : o = o' → 0 < (x.obj o).rw.readers) :
    (lagT o f g t' x).runlock o' = lagT o f g t' (x.runlock o') :=
  lagT_rwMap ho o' RW.runlock fun e => hf.ru _ (hr e)

open ConcAcceptC10 (mapSent) in
theorem sendTo_lag (it : Item) : sendTo (lagT o f g t' x) it = mapSent (lagT o f g t') (sendTo x it) := by
  simp only [sendTo, lagT_chans]
  cases getChan x.chans it.c with
  | none => rfl
  | some ch =>
    simp only [apply_ite (mapSent (lagT o f g t'))]
    rfl

theorem stepSend_lag (cfg : Cfg) (it : Item) (cb : Bool) (fin setCb : State → State)
    (hfin : ∀ y, y.objs = x.objs → fin (lagT o f g t' y) = lagT o f g t' (fin y))
    (hcb : ∀ y, setCb (lagT o f g t' y) = lagT o f g t' (setCb y)) :
    Sub' (lagT o f g t') (stepSend cfg (lagT o f g t' x) it cb fin setCb) (stepSend cfg x it cb fin setCb) := by
  unfold stepSend
  split
  · exact sub_single _ (hfin x rfl)
  · rw [sendTo_lag]
    apply sub_append
    · cases hs : sendTo x it with
      | blocked => exact sub_nil _ _
      | panic => exact sub_single _ (lagT_panic _ _ _ _ _ _)
      | sent s' => exact sub_single _ (hfin s' (PubSubSafe.sendTo_sent hs).objs)
    · split
      · refine sub_single _ ?_
        rw [lagT_logTimeout, hcb]
      · exact sub_nil _ _

end

end TypVerif.Lemmas.PubSubRed

/-
The commutation of a lag step on object `o` with every step of a task `tk` other than the lagging one, by cases on the task as `stepTask`
does.  The side conditions (`hr`: if `tk` holds the read lock of `o` it is counted, `hw`: if it is inside `Lock()` of `o` it is counted,
`hwo`: it is not constructing `o`) come from the invariant `Good` in `stepsOf_lag` (`PubSubRedLag`).
-/
namespace TypVerif.Lemmas.PubSubRed
open TypVerif TypVerif.Conc TypVerif.Model.PubSub TypVerif.Drv.C10

section
variable {o : Nat} {f : RW → RW} {g : Nat} {t' : Task} {x : State}

theorem lagT_withWgs (W : List Nat) (y : State) : ({ lagT o f g t' y with wgs := W } : State) = lagT o f g t' { y with wgs := W } := rfl
theorem lagT_withChans (W : List ChanSt) (y : State) : ({ lagT o f g t' y with chans := W } : State) = lagT o f g t' { y with chans := W } := rfl

/-- a writer's critical section: `subs` replaced, Lock released -/
theorem lagT_writer (hf : FOK f) (ho : o < x.objs.length) (o' : Nat) (cs : List ChanSt) (S : List Chan)
    (hcl : ((lagT o f g t' x).obj o').rw.canLock = true) (hw : o = o' → 0 < (x.obj o).rw.waiting) :
    ({ lagT o f g t' x with chans := cs }).setObj o'
        { (lagT o f g t' x).obj o' with subs := S, rw := ((lagT o f g t' x).obj o').rw.lockUnlock }
      = lagT o f g t' (({ x with chans := cs }).setObj o' { x.obj o' with subs := S, rw := (x.obj o').rw.lockUnlock }) := by
  have e := lagT_updObj o f g t' { x with chans := cs } o' (fun ob => { ob with subs := S, rw := ob.rw.lockUnlock }) ho (by
    intro e
    subst e
    show ({ (x.obj o) with subs := S, rw := f (x.obj o).rw.lockUnlock } : ObjSt) = { (x.obj o) with subs := S, rw := (f (x.obj o).rw).lockUnlock }
    rw [lagT_obj_self _ _ _ _ _ ho] at hcl
    rw [hf.lu _ hcl (hw rfl)])
  exact e

variable (hf : FOK f) (ho : o < x.objs.length) (hgl : g < x.tasks.length) {k : Nat} (hk : k ≠ g)
include hf ho hgl hk

theorem stepTask_lag (cfg : Cfg) (tk : Task)
    (hr : readsOn tk = some o → 0 < (x.obj o).rw.readers) (hw : waitsOn tk = some o → 0 < (x.obj o).rw.waiting)
    (hwo : woOf tk ≠ some o) :
    Sub' (lagT o f g t') (stepTask cfg (lagT o f g t' x) k tk) (stepTask cfg x k tk) := by
  have hset : ∀ {y : State} {t1 : Task}, (lagT o f g t' y).setTask k t1 = lagT o f g t' (y.setTask k t1) :=
    lagT_setTask _ _ _ _ _ _ _ hk
  have hunl : ∀ {y : State} {o' : Nat} {t1 : Task}, readsOn tk = some o' → y.objs = x.objs →
      ((lagT o f g t' y).runlock o').setTask k t1 = lagT o f g t' ((y.runlock o').setTask k t1) := fun h hy => by
    rw [lagT_runlock hf (hy ▸ ho) _ (by unfold State.obj; rw [hy]; exact fun e => hr (e ▸ h)), hset]
  have hann : ∀ (o' : Nat) (t1 : Task), Sub' (lagT o f g t')
      [(none, ((lagT o f g t' x).announce o').setTask k t1)] [(none, (x.announce o').setTask k t1)] := fun o' t1 =>
    sub_single _ (by rw [lagT_announce hf ho, hset])
  cases tk with
  | pubStart p o' v evs =>
    unfold stepTask stepPubStart
    refine sub_guard _ (canRLock_of_lag hf ho) (fun _ => ?_)
    dsimp only
    rw [lagT_obj_subs _ _ _ _ _ ho]
    generalize mkItems p evs (x.obj o').subs = items
    refine sub_ite _ (fun _ => ?_) (fun _ => sub_ite _ (fun _ => ?_) (fun _ => ?_))
    · cases items with
      | nil => exact sub_single _ hset
      | cons a r => exact sub_single _ (by rw [lagT_rlock hf ho, hset])
    · refine sub_single _ ?_
      rw [lagT_rlock hf ho, lagT_wgs, lagT_withWgs, hset,
        lagT_spawn _ _ _ _ _ _ (by simpa [State.setTask, State.rlock, State.setObj] using hgl)]
    · have hgl' : g < (x.setTask k (Task.pubRet p)).tasks.length := by simpa [State.setTask] using hgl
      exact sub_single _ (by rw [hset, lagT_spawn _ _ _ _ _ _ hgl'])
  | syncLoop p o' work cb =>
    unfold stepTask stepSyncLoop
    cases work with
    | nil => exact sub_nil _ _
    | cons it rest =>
      refine stepSend_lag cfg it cb _ _ (fun y hy => ?_) (fun y => hset)
      cases rest with
      | nil => exact hunl rfl hy
      | cons a r => exact hset
  | waitWg p o' w =>
    unfold stepTask stepWaitWg
    exact sub_ite _ (fun _ => sub_single _ (hunl rfl rfl)) (fun _ => sub_nil _ _)
  | asyncStart o' it =>
    unfold stepTask stepAsyncStart
    refine sub_guard _ (canRLock_of_lag hf ho) (fun _ => ?_)
    rw [lagT_obj_subs _ _ _ _ _ ho]
    exact sub_ite _ (fun _ => sub_single _ (by rw [lagT_rlock hf ho, hset])) (fun _ => sub_single _ hset)
  | asyncSend o' it cb =>
    unfold stepTask stepAsyncSend
    exact stepSend_lag cfg it cb _ _ (fun y hy => hunl rfl hy) (fun y => hset)
  | wgSend o' w it cb =>
    unfold stepTask stepWgSend
    refine stepSend_lag cfg it cb _ _ (fun y _ => ?_) (fun y => hset)
    show (wgDone (lagT o f g t' y) w).setTask k _ = _
    rw [lagT_wgDone, hset]
  | subStart o' c cap => exact hann o' _
  | subWait o' c cap =>
    unfold stepTask stepSubWait
    rw [lagT_chans]
    by_cases hc : ((lagT o f g t' x).obj o').rw.canLock = true
    · have hc' := canLock_of_lag hf ho hc
      simp only [hc, hc', Bool.not_true, Bool.false_or]
      split
      · exact sub_nil _ _
      · refine sub_single _ ?_
        rw [lagT_obj_subs _ _ _ _ _ ho, lagT_writer hf ho o' _ _ hc (fun e => hw (e ▸ rfl)), hset]
    · simp only [hc, Bool.not_false, Bool.true_or, ↓reduceIte]; exact sub_nil _ _
  | unsubStart u o' c =>
    cases c with
    | none => exact sub_single _ hset
    | some c => exact hann o' _
  | unsubWait u o' c =>
    unfold stepTask stepUnsubWait
    refine sub_guard _ (canLock_of_lag hf ho) (fun hc => ?_)
    dsimp only
    rw [lagT_chans, lagT_obj_subs _ _ _ _ _ ho]
    refine sub_ite _ (fun _ => sub_ite _ (fun _ => ?_) (fun _ => ?_)) (fun _ => ?_)
    · exact sub_single _ (lagT_panic _ _ _ _ _ _)
    · exact sub_single _ (by rw [lagT_writer hf ho o' _ _ hc (fun e => hw (e ▸ rfl)), hset])
    · refine sub_single _ ?_
      rw [← hset]
      exact congrArg (fun s => State.setTask s k _) (lagT_writer hf ho o' x.chans (x.obj o').subs hc (fun e => hw (e ▸ rfl)))
  | uaStart u o' => exact hann o' _
  | uaWait u o' =>
    unfold stepTask stepUaWait
    refine sub_guard _ (canLock_of_lag hf ho) (fun hc => ?_)
    rw [lagT_chans, lagT_obj_subs _ _ _ _ _ ho]
    cases closeAll x.chans (x.obj o').subs with
    | none => exact sub_single _ (lagT_panic _ _ _ _ _ _)
    | some cs => exact sub_single _ (by rw [lagT_writer hf ho o' _ _ hc (fun e => hw (e ▸ rfl)), hset])
  | woStart w o' c =>
    unfold stepTask stepWoStart
    refine sub_guard _ (canRLock_of_lag hf ho) (fun _ => ?_)
    rw [lagT_obj_subs _ _ _ _ _ ho]
    refine sub_single _ ?_
    have e := lagT_updObj o f g t' x w (fun _ => { subs := (x.obj o').subs.filter (fun x => x == c), rw := {}, only := some c, ready := true }) ho
      (fun e => absurd (congrArg some e.symm) hwo)
    rw [← hset]
    exact congrArg (fun s => State.setTask s k _) e
  | done => exact sub_nil _ _
  | _ => exact sub_single _ hset


end
end TypVerif.Lemmas.PubSubRed

/-
With the receivers, the environment and the exit steps a lag step (`lagT`) commutes exactly: `stepsOf_none_lag`.  `stepsOf_lag` (`PubSubRedLag`) puts it beside `stepTask_lag`.
-/
namespace TypVerif.Lemmas.PubSubRed
open TypVerif TypVerif.Conc TypVerif.Model.PubSub TypVerif.Drv.C10

section
variable {o : Nat} {f : RW → RW} {g : Nat} {t' : Task} {x : State}

theorem recvSteps_lag (ch : ChanSt) :
    recvSteps (lagT o f g t' x) ch = (recvSteps x ch).map (fun q => (q.1, lagT o f g t' q.2)) := by
  unfold recvSteps
  cases ch.holding <;> cases ch.buf <;> simp only [apply_ite (List.map _)] <;> rfl

theorem exitSteps_lag : exitSteps (lagT o f g t' x) = (exitSteps x).map (fun q => (q.1, lagT o f g t' q.2)) := rfl

theorem any_set_same {α : Type} (p : α → Bool) (l : List α) (i : Nat) (a b : α) (h : l[i]? = some a) (hp : p b = p a) :
    (l.set i b).any p = l.any p := by
  induction l generalizing i with
  | nil => cases h
  | cons c l ih =>
    cases i with
    | zero =>
      simp only [List.getElem?_cons_zero, Option.some.injEq] at h
      subst h
      simp [List.set, hp]
    | succ i =>
      simp only [List.getElem?_cons_succ] at h
      simp [List.set, ih i h]

theorem nameTaken_lag {t : Task} (ht : x.tasks[g]? = some t) (hsub : ∀ c, subName c t' = subName c t) (c : Chan) :
    nameTaken (lagT o f g t' x) c = nameTaken x c := by
  unfold nameTaken
  rw [lagT_chans, lagT_tasks, any_set_same _ _ _ _ _ ht (hsub c)]

theorem lagT_withPids (W : List Nat) (y : State) : ({ lagT o f g t' y with pids := W } : State) = lagT o f g t' { y with pids := W } := rfl

theorem lagT_appendObj (ho : o < x.objs.length) (A : ObjSt) :
    ({ lagT o f g t' x with objs := (lagT o f g t' x).objs ++ [A] } : State) = lagT o f g t' { x with objs := x.objs ++ [A] } := by
  have e : ({ x with objs := x.objs ++ [A] } : State).obj o = x.obj o := by
    show (x.objs ++ [A]).getD o {} = x.objs.getD o {}
    rw [List.getD_eq_getElem?_getD, List.getD_eq_getElem?_getD, List.getElem?_append_left ho]
  show ({ x with objs := x.objs.set o (rwMap f (x.obj o)) ++ [A], tasks := x.tasks.set g t' } : State)
    = { x with objs := (x.objs ++ [A]).set o (rwMap f (({ x with objs := x.objs ++ [A] } : State).obj o)), tasks := x.tasks.set g t' }
  rw [e, List.set_append_left _ _ ho]

theorem envStep_lag (cfg : Cfg) (ho : o < x.objs.length) (hgl : g < x.tasks.length) {t : Task} (ht : x.tasks[g]? = some t)
    (hsub : ∀ c, subName c t' = subName c t) (e : Event) :
    envStep cfg (lagT o f g t' x) e = (envStep cfg x e).map (lagT o f g t') := by
  cases e with
  | sub c cap | unsubinv u via c | unsuballinv u via =>
    simp only [envStep, nameTaken_lag ht hsub, lagT_validObj _ _ _ _ _ ho, lagT_spawn _ _ _ _ _ _ hgl,
      apply_ite (Option.map (lagT o f g t')), Option.map_some, Option.map_none]
  | mkchan c | allow c n =>
    simp only [envStep, nameTaken_lag ht hsub, lagT_chans, apply_ite (Option.map (lagT o f g t')), Option.map_some, Option.map_none]
    rfl
  | withonly w via c =>
    simp only [envStep, lagT_validObj _ _ _ _ _ ho, lagT_objs_length, lagT_appendObj ho,
      lagT_spawn (x := { x with objs := x.objs ++ [_] }) _ _ _ _ _ hgl, apply_ite (Option.map (lagT o f g t')), Option.map_some, Option.map_none]
  | pubinv p via v evs =>
    simp only [envStep, lagT_validObj _ _ _ _ _ ho, lagT_pids, lagT_withPids,
      lagT_spawn (x := { x with pids := x.pids ++ [p] }) _ _ _ _ _ hgl, apply_ite (Option.map (lagT o f g t')), Option.map_some, Option.map_none]
  | _ => rfl

/-- with the surroundings (environment, receivers, exit) the lag transformer commutes exactly -/
theorem stepsOf_none_lag (cfg : Cfg) (ho : o < x.objs.length) (hgl : g < x.tasks.length) {t : Task} (ht : x.tasks[g]? = some t)
    (hsub : ∀ c, subName c t' = subName c t) :
    stepsOf cfg (lagT o f g t' x) none = (stepsOf cfg x none).map (fun q => (q.1, lagT o f g t' q.2)) := by
  have he : envSteps cfg (lagT o f g t' x) = (envSteps cfg x).map (fun q => (q.1, lagT o f g t' q.2)) := by
    unfold envSteps
    rw [List.map_filterMap]
    congr 1
    funext e
    rw [envStep_lag cfg ho hgl ht hsub]
    cases envStep cfg x e <;> rfl
  simp only [stepsOf, lagT_chans, he, funext recvSteps_lag, exitSteps_lag, List.map_append, List.map_flatMap]

end
end TypVerif.Lemmas.PubSubRed
