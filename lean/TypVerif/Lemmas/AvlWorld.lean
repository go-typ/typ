import TypVerif.Lemmas.AvlBalance
/-
The `Tree` wrappers and the callback walks reduced to `Node` functions and list folds, and `runModel_WAll`: a property of
trees that the five mutators keep holds of every tree of every history (C02.all_histories; C01.sorted and C01.count_eq
come from the refinement instead).
-/
set_option linter.unusedSectionVars false
namespace TypVerif.Lemmas.Avl
open TypVerif.Model.Avl TypVerif.Model.Avl.Node TypVerif.Spec.Avl

variable {α : Type}

theorem get_set {σ : Type} (w : World σ) (h h' : Nat) (x : σ) :
    (w.set h x).get h' = if h = h' then some x else w.get h' := by
  induction w with
  | nil => simp [World.set, World.get]
  | cons p w ih =>
    obtain ⟨k, y⟩ := p
    simp only [World.set]
    by_cases hk : k = h
    · subst hk
      simp only [if_true, World.get]
      by_cases hk' : k = h' <;> simp [hk']
    · simp only [hk, if_false, World.get, ih]
      by_cases hk' : k = h'
      · subst hk'; simp [Ne.symm hk]
      · simp [hk']

def WAll {σ : Type} (P : σ → Prop) (w : World σ) : Prop := ∀ h x, w.get h = some x → P x

theorem WAll_nil {σ : Type} (P : σ → Prop) : WAll P ([] : World σ) := by
  intro h x hx; simp [World.get] at hx

theorem WAll_set {σ : Type} {P : σ → Prop} {w : World σ} (hw : WAll P w) (h : Nat) {x : σ} (hx : P x) :
    WAll P (w.set h x) := by
  intro h' y hy
  rw [get_set] at hy
  by_cases e : h = h'
  · simp [e] at hy; subst hy; exact hx
  · simp [e] at hy; exact hw h' y hy

theorem walkPreOrder_eq {σ : Type} (f : σ → α → σ) (s : σ) (n : Node α) :
    walkPreOrder f s n = (preorder n).foldl f s := by
  induction n generalizing s with
  | nil => rfl
  | node l v h r ihl ihr => simp [walkPreOrder, preorder, ihl, ihr]

theorem walkInOrder_eq {σ : Type} (f : σ → α → σ) (s : σ) (n : Node α) :
    walkInOrder f s n = (inorder n).foldl f s := by
  induction n generalizing s with
  | nil => rfl
  | node l v h r ihl ihr => simp [walkInOrder, ihl, ihr]

theorem walkPostOrder_eq {σ : Type} (f : σ → α → σ) (s : σ) (n : Node α) :
    walkPostOrder f s n = (postorder n).foldl f s := by
  induction n generalizing s with
  | nil => rfl
  | node l v h r ihl ihr => simp [walkPostOrder, postorder, ihl, ihr]

theorem foldl_snoc (l acc : List α) : l.foldl (fun acc v => acc ++ [v]) acc = acc ++ l := by
  induction l generalizing acc with
  | nil => simp
  | cons a l ih => simp [ih]

theorem WalkPreOrder_eq {σ : Type} (t : Tree α) (f : σ → α → σ) (s : σ) :
    t.WalkPreOrder f s = (preorder t.root).foldl f s := by
  unfold Tree.WalkPreOrder
  split
  · rename_i h; rw [isNil_eq_true.mp h]; rfl
  · exact walkPreOrder_eq f s _

theorem WalkInOrder_eq {σ : Type} (t : Tree α) (f : σ → α → σ) (s : σ) :
    t.WalkInOrder f s = (inorder t.root).foldl f s := by
  unfold Tree.WalkInOrder
  split
  · rename_i h; rw [isNil_eq_true.mp h]; rfl
  · exact walkInOrder_eq f s _

theorem WalkPostOrder_eq {σ : Type} (t : Tree α) (f : σ → α → σ) (s : σ) :
    t.WalkPostOrder f s = (postorder t.root).foldl f s := by
  unfold Tree.WalkPostOrder
  split
  · rename_i h; rw [isNil_eq_true.mp h]; rfl
  · exact walkPostOrder_eq f s _

theorem SlicePreOrder_eq (t : Tree α) : t.SlicePreOrder = preorder t.root := by
  unfold Tree.SlicePreOrder; rw [WalkPreOrder_eq, foldl_snoc]; rfl

theorem SliceInOrder_eq (t : Tree α) : t.SliceInOrder = inorder t.root := by
  unfold Tree.SliceInOrder; rw [WalkInOrder_eq, foldl_snoc]; rfl

theorem SlicePostOrder_eq (t : Tree α) : t.SlicePostOrder = postorder t.root := by
  unfold Tree.SlicePostOrder; rw [WalkPostOrder_eq, foldl_snoc]; rfl

theorem erase_pre (t : Node α) : (erase t).pre = preorder t := by
  induction t with
  | nil => rfl
  | node l v h r ihl ihr => simp [erase, BinTree.pre, preorder, ihl, ihr]

theorem erase_ino (t : Node α) : (erase t).ino = inorder t := by
  induction t with
  | nil => rfl
  | node l v h r ihl ihr => simp [erase, BinTree.ino, ihl, ihr]

theorem erase_post (t : Node α) : (erase t).post = postorder t := by
  induction t with
  | nil => rfl
  | node l v h r ihl ihr => simp [erase, BinTree.post, postorder, ihl, ihr]

section
variable [DecidableEq α]

theorem Add_root (t : Tree α) (v : α) : (t.Add v).root = add t.compare v t.root := by
  unfold Tree.Add
  simp only
  split
  · rename_i h; rw [isNil_eq_true.mp h]; rfl
  · rfl

@[simp] theorem Add_count (t : Tree α) (v : α) : (t.Add v).count = t.count + 1 := rfl
@[simp] theorem Add_compare (t : Tree α) (v : α) : (t.Add v).compare = t.compare := rfl

/-- `Remove` without its nil check and its case on the outcome: `remove` at the root, the count one less on success -/
theorem Remove_eq (t : Tree α) (v : α) : t.Remove v =
    ({ t with root := (remove t.compare v t.root).1,
              count := if (remove t.compare v t.root).2 then t.count - 1 else t.count },
      (remove t.compare v t.root).2) := by
  obtain ⟨c, rt, n⟩ := t
  unfold Tree.Remove
  split
  · rename_i h; cases isNil_eq_true.mp h; rfl
  · rcases remove c v rt with ⟨n, ok⟩
    cases ok <;> rfl

theorem Contains_eq (t : Tree α) (v : α) : t.Contains v = contains t.compare v t.root := by
  unfold Tree.Contains
  split
  · rename_i h; rw [isNil_eq_true.mp h]; rfl
  · rfl

theorem Clone_eq (t : Tree α) :
    t.Clone = (preorder t.root).foldl (fun (c : Tree α) v => c.Add v) (Tree.new t.compare) := by
  unfold Tree.Clone; rw [WalkPreOrder_eq]

/-- `Clone` adds the pre-order walk, value after value, to an empty tree: `P L c` for the clone `c` built from the prefix `L` -/
theorem Clone_ind (P : List α → Tree α → Prop) (t : Tree α) (h0 : P [] (Tree.new t.compare))
    (hadd : ∀ L u v, P L u → P (L ++ [v]) (u.Add v)) : P (preorder t.root) t.Clone := by
  rw [Clone_eq]
  suffices ∀ l L0 c, P L0 c → P (L0 ++ l) (l.foldl (fun c v => c.Add v) c) from this _ [] _ h0
  intro l
  induction l with
  | nil => intro L0 c h; rwa [List.append_nil]
  | cons a l ih => intro L0 c h; rw [List.append_cons]; exact ih _ _ (hadd L0 c a h)

@[simp] theorem Clone_compare (t : Tree α) : t.Clone.compare = t.compare := by
  exact Clone_ind (fun _ c => c.compare = t.compare) t rfl fun _ _ _ h => h

variable {ι : Type}

theorem modelStep_WAll (cmps : ι → α → α → Int) (P : Tree α → Prop)
    (hnew : ∀ c, P (Tree.new (cmps c)))
    (hadd : ∀ t v, P t → P (t.Add v))
    (hrem : ∀ t v, P t → P (t.Remove v).1)
    (hclear : ∀ t, P t → P t.Clear)
    (hclone : ∀ t, P t → P t.Clone)
    (w : World (Tree α)) (hw : WAll P w) (op : Op ι α) : WAll P (modelStep cmps w op).1 := by
  cases op with
  | new h c => exact WAll_set hw h (hnew c)
  | add h v =>
    simp only [modelStep]; split
    · rename_i t ht; exact WAll_set hw h (hadd t v (hw h t ht))
    · exact hw
  | remove h v =>
    simp only [modelStep]; split
    · rename_i t ht; exact WAll_set hw h (hrem t v (hw h t ht))
    · exact hw
  | contains h v => simp only [modelStep]; split <;> exact hw
  | len h => simp only [modelStep]; split <;> exact hw
  | clear h =>
    simp only [modelStep]; split
    · rename_i t ht; exact WAll_set hw h (hclear t (hw h t ht))
    · exact hw
  | clone h h2 =>
    simp only [modelStep]; split
    · rename_i t ht; exact WAll_set hw h2 (hclone t (hw h t ht))
    · exact hw
  | inorder h => simp only [modelStep]; split <;> exact hw

theorem runFrom_fst_inv {σ : Type} (step : σ → Op ι α → σ × Res α) (Q : σ → Prop)
    (hstep : ∀ w op, Q w → Q (step w op).1) (w : σ) (hw : Q w) (ops : List (Op ι α)) :
    Q (runFrom step w ops).1 := by
  induction ops generalizing w with
  | nil => exact hw
  | cons op ops ih =>
    simp only [runFrom]
    exact ih _ (hstep w op hw)

theorem runModel_WAll (cmps : ι → α → α → Int) (P : Tree α → Prop)
    (hnew : ∀ c, P (Tree.new (cmps c)))
    (hadd : ∀ t v, P t → P (t.Add v))
    (hrem : ∀ t v, P t → P (t.Remove v).1)
    (hclear : ∀ t, P t → P t.Clear)
    (hclone : ∀ t, P t → P t.Clone)
    (ops : List (Op ι α)) : WAll P (runModel cmps ops).1 := by
  unfold runModel
  exact runFrom_fst_inv _ (WAll P) (fun w op hw => modelStep_WAll cmps P hnew hadd hrem hclear hclone w hw op)
    [] (WAll_nil P) ops

/-- C02.all_histories -/
theorem all_histories (cmps : ι → α → α → Int) (ops : List (Op ι α)) :
    ∀ h t, (runModel cmps ops).1.get h = some t → AVL t.root := by
  have := runModel_WAll cmps (fun t => AVL t.root)
    (fun c => trivial)
    (fun t v ht => by rw [Add_root]; exact (add_avl _ _ _ ht).1)
    (fun t v ht => by rw [Remove_eq]; exact (remove_avl _ _ _ ht).1)
    (fun t _ => trivial)
    (fun t _ => by
      exact Clone_ind (fun _ c => AVL c.root) t trivial fun _ u v hu => by rw [Add_root]; exact (add_avl _ _ _ hu).1)
    ops
  exact this

end

end TypVerif.Lemmas.Avl
