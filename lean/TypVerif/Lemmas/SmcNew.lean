import TypVerif.Lemmas.SmcQuiet
import TypVerif.Lemmas.SmcEntry
/-
C04 concurrent half: the locked new-key tail of Store / LoadOrStore — the `dirtyLocked` loop
(`dirtyRead`, `expLoad`, `expCas`, `expLoad2`; the loop head `dirtyPick` is in `SmcQuiet`) and the final insertion
(`readStore`, the linearization step of a Store / LoadOrStore of a new key).

The acting goroutine owns `mu` and is the only builder, so `unprocessed s` has exactly the members of
`unprocPc (s.pc t)`; bystanders do not own `mu`.

`R_newTail` is the step into this tail from the locked re-read of either operation (`storeRead2`, `losRead2`).
-/
namespace TypVerif.Lemmas.Smc
open TypVerif.Model TypVerif.Model.SyncMapConc TypVerif.Model.RelObj
open TypVerif.Model.SyncMap (alookup ainsert aerase akeys)

theorem newRes_ne_pairs {K V : Type} (c : NewCtx) (v : V) (l : List (K × V)) : (newRes c v : Res K V) ≠ .pairs l := by
  cases c <;> nofun

variable {K V : Type} [DecidableEq K]

theorem expLoaded_of_nil {sh : Shared K V} {e' : EId} (h : (getP sh e').isNil = true) (c : NewCtx) (k : K) (v : V)
    (rm todo : List (K × EId)) (k' : K) :
    expLoaded sh c k v rm todo k' e' = (sh, .expCas c k v rm todo k' e') := by
  unfold expLoaded
  simp only [h, if_true]

theorem expLoaded_of_not_nil {sh : Shared K V} {e' : EId} (h : (getP sh e').isNil = false) (c : NewCtx) (k : K) (v : V)
    (rm todo : List (K × EId)) (k' : K) :
    expLoaded sh c k v rm todo k' e' = (expDone sh (getP sh e') k' e', dirtyNext c k v rm todo) := by
  unfold expLoaded
  simp only [h, Bool.false_eq_true, if_false]

/-- `NewTail` looks at `mu`, `read.m`, `amended` only -/
theorem NewTail_of_eq {sh sh' : Shared K V} {t : Tid} {c : NewCtx} {k : K} {v : V} {rm : List (K × EId)} {p : APc K V}
    (h : NewTail sh t c k v rm p) (hmu : sh'.mu = sh.mu) (hr : sh'.readM = sh.readM)
    (ha : sh'.amended = sh.amended) : NewTail sh' t c k v rm p :=
  ⟨h.1, hmu.trans h.2.1, hr ▸ h.2.2.1, ha.trans h.2.2.2.1, hr ▸ h.2.2.2.2⟩

theorem newTail_of_dirty_some {sh : Shared K V} (ha : sh.amended = false) (hds : sh.dirty.isSome = true)
    (c : NewCtx) (k : K) (v : V) : newTail sh c k v = (sh, .readStore c k v sh.readM) := by
  simp [newTail, ha, hds]

theorem newTail_of_dirty_none {sh : Shared K V} (ha : sh.amended = false) (hds : sh.dirty.isSome = false)
    (c : NewCtx) (k : K) (v : V) : newTail sh c k v = (sh, .dirtyRead c k v sh.readM) := by
  simp [newTail, ha, hds]

theorem newTail_of_amended {sh : Shared K V} (ha : sh.amended = true)
    (c : NewCtx) (k : K) (v : V) : newTail sh c k v = finishNew sh c k v := by
  simp [newTail, ha]

/-- the outcome of Store / LoadOrStore on an absent key -/
theorem applyOp_newOp_none {m : K → Option V} (c : NewCtx) {k : K} (v : V) (h : m k = none) :
    applyOp m (newOp c k v) = [(put m k v, newRes c v)] := by
  cases c with
  | store => rfl
  | los => exact applyOp_loadOrStore_none v h

variable [DecidableEq V] {s : State K V} {a : AState K V} {t : Tid}

theorem unlinkedPc_dirtyNext (c : NewCtx) (k : K) (v : V) (rm todo : List (K × EId)) (q : APc K V) :
    unlinkedPc (dirtyNext c k v rm todo) q = [] := by
  cases todo <;> exact unlinkedPc_eq_nil_of_done rfl q

theorem T_dirtyNext_iff {sh : Shared K V} {t : Tid} {c : NewCtx} {k : K} {v : V} {rm todo : List (K × EId)}
    {p : APc K V} :
    T sh t (dirtyNext c k v rm todo) p ↔ NewTail sh t c k v rm p ∧ sh.dirty.isSome = true ∧ Building sh todo := by
  cases todo with
  | nil => exact ⟨fun h => ⟨h.1, h.2, Building_nil sh⟩, fun h => ⟨h.1, h.2.1⟩⟩
  | cons q rest => exact Iff.rfl

/-- A step of the owner `t` of `mu` inside `dirtyLocked`, not a linearization step.  `R_effect` wants the effect stated for
`unprocessed s` and can then only enlarge that set; here it is stated for `t`'s own new list `U = unprocPc pc'`, which is
smaller once a pair has been processed: enough, since the owner is the only builder (`mem_unprocessed_setPc_of_own`). -/
theorem R_own_tau (hR : R s a) (ht : t < s.pcs.length) (hlin : isLin s.sh (s.pc t) (a.pcs t) = false)
    (ho : Own s.sh t) {sh' : Shared K V} {pc' : Pc K V} {U : List (K × EId)}
    (hmu : sh'.mu = s.sh.mu)
    (hE : Effect s a t sh' U a.obj) (hU : unprocPc pc' = U)
    (hself : T sh' t pc' (a.pcs t))
    (hunl : unlinkedPc pc' (a.pcs t) = []) :
    R (setPc s t sh' pc') (witness s t none a) :=
  R_step hR ht (.tau hlin) (hE.gs.congr fun _ => by rw [mem_unprocessed_setPc_of_own hR.thr ho ht, hU])
    (fun u hu => hR.g.muBound u (hmu ▸ hu)) hE.abs hself (fun u hu => T_observePc (hE.thr u hu) _)
    fun _ he => by rw [hunl] at he; cases he

/-- both load sites of `tryExpungeLocked`: nil ⇒ go on to the CAS; otherwise the pointer is a value (the pair is
unprocessed, hence not expunged) and the pair is copied into the dirty map -/
theorem R_expLoaded {c : NewCtx} {k : K} {v : V} {rm todo : List (K × EId)} {k' : K} {e' : EId}
    (hR : R s a) (ht : t < s.pcs.length) (hlin : isLin s.sh (s.pc t) (a.pcs t) = false)
    (hun : unprocPc (s.pc t) = (k', e') :: todo)
    (hT : NewTail s.sh t c k v rm (a.pcs t) ∧ s.sh.dirty.isSome = true ∧ Building s.sh ((k', e') :: todo)) :
    ∀ sh' pc', expLoaded s.sh c k v rm todo k' e' = (sh', pc') → R (setPc s t sh' pc') (witness s t none a) := by
  obtain ⟨hNT, hds, hb⟩ := hT
  have ho : Own s.sh t := hNT.own
  have ha : s.sh.amended = false := hNT.2.2.2.1
  cases hnil : (getP s.sh e').isNil with
  | true =>
    rw [expLoaded_of_nil hnil]
    rintro _ _ ⟨⟩
    exact R_quiet_same hR ht (.tau hlin) ⟨hNT, hds, hb⟩ (fun p hp => by rw [hun] at hp; exact hp)
      (subset_of_eq_nil (unlinkedPc_eq_nil_of_done rfl _))
  | false =>
    have hlive : (getP s.sh e').isExpunged = false := hb.head.2.2.2
    rw [expLoaded_of_not_nil hnil, expDone_of_live s.sh hlive]
    rintro _ _ ⟨⟩
    have hE := expDone_effect hR ho ha hds hun hb
    exact R_own_tau hR ht hlin ho (setDirty_mu _ _ _) hE (unprocPc_dirtyNext ..)
      (T_dirtyNext_iff.mpr ⟨NewTail_of_eq hNT (setDirty_mu _ _ _) (setDirty_readM _ _ _) (setDirty_amended _ _ _),
        (setDirty_dirty_isSome ..).trans hds, Building_expDone hR.g.gs hds hb⟩) (unlinkedPc_dirtyNext ..)

/-! ### the locked re-read of `Store` / `LoadOrStore` found the key in neither map -/

/-- An amended map gets the new entry at once (the linearization step); otherwise the goroutine goes on to build
the dirty map, or to `readStore` if there is one already.  `hlin`: with the key in neither map, `isLin` at `storeRead2` /
`losRead2` is `amended`. -/
theorem R_newTail {c : NewCtx} {k : K} {v : V} (hR : R s a) (ht : t < s.pcs.length)
    (hpend : Pend (a.pcs t) (newOp c k v)) (hown : Own s.sh t) (hunp : unprocPc (s.pc t) = [])
    (hr : alookup k s.sh.readM = none) (hd : alookup k (dirtyMap s.sh) = none)
    (hlin : isLin s.sh (s.pc t) (a.pcs t) = s.sh.amended) {sh' : Shared K V} {pc' : Pc K V}
    (hex : newTail s.sh c k v = (sh', pc')) : R (setPc s t sh' pc') (witness s t none a) := by
  cases ha : s.sh.amended with
  | false =>
    rw [ha] at hlin
    have hnt : NewTail s.sh t c k v s.sh.readM (a.pcs t) := ⟨hpend, hown, rfl, ha, hr⟩
    cases hds : s.sh.dirty.isSome with
    | true =>
      obtain ⟨rfl, rfl⟩ := Prod.mk.inj ((newTail_of_dirty_some ha hds c k v).symm.trans hex)
      exact Quiet.toR (.same ⟨hnt, hds⟩ rfl) hR ht rfl hlin hunp
    | false =>
      obtain ⟨rfl, rfl⟩ := Prod.mk.inj ((newTail_of_dirty_none ha hds c k v).symm.trans hex)
      exact Quiet.toR (.same ⟨hnt, Option.not_isSome_iff_eq_none.mp (by simp [hds])⟩
        rfl) hR ht rfl hlin hunp
  | true =>
    rw [ha] at hlin
    obtain ⟨rfl, rfl⟩ := Prod.mk.inj ((newTail_of_amended ha c k v).symm.trans hex)
    have hobjk : a.obj k = none := by rw [hR.abs k, absOf_of_none_none hr hd]
    have hE := addNew_effect hR hown (hR.g.gs.dirty_isSome_of_amended ha) ha hr hd v
    exact R_lin_ret hR ht hpend hlin (applyOp_newOp_none c v hobjk) (newRes_ne_pairs c v) hE (addNew_mu _ _ _)
      (.unlock ((Own_addNew ..).mpr hown)) (Own_unlock _ _) hunp

variable [Inhabited V] {menu : List (Op K V)}

/-! ### `dirtyRead`: `m.dirty = make(map)`; all of `read.m` is unprocessed now -/

theorem stepOK_dirtyRead {c : NewCtx} {k : K} {v : V} {rm : List (K × EId)}
    (hR : R s a) (ht : t < s.pcs.length) (hpc : s.pc t = .dirtyRead c k v rm) : StepOK menu s a t := by
  obtain ⟨hNT, hd⟩ := hpc ▸ hR.thr t
  refine stepOK_exec hR ht hpc nofun (fun _ => nofun) rfl ?_
  rintro _ _ ⟨⟩
  exact R_own_tau hR ht (hpc ▸ rfl) hNT.own rfl (dirtyInit_effect hR hNT.own hd) (unprocPc_dirtyNext ..)
    (T_dirtyNext_iff.mpr ⟨NewTail_of_eq hNT rfl rfl rfl, rfl, Building_dirtyInit hR.g.gs hd
      fun _ hp => (unprocessed_spec hR.thr hp).2.2.2⟩) (unlinkedPc_dirtyNext ..)

/-! ### `expCas`: `atomic.CompareAndSwapPointer(&e.p, nil, expunged)` -/

theorem stepOK_expCas {c : NewCtx} {k : K} {v : V} {rm todo : List (K × EId)} {k' : K} {e' : EId}
    (hR : R s a) (ht : t < s.pcs.length) (hpc : s.pc t = .expCas c k v rm todo k' e') : StepOK menu s a t := by
  obtain ⟨hNT, hds, hb⟩ := hpc ▸ hR.thr t
  have ho : Own s.sh t := hNT.own
  have hlin : isLin s.sh (s.pc t) (a.pcs t) = false := hpc ▸ rfl
  refine stepOK_exec hR ht hpc nofun (fun _ => nofun) rfl ?_
  dsimp only [exec]
  cases hnil : (getP s.sh e').isNil with
  | false =>
    rintro _ _ ⟨⟩
    exact R_quiet_same hR ht (.tau hlin) ⟨hNT, hds, hb⟩ (fun p hp => by rw [hpc] at hp; exact hp)
      (subset_of_eq_nil (unlinkedPc_eq_nil_of_done rfl _))
  | true =>
    rintro _ _ ⟨⟩
    have hmem : ∀ q, q ∈ unprocessed s ↔ q ∈ (k', e') :: todo := fun q => by
      rw [mem_unprocessed_of_own hR.thr ho, hpc]; rfl
    have hE := expunge_effect hR ho ((hmem _).mpr (List.mem_cons_self ..)) hnil (U' := todo) fun q => by
      rw [hmem]; exact hb.mem_tail_iff q
    exact R_own_tau hR ht hlin ho (setP_mu _ _ _) hE (unprocPc_dirtyNext ..)
      (T_dirtyNext_iff.mpr ⟨NewTail_of_eq hNT (setP_mu _ _ _) (setP_readM _ _ _) (setP_amended _ _ _), hds,
        expunge_building hR.g.gs hb⟩) (unlinkedPc_dirtyNext ..)

/-! ### `readStore`: `m.read.Store(readOnly{m: read.m, amended: true}); m.dirty[key] = newEntry(value); Unlock` —
the linearization step of a Store / LoadOrStore of a new key -/

theorem stepOK_readStore {c : NewCtx} {k : K} {v : V} {rm : List (K × EId)}
    (hR : R s a) (ht : t < s.pcs.length) (hpc : s.pc t = .readStore c k v rm) : StepOK menu s a t := by
  obtain ⟨⟨hpend, ho, hrm, ha, hrk⟩, hds⟩ := hpc ▸ hR.thr t
  subst hrm
  refine stepOK_exec hR ht hpc nofun (fun _ => nofun) rfl ?_
  rintro _ _ ⟨⟩
  have hobjk : a.obj k = none := by rw [hR.abs k, absOf_of_not_amended hrk ha]
  have hE := setAmended_addNew_effect hR ho hds ha hrk v
  exact R_lin_ret hR ht hpend (hpc ▸ rfl) (applyOp_newOp_none c v hobjk) (newRes_ne_pairs c v) hE (addNew_mu _ _ _)
    (.unlock ((Own_addNew ..).mpr ho)) (Own_unlock _ _) (hpc ▸ rfl)

end TypVerif.Lemmas.Smc
