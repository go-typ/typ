namespace TypVerif.Lemmas

/-- A filter evaluated in two steps: which elements pass (`m`, one Boolean each), then their selection.  For a table
of strings the first step is a kernel evaluation of the predicate alone; the second compares nothing. -/
theorem filter_of_mask {α : Type} (p : α → Bool) : ∀ (l : List α) (m : List Bool), l.map p = m →
    l.filter p = ((l.zip m).filter Prod.snd).map Prod.fst
  | [], _, _ => rfl
  | _ :: _, [], h => nomatch h
  | x :: l, b :: m, h => by
    rw [List.map_cons, List.cons.injEq] at h
    rw [List.filter_cons, List.zip_cons_cons, List.filter_cons, h.1, filter_of_mask p l m h.2]
    cases b <;> rfl

end TypVerif.Lemmas
