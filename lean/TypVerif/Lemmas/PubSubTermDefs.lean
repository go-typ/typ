import TypVerif.Lemmas.PubSubLiveNames
/-
Termination of the internal work of the PubSub model (C10, "eventually"): the variant `measure` and the
list / channel-table lemmas behind it.

Weights.  A task weighs more than everything it can still do or spawn; a channel weighs what its receiver
can still do with what the channel holds.  `bound s` = |subs of the root| + number of pending `Sub` calls
bounds the subscriber list a pending publish call can still meet (a completed `Sub` moves one unit from
"pending" to `subs`; Unsub / UnsubAll only shrink `subs`; new `Sub`s are invocations of the environment).
-/
namespace TypVerif.Lemmas.PubSubTerm
open TypVerif TypVerif.Model.PubSub TypVerif.Lemmas.PubSubStep TypVerif.Lemmas.PubSubSafe TypVerif.Lemmas.PubSubLive

/-- a `Sub` call that has not yet appended its channel to `subs` -/
def pendingSub : Task → Bool
  | .subStart .. => true
  | .subWait .. => true
  | _ => false

/-- Weight of a task when the subscriber list it may meet has at most `n` entries.  A sender weighs 3 before its timer
fires (a hand-off puts at most 2 on the channel, see `chanW`) and 1 while its callback is pending; `asyncStart` has one
more for taking the read lock.  A snapshot with `k ≤ |evs|·n` items turns `pubStart` into `pubRet` + `k` `asyncStart`
(1 + 4k), `waitWg` + `k` `wgSend` (2 + 3k) or a `syncLoop` (3k + 2): all below 4k + 3.  The other calls count their
remaining steps (`Sub` one more, for the channel it creates). -/
def taskW (n : Nat) : Task → Nat
  | .pubStart _ _ _ evs => 4 * (evs.length * n) + 3
  | .syncLoop _ _ work cb => 3 * work.length + (if cb then 1 else 2)
  | .waitWg .. => 2
  | .pubRet _ => 1
  | .asyncStart .. => 4
  | .asyncSend _ _ cb => if cb then 1 else 3
  | .wgSend _ _ _ cb => if cb then 1 else 3
  | .subStart .. => 4
  | .subWait .. => 3
  | .subRet _ => 1
  | .unsubStart .. => 3
  | .unsubWait .. => 2
  | .unsubRet .. => 1
  | .uaStart .. => 3
  | .uaWait .. => 2
  | .uaRet _ => 1
  | .woStart .. => 1
  | .done => 0

def tasksW (n : Nat) : List Task → Nat
  | [] => 0
  | t :: ts => taskW n t + tasksW n ts

/-- weight of a channel together with its receiver: two steps (take, stamp `recv`) per buffered value, one for a
value that is held, one for the observation of the close (or for ever, if the channel is never closed: the unit is
simply never spent) -/
def chanW (ch : ChanSt) : Nat :=
  2 * ch.buf.length + (if ch.holding.isSome then 1 else 0) + (if ch.rdone then 0 else 1)

def chansW : List ChanSt → Nat
  | [] => 0
  | ch :: cs => chanW ch + chansW cs

/-- one unit for the panic that has not happened (a panicking step spends it) -/
def flagW (s : State) : Nat := if s.panicked = none then 1 else 0

/-- bound for the length of the subscriber list of the root from now on, as long as the environment invokes nothing -/
def bound (s : State) : Nat := (s.obj 0).subs.length + s.tasks.countP pendingSub

/-- The variant (`Props/C10term.lean` gives the formula and where the weights come from).  `_cfg` is not read: the timer
steps are accounted for whether or not the timeout is on. -/
def measure (_cfg : Cfg) (s : State) : Nat := tasksW (bound s) s.tasks + chansW s.chans + flagW s

/-- the channel-table half of `NamesOk` (`chanIds_reachable`) -/
def ChanIdsOk (s : State) : Prop := ∀ c, idCount s.chans c ≤ 1

/-- how the channel table may change in one internal step: ids stay, a receiver that stopped stays stopped, an
allowance drops by at most one -/
def CRel (cs cs' : List ChanSt) : Prop :=
  ∀ ch' ∈ cs', ∃ ch ∈ cs, ch'.id = ch.id ∧ (ch'.rdone = false → ch.rdone = false) ∧ ch.allow ≤ ch'.allow + 1

theorem taskW_mono {n m : Nat} (h : n ≤ m) (t : Task) : taskW n t ≤ taskW m t := by
  cases t <;> simp only [taskW, Nat.le_refl]
  rename_i p o v evs
  have := Nat.mul_le_mul_left evs.length h
  omega

theorem tasksW_mono {n m : Nat} (h : n ≤ m) : ∀ ts : List Task, tasksW n ts ≤ tasksW m ts
  | [] => Nat.le_refl _
  | t :: ts => by
    have := taskW_mono h t
    have := tasksW_mono h ts
    simp only [tasksW]; omega

theorem tasksW_eq_sum (n : Nat) : ∀ l, tasksW n l = (l.map (taskW n)).sum
  | [] => rfl
  | t :: l => by simp only [tasksW, tasksW_eq_sum n l, List.map_cons, List.sum_cons]

theorem tasksW_append (n : Nat) (l₁ l₂ : List Task) : tasksW n (l₁ ++ l₂) = tasksW n l₁ + tasksW n l₂ := by
  simp only [tasksW_eq_sum, List.map_append, List.sum_append]

theorem tasksW_set (n : Nat) (l : List Task) (i : Nat) (t t' : Task) (hi : l[i]? = some t) :
    tasksW n (l.set i t') + taskW n t = tasksW n l + taskW n t' := by
  have := ((perm_set t' hi).map (taskW n)).sum_nat
  simp only [List.map_cons, List.sum_cons, ← tasksW_eq_sum] at this
  omega

theorem tasksW_map_const {α} (n k : Nat) (f : α → Task) (hf : ∀ x, taskW n (f x) = k) :
    ∀ xs : List α, tasksW n (xs.map f) = k * xs.length
  | [] => by simp [tasksW]
  | x :: xs => by
    simp only [List.map_cons, tasksW, hf, tasksW_map_const n k f hf xs, List.length_cons, Nat.mul_succ]; omega

theorem countP_map_false {α β} (p : β → Bool) (f : α → β) (hf : ∀ x, p (f x) = false) (xs : List α) :
    (xs.map f).countP p = 0 := by
  rw [List.countP_eq_zero]
  intro y hy
  obtain ⟨x, _, rfl⟩ := List.mem_map.mp hy
  simp [hf x]

theorem mkItems_length_aux (p : Nat) (subs : List Chan) : ∀ (evs : List Int) (k : Nat),
    ((evs.zipIdx k).flatMap (fun ei => subs.map (fun c => ({ pid := p, idx := ei.2, ev := ei.1, c := c } : Item)))).length
      = evs.length * subs.length
  | [], k => by simp
  | e :: evs, k => by
    simp only [List.zipIdx_cons, List.flatMap_cons, List.length_append, List.length_map, List.length_cons,
      mkItems_length_aux p subs evs (k + 1), Nat.succ_mul]
    omega

theorem mkItems_length (p : Nat) (evs : List Int) (subs : List Chan) :
    (mkItems p evs subs).length = evs.length * subs.length :=
  mkItems_length_aux p subs evs 0

theorem chansW_eq_sum : ∀ cs, chansW cs = (cs.map chanW).sum
  | [] => rfl
  | ch :: cs => by simp only [chansW, chansW_eq_sum cs, List.map_cons, List.sum_cons]

theorem chansW_append (l₁ l₂ : List ChanSt) : chansW (l₁ ++ l₂) = chansW l₁ + chansW l₂ := by
  simp only [chansW_eq_sum, List.map_append, List.sum_append]

theorem updChan_cons (ch : ChanSt) (cs : List ChanSt) (c : Chan) (f : ChanSt → ChanSt) :
    updChan (ch :: cs) c f = (if ch.id == c then f ch else ch) :: updChan cs c f := rfl

theorem idCount_cons (ch : ChanSt) (cs : List ChanSt) (c : Chan) :
    idCount (ch :: cs) c = idCount cs c + (if ch.id == c then 1 else 0) := by
  simp [idCount, List.countP_cons]

theorem chansW_updChan_le (c : Chan) (f : ChanSt → ChanSt) (k : Nat) (hf : ∀ x, chanW (f x) ≤ chanW x + k) :
    ∀ cs : List ChanSt, chansW (updChan cs c f) ≤ chansW cs + k * idCount cs c
  | [] => by simp [updChan, chansW]
  | ch :: cs => by
    have ih := chansW_updChan_le c f k hf cs
    rw [updChan_cons, idCount_cons]
    by_cases h : (ch.id == c) = true
    · have := hf ch
      simp only [h, if_true, chansW, Nat.mul_add, Nat.mul_one]; omega
    · simp only [h, chansW, Nat.mul_add]
      simp; omega

theorem chansW_updChan_eq (c : Chan) (f : ChanSt → ChanSt) (hf : ∀ x, chanW (f x) = chanW x) (cs : List ChanSt) :
    chansW (updChan cs c f) = chansW cs := by
  rw [chansW_eq_sum, map_updChan chanW cs c f fun ch _ => hf ch, chansW_eq_sum]

theorem updChan_of_idCount_zero (c : Chan) (f : ChanSt → ChanSt) :
    ∀ cs : List ChanSt, idCount cs c = 0 → updChan cs c f = cs
  | [], _ => rfl
  | ch :: cs, h => by
    rw [idCount_cons] at h
    by_cases h1 : (ch.id == c) = true
    · simp [h1] at h
    · rw [updChan_cons, updChan_of_idCount_zero c f cs (by omega)]
      simp [h1]

theorem idCount_pos_of_mem {cs : List ChanSt} {ch : ChanSt} (h : ch ∈ cs) : 0 < idCount cs ch.id :=
  List.countP_pos_iff.mpr ⟨ch, h, by simp⟩

theorem chansW_updChan_dec (f : ChanSt → ChanSt) (ch : ChanSt) (hf : chanW (f ch) + 1 ≤ chanW ch) :
    ∀ cs : List ChanSt, idCount cs ch.id ≤ 1 → ch ∈ cs → chansW (updChan cs ch.id f) + 1 ≤ chansW cs
  | [], _, hm => by cases hm
  | a :: cs, hu, hm => by
    rw [idCount_cons] at hu
    rw [updChan_cons]
    by_cases h1 : (a.id == ch.id) = true
    · simp only [h1, if_true] at hu ⊢
      have hz : idCount cs ch.id = 0 := by omega
      rw [updChan_of_idCount_zero _ f cs hz]
      have : ch = a := by
        rcases List.mem_cons.mp hm with h | h
        · exact h
        · have := idCount_pos_of_mem h; omega
      subst this
      simp only [chansW]; omega
    · have hm' : ch ∈ cs := by
        rcases List.mem_cons.mp hm with h | h
        · subst h; simp at h1
        · exact h
      have ih := chansW_updChan_dec f ch hf cs (by simp [h1] at hu; exact hu) hm'
      simp only [h1, chansW]
      simp; omega

theorem chansW_closeAll {l : List Chan} {cs cs' : List ChanSt} (he : closeAll cs l = some cs') : chansW cs' = chansW cs :=
  closeAll_inv (P := fun x => chansW x = chansW cs)
    (fun x a _ h => (chansW_updChan_eq a (fun ch => { ch with closed := true }) (fun _ => rfl) x).trans h) he rfl

theorem crel_refl (cs : List ChanSt) : CRel cs cs :=
  fun ch hm => ⟨ch, hm, rfl, id, Nat.le_succ _⟩

theorem crel_updChan (cs : List ChanSt) (c : Chan) (f : ChanSt → ChanSt)
    (hf : ∀ x, (f x).id = x.id ∧ ((f x).rdone = false → x.rdone = false) ∧ x.allow ≤ (f x).allow + 1) :
    CRel cs (updChan cs c f) := by
  intro ch' hm
  obtain ⟨x, hx, rfl⟩ := List.mem_map.mp hm
  refine ⟨x, hx, ?_⟩
  by_cases h : (x.id == c) = true
  · simp only [h, if_true]; exact hf x
  · simp only [h]; exact ⟨rfl, id, Nat.le_succ _⟩

/-- closing keeps everything `CRel` looks at -/
theorem crel_closeAll {l : List Chan} {cs cs' : List ChanSt} (h : closeAll cs l = some cs') : CRel cs cs' :=
  closeAll_inv (P := CRel cs)
    (fun x a _ hx ch' hm => by
      obtain ⟨y, hy, rfl⟩ := List.mem_map.mp hm
      obtain ⟨z, hz, h3⟩ := hx y hy
      refine ⟨z, hz, ?_⟩
      split <;> exact h3) h (crel_refl cs)

/-- a step of a goroutine keeps what `CRel` looks at, unless it is the step of a `Sub` that appends its channel -/
theorem crel_chanStep {s : State} {t : Task} {cs : List ChanSt} (h : ChanStep s t cs) :
    CRel s.chans cs ∨ pendingSub t = true := by
  cases h with
  | same => exact .inl (crel_refl _)
  | upd c f hf => exact .inl (crel_updChan _ c f fun x => ⟨(hf x).1, fun h => (hf x).2.1 ▸ h, (hf x).2.2.2⟩)
  | closeAll hc => exact .inl (crel_closeAll hc)
  | sub => exact .inr rfl

theorem crel_work {cfg : Cfg} {s s' : State} (h : Work cfg s s') :
    CRel s.chans s'.chans ∨ ∃ t ∈ s.tasks, pendingSub t = true := by
  cases h with
  | task hi ht => exact (crel_chanStep (taskStep_chans ht)).imp_right fun hp => ⟨_, List.mem_of_getElem? hi, hp⟩
  | recv _ hf => exact .inl (crel_updChan _ _ _ fun x => by cases hf <;> exact ⟨rfl, by simp, by simp <;> omega⟩)

/-- what a successful `sendTo` leaves alone and what it adds to the channel weights (`PubSubSafe.SendFrame` is the same step as `Safe`
needs it) -/
structure SentFrame (s s1 : State) : Prop where
  tasks : s1.tasks = s.tasks
  objs : s1.objs = s.objs
  panicked : s1.panicked = s.panicked
  exited : s1.exited = s.exited
  weight : chansW s1.chans ≤ chansW s.chans + 2
  crel : CRel s.chans s1.chans

theorem sendTo_sent_frame {s s1 : State} {it : Item} (hu : ChanIdsOk s) (h : sendTo s it = .sent s1) :
    SentFrame s s1 := by
  have hc := hu it.c
  obtain ⟨f, hf, rfl⟩ := sendTo_eq_sent h
  -- a buffered value weighs 2, a value handed to the receiver 1, and at most one entry has the id
  have hw : ∀ x, chanW (f x) ≤ chanW x + 2 := fun x => by
    cases hf with
    | buffer => simp only [chanW, List.length_append, List.length_singleton]; omega
    | handOff => simp only [chanW, Option.isSome_some, if_true]; split <;> omega
  have := chansW_updChan_le it.c f 2 hw s.chans
  exact ⟨rfl, rfl, rfl, rfl, show chansW (updChan s.chans it.c f) ≤ _ by omega,
    crel_updChan _ _ _ fun x => ⟨(hf.keeps x).1, fun h => (hf.keeps x).2.2.1 ▸ h, (hf.keeps x).2.2.2⟩⟩

theorem chanIds_append {s : State} (hu : ChanIdsOk s) (ch : ChanSt) (h : hasChan s.chans ch.id = false) :
    ∀ c, idCount (s.chans ++ [ch]) c ≤ 1 := by
  intro c
  rw [idCount_append]
  by_cases hc : (ch.id == c) = true
  · have : ch.id = c := by simpa using hc
    subst this
    rw [idCount_eq_zero.2 h]; simp
  · have := hu c
    simp [hc]; exact this

/-- only a completed `Sub` adds a channel, and its name is new -/
theorem chanIds_chanStep {s : State} {t : Task} {cs : List ChanSt} (hu : ChanIdsOk s) (h : ChanStep s t cs) :
    ∀ c, idCount cs c ≤ 1 := by
  cases h with
  | same => exact hu
  | upd c f hf => exact fun c' => Nat.le_trans (Nat.le_of_eq (idCount_updChan _ _ _ _ (fun x => (hf x).1))) (hu c')
  | closeAll hc => exact fun c' => Nat.le_trans (Nat.le_of_eq (idCount_closeAll c' hc)) (hu c')
  | sub o c cap hnew => exact chanIds_append hu { id := c, cap := cap } hnew

theorem chanIds_work {cfg : Cfg} {s s' : State} (hu : ChanIdsOk s) (h : Work cfg s s') : ChanIdsOk s' := by
  cases h with
  | recv _ hf => exact fun c => Nat.le_trans (Nat.le_of_eq (idCount_updChan _ _ _ _ (fun x => (hf.keeps x).1))) (hu c)
  | task hi ht => exact chanIds_chanStep hu (taskStep_chans ht)

theorem chanIds_reachable (cfg : Cfg) (s : State) (hr : Conc.Reachable (sys cfg) s) : ChanIdsOk s :=
  fun c => Nat.le_trans (Nat.le_add_left _ _) (namesOk_reachable cfg s hr c)

end TypVerif.Lemmas.PubSubTerm
