import TypVerif.Lemmas.SmcAbs
/-
C04 concurrent half: the obligation of one goroutine's steps (`StepOK`), and what is left of it at a program counter
whose steps are internal (`stepOK_of_internal`): `R` after every enabled `exec` step and after every choice of a
`range read.m` loop head.  Visible steps (`inv`, `res`) are handled once and for all in `SmcQuiet` (`stepOK_idle`,
`stepOK_ret`).
-/
namespace TypVerif.Lemmas.Smc
open TypVerif.Model TypVerif.Model.SyncMapConc TypVerif.Model.RelObj
open TypVerif.Model.SyncMap (alookup ainsert aerase akeys)

variable {K V : Type} [DecidableEq K] [DecidableEq V] [Inhabited V]

/-- every step of goroutine `t` from `s` is matched by the abstract steps of the witness, and `R` is re-established -/
def StepOK (menu : List (Op K V)) (s : State K V) (a : AState K V) (t : Tid) : Prop :=
  ∀ l s', (l, s') ∈ stepT menu s t → Sim a (witness s t l a) l ∧ R s' (witness s t l a)

/-- internal steps (an `exec` step, or a choice at a loop head): `Sim` comes for free (`sim_none`), so only `R` has to be
shown -/
theorem stepOK_of_internal {menu : List (Op K V)} {s : State K V} {a : AState K V} {t : Tid}
    (hR : R s a) (ht : t < s.pcs.length) (hi : s.pc t ≠ .idle) (hr : ∀ r, s.pc t ≠ .ret r)
    (he : ∀ sh' pc', exec s.sh t (s.pc t) = some (sh', pc') → R (setPc s t sh' pc') (witness s t none a))
    (hp : ∀ c ∈ picks (s.pc t), R (setPc s t s.sh c.2) (witness s t none a)) : StepOK menu s a t := by
  intro l s' hmem
  rcases mem_stepT_iff.mp hmem with ⟨h, _⟩ | ⟨r, h, _⟩ | ⟨_, _, hl, hcase⟩
  · exact absurd h hi
  · exact absurd h (hr r)
  · subst hl
    refine ⟨sim_none s hR.idle_of_le ht, ?_⟩
    rcases hcase with ⟨sh', pc', hex, rfl⟩ | ⟨c, hc, rfl⟩
    · exact he sh' pc' hex
    · exact hp c hc

end TypVerif.Lemmas.Smc
