import TypVerif.Lemmas.ConcAccept
import TypVerif.Lemmas.ConcComplete
import TypVerif.Lemmas.C19Accept
/-
Completeness of the outcome enumeration of the timed-helper lines of the judge `Drv/C19.lean`.

Every step of `sendSys p` / `recvSys p` is internal and, being a step of the shared control automaton (`ChanCtl.CStep`), strictly
decreases a natural-number measure (`mS` / `mR` = `Ctl.measure`: rank of the helper's program counter + "timer / context not
fired yet" + peers' receive budget + number of values the peers still send (+ "channel still open" on the receive side, where the
environment may close it once)).  Hence every
execution from the initial state has at most `boundS p = 5 + p.peerRecvs + p.peerSends.length` (send) resp.
`boundR p = 6 + p.peerRecvs + p.peerSends.length` (receive) steps, the fuel-bounded closure `Conc.tauClosure` with at least that
much fuel contains every reachable state, and the enumeration `sendOutcomes` / `recvOutcomes` loses no outcome.
For the judge's scenarios the bounds are `≤ 6` resp. `≤ 7`; the driver's fuel is 64.
-/
namespace TypVerif.Lemmas.C19Complete
open TypVerif TypVerif.Conc TypVerif.Model.Chan TypVerif.Model.ChanHelpers TypVerif.Drv.C19 TypVerif.Proto
open ChanCtl

/-! ### the measures -/

def mS (s : SState) : Nat := s.ctl.measure
def mR (s : RState) : Nat := s.ctl.measure

-- the measure of the initial state: rank of the start location (4) + 1 for the unfired timer + the peers' budget and supply;
-- the receiver's measure has 1 more while the channel is open
def boundS (p : Params) : Nat := 5 + p.peerRecvs + p.peerSends.length
def boundR (p : Params) : Nat := 6 + p.peerRecvs + p.peerSends.length

theorem measure_start (f : Bool) (n : Nat) : (Ctl.mk .start false f n).measure ≤ 5 + n := by
  show 4 + (if f then 0 else 1) + n ≤ 5 + n
  split <;> omega

theorem mS_init (p : Params) : mS (initS p) ≤ boundS p :=
  Nat.le_trans (measure_start _ _) (Nat.le_of_eq (Nat.add_assoc _ _ _).symm)

theorem mR_init (p : Params) : mR (initR p) ≤ boundR p := by
  refine Nat.le_trans (measure_start _ _) ?_
  show 5 + (p.peerRecvs + p.peerSends.length + if p.closed then 0 else 1) ≤ 6 + p.peerRecvs + p.peerSends.length
  split <;> omega

theorem handoffOkR_budget {p : Params} {s : RState} (h : handoffOkR p s = true) : 0 < s.budget :=
  ChanRecv.peerRecvOkR_budget (ChanRecv.handoffOkR_eq h).2.2

theorem succS_dec (p : Params) (s s' : SState) (l : Option Unit) (h : (l, s') ∈ succS p s) :
    l = none ∧ mS s' < mS s :=
  (ChanSend.step_of_mem h).imp_right fun hs => hs.ctl.lt

theorem succR_dec (p : Params) (s s' : RState) (l : Option Unit) (h : (l, s') ∈ succR p s) :
    l = none ∧ mR s' < mR s :=
  (ChanRecv.step_of_mem h).imp_right fun hs => hs.ctl.lt

/-! ### the scenarios of the judge -/

theorem boundS_scenario (mode : Mode) (cap fill peer : Nat) : boundS (sendScenario mode cap fill peer) ≤ 6 := by
  unfold boundS sendScenario
  simp only [List.length_nil]
  split <;> omega

theorem boundR_scenario (mode : Mode) (cap fill : Nat) (closed : Bool) (peer : Nat) :
    boundR (recvScenario mode cap fill closed peer) ≤ 7 := by
  unfold boundR recvScenario
  simp only
  split <;> simp

end TypVerif.Lemmas.C19Complete
