/-
Index arithmetic for Array2D (row stride = width), on raw `Int` expressions so that the lemmas apply both to the
regenerated kernels `Gen.A2D.*` and to the model.  Products of two variables are atoms for `omega`; the lemmas
below supply the facts about those atoms that `omega` needs.
-/
namespace TypVerif.Lemmas.Array2DArith

/-- `omega`, and if that fails `omega` after distributing products over sums (`(y+1)*w` ↦ `y*w + w`), so that reshaped
but equal index expressions coming from the regenerated kernels are still recognised.  `omega` is linear: `y*w` and
`w*y` are different atoms to it, so each caller first puts `Int.mul_comm y w` among the hypotheses. -/
macro "idx_omega" : tactic =>
  `(tactic| first | omega | (simp only [Int.add_mul, Int.mul_add, Int.one_mul, Int.mul_one, true_and, and_true] at * <;> omega))

/-- one more row is one more stride -/
theorem mul_step {w y y' : Int} (hw : 0 ≤ w) (h : y + 1 ≤ y') : y * w + w ≤ y' * w := by
  have h1 : (y + 1) * w ≤ y' * w := Int.mul_le_mul_of_nonneg_right h hw
  have h2 : (y + 1) * w = y * w + w := by rw [Int.add_mul, Int.one_mul]
  omega

/-- the last row ends inside `w*h` -/
theorem row_end_le {w h y : Int} (hw : 0 ≤ w) (hy : y < h) : y * w + w ≤ w * h := by
  have := mul_step (w := w) (y := y) (y' := h) hw (by omega)
  have := Int.mul_comm h w
  omega

/-- the window `[xa + y*w, 1 + xb + y*w)` of the cells `(xa..xb, y)` (empty when `xa = xb + 1`) lies inside `w*h` -/
theorem span_bounds {w h xa xb y : Int} (hy0 : 0 ≤ y) (hyh : y < h) (hxa : 0 ≤ xa) (hab : xa ≤ xb + 1) (hxb : xb < w) :
    0 ≤ xa + y * w ∧ xa + y * w ≤ 1 + xb + y * w ∧ 1 + xb + y * w ≤ w * h := by
  have hw : 0 ≤ w := by omega
  have h1 := Int.mul_nonneg hy0 hw
  have h2 := row_end_le hw hyh
  omega

theorem idx_lt {w h x y : Int} (hx0 : 0 ≤ x) (hxw : x < w) (hy0 : 0 ≤ y) (hyh : y < h) :
    0 ≤ x + y * w ∧ x + y * w < w * h := by
  have := span_bounds hy0 hyh hx0 (Int.le_add_one (Int.le_refl x)) hxw
  omega

/-- lexicographic comparison of linear indices -/
theorem idx_lt_of_row_lt {w x x' y y' : Int} (hw : 0 ≤ w) (hx0 : 0 ≤ x') (hxw : x < w) (hyy : y < y') :
    x + y * w < x' + y' * w := by
  have := mul_step (w := w) (y := y) (y' := y') hw (by omega)
  omega

/-- a window `[x1 + y*w, 1 + x2 + y*w)` contains exactly the cells `(x1..x2, y)` -/
theorem idx_in_window {w x1 x2 y x' y' : Int} (h1 : 0 ≤ x1) (h2 : x2 < w) (hx0 : 0 ≤ x') (hxw : x' < w) :
    (x1 + y * w ≤ x' + y' * w ∧ x' + y' * w < 1 + x2 + y * w) ↔ (y' = y ∧ x1 ≤ x' ∧ x' ≤ x2) := by
  constructor
  · intro ⟨ha, hb⟩
    have hy : y' = y := by
      rcases Int.lt_trichotomy y' y with h | h | h
      · have := idx_lt_of_row_lt (w := w) (by omega) (x := x') (x' := x1) h1 hxw h; omega
      · exact h
      · have := idx_lt_of_row_lt (w := w) (by omega) (x := x2) (x' := x') hx0 h2 h; omega
    subst hy
    omega
  · intro ⟨hy, ha, hb⟩
    subst hy
    omega

/-- the linear index determines the coordinates: `(x', y')` lies in the one-cell window of `(x, y)` -/
theorem idx_inj {w x y x' y' : Int} (hx0 : 0 ≤ x) (hxw : x < w) (hx0' : 0 ≤ x') (hxw' : x' < w)
    (e : x + y * w = x' + y' * w) : x = x' ∧ y = y' := by
  have := (idx_in_window (x1 := x) (x2 := x) (y := y) (y' := y') hx0 hxw hx0' hxw').mp (by omega)
  omega

end TypVerif.Lemmas.Array2DArith
