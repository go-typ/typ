import TypVerif.Lemmas.AvlBalance
/-
C02 depth and cost: `fib (height + 3) ≤ size + 1` on AVL trees, from it `2^(84·height) ≤ (size+2)^121` (how: the section
comment below), and the comparator-call counters, which walk the search path of `find`/`remove` (`search_ind`) and
pay at most one call per level.
-/
set_option linter.unusedSectionVars false
namespace TypVerif.Lemmas.Avl
open TypVerif.Model.Avl TypVerif.Model.Avl.Node TypVerif.Spec.Avl

variable {α : Type}

theorem fib_add_two (n : Nat) : fib (n + 2) = fib n + fib (n + 1) := rfl

/-- an AVL tree with at least `k` levels has at least `fib (k+2) - 1` nodes: below a root with `k+2` levels one
subtree has at least `k+1` levels and the other, by balance, at least `k` -/
theorem fib_le_size_of_le : ∀ (k : Nat) (t : Node α), AVL t → (k : Int) - 1 ≤ height t → fib (k + 2) ≤ size t + 1
  | 0, _, _, _ => Nat.succ_le_succ (Nat.zero_le _)
  | 1, .nil, _, h => by rw [height_nil] at h; omega
  | 1, .node l _ _ r, _, _ => by show 2 ≤ size l + 1 + size r + 1; omega
  | k + 2, .nil, _, h => by rw [height_nil] at h; omega
  | k + 2, .node l v c r, ht, h => by
    have ⟨al, ar, _, b1, b2⟩ := ht
    show fib (k + 2) + fib (k + 1 + 2) ≤ size l + 1 + size r + 1
    rw [height_node] at h
    rcases Int.le_total (height l) (height r) with hle | hle
    · rw [Int.max_eq_right hle] at h
      have := fib_le_size_of_le k l al (by omega)
      have := fib_le_size_of_le (k + 1) r ar (by omega)
      omega
    · rw [Int.max_eq_left hle] at h
      have := fib_le_size_of_le (k + 1) l al (by omega)
      have := fib_le_size_of_le k r ar (by omega)
      omega

/-- C02.fib: an AVL tree of height `h` (nil = -1, leaf = 0) has at least `fib (h+3) - 1` nodes -/
theorem fib_le_size (t : Node α) (ht : AVL t) : fib (height t + 3).toNat ≤ size t + 1 := by
  have := height_ge t
  rw [show (height t + 3).toNat = (height t + 1).toNat + 2 by omega]
  exact fib_le_size_of_le _ t ht (by omega)

/-! ### integer-exponent corollaries

`2^(p·height) ≤ (n+2)^q`, i.e. `height ≤ (q/p)·log2(n+2)`, for `q/p = 121/84 = 1.440476… < 1.4405` and with it for every
larger ratio (`depth_pow_ratio`), e.g. `13/9`.  It comes from `fib_le_size` and `2^(p·k) ≤ fib (k+3)^q`, which is proved by
induction in steps of `q`: `fib` grows by at least `2^p` over `q` indices (addition formula and a bound on the ratio of
consecutive Fibonacci numbers), and the first instances are evaluated. -/

theorem fib_add (m k : Nat) : fib (m + k + 1) = fib (m + 1) * fib (k + 1) + fib m * fib k := by
  induction m using Nat.strongRecOn with
  | _ m ih =>
    match m with
    | 0 => simp [fib]
    | 1 =>
      have : fib (1 + k + 1) = fib k + fib (k + 1) := by rw [show 1 + k + 1 = k + 2 from by omega]; rfl
      rw [this]; simp [fib]; omega
    | m + 2 =>
      have h0 := ih m (by omega)
      have h1 := ih (m + 1) (by omega)
      have e : fib (m + 2 + k + 1) = fib (m + k + 1) + fib (m + 1 + k + 1) := by
        rw [show m + 2 + k + 1 = (m + k + 1) + 2 from by omega, fib_add_two]
        rw [show m + k + 1 + 1 = m + 1 + k + 1 from by omega]
      have e3 : fib (m + 2 + 1) = fib (m + 1) + fib (m + 2) := fib_add_two (m + 1)
      have e2 : fib (m + 2) = fib m + fib (m + 1) := fib_add_two m
      rw [e, h0, h1, e3]
      simp only [Nat.add_mul]
      rw [show fib (m + 1 + 1) = fib (m + 2) from rfl]
      rw [e2]
      simp only [Nat.add_mul]
      omega

/-- consecutive Fibonacci numbers have ratio in [55/34, 34/21] from index 9 on -/
theorem fib_ratio9 (k : Nat) : 55 * fib (k + 9) ≤ 34 * fib (k + 10) ∧ 21 * fib (k + 10) ≤ 34 * fib (k + 9) := by
  induction k with
  | zero => decide
  | succ k ih =>
    have e : fib (k + 1 + 10) = fib (k + 9) + fib (k + 10) := fib_add_two (k + 9)
    have e' : fib (k + 1 + 9) = fib (k + 10) := rfl
    rw [e, e']; omega

theorem fib_step121 (k : Nat) : 2 ^ 84 * fib (k + 9) ≤ fib (k + 130) := by
  have r := (fib_ratio9 k).1
  have e := fib_add 120 (k + 9)
  rw [show fib 120 = 5358359254990966640871840 by decide,
    show fib (120 + 1) = 8670007398507948658051921 by decide, show k + 9 + 1 = k + 10 from rfl] at e
  rw [show k + 130 = 120 + (k + 9) + 1 by omega, e, show (2 : Nat) ^ 84 = 19342813113834066795298816 by decide]
  omega

/-- Boolean check of the first `n` instances, evaluated by the kernel -/
def powCheck (p q : Nat) : Nat → Bool
  | 0 => true
  | k + 1 => powCheck p q k && decide (2 ^ (p * k) ≤ fib (k + 3) ^ q)

theorem powCheck_sound (p q n : Nat) (h : powCheck p q n = true) : ∀ k, k < n → 2 ^ (p * k) ≤ fib (k + 3) ^ q := by
  induction n with
  | zero => intro k hk; omega
  | succ n ih =>
    simp only [powCheck, Bool.and_eq_true, decide_eq_true_eq] at h
    intro k hk
    by_cases e : k = n
    · subst e; exact h.2
    · exact ih h.1 k (by omega)

/-- `step` starts at `fib (k + 9)` because the ratio bounds `fib_ratio9` behind it hold from index 9 on.  The claim speaks
of `fib (k + 3)`, so the induction goes from `j + 6` (where `fib (j + 6 + 3) = fib (j + 9)`) to `j + 6 + q`, and the
`6 + q` instances below that are evaluated. -/
theorem pow_le_fib_pow_of_step (p q : Nat) (hq : 0 < q) (step : ∀ k, 2 ^ p * fib (k + 9) ≤ fib (k + q + 9))
    (base : powCheck p q (6 + q) = true) (k : Nat) : 2 ^ (p * k) ≤ fib (k + 3) ^ q := by
  induction k using Nat.strongRecOn with
  | _ k ih =>
    by_cases hk : k < 6 + q
    · exact powCheck_sound p q _ base k hk
    · obtain ⟨j, rfl⟩ : ∃ j, k = j + 6 + q := ⟨k - 6 - q, by omega⟩
      calc 2 ^ (p * (j + 6 + q)) = 2 ^ (p * (j + 6)) * (2 ^ p) ^ q := by rw [Nat.mul_add, Nat.pow_add, ← Nat.pow_mul]
        _ ≤ fib (j + 6 + 3) ^ q * (2 ^ p) ^ q := Nat.mul_le_mul_right _ (ih (j + 6) (by omega))
        _ = (2 ^ p * fib (j + 9)) ^ q := by rw [Nat.mul_pow, Nat.mul_comm]
        _ ≤ fib (j + q + 9) ^ q := Nat.pow_le_pow_left (step j) q
        _ = fib (j + 6 + q + 3) ^ q := by rw [show j + q + 9 = j + 6 + q + 3 by omega]

theorem pow84_le_fib_pow (k : Nat) : 2 ^ (84 * k) ≤ fib (k + 3) ^ 121 :=
  pow_le_fib_pow_of_step 84 121 (by decide) fib_step121 (by decide +kernel) k

/-- C02.depth_log_int -/
theorem depth_pow121 (t : Node α) (ht : AVL t) : 2 ^ (84 * (height t).toNat) ≤ (size t + 2) ^ 121 := by
  have h1 := fib_le_size t ht
  have g := height_ge t
  refine Nat.le_trans (pow84_le_fib_pow _) (Nat.pow_le_pow_left ?_ 121)
  rcases (by omega : (height t + 3).toNat = (height t).toNat + 3 ∨ height t = -1) with e | e
  · rw [e] at h1; omega
  · rw [e]; show 2 ≤ _; omega

/-- every exponent pair with `q/p ≥ 121/84` gives a bound as well: compare the 121st powers of the two sides -/
theorem depth_pow_ratio {p q : Nat} (hpq : 121 * p ≤ 84 * q) (t : Node α) (ht : AVL t) :
    2 ^ (p * (height t).toNat) ≤ (size t + 2) ^ q := by
  refine (Nat.pow_le_pow_iff_left (n := 121) (by decide)).mp ?_
  have h := Nat.pow_le_pow_left (depth_pow121 t ht) q
  rw [← Nat.pow_mul, ← Nat.pow_mul] at h ⊢
  rw [Nat.mul_comm q]
  refine Nat.le_trans (Nat.pow_le_pow_right (by decide) ?_) h
  rw [Nat.mul_right_comm, Nat.mul_right_comm 84]
  exact Nat.mul_le_mul_right _ (Nat.mul_comm p 121 ▸ hpq)

/-- C02.depth_log_partial -/
theorem depth_pow (t : Node α) (ht : AVL t) : 2 ^ (9 * (height t).toNat) ≤ (size t + 2) ^ 13 :=
  depth_pow_ratio (by decide) t ht

/-! ### comparator-call counters

`findC` and `removeC` walk the search path of `find` and `remove` (`search_ind`); their cases, in projection form: -/

section
variable [DecidableEq α] {cmp : α → α → Int} {x v : α} {l r : Node α} {h : Int}

theorem findC_found : findC cmp x (node l x h r) = (some (node l x h r), 0) := if_pos rfl
theorem findC_left (e : ¬ v = x) (gl : goLeft cmp x l v) : findC cmp x (node l v h r) =
    ((findC cmp x l).1, (findC cmp x l).2 + if l.isNil then 0 else 1) :=
  (if_neg e).trans (if_pos gl)
theorem findC_right (e : ¬ v = x) (gl : ¬ goLeft cmp x l v) (gr : (!r.isNil) = true) :
    findC cmp x (node l v h r) = ((findC cmp x r).1, (findC cmp x r).2 + if l.isNil then 0 else 1) :=
  (if_neg e).trans ((if_neg gl).trans (if_pos gr))
theorem findC_stop (e : ¬ v = x) (gl : ¬ goLeft cmp x l v) (gr : ¬ (!r.isNil) = true) :
    findC cmp x (node l v h r) = (none, if l.isNil then 0 else 1) :=
  (if_neg e).trans ((if_neg gl).trans (if_neg gr))

theorem removeC_found : removeC cmp x (node l x h r) = (remove cmp x (node l x h r), 0) := if_pos rfl
theorem removeC_left (e : ¬ v = x) (gl : goLeft cmp x l v) : removeC cmp x (node l v h r) =
    (if (removeC cmp x l).1.2 then (rebalance (mk (removeC cmp x l).1.1 v r), true) else (node l v h r, false),
      (removeC cmp x l).2 + if l.isNil then 0 else 1) := by
  refine (if_neg e).trans ((if_pos gl).trans ?_)
  rcases removeC cmp x l with ⟨⟨n, ok⟩, k⟩
  cases ok <;> rfl
theorem removeC_right (e : ¬ v = x) (gl : ¬ goLeft cmp x l v) (gr : (!r.isNil) = true) :
    removeC cmp x (node l v h r) =
    (if (removeC cmp x r).1.2 then (rebalance (mk l v (removeC cmp x r).1.1), true) else (node l v h r, false),
      (removeC cmp x r).2 + if l.isNil then 0 else 1) := by
  refine (if_neg e).trans ((if_neg gl).trans ((if_pos gr).trans ?_))
  rcases removeC cmp x r with ⟨⟨n, ok⟩, k⟩
  cases ok <;> rfl
theorem removeC_stop (e : ¬ v = x) (gl : ¬ goLeft cmp x l v) (gr : ¬ (!r.isNil) = true) :
    removeC cmp x (node l v h r) = ((node l v h r, false), if l.isNil then 0 else 1) :=
  (if_neg e).trans ((if_neg gl).trans (if_neg gr))

/-- a cell costs a comparator call only if it has a left child -/
theorem cmpCount_le (l : Node α) : (if l.isNil then 0 else 1 : Nat) ≤ 1 := by split <;> decide

theorem findC_fst (cmp : α → α → Int) (x : α) (t : Node α) : (findC cmp x t).1 = find cmp x t := by
  induction t using search_ind cmp x with
  | nil => rfl
  | found l h r => rw [findC_found, find_found]
  | left l v h r e gl ih => rw [findC_left e gl, find_left e gl, ih]
  | right l v h r e gl gr ih => rw [findC_right e gl gr, find_right e gl gr, ih]
  | stop l v h r e gl gr => rw [findC_stop e gl gr, find_stop e gl gr]

theorem addC_fst (cmp : α → α → Int) (x : α) (t : Node α) : (addC cmp x t).1 = add cmp x t := by
  induction t with
  | nil => rfl
  | node l v h r ihl ihr =>
    unfold addC add
    split
    · simp only [ihl]
    · simp only [ihr]

/-- `removeC` is `remove` with the comparator calls of `find`: both descend along the same search path -/
theorem removeC_eq (cmp : α → α → Int) (x : α) (t : Node α) :
    removeC cmp x t = (remove cmp x t, (findC cmp x t).2) := by
  induction t using search_ind cmp x with
  | nil => rfl
  | found l h r => rw [removeC_found, findC_found]
  | left l v h r e gl ih => rw [removeC_left e gl, remove_left e gl, findC_left e gl, ih]
  | right l v h r e gl gr ih => rw [removeC_right e gl gr, remove_right e gl gr, findC_right e gl gr, ih]
  | stop l v h r e gl gr => rw [removeC_stop e gl gr, remove_stop e gl gr, findC_stop e gl gr]

/-- C02.cost, `find`/`Contains`: at most one comparator call per level -/
theorem findC_cost (cmp : α → α → Int) (x : α) (t : Node α) : ((findC cmp x t).2 : Int) ≤ height t + 1 := by
  induction t using search_ind cmp x with
  | nil => exact Int.le_refl _
  | found l h r => rw [findC_found]; have := height_ge (node l x h r); omega
  | left l v h r e gl ih =>
    rw [findC_left e gl, height_node]
    have := cmpCount_le l
    omega
  | right l v h r e gl gr ih =>
    rw [findC_right e gl gr, height_node]
    have := cmpCount_le l
    omega
  | stop l v h r e gl gr =>
    rw [findC_stop e gl gr, height_node]
    have := height_ge l
    have := cmpCount_le l
    omega

theorem addC_cost (cmp : α → α → Int) (x : α) (t : Node α) : ((addC cmp x t).2 : Int) ≤ height t + 1 := by
  induction t with
  | nil => exact Int.le_refl _
  | node l v h r ihl ihr =>
    unfold addC
    rw [height_node]
    split <;> simp only [Int.natCast_add] <;> omega

/-! `Tree`-level counting wrappers: the plain result, and no call at all on the empty tree -/

theorem zero_le_height_succ (t : Node α) : ((0 : Nat) : Int) ≤ height t + 1 := by
  have := height_ge t; omega

theorem ContainsC_spec (t : Tree α) (v : α) :
    (t.ContainsC v).1 = t.Contains v ∧ ((t.ContainsC v).2 : Int) ≤ height t.root + 1 := by
  unfold Tree.ContainsC Tree.Contains
  split
  · exact ⟨rfl, zero_le_height_succ _⟩
  · exact ⟨congrArg Option.isSome (findC_fst ..), findC_cost ..⟩

theorem AddC_spec (t : Tree α) (v : α) :
    (t.AddC v).1 = t.Add v ∧ ((t.AddC v).2 : Int) ≤ height t.root + 1 := by
  unfold Tree.AddC Tree.Add
  split
  · exact ⟨rfl, zero_le_height_succ _⟩
  · exact ⟨by rw [← addC_fst], addC_cost ..⟩

theorem RemoveC_spec (t : Tree α) (v : α) :
    (t.RemoveC v).1 = t.Remove v ∧ ((t.RemoveC v).2 : Int) ≤ height t.root + 1 := by
  unfold Tree.RemoveC Tree.Remove
  split
  · exact ⟨rfl, zero_le_height_succ _⟩
  · rw [removeC_eq]
    rcases remove t.compare v t.root with ⟨n, ok⟩
    cases ok <;> exact ⟨rfl, findC_cost ..⟩

end

end TypVerif.Lemmas.Avl
