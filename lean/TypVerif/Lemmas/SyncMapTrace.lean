import TypVerif.Model.SyncMapTrace
import TypVerif.Lemmas.SmcBasic
import TypVerif.Lemmas.KeyedMutexBasic
/-
Soundness of the pure step-trace replay `Model.SyncMapTrace.applyLine/replay` with respect to the transition system
`Model.SyncMapConc.sys`: an accepted line is a step of `succ` carrying the line's visible event, an accepted trace is
an execution whose visible events are the trace's `inv`/`res` lines.  And the judge's on-demand padding with idle
goroutines (`replayPad`) is the replay from `init n` for the final number `n` of goroutines.
-/
namespace TypVerif.Lemmas.SyncMapTrace
open TypVerif TypVerif.Conc TypVerif.Model TypVerif.Model.SyncMapConc TypVerif.Model.SyncMapTrace
open TypVerif.Lemmas.Smc (mem_stepT_iff mem_stepT_none_iff mem_succ_iff lt_length_of_pc_ne_idle)

set_option linter.unusedSectionVars false

variable {K V : Type} [DecidableEq K] [DecidableEq V] [Inhabited V]

omit [DecidableEq K] [DecidableEq V] [Inhabited V] in
/-- the goroutine a line is about -/
@[reducible] def tidOf : Line K V → Tid
  | .inv t _ => t
  | .step t _ => t
  | .iter t _ => t
  | .res t _ => t

omit [DecidableEq K] [DecidableEq V] [Inhabited V] in
/-- the number of goroutines a line needs before it is replayed -/
def need : Line K V → Nat
  | .inv t _ => t + 1
  | _ => 0

/-- What a line does to the shared state and to the program counter of its goroutine.  Of the goroutine table
`applyLine` reads nothing but that program counter (and, for `inv`, that the goroutine exists: `need`), and it writes
through `setPc` only: `applyLine_eq`.  The length and padding lemmas reason about `setPc` through that equation and
never unfold `applyLine`. -/
def act (sh : Shared K V) (pc : Pc K V) : Line K V → Option (Shared K V × Pc K V)
  | .inv _ op => if pc = .idle then some (sh, .start op) else none
  | .step t label => if pc.label = label then exec sh t pc else none
  | .iter _ k => ((picks pc).find? (fun c => c.1 == k)).map (fun c => (sh, c.2))
  | .res _ r => if pc = .ret r then some (sh, .idle) else none

theorem applyLine_eq (s : State K V) (l : Line K V) :
    applyLine s l =
      if need l ≤ s.pcs.length then
        (act s.sh (s.pc (tidOf l)) l).map (fun r => setPc s (tidOf l) r.1 r.2)
      else none := by
  cases l with
  | inv t op =>
    show (if t < s.pcs.length then _ else none) = if t < s.pcs.length then _ else none
    simp only [act]
    split
    · split
      · rename_i hpc
        rw [if_pos hpc]
        rfl
      · rename_i hpc
        rw [if_neg hpc]
        rfl
    · rfl
  | step t label =>
    simp only [applyLine, act, need, Nat.zero_le, if_true]
    by_cases hl : (s.pc t).label = label
    · rw [if_pos hl, if_pos hl]
      cases exec s.sh t (s.pc t) with
      | none => rfl
      | some r => rfl
    · rw [if_neg hl, if_neg hl]
      rfl
  | iter t k =>
    simp only [applyLine, act, need, Nat.zero_le, if_true]
    cases (picks (s.pc t)).find? (fun c => c.1 == k) with
    | none => rfl
    | some c => rfl
  | res t r =>
    simp only [applyLine, act, need, Nat.zero_le, if_true]
    split
    · rename_i r' hpc
      rw [hpc]
      by_cases hr : r' = r
      · rw [if_pos hr, if_pos (congrArg Pc.ret hr)]
        rfl
      · rw [if_neg hr, if_neg (fun h => hr (Pc.ret.inj h))]
        rfl
    · rename_i hpc
      rw [if_neg (hpc r)]
      rfl

/-- what acceptance of a line amounts to -/
theorem applyLine_some {s s' : State K V} {l : Line K V} (h : applyLine s l = some s') :
    need l ≤ s.pcs.length ∧ ∃ r, act s.sh (s.pc (tidOf l)) l = some r ∧ setPc s (tidOf l) r.1 r.2 = s' := by
  rw [applyLine_eq] at h
  split at h
  · rename_i hn
    exact ⟨hn, Option.map_eq_some_iff.mp h⟩
  · cases h

/-- a line other than `inv` does nothing with an idle goroutine -/
theorem act_idle (sh : Shared K V) {l : Line K V} (hl : need l = 0) : act sh .idle l = none := by
  cases l with
  | inv t op => exact absurd hl (Nat.succ_ne_zero t)
  | step t label => exact ite_self none
  | iter t k => rfl
  | res t r => rfl

theorem tidOf_lt {s : State K V} {l : Line K V} {r : Shared K V × Pc K V}
    (h : act s.sh (s.pc (tidOf l)) l = some r) (hn : need l ≤ s.pcs.length) : tidOf l < s.pcs.length := by
  cases hl : need l with
  | succ n =>
    cases l with
    | inv t op => exact hn
    | step t label => cases hl
    | iter t k => cases hl
    | res t r => cases hl
  | zero =>
    apply lt_length_of_pc_ne_idle
    intro hc
    rw [hc, act_idle s.sh hl] at h
    cases h

/-- **An accepted line is a step of the model**, labelled with the line's visible event (`inv`/`res` lines) or
internal (`step`/`iter` lines). -/
theorem applyLine_sound (menu : List (Op K V)) {s s' : State K V} {l : Line K V}
    (hop : ∀ t op, l = .inv t op → op ∈ menu) (h : applyLine s l = some s') : (l.event, s') ∈ succ menu s := by
  obtain ⟨hn, r, ha, rfl⟩ := applyLine_some h
  refine mem_succ_iff.mpr ⟨tidOf l, tidOf_lt ha hn, ?_⟩
  cases l with
  | inv t op =>
    simp only [act] at ha
    split at ha
    · rename_i hpc
      cases ha
      exact mem_stepT_iff.mpr (.inl ⟨hpc, op, hop t op rfl, rfl, rfl⟩)
    · cases ha
  | step t label =>
    simp only [act] at ha
    split at ha
    · exact mem_stepT_none_iff.mpr (.inl ⟨r.1, r.2, ha, rfl⟩)
    · cases ha
  | iter t k =>
    obtain ⟨c, hc, rfl⟩ := Option.map_eq_some_iff.mp ha
    exact mem_stepT_none_iff.mpr (.inr ⟨c, List.mem_of_find?_eq_some hc, rfl⟩)
  | res t r' =>
    simp only [act] at ha
    split at ha
    · rename_i hpc
      cases ha
      exact mem_stepT_iff.mpr (.inr (.inl ⟨r', hpc, rfl, rfl⟩))
    · cases ha

theorem applyLine_length {s s' : State K V} {l : Line K V} (h : applyLine s l = some s') :
    s'.pcs.length = s.pcs.length := by
  obtain ⟨_, r, _, rfl⟩ := applyLine_some h
  exact List.length_set

theorem replay_cons_eq_some {s s' : State K V} {l : Line K V} {ls : List (Line K V)} :
    replay s (l :: ls) = some s' ↔ ∃ s1, applyLine s l = some s1 ∧ replay s1 ls = some s' := by
  show (match applyLine s l with | some s1 => replay s1 ls | none => none) = some s' ↔ _
  cases applyLine s l with
  | none => exact ⟨nofun, fun ⟨_, h, _⟩ => nomatch h⟩
  | some s1 => exact ⟨fun h => ⟨s1, rfl, h⟩, fun ⟨_, h1, h2⟩ => Option.some.inj h1 ▸ h2⟩

theorem replay_eq_foldlM (s : State K V) (ls : List (Line K V)) : replay s ls = ls.foldlM applyLine s := by
  induction ls generalizing s with
  | nil => rfl
  | cons l ls ih =>
    simp only [replay, List.foldlM_cons]
    cases applyLine s l with
    | none => rfl
    | some s' => exact ih s'

theorem replay_length {s s' : State K V} {ls : List (Line K V)} (h : replay s ls = some s') :
    s'.pcs.length = s.pcs.length := by
  induction ls generalizing s with
  | nil => cases h; rfl
  | cons l ls ih =>
    obtain ⟨s1, h1, h2⟩ := replay_cons_eq_some.mp h
    rw [ih h2, applyLine_length h1]

omit [DecidableEq K] [DecidableEq V] [Inhabited V] in
theorem mem_invoked {ls : List (Line K V)} {t : Tid} {op : Op K V} (h : Line.inv t op ∈ ls) : op ∈ invoked ls :=
  List.mem_filterMap.mpr ⟨_, h, rfl⟩

omit [DecidableEq K] [DecidableEq V] [Inhabited V] in
theorem visible_map_event (ls : List (Line K V)) : visible (ls.map Line.event) = eventsOf ls := by
  simp only [visible, eventsOf, List.filterMap_map]
  rfl

theorem filterMap_visible {α β : Type} (f : α → Option β) (evs : List (Option α)) :
    (visible evs).filterMap f = evs.filterMap (fun x => x.bind f) := by
  simp only [visible, List.filterMap_filterMap]
  rfl

/-- the execution of an accepted trace, with its labels spelled out: one model step per line.  (`succ` does not depend
on the number of goroutines `n` or on `zst`, only `init` does, so the statement holds for every `n`, `zst`.) -/
theorem replay_exec (menu : List (Op K V)) (n : Nat) (zst : Bool) {s s' : State K V} {ls : List (Line K V)}
    (hmenu : ∀ t op, Line.inv t op ∈ ls → op ∈ menu) (h : replay s ls = some s') :
    Exec (sys K V menu n zst) s (ls.map Line.event) s' := by
  induction ls generalizing s with
  | nil => cases h; exact Exec.nil _
  | cons l ls ih =>
    obtain ⟨s1, h1, h2⟩ := replay_cons_eq_some.mp h
    exact Exec.cons (sys := sys K V menu n zst)
      (applyLine_sound menu (fun t op e => hmenu t op (e ▸ List.mem_cons_self)) h1)
      (ih (fun t op hm => hmenu t op (List.mem_cons_of_mem _ hm)) h2)

/-- **An accepted trace is an execution of the model** whose visible events are exactly the trace's `inv`/`res`
lines, in order. -/
theorem replay_sound (menu : List (Op K V)) (n : Nat) (zst : Bool) {s s' : State K V} {ls : List (Line K V)}
    (hmenu : ∀ t op, Line.inv t op ∈ ls → op ∈ menu) (h : replay s ls = some s') :
    ∃ evs, Exec (sys K V menu n zst) s evs s' ∧ evs.filterMap id = eventsOf ls :=
  ⟨_, replay_exec menu n zst hmenu h, visible_map_event ls⟩

omit [DecidableEq K] [DecidableEq V] [Inhabited V] in
@[simp] theorem pad_sh (s : State K V) (n : Nat) : (pad s n).sh = s.sh := rfl

omit [DecidableEq K] [DecidableEq V] [Inhabited V] in
theorem pad_length (s : State K V) (n : Nat) : (pad s n).pcs.length = max s.pcs.length n := by
  rw [pad, List.length_append, List.length_replicate, Nat.add_comm, Nat.sub_add_eq_max, Nat.max_comm]

omit [DecidableEq K] [DecidableEq V] [Inhabited V] in
/-- padding is invisible to `State.pc`: a missing goroutine already reads as idle -/
@[simp] theorem pad_pc (s : State K V) (n : Nat) (t : Tid) : (pad s n).pc t = s.pc t :=
  Lemmas.KeyedMutex.getD_append_replicate s.pcs _ t .idle

omit [DecidableEq K] [DecidableEq V] [Inhabited V] in
theorem pad_setPc {s : State K V} {t : Tid} (ht : t < s.pcs.length) (n : Nat) (sh : Shared K V) (pc : Pc K V) :
    pad (setPc s t sh pc) n = setPc (pad s n) t sh pc := by
  simp only [pad, setPc, List.length_set, List.set_append_left _ _ ht]

omit [DecidableEq K] [DecidableEq V] [Inhabited V] in
theorem pad_of_le {s : State K V} {n : Nat} (h : n ≤ s.pcs.length) : pad s n = s := by
  rw [pad, Nat.sub_eq_zero_of_le h, List.replicate_zero, List.append_nil]

omit [DecidableEq K] [DecidableEq V] [Inhabited V] in
theorem pad_pad (s : State K V) (a b : Nat) (h : a ≤ b) : pad (pad s a) b = pad s b := by
  simp only [pad, Lemmas.KeyedMutex.append_replicate_twice _ _ h]

omit [DecidableEq K] [DecidableEq V] [Inhabited V] in
theorem pad_init (n : Nat) (zst : Bool) : pad (SyncMapConc.init 0 zst : State K V) n = SyncMapConc.init n zst := by
  simp [pad, SyncMapConc.init]

/-- more idle goroutines change nothing for a line whose goroutine is there already: accepted or rejected as before,
with the same effect -/
theorem applyLine_pad_eq {s : State K V} {l : Line K V} (h : need l ≤ s.pcs.length) (n : Nat) :
    applyLine (pad s n) l = (applyLine s l).map (pad · n) := by
  have h' : need l ≤ (pad s n).pcs.length := by
    rw [pad_length]
    exact Nat.le_trans h (Nat.le_max_left _ _)
  rw [applyLine_eq, applyLine_eq, if_pos h, if_pos h', pad_sh, pad_pc, Option.map_map]
  cases ha : act s.sh (s.pc (tidOf l)) l with
  | none => rfl
  | some r => exact congrArg some (pad_setPc (tidOf_lt ha h) n r.1 r.2).symm

theorem replay_pad {s s' : State K V} {ls : List (Line K V)} (h : replay s ls = some s') (n : Nat) :
    replay (pad s n) ls = some (pad s' n) := by
  induction ls generalizing s with
  | nil => cases h; rfl
  | cons l ls ih =>
    obtain ⟨s1, h1, h2⟩ := replay_cons_eq_some.mp h
    refine replay_cons_eq_some.mpr ⟨_, ?_, ih h2⟩
    rw [applyLine_pad_eq (applyLine_some h1).1, h1]
    rfl

/-- what the judge does with one line, as a padding followed by `applyLine` -/
theorem applyLinePad_eq (s : State K V) (l : Line K V) :
    applyLinePad s l = applyLine (pad s (need l)) l := by
  cases l <;> simp only [applyLinePad, need] <;> rw [pad_of_le (Nat.zero_le _)]

theorem replayPad_length {s s' : State K V} {ls : List (Line K V)} (h : replayPad s ls = some s') :
    s.pcs.length ≤ s'.pcs.length := by
  induction ls generalizing s with
  | nil => cases h; exact Nat.le_refl _
  | cons l ls ih =>
    rw [replayPad, applyLinePad_eq] at h
    split at h
    · rename_i s1 h1
      have := applyLine_length h1
      rw [pad_length] at this
      exact Nat.le_trans (this ▸ Nat.le_max_left _ _) (ih h)
    · cases h

/-- with `n` goroutines from the start, a line does what the judge does with it and then pads to `n` — and is rejected
when the judge would need more than `n` goroutines -/
theorem applyLine_pad_bind {s : State K V} {n : Nat} (hn : s.pcs.length ≤ n) (l : Line K V) :
    applyLine (pad s n) l =
      (applyLinePad s l).bind (fun s1 => if s1.pcs.length ≤ n then some (pad s1 n) else none) := by
  have hl : (pad s (need l)).pcs.length = max s.pcs.length (need l) := pad_length s (need l)
  rw [applyLinePad_eq]
  by_cases hk : need l ≤ n
  · rw [← pad_pad s (need l) n hk, applyLine_pad_eq (hl ▸ Nat.le_max_right _ _), Option.map_eq_bind]
    refine Option.bind_congr fun s1 h1 => (if_pos ?_).symm
    rw [applyLine_length h1, hl]
    exact Nat.max_le.mpr ⟨hn, hk⟩
  · rw [applyLine_eq, pad_length, Nat.max_eq_right hn, if_neg hk]
    refine (Option.bind_eq_none_iff.mpr fun s1 h1 => if_neg ?_).symm
    rw [applyLine_length h1, hl]
    exact fun h => hk (Nat.le_trans (Nat.le_max_right _ _) h)

/-- the same for a trace: the replay with `n` goroutines from the start is the judge's lazily padded replay, padded to
`n` at the end, and rejects when the judge ends with more than `n` goroutines -/
theorem replay_pad_eq {s : State K V} {n : Nat} (hn : s.pcs.length ≤ n) (ls : List (Line K V)) :
    replay (pad s n) ls =
      (replayPad s ls).bind (fun s1 => if s1.pcs.length ≤ n then some (pad s1 n) else none) := by
  induction ls generalizing s with
  | nil => exact (if_pos hn).symm
  | cons l ls ih =>
    rw [replay, replayPad, applyLine_pad_bind hn]
    cases applyLinePad s l with
    | none => rfl
    | some s1 =>
      rw [Option.bind_some]
      by_cases h1 : s1.pcs.length ≤ n
      · rw [if_pos h1]
        exact ih h1
      · rw [if_neg h1]
        exact (Option.bind_eq_none_iff.mpr fun s2 h2 =>
          if_neg fun h => h1 (Nat.le_trans (replayPad_length h2) h)).symm

/-- **The judge's lazily padded replay is the replay with the final number of goroutines from the start.** -/
theorem replayPad_replay {s s' : State K V} {ls : List (Line K V)} (h : replayPad s ls = some s') :
    replay (pad s s'.pcs.length) ls = some s' := by
  rw [replay_pad_eq (replayPad_length h), h, Option.bind_some, if_pos (Nat.le_refl _), pad_of_le (Nat.le_refl _)]

/-- from the judge's initial state `init 0` -/
theorem replayPad_init {zst : Bool} {s' : State K V} {ls : List (Line K V)}
    (h : replayPad (SyncMapConc.init 0 zst) ls = some s') :
    replay (SyncMapConc.init s'.pcs.length zst) ls = some s' := by
  have := replayPad_replay h
  rwa [pad_init] at this

end TypVerif.Lemmas.SyncMapTrace
