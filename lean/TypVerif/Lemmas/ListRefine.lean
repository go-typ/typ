import TypVerif.Lemmas.ListOps2
/-
C06, lists: every script line keeps `Sim` and answers as the specification (`step_sim`, one method lemma per line), hence
every script (`run_sim`).
-/
namespace TypVerif.Lemmas.LinkedList
open TypVerif.Spec.ListOp
open TypVerif.Spec.Seq
open TypVerif.Model
open TypVerif.Model.LinkedList

/-! ### traversals -/

theorem walk_next {h : Heap} {w : World} (hs : Sim h w) (l : ListId) : ∀ (fuel : Nat) (rem pre : List ElemId),
    w.lists.get l = pre ++ rem →
    walk elemNext fuel (optPtr rem.head?) h = .ok ((rem.take fuel).map Ptr.elem) h := by
  intro fuel
  induction fuel with
  | zero => intro _ _ _; rfl
  | succ k ih =>
    intro rem pre hl
    cases rem with
    | nil => rfl
    | cons x rem =>
      show walk elemNext (k + 1) (.elem x) h = _
      unfold walk
      rw [if_neg (elem_ne_null x), bind_ok (elemNext_run hs x), (spec_split hs hl).2,
        bind_ok (ih rem (pre ++ [x]) (by rw [hl, List.append_assoc]; rfl))]
      rfl

theorem walk_prev {h : Heap} {w : World} (hs : Sim h w) (l : ListId) : ∀ (fuel : Nat) (rem post : List ElemId),
    w.lists.get l = rem.reverse ++ post →
    walk elemPrev fuel (optPtr rem.head?) h = .ok ((rem.take fuel).map Ptr.elem) h := by
  intro fuel
  induction fuel with
  | zero => intro _ _ _; rfl
  | succ k ih =>
    intro rem post hl
    cases rem with
    | nil => rfl
    | cons x rem =>
      show walk elemPrev (k + 1) (.elem x) h = _
      unfold walk
      have hl' : w.lists.get l = rem.reverse ++ x :: post := by
        rw [hl, List.reverse_cons, List.append_assoc]; rfl
      rw [if_neg (elem_ne_null x), bind_ok (elemPrev_run hs x), (spec_split hs hl').1, List.getLast?_reverse,
        bind_ok (ih rem (x :: post) hl')]
      rfl

theorem fwd_run {h : Heap} {w : World} (hs : Sim h w) (l : ListId) (fuel : Nat) :
    fwd l fuel h = .ok (((w.lists.get l).take fuel).map Ptr.elem) h := by
  unfold fwd
  rw [bind_ok (front_run hs l)]
  exact walk_next hs l fuel (w.lists.get l) [] rfl

theorem bwd_run {h : Heap} {w : World} (hs : Sim h w) (l : ListId) (fuel : Nat) :
    bwd l fuel h = .ok (((w.lists.get l).reverse.take fuel).map Ptr.elem) h := by
  unfold bwd
  rw [bind_ok (back_run hs l), ← List.head?_reverse]
  exact walk_prev hs l fuel (w.lists.get l).reverse [] (by simp)

/-! ### one line of the protocol -/

theorem step_ok {h h' : Heap} {op : Op} {r : Res} (hr : runOp op h = .ok r h') : LinkedList.step h op = (h', r) := by
  unfold LinkedList.step; rw [hr]

theorem step_panic {h h' : Heap} {op : Op} {m : String} (hr : runOp op h = .panic m h') :
    LinkedList.step h op = (h', .panic m) := by
  unfold LinkedList.step; rw [hr]

def StepOK (h : Heap) (w : World) (op : Op) : Prop :=
  Sim (LinkedList.step h op).1 (Spec.Seq.step w op).1 ∧ (LinkedList.step h op).2 = (Spec.Seq.step w op).2

/-- a line `do let x ← m; return f x` whose method `m` agrees with the specification -/
theorem stepOK_of_agree {α : Type} {m : M α} {f : α → Res} {h : Heap} {w : World} {op : Op} {a : α}
    (hop : runOp op = m >>= fun x => pure (f x)) (hag : Agree (m h) (Spec.Seq.step w op).1 a)
    (hres : (Spec.Seq.step w op).2 = f a) : StepOK h w op := by
  obtain ⟨h', hr, hs'⟩ := hag
  have hrun : runOp op h = .ok (f a) h' := by rw [hop, bind_ok hr]; rfl
  unfold StepOK
  rw [step_ok hrun]
  exact ⟨hs', hres.symm⟩

/-- a line that dereferences nil where the specification says so -/
theorem stepOK_of_panic {α : Type} {m : M α} {f : α → Res} {h : Heap} {w : World} {op : Op}
    (hop : runOp op = m >>= fun x => pure (f x)) (hag : AgreeP (m h) (Spec.Seq.step w op).1)
    (hres : (Spec.Seq.step w op).2 = .panic "nilfunc") : StepOK h w op := by
  obtain ⟨h', hr, hs'⟩ := hag
  have hrun : runOp op h = .panic "nilfunc" h' := by rw [hop, bind_panic hr]
  unfold StepOK
  rw [step_panic hrun]
  exact ⟨hs', hres.symm⟩

theorem clearOwners_nil (o : Store (Option ListId)) : clearOwners [] o = o := rfl

theorem step_sim {h : Heap} {w : World} (hs : Sim h w) (op : Op)
    (hinit : ∀ l, op = .init l → w.lists.get l = []) : StepOK h w op := by
  cases op with
  | init l =>
    have hxs := hinit l rfl
    obtain ⟨h', hr, hs', _⟩ := init_sim hs hxs
    refine stepOK_of_agree (f := fun _ => Res.unit) rfl ⟨h', hr, ?_⟩ rfl
    show Sim h' { w with lists := w.lists.set l [], owner := clearOwners (w.lists.get l) w.owner }
    rw [hxs]
    exact hs'.setOrder_same hxs.symm
  | pushFront l v => exact stepOK_of_agree rfl (pushFront_sim hs l v) rfl
  | pushBack l v => exact stepOK_of_agree rfl (pushBack_sim hs l v) rfl
  | insertBefore l v mark =>
    cases mark with
    | none => exact stepOK_of_panic (m := insertBefore l v .null) rfl ⟨h, rfl, hs⟩ rfl
    | some m =>
      refine stepOK_of_agree rfl (insertBefore_sim hs l v m) ?_
      simp only [Spec.Seq.step]
      split <;> rfl
  | insertAfter l v mark =>
    cases mark with
    | none => exact stepOK_of_panic (m := insertAfter l v .null) rfl ⟨h, rfl, hs⟩ rfl
    | some m =>
      refine stepOK_of_agree rfl (insertAfter_sim hs l v m) ?_
      simp only [Spec.Seq.step]
      split <;> rfl
  | remove l e =>
    cases e with
    | none => exact stepOK_of_panic (m := removeM l .null) rfl ⟨h, rfl, hs⟩ rfl
    | some x =>
      refine stepOK_of_agree rfl (removeM_sim hs l x) ?_
      simp only [Spec.Seq.step]
      split <;> rfl
  | moveToFront l e =>
    cases e with
    | none => exact stepOK_of_panic (m := moveToFront l .null) (f := fun _ => Res.unit) rfl ⟨h, rfl, hs⟩ rfl
    | some x =>
      refine stepOK_of_agree (f := fun _ => Res.unit) rfl (moveToFront_sim hs l x) ?_
      simp only [Spec.Seq.step]
      split <;> rfl
  | moveToBack l e =>
    cases e with
    | none => exact stepOK_of_panic (m := moveToBack l .null) (f := fun _ => Res.unit) rfl ⟨h, rfl, hs⟩ rfl
    | some x =>
      refine stepOK_of_agree (f := fun _ => Res.unit) rfl (moveToBack_sim hs l x) ?_
      simp only [Spec.Seq.step]
      split <;> rfl
  | moveBefore l e mark =>
    cases e with
    | none => exact stepOK_of_panic (m := moveBefore l .null mark.toPtr) (f := fun _ => Res.unit) rfl ⟨h, rfl, hs⟩ rfl
    | some x =>
      rcases moveBefore_sim hs l x mark with ⟨hres, hag⟩ | ⟨hres, hag⟩
      · exact stepOK_of_agree (f := fun _ => Res.unit) rfl hag hres
      · exact stepOK_of_panic (f := fun _ => Res.unit) rfl hag hres
  | moveAfter l e mark =>
    cases e with
    | none => exact stepOK_of_panic (m := moveAfter l .null mark.toPtr) (f := fun _ => Res.unit) rfl ⟨h, rfl, hs⟩ rfl
    | some x =>
      rcases moveAfter_sim hs l x mark with ⟨hres, hag⟩ | ⟨hres, hag⟩
      · exact stepOK_of_agree (f := fun _ => Res.unit) rfl hag hres
      · exact stepOK_of_panic (f := fun _ => Res.unit) rfl hag hres
  | pushBackList l o => exact stepOK_of_agree rfl (pushBackList_sim hs l o) rfl
  | pushFrontList l o => exact stepOK_of_agree rfl (pushFrontList_sim hs l o) rfl
  | len l => exact stepOK_of_agree rfl ⟨h, len_run hs l, hs⟩ rfl
  | front l => exact stepOK_of_agree rfl ⟨h, front_run hs l, hs⟩ rfl
  | back l => exact stepOK_of_agree rfl ⟨h, back_run hs l, hs⟩ rfl
  | next e =>
    cases e with
    | none => exact stepOK_of_panic (m := elemNext .null) rfl ⟨h, rfl, hs⟩ rfl
    | some x =>
      have e1 : Spec.Seq.step w (.next (some x)) = (w, .ptr (specNext w x)) := by
        simp only [Spec.Seq.step, specNext]
        cases w.owner.get x <;> rfl
      exact stepOK_of_agree rfl ⟨h, elemNext_run hs x, e1 ▸ hs⟩ (congrArg Prod.snd e1)
  | prev e =>
    cases e with
    | none => exact stepOK_of_panic (m := elemPrev .null) rfl ⟨h, rfl, hs⟩ rfl
    | some x =>
      have e1 : Spec.Seq.step w (.prev (some x)) = (w, .ptr (specPrev w x)) := by
        simp only [Spec.Seq.step, specPrev]
        cases w.owner.get x <;> rfl
      exact stepOK_of_agree rfl ⟨h, elemPrev_run hs x, e1 ▸ hs⟩ (congrArg Prod.snd e1)
  | value e =>
    cases e with
    | none => exact stepOK_of_panic (m := getValue .null) rfl ⟨h, rfl, hs⟩ rfl
    | some x => exact stepOK_of_agree rfl ⟨h, (getValue_ok h (elem_ne_null x)).trans (by rw [hs.value]), hs⟩ rfl
  | fwd l fuel => exact stepOK_of_agree rfl ⟨h, fwd_run hs l fuel, hs⟩ rfl
  | bwd l fuel => exact stepOK_of_agree rfl ⟨h, bwd_run hs l fuel, hs⟩ rfl

/-! ### whole scripts -/

theorem noInit_head {w : World} {op : Op} {ops : List Op} (hn : NoInitOnNonEmpty w (op :: ops)) :
    (∀ l, op = .init l → w.lists.get l = []) ∧ NoInitOnNonEmpty (Spec.Seq.step w op).1 ops := by
  refine ⟨?_, hn.2⟩
  intro l hl
  subst hl
  exact hn.1

theorem run_sim : ∀ (ops : List Op) {h : Heap} {w : World}, Sim h w → NoInitOnNonEmpty w ops →
    LinkedList.run h ops = Spec.Seq.run w ops := by
  intro ops
  induction ops with
  | nil => intro _ _ _ _; rfl
  | cons op ops ih =>
    intro h w hs hn
    obtain ⟨h1, h2⟩ := noInit_head hn
    obtain ⟨s1, s2⟩ := step_sim hs op h1
    simp only [LinkedList.run, Spec.Seq.run, s2, ih s1 h2]

theorem final_sim : ∀ (ops : List Op) {h : Heap} {w : World}, Sim h w → NoInitOnNonEmpty w ops →
    Sim (finalHeap h ops) (finalWorld w ops) := by
  intro ops
  induction ops with
  | nil => intro _ _ hs _; exact hs
  | cons op ops ih =>
    intro h w hs hn
    obtain ⟨h1, h2⟩ := noInit_head hn
    exact ih (step_sim hs op h1).1 h2

end TypVerif.Lemmas.LinkedList
