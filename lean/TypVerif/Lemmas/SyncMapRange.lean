import TypVerif.Lemmas.SyncMapRefine
/-
`Range` of the sequential `sync2.Map` model for an arbitrary visiting order of `read.m`.
-/
namespace TypVerif.Lemmas.SyncMap
open TypVerif.Model.SyncMap
open TypVerif.Spec.PMap (Op Out)
open TypVerif.Spec

set_option linter.unusedSectionVars false

variable {K V : Type} [DecidableEq K]

theorem visit_map_fst (m : PMap.PMap K V) (order : List K) :
    (PMap.visit m order).map Prod.fst = order.filter (fun k => (m k).isSome) := by
  induction order with
  | nil => rfl
  | cons k rest ih =>
    simp only [PMap.visit, List.filterMap_cons, List.filter_cons] at ih ⊢
    cases hm : m k with
    | none => simpa using ih
    | some v => simpa using ih

theorem mem_visit (m : PMap.PMap K V) (order : List K) (k : K) (v : V) :
    (k, v) ∈ PMap.visit m order ↔ k ∈ order ∧ m k = some v := by
  unfold PMap.visit
  rw [List.mem_filterMap]
  constructor
  · rintro ⟨a, ha, hf⟩
    cases hm : m a with
    | none => rw [hm] at hf; cases hf
    | some w =>
      rw [hm] at hf; simp only [Option.map_some, Option.some.injEq, Prod.mk.injEq] at hf
      obtain ⟨h1, h2⟩ := hf; subst h1; subst h2; exact ⟨ha, hm⟩
  · rintro ⟨ha, hm⟩; exact ⟨k, ha, by rw [hm]; rfl⟩

theorem cut_sublist {α : Type} (n : Int) (l : List α) : (PMap.cut n l).Sublist l := by
  unfold PMap.cut; split
  · exact List.Sublist.refl l
  · exact List.take_sublist _ _

theorem length_cut {α : Type} (n : Int) (l : List α) :
    (PMap.cut n l).length = if n ≤ 0 then l.length else min n.toNat l.length := by
  unfold PMap.cut; split
  · rfl
  · exact List.length_take

/-- the facts about the callback list of a Range over a duplicate-free order that covers the present keys -/
theorem visit_facts (m : PMap.PMap K V) (order : List K) (n : Int) (hn : order.Nodup)
    (hcover : ∀ k, m k ≠ none → k ∈ order) :
    ((PMap.cut n (PMap.visit m order)).map Prod.fst).Nodup ∧
    (∀ k v, (k, v) ∈ PMap.cut n (PMap.visit m order) → m k = some v) ∧
    (n ≤ 0 → ∀ k v, m k = some v → (k, v) ∈ PMap.cut n (PMap.visit m order)) ∧
    (∀ keys : List K, keys.Nodup → (∀ k, k ∈ keys ↔ m k ≠ none) →
      (PMap.cut n (PMap.visit m order)).length = if n ≤ 0 then keys.length else min n.toNat keys.length) := by
  have hvn : ((PMap.visit m order).map Prod.fst).Nodup := by
    rw [visit_map_fst]; exact List.Sublist.nodup List.filter_sublist hn
  refine ⟨?_, ?_, ?_, ?_⟩
  · exact List.Sublist.nodup ((cut_sublist n _).map Prod.fst) hvn
  · intro k v hk
    exact ((mem_visit m order k v).mp ((cut_sublist n _).subset hk)).2
  · intro hn0 k v hk
    have : PMap.cut n (PMap.visit m order) = PMap.visit m order := by simp [PMap.cut, hn0]
    rw [this, mem_visit]
    exact ⟨hcover k (by rw [hk]; intro h; cases h), hk⟩
  · intro keys hkn hkeys
    rw [length_cut]
    have hlen : (PMap.visit m order).length = keys.length := by
      have h1 : (PMap.visit m order).length = ((PMap.visit m order).map Prod.fst).length := by simp
      rw [h1]
      apply List.Perm.length_eq
      rw [List.perm_ext_iff_of_nodup hvn hkn]
      intro k
      rw [visit_map_fst, List.mem_filter, hkeys]
      constructor
      · rintro ⟨_, h2⟩; intro h3; rw [h3] at h2; cases h2
      · intro h2; refine ⟨hcover k h2, ?_⟩
        cases hm : m k with
        | none => exact absurd hm h2
        | some v => rfl
    rw [hlen]

/-- `Range` with any visiting order `order` (a permutation of the keys of `read.m` after the promotion
that `Range` performs first) and any stop count `n`. -/
theorem range_seq {s : State K V} (h : SeqInv s) (order : List K) (n : Int)
    (hperm : order.Perm (akeys (rangePromote s).read)) :
    SeqInv (rangeOrd s order n).1 ∧ (∀ k, abs (rangeOrd s order n).1 k = abs s k) ∧
    ((rangeOrd s order n).2.map Prod.fst).Nodup ∧
    (∀ k v, (k, v) ∈ (rangeOrd s order n).2 → abs s k = some v) ∧
    (n ≤ 0 → ∀ k v, abs s k = some v → (k, v) ∈ (rangeOrd s order n).2) ∧
    (∀ keys : List K, keys.Nodup → (∀ k, k ∈ keys ↔ abs s k ≠ none) →
      (rangeOrd s order n).2.length = if n ≤ 0 then keys.length else min n.toNat keys.length) := by
  obtain ⟨h1, h2, h3⟩ := rangeOrd_ok h order n
  obtain ⟨p1, p2, p3⟩ := rangePromote_ok h
  have hn : order.Nodup := hperm.nodup_iff.mpr p1.readNodup
  have hcover : ∀ k, abs s k ≠ none → k ∈ order := by
    intro k hk
    rw [hperm.mem_iff]
    rw [← p2 k, abs_clean p3] at hk
    apply (alookup_isSome_iff k _).mp
    cases hl : alookup k (rangePromote s).read with
    | none => rw [hl] at hk; exact absurd rfl hk
    | some e => rfl
  rw [h3]
  exact ⟨h1, h2, visit_facts (abs s) order n hn hcover⟩

end TypVerif.Lemmas.SyncMap
