import TypVerif.Lemmas.PubSubSafeStep
import TypVerif.Lemmas.PubSubCount
/-
The extra reachable-state invariant `Live` behind `C10.no_deadlock_partial` (system without clones):
* a receiver that observed the close (`rdone`) belongs to a channel id that is closed (`RD`: a fact of the channel table alone,
  kept by every step of every configuration because of what a step can do to the table, `PubSubStep.ChanStep`);
* a `syncLoop` task always has a head item (it returns in the step that hands off the last one): `PubSubRed.GInv.sync`;
* the RWMutex is never observed write-locked (a writer's critical section is one step),
* `rw.waiting` is the number of tasks inside `Lock()` (`subWait` / `unsubWait` / `uaWait`)
  — these two are the lock accounting `PubSubRed.GInv.rw` (`PubSubCount`) read at object 0.
-/
namespace TypVerif.Lemmas.PubSubLive
open TypVerif TypVerif.Model.PubSub TypVerif.Lemmas.PubSubStep TypVerif.Lemmas.PubSubSafe

/-- the task called `Lock()` and has not acquired yet -/
def isWaiter : Task → Bool
  | .subWait .. => true
  | .unsubWait .. => true
  | .uaWait .. => true
  | _ => false

theorem isWaiter_eq (t : Task) : isWaiter t = (PubSubRed.waitsOn t).isSome := by
  cases t <;> rfl

/-- `rdone → closed`, stated through the channel id (needs no uniqueness of ids) -/
def RD (cs : List ChanSt) : Prop := ∀ ch ∈ cs, ch.rdone = true → isClosed cs ch.id = true

structure Live (s : State) : Prop where
  rd : RD s.chans
  writer : (s.obj 0).rw.writer = false
  waiting : (s.obj 0).rw.waiting = s.tasks.countP isWaiter
  sync : ∀ t ∈ s.tasks, emptySync t = false

theorem isClosed_updChan_mono (cs : List ChanSt) (c c' : Chan) (f : ChanSt → ChanSt)
    (hid : ∀ ch, (f ch).id = ch.id) (hcl : ∀ ch, ch.closed = true → (f ch).closed = true)
    (h : isClosed cs c' = true) : isClosed (updChan cs c f) c' = true := by
  simp only [isClosed, List.any_eq_true, updChan, List.mem_map] at h ⊢
  obtain ⟨ch, hm, hc⟩ := h
  simp only [Bool.and_eq_true, beq_iff_eq] at hc
  by_cases hx : (ch.id == c) = true
  · exact ⟨f ch, ⟨ch, hm, by simp [hx]⟩, by simp [hid, hc.1, hcl ch hc.2]⟩
  · exact ⟨ch, ⟨ch, hm, by simp [hx]⟩, by simp [hc.1, hc.2]⟩

theorem rd_updChan {cs : List ChanSt} (c : Chan) (f : ChanSt → ChanSt) (h : RD cs)
    (hid : ∀ ch, (f ch).id = ch.id) (hrd : ∀ ch, (f ch).rdone = ch.rdone)
    (hcl : ∀ ch, ch.closed = true → (f ch).closed = true) : RD (updChan cs c f) := by
  intro x hx hxr
  simp only [updChan, List.mem_map] at hx
  obtain ⟨ch, hm, rfl⟩ := hx
  by_cases hc : (ch.id == c) = true
  · simp only [hc, if_true] at hxr ⊢
    rw [hrd] at hxr
    rw [hid]
    exact isClosed_updChan_mono cs c _ f hid hcl (h ch hm hxr)
  · simp only [hc] at hxr ⊢
    exact isClosed_updChan_mono cs c _ f hid hcl (h ch hm hxr)

theorem rd_append {cs : List ChanSt} (ch : ChanSt) (h : RD cs) (hr : ch.rdone = false) : RD (cs ++ [ch]) := by
  intro x hx hxr
  rcases List.mem_append.mp hx with h1 | h1
  · have := h x h1 hxr
    simp only [isClosed, List.any_append, Bool.or_eq_true]
    exact Or.inl this
  · simp only [List.mem_singleton] at h1
    subst h1
    rw [hr] at hxr; cases hxr

theorem rd_closeChan {cs : List ChanSt} (c : Chan) (h : RD cs) : RD (closeChan cs c) :=
  rd_updChan c _ h (fun _ => rfl) (fun _ => rfl) (fun _ _ => rfl)

theorem rd_closeAll {l : List Chan} {cs cs' : List ChanSt} (h : RD cs) (he : closeAll cs l = some cs') : RD cs' :=
  closeAll_inv (fun _ c _ => rd_closeChan c) he h

/-- the receiver of `ch` observes the close -/
theorem rd_recv_done {cs : List ChanSt} {ch : ChanSt} (h : RD cs) (hm : ch ∈ cs) (hc : ch.closed = true) :
    RD (updChan cs ch.id (fun x => { x with rdone := true })) := by
  have hcl : isClosed cs ch.id = true := by
    simp only [isClosed, List.any_eq_true]
    exact ⟨ch, hm, by simp [hc]⟩
  intro x hx hxr
  have e := isClosed_updChan cs ch.id x.id (fun x => { x with rdone := true }) (fun _ => rfl) (fun _ => rfl)
  rw [e]
  simp only [updChan, List.mem_map] at hx
  obtain ⟨y, hy, rfl⟩ := hx
  by_cases hyc : (y.id == ch.id) = true
  · simp only [hyc, if_true]
    have : y.id = ch.id := by simpa using hyc
    rw [this]; exact hcl
  · simp only [hyc] at hxr ⊢
    exact h y hy hxr

theorem rd_chanStep {s : State} {t : Task} {cs : List ChanSt} (h : RD s.chans) (hc : ChanStep s t cs) : RD cs := by
  cases hc with
  | same => exact h
  | upd c f hf => exact rd_updChan c f h (fun x => (hf x).1) (fun x => (hf x).2.1) (fun x => (hf x).2.2.1)
  | closeAll he => exact rd_closeAll h he
  | sub => exact rd_append _ h rfl

theorem rd_step {cfg : Cfg} {s s' : State} (hl : RD s.chans) (h : Step cfg s s') : RD s'.chans := by
  cases h with
  | exit => exact hl
  | env he =>
    cases he with
    | mkchan c _ => exact rd_append _ hl rfl
    | allow c n _ => exact rd_updChan _ _ hl (fun _ => rfl) (fun _ => rfl) (fun _ hc => hc)
    | _ => exact hl
  | work hw =>
    cases hw with
    | task hi ht => exact rd_chanStep hl (taskStep_chans ht)
    | recv hm hf =>
      cases hf with
      | stamp v _ _ => exact rd_updChan _ _ hl (fun _ => rfl) (fun _ => rfl) (fun _ hc => hc)
      | take v rest _ _ _ _ => exact rd_updChan _ _ hl (fun _ => rfl) (fun _ => rfl) (fun _ hc => hc)
      | seeClose _ _ _ _ hc => exact rd_recv_done hl hm hc

theorem rd_reachable (cfg : Cfg) : ∀ s, Conc.Reachable (sys cfg) s → RD s.chans :=
  Conc.invariant (sys cfg) (fun s => RD s.chans) nofun (fun _ _ _ hl h => rd_step hl (step_of_mem_succ h))

/-- without clones every task is on the root, so the writers inside `Lock()` of the root are all of them -/
theorem waitsOn_root {t : Task} (h : objOk t) : (PubSubRed.waitsOn t == some 0) = isWaiter t := by
  cases t with
  | subWait | unsubWait | uaWait => cases h; rfl
  | _ => rfl

theorem live_reachable (cfg : Cfg) (hc : cfg.allowClone = false) :
    ∀ s, Conc.Reachable (sys cfg) s → Live s := fun s hr =>
  have hs := no_panic_noClone cfg hc s hr
  have hG := PubSubRed.ginv_reachable cfg s hr
  ⟨rd_reachable cfg s hr, by rw [hG.rw 0],
    by rw [hG.rw 0]; exact List.countP_congr (fun t ht => by rw [waitsOn_root (hs.obj0 t ht)]), hG.sync⟩

end TypVerif.Lemmas.PubSubLive
