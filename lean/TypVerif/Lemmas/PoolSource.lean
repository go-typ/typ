import TypVerif.Lemmas.Pool
/-
Pool, continued: the program counters `g1`, `g2` occur only with a `New` hook (`NewOk`), which step a `Get` result
comes from (`get_source`), and the plain accesses of `Get`/`Put` are reads, so no state is racy.
-/
namespace TypVerif.Lemmas.Pool
open TypVerif TypVerif.Conc TypVerif.Model.Pool TypVerif.Model

theorem Shape.thr_of_ne {hasNew : Bool} {menu : List Op} {s s' : State} {t t' : Nat} {l : Option Event}
    (h : Shape hasNew menu s t l s') (ht : t < s.thrs.length) (hne : t' ≠ t) : s'.thr t' = s.thr t' := by
  cases h <;> exact (thr_mk _ _ _ _ ht _ _ _).trans (if_neg hne)

/-- which program counters are possible with / without a `New` hook -/
def pcOk (hasNew : Bool) : Pc → Prop
  | .g1 | .g2 => hasNew = true
  | .gRet none => hasNew = false
  | .gRet (some _) => hasNew = true
  | _ => True

def NewOk (hasNew : Bool) (s : State) : Prop := ∀ t, pcOk hasNew (s.thr t).pc

theorem newOk_reachable (hasNew : Bool) (menu : List Op) (n : Nat) :
    ∀ s, Reachable (sys hasNew menu n) s → NewOk hasNew s := by
  apply Conc.invariant (sys hasNew menu n) (NewOk hasNew)
  · intro t; rw [thr_init]; trivial
  · intro s l s' ih hmem t'
    obtain ⟨t, ht, hshape⟩ := step_shape hmem
    by_cases e : t' = t
    · -- the stepping goroutine moves along `g0 → g1 → g2 → gRet`, where `hasNew` is decided at `g0` and then inherited
      subst e
      have h0 := ih t'
      cases hshape <;> rw [thr_mk _ _ _ _ ht, if_pos rfl]
      case invGet | invPut | retGet | poolPut | retPut => trivial
      case readNew => cases hasNew <;> exact rfl
      case poolHit hpc _ | poolMiss hpc | callNew hpc => rw [hpc] at h0; exact h0
    · rw [hshape.thr_of_ne ht e]; exact ih t'

/-- where the result of a `Get` comes from: the step that makes goroutine `t` ready to return `x` -/
theorem get_source {hasNew : Bool} {menu : List Op} {s s' : State} {l : Option Event} {t : Nat} {x : Option Nat}
    (hmem : (l, s') ∈ succ hasNew menu s) (hpc' : (s'.thr t).pc = .gRet x) :
    (s.thr t).pc = .gRet x ∨
    ((s.thr t).pc = .g0 ∧ hasNew = false ∧ x = none ∧ s'.bag = s.bag ∧ s'.fresh = s.fresh) ∨
    ((s.thr t).pc = .g1 ∧ ∃ i, x = some i ∧ i ∈ s.bag ∧ s'.bag = s.bag.erase i ∧ s'.fresh = s.fresh) ∨
    ((s.thr t).pc = .g2 ∧ x = some s.fresh ∧ s'.fresh = s.fresh + 1 ∧ s'.bag = s.bag) := by
  obtain ⟨t0, ht, hshape⟩ := step_shape hmem
  by_cases e : t = t0
  · subst e
    cases hshape <;> rw [thr_mk _ _ _ _ ht, if_pos rfl] at hpc'
    case readNew hpc =>
      cases hasNew <;> cases hpc'
      exact .inr (.inl ⟨hpc, rfl, rfl, rfl, rfl⟩)
    case poolHit i hpc hi =>
      cases hpc'
      exact .inr (.inr (.inl ⟨hpc, i, rfl, hi, rfl, rfl⟩))
    case callNew hpc =>
      cases hpc'
      exact .inr (.inr (.inr ⟨hpc, rfl, rfl, rfl⟩))
    all_goals cases hpc'
  · exact .inl (hshape.thr_of_ne ht e ▸ hpc')

/-- `accesses false`: the `Get` that does not store `p.pool.New` on every call (`pinned = true` is the variant
that does).  It and `Put` perform no plain write at all -/
theorem accesses_read_only (s : State) (t : Nat) (a : Access) (h : a ∈ accesses false s t) : a.write = false := by
  unfold accesses at h
  split at h <;> simp at h <;> simp [h]

theorem not_racy (s : State) : ¬ racy false s := by
  rintro ⟨t1, t2, _, a1, h1, a2, h2, hc⟩
  have w1 := accesses_read_only s t1 a1 h1
  have w2 := accesses_read_only s t2 a2 h2
  simp [conflict, w1, w2] at hc

end TypVerif.Lemmas.Pool
