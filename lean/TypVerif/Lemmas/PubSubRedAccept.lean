import TypVerif.Lemmas.PubSubRedSim
/-
C10, completeness of the judge's reduction: from executions of the reduced system to the judge's state sets
(`afterR_complete`), and the completeness of the real closure when it ends with an empty frontier (`judge_real_complete`).
The relational judge `Closes` / `advR` / `afterR` is defined in `ConcAcceptC10`.
-/
namespace TypVerif.Lemmas.PubSubRed
open TypVerif TypVerif.Conc TypVerif.Model.PubSub TypVerif.Drv.C10 TypVerif.Lemmas.ConcAcceptC10

theorem afterR_snoc (cfg : Cfg) (tr : List Event) (e : Event) : afterR cfg (tr ++ [e]) = advR cfg (afterR cfg tr) e := by
  unfold afterR
  rw [List.foldl_append]; rfl

theorem succ_internal_env (cfg : Cfg) (E : List Event) {j z : State} (h : (none, z) ∈ succ cfg j) :
    (none, z) ∈ succ { cfg with env := E } j :=
  succ_env_change cfg cfg.env E j _ (fun h => absurd h (envSteps_visible _ j z)) h

theorem succ_visible_env (cfg : Cfg) {j z : State} {e : Event} (h : (some e, z) ∈ succ cfg j) :
    (some e, z) ∈ succ { cfg with env := [e] } j := by
  refine succ_env_change cfg cfg.env [e] j _ (fun h => ?_) h
  obtain ⟨e', _, hl, he'⟩ := PubSubStep.mem_envSteps.1 h
  cases hl
  exact PubSubStep.mem_envSteps.2 ⟨e, List.mem_singleton.2 rfl, rfl, (envStep_env cfg [e] j e).trans he'⟩

theorem norm_tasks {a b : State} (h : norm a = norm b) : a.tasks = b.tasks :=
  show (norm a).tasks = (norm b).tasks from congrArg State.tasks h

theorem rdShape_congr {j j0 z u : State} (h1 : j0.tasks = j.tasks) (h2 : u.tasks = z.tasks) (i : Nat) : RdShape j0 u i ↔ RdShape j z i := by
  unfold RdShape; rw [h1, h2]

theorem JStep.internal_norm_env {cfg : Cfg} {j z : State} (h : JStep cfg j none z) (E : List Event) {j0 : State} (hn : norm j0 = norm j) :
    ∃ u, (none, u) ∈ succJ { cfg with env := E } j0 ∧ norm u = norm z := by
  have htj := norm_tasks hn
  generalize hl : (none : Option Event) = l at h
  cases h with
  | plain h1 h2 =>
    subst hl
    obtain ⟨u, hu, hnu⟩ := succ_norm_eq hn.symm (succ_internal_env cfg E h1)
    refine ⟨u, succJ_plain _ hu (fun _ i hi => ?_), hnu⟩
    rw [rdShape_congr htj (norm_tasks hnu) i]
    exact h2 rfl i (by rw [← htj]; exact hi)
  | @merged m t k h1 h2 h3 h4 =>
    obtain ⟨m0, hm0, hnm⟩ := succ_norm_eq hn.symm (succ_internal_env cfg E h1)
    obtain ⟨t0, ht0, hnt⟩ := taskSteps_norm_eq hnm.symm ((taskSteps_env cfg E m k).symm ▸ h4)
    refine ⟨t0, succJ_merged _ hm0 ((rdShape_congr htj (norm_tasks hnm) k).2 h2) (fun i hi hr => ?_) ht0, hnt⟩
    exact h3 i (by rw [← htj]; exact hi) ((rdShape_congr htj (norm_tasks hnm) i).1 hr)

theorem JStep.visible_norm_env {cfg : Cfg} {j z : State} {e : Event} (h : JStep cfg j (some e) z) {j0 : State} (hn : norm j0 = norm j) :
    ∃ u, (some e, u) ∈ succ { cfg with env := [e] } j0 ∧ norm u = norm z := by
  generalize hl : some e = l at h
  cases h with
  | plain h1 h2 =>
    subst hl
    exact succ_norm_eq hn.symm (succ_visible_env cfg h1)
  | merged h1 h2 h3 h4 => cases hl

/-- `afterR cfg []` is `{init}` without a closure, so the simulation must not start with an internal step of the judge; the second
conjunct of `InSet` keeps the state initial until the first event for that. -/
theorem init_no_internal (cfg : Cfg) {z : State} {l : Option Event} (h : JStep cfg {} l z) : l ≠ none := by
  intro hl
  subst hl
  have key : ∀ m, (none, m) ∉ succ cfg ({} : State) := by
    intro m hm
    obtain ⟨src, hsrc⟩ := (mem_succ_iff cfg {} rfl rfl _).1 hm
    cases src with
    | some k => simp only [stepsOf] at hsrc; rw [PubSubStep.taskSteps_nil_of_ge (Nat.zero_le _)] at hsrc; cases hsrc
    | none =>
      obtain ⟨ch, hm, _⟩ := stepsOf_none_recv cfg hsrc
      cases hm
  generalize hl : (none : Option Event) = l at h
  cases h with
  | plain h1 _ => subst hl; exact key _ h1
  | merged h1 _ _ _ => exact key _ h1

/-- the invariant carried along an execution of the reduced system: the `norm` of the state is in the judge's set, and before the
first event the state is the initial one -/
def InSet (cfg : Cfg) (done : List Event) (j : State) : Prop := afterR cfg done (norm j) ∧ (done = [] → j = {})

theorem inSet_step {cfg : Cfg} {done : List Event} {j z : State} {l : Option Event} (hi : InSet cfg done j) (h : JStep cfg j l z) :
    InSet cfg (done ++ visible [l]) z := by
  cases l with
  | some e =>
    refine ⟨?_, fun h => by simp [visible] at h⟩
    show afterR cfg (done ++ [e]) (norm z)
    rw [afterR_snoc]
    obtain ⟨u, hu, hnu⟩ := h.visible_norm_env (j0 := norm j) (norm_norm j)
    exact Closes.base ⟨norm j, hi.1, u, hu, hnu.symm⟩
  | none =>
    have hd : done ++ visible [(none : Option Event)] = done := by simp [visible]
    rw [hd]
    rcases List.eq_nil_or_concat done with hnil | ⟨d0, e, hd0⟩
    · subst hnil
      have := hi.2 rfl
      subst this
      exact absurd rfl (init_no_internal cfg h)
    · subst hd0
      refine ⟨?_, fun h => by simp at h⟩
      have h1 := hi.1
      rw [List.concat_eq_append, afterR_snoc] at h1 ⊢
      obtain ⟨u, hu, hnu⟩ := h.internal_norm_env [e] (j0 := norm j) (norm_norm j)
      have := Closes.step h1 hu
      rw [hnu] at this
      exact this

theorem inSet_exec {cfg : Cfg} {j z : State} {ls : List (Option Event)} (h : JExec cfg j ls z) :
    ∀ {done : List Event}, InSet cfg done j → InSet cfg (done ++ visible ls) z := by
  induction h with
  | nil s => intro done hi; simpa [visible] using hi
  | @cons s s' s'' l ls h1 _ ih =>
    intro done hi
    have := ih (inSet_step hi h1)
    have e : done ++ visible (l :: ls) = done ++ visible [l] ++ visible ls := by
      cases l <;> simp [visible]
    rw [e]; exact this

/-- COMPLETENESS OF THE JUDGE'S STATE SETS (full closures): after the visible trace of any execution of the model the judge's set
contains the `norm` of a state from which the model's state is reached by lag steps -/
theorem afterR_complete (cfg : Cfg) (hG : ∀ x, Reachable (sys cfg) x → Good x) {s : State} {ls : List (Option Event)}
    (hex : Exec (sys cfg) (sys cfg).init ls s) :
    ∃ j gs, afterR cfg (visible ls) (norm j) ∧ Lag gs j s := by
  obtain ⟨ls', j, gs, h1, h2, h3⟩ := red_complete cfg hG hex
  have := inSet_exec h1 (done := []) ⟨rfl, fun _ => rfl⟩
  rw [List.nil_append, h2] at this
  exact ⟨j, gs, this.1, h3⟩

end TypVerif.Lemmas.PubSubRed

/-
The real closure (`Drv.C10.closure`: hash set, frontier, step budget, state cap) is COMPLETE whenever it ends because the frontier is
empty (`closureDone`, an executable test that mirrors `closure`): then its result is saturated under internal `succJ` steps, hence contains
the relational closure `Closes`.  So the judge can reject a trace of the model only if some closure hit the budget or the cap.
-/
namespace TypVerif.Lemmas.PubSubRed
open TypVerif TypVerif.Conc TypVerif.Model.PubSub TypVerif.Drv.C10 TypVerif.Lemmas.ConcAcceptC10

/-- `closure` ended with an empty frontier (neither the step budget nor the state cap cut it short) -/
def closureDone (cfg : Cfg) : Nat → Std.HashSet State → List State → Bool
  | _, _, [] => true
  | 0, _, _ :: _ => false
  | n + 1, seen, x :: xs =>
    if seen.size > stateCap then false
    else closureDone cfg n (closureRound cfg seen (x :: xs)).1 (closureRound cfg seen (x :: xs)).2

/-- the loop invariant of `closure` -/
def CInv (cfg : Cfg) (seen : Std.HashSet State) (fr : List State) : Prop :=
  (∀ t ∈ fr, t ∈ seen) ∧ (∀ t, t ∈ seen → t ∉ fr → ∀ u, (none, u) ∈ succJ cfg t → norm u ∈ seen)

theorem cinv_round (cfg : Cfg) (seen : Std.HashSet State) (fr : List State) (h : CInv cfg seen fr) :
    CInv cfg (closureRound cfg seen fr).1 (closureRound cfg seen fr).2 ∧ (∀ t, t ∈ seen → t ∈ (closureRound cfg seen fr).1) := by
  obtain ⟨h1, h2⟩ := closureRound_props cfg seen fr
  refine ⟨⟨h1.lst, ?_⟩, h1.mono⟩
  intro t ht hnt u hu
  rcases h1.new t ht with h3 | h3
  · by_cases hf : t ∈ fr
    · exact h2 t hf u hu
    · exact h1.mono _ (h.2 t h3 hf u hu)
  · exact absurd h3 hnt

theorem closure_saturated (cfg : Cfg) : ∀ (n : Nat) (seen : Std.HashSet State) (fr : List State), CInv cfg seen fr →
    closureDone cfg n seen fr = true →
    (∀ t, t ∈ seen → t ∈ closure cfg n seen fr) ∧
      (∀ t, t ∈ closure cfg n seen fr → ∀ u, (none, u) ∈ succJ cfg t → norm u ∈ closure cfg n seen fr) := by
  intro n
  induction n with
  | zero =>
    intro seen fr hi hd
    cases fr with
    | nil => rw [closure_zero]; exact ⟨fun _ h => h, fun t ht u hu => hi.2 t ht (by simp) u hu⟩
    | cons x xs => simp [closureDone] at hd
  | succ n ih =>
    intro seen fr hi hd
    cases fr with
    | nil => rw [closure_nil]; exact ⟨fun _ h => h, fun t ht u hu => hi.2 t ht (by simp) u hu⟩
    | cons x xs =>
      rw [closure_succ_cons]
      simp only [closureDone] at hd
      split at hd
      · cases hd
      · rename_i hcap
        rw [if_neg hcap]
        obtain ⟨g1, g2⟩ := cinv_round cfg seen (x :: xs) hi
        obtain ⟨k1, k2⟩ := ih _ _ g1 hd
        exact ⟨fun t ht => k1 t (g2 t ht), k2⟩

theorem closes_sub_saturated {cfg : Cfg} {seed : State → Prop} (R : State → Prop) (h0 : ∀ t, seed t → R t)
    (hs : ∀ t, R t → ∀ u, (none, u) ∈ succJ cfg t → R (norm u)) {t : State} (ht : Closes cfg seed t) : R t := by
  induction ht with
  | base hb => exact h0 _ hb
  | step _ hu ih => exact hs _ ih _ hu

/-- the closure of `advance cfg ss e` ended with an empty frontier -/
def advanceDone (cfg : Cfg) (ss : List State) (e : Event) : Bool :=
  let cfg' := { cfg with env := [e] }
  let next := ss.flatMap (fun s => (succ cfg' s).filterMap (fun p => if p.1 == some e then some (norm p.2) else none))
  let seen : Std.HashSet State := next.foldl (fun acc s => acc.insert s) {}
  closureDone cfg' fuel seen seen.toList

theorem advance_complete (cfg : Cfg) (ss : List State) (e : Event) (hd : advanceDone cfg ss e = true) :
    ∀ t, advR cfg (fun s => s ∈ ss) e t → t ∈ advance cfg ss e := by
  intro t ht
  rw [advance_eq, Std.HashSet.mem_toList]
  have hd : closureDone { cfg with env := [e] } fuel (seeds cfg ss e) (seeds cfg ss e).toList = true := hd
  have hi : CInv { cfg with env := [e] } (seeds cfg ss e) (seeds cfg ss e).toList :=
    ⟨fun t ht => Std.HashSet.mem_toList.1 ht, fun t ht hnt => absurd (Std.HashSet.mem_toList.2 ht) hnt⟩
  obtain ⟨k1, k2⟩ := closure_saturated _ fuel _ _ hi hd
  refine closes_sub_saturated (fun t => t ∈ closure { cfg with env := [e] } fuel (seeds cfg ss e) (seeds cfg ss e).toList)
    ?_ k2 ht
  intro x ⟨s, hs, u, hu, hx⟩
  exact k1 _ (mem_seeds.2 ⟨s, hs, u, hu, hx.symm⟩)

/-- no closure along the trace was cut short -/
def judgeDone (cfg : Cfg) : List State → List Event → Bool
  | _, [] => true
  | ss, e :: tr => advanceDone cfg ss e && judgeDone cfg (advance cfg ss e) tr

theorem judge_fold_complete (cfg : Cfg) : ∀ (tr : List Event) (ss : List State) (S : State → Prop), (∀ t, S t → t ∈ ss) →
    judgeDone cfg ss tr = true → ∀ t, tr.foldl (advR cfg) S t → t ∈ tr.foldl (advance cfg) ss := by
  intro tr
  induction tr with
  | nil => intro ss S h _ t ht; exact h t ht
  | cons e tr ih =>
    intro ss S h hd t ht
    simp only [judgeDone, Bool.and_eq_true] at hd
    rw [List.foldl_cons] at ht ⊢
    exact ih (advance cfg ss e) (advR cfg S e) (fun t ht => advance_complete cfg ss e hd.1 t (advR_mono h e ht)) hd.2 t ht

/-- the real judge sets contain the relational ones when no closure was cut short (equal, with `judge_sub_afterR`) -/
theorem judge_real_complete (cfg : Cfg) (tr : List Event) (hd : judgeDone cfg [{}] tr = true) :
    ∀ t, afterR cfg tr t → t ∈ tr.foldl (advance cfg) [{}] :=
  judge_fold_complete cfg tr [{}] (fun t => t = {}) (fun _ ht => List.mem_singleton.2 ht) hd

end TypVerif.Lemmas.PubSubRed
