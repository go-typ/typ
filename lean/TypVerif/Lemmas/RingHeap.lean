import TypVerif.Model.Ring
import TypVerif.Lemmas.RingLinked
import TypVerif.Lemmas.RingWorld
/-
The heap seen through its views `nx pv val`, the abstraction invariant `RingWF`, lazy initialisation,
`Next` / `Prev` / `Move`.  A method of ring.go is `lazy` (the `if r.next == nil { r.init() }` it starts with)
followed by reads of `Live` cells, so `Next_spec`, `Prev_spec`, `Move_spec` and `Len_spec`, `Do_spec`,
`Fwd_spec`, `Bwd_spec` (RingLoops) are equations `X h r = (lazy h r, what the specification answers)`.
-/
namespace TypVerif.Lemmas.Ring
open TypVerif.Model TypVerif.Model.Ring TypVerif.Spec.RingOp TypVerif.Spec.RingSeq

/-! ### views of the writes (the only place where the store is looked at) -/

@[simp] theorem nx_setNext (h : RHeap) (a v) : (h.setNext a v).nx = upd h.nx a v := by
  funext x; simp only [RHeap.nx, RHeap.setNext, Store.get_set, upd]; split <;> simp_all
@[simp] theorem pv_setNext (h : RHeap) (a v) : (h.setNext a v).pv = h.pv := by
  funext x; simp only [RHeap.pv, RHeap.setNext, Store.get_set]; split <;> simp_all
@[simp] theorem val_setNext (h : RHeap) (a v) : (h.setNext a v).val = h.val := by
  funext x; simp only [RHeap.val, RHeap.setNext, Store.get_set]; split <;> simp_all
@[simp] theorem size_setNext (h : RHeap) (a v) : (h.setNext a v).size = h.size := rfl
@[simp] theorem nx_setPrev (h : RHeap) (a v) : (h.setPrev a v).nx = h.nx := by
  funext x; simp only [RHeap.nx, RHeap.setPrev, Store.get_set]; split <;> simp_all
@[simp] theorem pv_setPrev (h : RHeap) (a v) : (h.setPrev a v).pv = upd h.pv a v := by
  funext x; simp only [RHeap.pv, RHeap.setPrev, Store.get_set, upd]; split <;> simp_all
@[simp] theorem val_setPrev (h : RHeap) (a v) : (h.setPrev a v).val = h.val := by
  funext x; simp only [RHeap.val, RHeap.setPrev, Store.get_set]; split <;> simp_all
@[simp] theorem size_setPrev (h : RHeap) (a v) : (h.setPrev a v).size = h.size := rfl

@[simp] theorem alloc_snd (h : RHeap) (p) : (h.alloc p).2 = h.size := rfl
@[simp] theorem size_alloc (h : RHeap) (p) : (h.alloc p).1.size = h.size + 1 := rfl
@[simp] theorem nx_alloc (h : RHeap) (p) : (h.alloc p).1.nx = upd h.nx h.size none := by
  funext x; simp only [RHeap.nx, RHeap.alloc, Store.get_set, upd]; split <;> simp_all
@[simp] theorem pv_alloc (h : RHeap) (p) : (h.alloc p).1.pv = upd h.pv h.size p := by
  funext x; simp only [RHeap.pv, RHeap.alloc, Store.get_set, upd]; split <;> simp_all
theorem val_alloc (h : RHeap) (p) (x : Nat) : (h.alloc p).1.val x = if x = h.size then (h.size : Int) else h.val x := by
  simp only [RHeap.val, RHeap.alloc, Store.get_set]; split <;> simp_all

@[simp] theorem nx_empty (x) : RHeap.empty.nx x = none := by simp [RHeap.nx, RHeap.empty]; rfl
@[simp] theorem pv_empty (x) : RHeap.empty.pv x = none := by simp [RHeap.pv, RHeap.empty]; rfl
@[simp] theorem val_empty (x) : RHeap.empty.val x = 0 := by simp [RHeap.val, RHeap.empty]; rfl

/-- a ring of the world as laid out in the heap: an untouched zero value, or a doubly linked cycle -/
def Good (nx pv : PF) (c : List RingId) : Prop :=
  (∃ r, c = [r] ∧ nx r = none ∧ pv r = none) ∨ CycLinked nx pv c

structure RingWF (h : RHeap) (w : RWorld) : Prop where
  size_eq : h.size = w.size
  world : WorldWF w
  value_eq : ∀ i : Nat, i < h.size → h.val i = (i : Int)
  good : ∀ c ∈ w.cycles, Good h.nx h.pv c
  fresh : ∀ i : Nat, h.size ≤ i → h.nx i = none ∧ h.pv i = none ∧ h.val i = 0

theorem mem_closed {c : List RingId} {x : RingId} (hx : x ∈ c ++ c.take 1) : x ∈ c :=
  (List.mem_append.1 hx).elim id List.mem_of_mem_take

theorem good_congr {nx pv nx' pv' : PF} {c : List RingId}
    (h1 : ∀ x ∈ c, nx' x = nx x) (h2 : ∀ x ∈ c, pv' x = pv x) (h : Good nx pv c) : Good nx' pv' c := by
  rcases h with ⟨r, rfl, h3, h4⟩ | h
  · exact Or.inl ⟨r, rfl, by rw [h1 r (by simp)]; exact h3, by rw [h2 r (by simp)]; exact h4⟩
  · refine Or.inr (linked_congr (fun x hx => h1 x (mem_closed (List.dropLast_subset _ hx)))
      (fun x hx => h2 x (mem_closed (List.mem_of_mem_tail hx))) h)

/-- members of a linked ring are initialised: rotated to `y`, the ring shows the `next` and the `prev` of `y` -/
theorem cycLinked_some {nx pv : PF} {c : List RingId} (h : CycLinked nx pv c) {y : RingId} (hy : y ∈ c) :
    nx y ≠ none ∧ pv y ≠ none := by
  rw [split_of_mem hy] at h
  have h' : Linked nx pv (y :: (after y c ++ before y c) ++ [y]) := cycLinked_rot h
  rw [linked_head h', linked_last h']
  exact ⟨nofun, nofun⟩

def Live (h : RHeap) (x : RingId) : Prop := x < h.size ∧ h.nx x ≠ none

theorem members {h : RHeap} {w : RWorld} (wf : RingWF h w) {c : List RingId} (hc : c ∈ w.cycles)
    (hcl : CycLinked h.nx h.pv c) {y : RingId} (hy : y ∈ c) :
    y < h.size ∧ h.nx y ≠ none ∧ h.pv y ≠ none :=
  ⟨wf.size_eq ▸ mem_lt wf.world hc hy, (cycLinked_some hcl hy).1, (cycLinked_some hcl hy).2⟩

/-- the ring of a live cell `r`: a cycle `c` of the world, all of whose cells are live, and its rotation `r :: t` to `r`,
which is what `cycOf` answers and is linked in closed form -/
theorem bridge {h : RHeap} {w : RWorld} (wf : RingWF h w) {r : RingId} (hr : Live h r) :
    ∃ c t, c ∈ w.cycles ∧ r ∈ c ∧ cycOf w r = r :: t ∧ (r :: t).Perm c ∧ (∀ y ∈ c, Live h y) ∧
      Linked h.nx h.pv (r :: t ++ [r]) := by
  obtain ⟨c, hc, hrc⟩ := exists_cycle wf.world (wf.size_eq ▸ hr.1)
  have hcl : CycLinked h.nx h.pv c := by
    rcases wf.good c hc with ⟨r', rfl, h3, _⟩ | hg
    · cases List.mem_singleton.1 hrc
      exact absurd h3 hr.2
    · exact hg
  refine ⟨c, after r c ++ before r c, hc, hrc, cycOf_eq wf.world hc hrc, ?_,
    fun y hy => ⟨(members wf hc hcl hy).1, (members wf hc hcl hy).2.1⟩, ?_⟩
  · have := rotTo_perm hrc
    simpa [rotTo] using this
  · rw [split_of_mem hrc] at hcl
    have := cycLinked_rot hcl
    simpa using this

theorem Live.links {h : RHeap} {w : RWorld} (wf : RingWF h w) {x : RingId} (hx : Live h x) :
    (h.nx x = some (nextOf w x) ∧ Live h (nextOf w x)) ∧ (h.pv x = some (prevOf w x) ∧ Live h (prevOf w x)) := by
  obtain ⟨c, t, _, _, hcy, hperm, live, hl⟩ := bridge wf hx
  unfold nextOf prevOf
  rw [hcy, List.tail_cons, List.getLastD_cons, linked_head hl, linked_last hl]
  exact ⟨⟨rfl, live _ (hperm.mem_iff.1 (headD_mem x t))⟩, rfl, live _ (hperm.mem_iff.1 (getLastD_mem x t))⟩

theorem wf_init {h : RHeap} {w : RWorld} (wf : RingWF h w) {r : RingId} (hr : r < h.size)
    (hz : h.nx r = none) : RingWF (init h r).1 w := by
  unfold init
  refine ⟨by simpa using wf.size_eq, wf.world, by simpa using wf.value_eq, ?_, ?_⟩
  · intro c hc
    simp only [nx_setPrev, nx_setNext, pv_setPrev, pv_setNext]
    by_cases hrc : r ∈ c
    · rcases wf.good c hc with ⟨r', rfl, _, _⟩ | hg
      · simp only [List.mem_singleton] at hrc
        subst hrc
        right
        show Linked _ _ [r, r]
        exact ⟨upd_same _ _ _, upd_same _ _ _, trivial⟩
      · exact absurd hz (cycLinked_some hg hrc).1
    · apply good_congr _ _ (wf.good c hc)
      · intro x hx; exact upd_ne _ _ (fun e => hrc (e ▸ hx))
      · intro x hx; exact upd_ne _ _ (fun e => hrc (e ▸ hx))
  · intro i hi
    simp only [size_setPrev, size_setNext] at hi
    simp only [nx_setPrev, nx_setNext, pv_setPrev, pv_setNext, val_setPrev, val_setNext]
    have : i ≠ r := Nat.ne_of_gt (Nat.lt_of_lt_of_le hr hi)
    rw [upd_ne _ _ this, upd_ne _ _ this]
    exact wf.fresh i hi

/-- the heap after `if r.next == nil { r.init() }` -/
def lazy (h : RHeap) (r : RingId) : RHeap := (Next h r).1

theorem lazy_of_some {h : RHeap} {r q : RingId} (e : h.nx r = some q) : lazy h r = h := by
  unfold lazy Next; rw [e]

theorem lazy_of_none {h : RHeap} {r : RingId} (e : h.nx r = none) : lazy h r = (init h r).1 := by
  unfold lazy Next; rw [e]

@[simp] theorem size_lazy (h : RHeap) (r : RingId) : (lazy h r).size = h.size := by
  unfold lazy Next; cases h.nx r <;> simp [init]

@[simp] theorem val_lazy (h : RHeap) (r : RingId) : (lazy h r).val = h.val := by
  unfold lazy Next; cases h.nx r <;> simp [init]

theorem nx_lazy_self (h : RHeap) (r : RingId) : (lazy h r).nx r = some (Next h r).2 := by
  unfold lazy Next
  cases hz : h.nx r with
  | none => simp [init]
  | some n => exact hz

theorem nx_lazy_keep (h : RHeap) (r : RingId) {x : RingId} (hx : h.nx x ≠ none) : (lazy h r).nx x = h.nx x := by
  unfold lazy Next
  cases hz : h.nx r with
  | none =>
    have : x ≠ r := fun e => hx (e ▸ hz)
    simp [init, upd_ne _ _ this]
  | some n => rfl

theorem Prev_eq (h : RHeap) (r : RingId) : Prev h r = (lazy h r, (lazy h r).pv r) := by
  unfold Prev lazy Next
  cases h.nx r with
  | none => simp [init]
  | some n => rfl

theorem wf_lazy {h : RHeap} {w : RWorld} (wf : RingWF h w) {r : RingId} (hr : r < h.size) :
    RingWF (lazy h r) w ∧ Live (lazy h r) r := by
  refine ⟨?_, by rw [size_lazy]; exact hr, by rw [nx_lazy_self]; exact nofun⟩
  cases hz : h.nx r with
  | none => rw [lazy_of_none hz]; exact wf_init wf hr hz
  | some n => rw [lazy_of_some hz]; exact wf

theorem Next_spec {h : RHeap} {w : RWorld} (wf : RingWF h w) {r : RingId} (hr : r < h.size) :
    Next h r = (lazy h r, nextOf w r) := by
  have := (Live.links (wf_lazy wf hr).1 (wf_lazy wf hr).2).1.1
  rw [nx_lazy_self] at this
  exact Prod.ext rfl (Option.some.inj this)

theorem Prev_spec {h : RHeap} {w : RWorld} (wf : RingWF h w) {r : RingId} (hr : r < h.size) :
    Prev h r = (lazy h r, some (prevOf w r)) := by
  rw [Prev_eq, (Live.links (wf_lazy wf hr).1 (wf_lazy wf hr).2).2.1]

theorem moveLoop_iter {f : PF} {g : RingId → RingId} {P : RingId → Prop}
    (hstep : ∀ x, P x → f x = some (g x) ∧ P (g x)) :
    ∀ (k : Nat) (x : RingId), P x → moveLoop f k (some x) = .ok (some (iter g k x)) ∧ P (iter g k x) := by
  intro k
  induction k with
  | zero => intro x hx; exact ⟨rfl, hx⟩
  | succ k ih =>
    intro x hx
    simp only [moveLoop, iter, (hstep x hx).1]
    exact ih _ (hstep x hx).2

theorem iter_fixed {f : RingId → RingId} {x : RingId} (hx : f x = x) : ∀ k, iter f k x = x := by
  intro k; induction k with
  | zero => rfl
  | succ k ih => simp only [iter, hx, ih]

theorem Move_spec {h : RHeap} {w : RWorld} (wf : RingWF h w) {r : RingId} (hr : r < h.size) (n : Int) :
    Move h r n = (lazy h r, .ok (some (moveOf w r n))) ∧ Live (lazy h r) (moveOf w r n) := by
  obtain ⟨wf1, lv⟩ := wf_lazy wf hr
  have fwd := moveLoop_iter (P := Live (lazy h r)) (fun _ hx => (Live.links wf1 hx).1) n.natAbs r lv
  have bwd := moveLoop_iter (P := Live (lazy h r)) (fun _ hx => (Live.links wf1 hx).2) n.natAbs r lv
  constructor
  · unfold Move
    cases hz : h.nx r with
    | none =>
      -- a zero ring is a one-element ring: every move stays at `r`
      have e := Live.links wf1 lv
      rw [lazy_of_none hz] at e ⊢
      rw [show (init h r).1.nx r = some r by simp [init], show (init h r).1.pv r = some r by simp [init]] at e
      show ((init h r).1, Except.ok (some r)) = _
      unfold moveOf
      split
      · rw [iter_fixed (Option.some.inj e.2.1).symm]
      · rw [iter_fixed (Option.some.inj e.1.1).symm]
    | some q =>
      rw [lazy_of_some hz] at fwd bwd ⊢
      dsimp only
      unfold moveOf
      by_cases h1 : n < 0
      · rw [if_pos h1, if_pos h1, bwd.1]
      · rw [if_neg h1, if_neg h1]
        by_cases h2 : n > 0
        · rw [if_pos h2, fwd.1]
        · rw [if_neg h2, show n.natAbs = 0 by omega]; rfl
  · unfold moveOf
    split
    · exact bwd.2
    · exact fwd.2

end TypVerif.Lemmas.Ring
