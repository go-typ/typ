import TypVerif.Lemmas.Sets
import TypVerif.Lemmas.FinSet
/-
The binary `sets.Set` methods (receiver of either implementation, argument of either implementation or
the receiver itself) against set algebra (C03).
-/
namespace TypVerif.Lemmas.Sets
open TypVerif.Model.Sets
open TypVerif

variable {α : Type} [DecidableEq α]

def TwoOK (t : Two α) : Prop := SetOK t.recv ∧ ∀ b, t.arg = some b → SetOK b

theorem TwoOK.argSet_ok {t : Two α} (h : TwoOK t) : SetOK t.argSet := by
  unfold Two.argSet
  cases ha : t.arg with
  | none => exact h.1
  | some b => exact h.2 b ha

/-- `t'` has well-formed operands with the members of the operands of `t`, aliased in the same way: what every
binary method leaves of its operands (the *layout* of a concurrent operand may change) -/
structure Keeps (t t' : Two α) : Prop where
  ok : TwoOK t'
  memRecv : ∀ x, mem t'.recv x = mem t.recv x
  memArg : ∀ x, mem t'.argSet x = mem t.argSet x
  alias : t'.arg.isSome = t.arg.isSome

theorem keeps_refl {t : Two α} (h : TwoOK t) : Keeps t t := ⟨h, fun _ => rfl, fun _ => rfl, rfl⟩

theorem keeps_putRecv {t t' : Two α} (k : Keeps t t') {a : AnySet α} (ha : SetOK a)
    (hm : ∀ x, mem a x = mem t'.recv x) : Keeps t (t'.putRecv a) := by
  refine ⟨⟨ha, k.ok.2⟩, fun x => (hm x).trans (k.memRecv x), fun x => ?_, k.alias⟩
  rw [← k.memArg]
  unfold Two.argSet Two.putRecv
  cases t'.arg with
  | none => exact hm x
  | some b => rfl

/-- writing back an argument with unchanged membership (the receiver, when the call is self-aliased) -/
theorem keeps_putArg {t t' : Two α} (k : Keeps t t') {a : AnySet α} (ha : SetOK a)
    (hm : ∀ x, mem a x = mem t'.argSet x) : Keeps t (t'.putArg a) := by
  obtain ⟨ok, kr, ka, al⟩ := k
  obtain ⟨recv, arg⟩ := t'
  cases arg with
  | none => exact ⟨⟨ha, nofun⟩, fun x => (hm x).trans (kr x), fun x => (hm x).trans (ka x), al⟩
  | some b0 =>
    exact ⟨⟨ok.1, fun b hb => Option.some.inj hb ▸ ha⟩, kr, fun x => (hm x).trans (ka x), al⟩

theorem keeps_arg_some {t t' : Two α} (k : Keeps t t') {b : AnySet α} (hb : t.arg = some b) :
    ∃ b', t'.arg = some b' ∧ ∀ x, mem b' x = mem b x := by
  cases hb' : t'.arg with
  | none => have := k.alias; rw [hb', hb] at this; cases this
  | some b' =>
    refine ⟨b', rfl, fun x => ?_⟩
    have := k.memArg x
    unfold Two.argSet at this
    rwa [hb', hb] at this

theorem addSet_ok (t : Two α) (h : TwoOK t) :
    TwoOK (addSet t).1 ∧
    (∀ x, mem (addSet t).1.recv x = (mem t.recv x || mem t.argSet x)) ∧
    (∀ b, t.arg = some b → ∃ b', (addSet t).1.arg = some b' ∧ ∀ x, mem b' x = mem b x) ∧
    (∀ keys : List α, keys.Nodup → (∀ x, x ∈ keys ↔ mem t.argSet x = true) →
      (addSet t).2 = (keys.filter (fun v => !mem t.recv v)).length) := by
  obtain ⟨r1, r2, r3, _⟩ := rangeAll_ok t.argSet h.argSet_ok
  have k := keeps_putArg (keeps_refl h) r1 r2
  obtain ⟨a1, a2, a3⟩ := addLoop_ok (rangeAll t.argSet).2 (t.putArg (rangeAll t.argSet).1).recv 0 k.ok.1
  refine ⟨⟨a1, k.ok.2⟩, fun x => (a2 x).trans ?_, fun b hb => keeps_arg_some k hb, fun keys hk hkm => (a3 r3).trans ?_⟩
  · rw [k.memRecv, contains_rangeAll h.argSet_ok, Bool.or_comm]
  · rw [Nat.zero_add, List.filter_congr fun w _ => congrArg not (k.memRecv w)]
    exact ((rangeAll_perm h.argSet_ok hk hkm).filter _).length_eq

theorem removeSet_ok (t : Two α) (h : TwoOK t) :
    TwoOK (removeSet t).1 ∧
    (∀ x, mem (removeSet t).1.recv x = (mem t.recv x && !mem t.argSet x)) ∧
    (∀ b, t.arg = some b → ∃ b', (removeSet t).1.arg = some b' ∧ ∀ x, mem b' x = mem b x) ∧
    (∀ keys : List α, keys.Nodup → (∀ x, x ∈ keys ↔ mem t.argSet x = true) →
      (removeSet t).2 = (keys.filter (fun v => mem t.recv v)).length) := by
  obtain ⟨r1, r2, r3, _⟩ := rangeAll_ok t.argSet h.argSet_ok
  have k := keeps_putArg (keeps_refl h) r1 r2
  obtain ⟨a1, a2, a3⟩ := removeLoop_ok (rangeAll t.argSet).2 (t.putArg (rangeAll t.argSet).1).recv 0 k.ok.1
  refine ⟨⟨a1, k.ok.2⟩, fun x => (a2 x).trans ?_, fun b hb => keeps_arg_some k hb, fun keys hk hkm => (a3 r3).trans ?_⟩
  · rw [k.memRecv, contains_rangeAll h.argSet_ok, Bool.and_comm]
  · rw [Nat.zero_add, List.filter_congr fun w _ => k.memRecv w]
    exact ((rangeAll_perm h.argSet_ok hk hkm).filter _).length_eq

/-- what a binary operation returning a new set guarantees: the operands keep their members, the result is
well-formed and has the members `f` says -/
structure BinOK (t : Two α) (r : Two α × AnySet α) (f : Bool → Bool → Bool) : Prop extends Keeps t r.1 where
  res : SetOK r.2
  memRes : ∀ x, mem r.2 x = f (mem t.recv x) (mem t.argSet x)

theorem filterOp_ok (keep : Bool) (t : Two α) (h : TwoOK t) :
    BinOK t (filterOp keep t) (fun a b => a && (b == keep)) := by
  obtain ⟨r1, r2, _, _⟩ := rangeAll_ok t.recv h.1
  have k := keeps_putRecv (keeps_refl h) r1 r2
  obtain ⟨e1, e2⟩ := emptyLike_ok t.recv
  obtain ⟨f1, f2, f3, f4⟩ := filterLoop_ok keep (rangeAll t.recv).2 _ (emptyLike t.recv) k.ok.argSet_ok e1
  refine ⟨keeps_putArg k f1 f3, f2, fun x => (f4 x).trans ?_⟩
  rw [e2, contains_rangeAll h.1, k.memArg, Bool.false_or]

theorem intersect_ok (t : Two α) (h : TwoOK t) : BinOK t (intersect t) (fun a b => a && b) := by
  have f := filterOp_ok true t h
  exact ⟨f.toKeeps, f.res, fun x => (f.memRes x).trans (by rw [beq_true])⟩

theorem setDiff_ok (t : Two α) (h : TwoOK t) : BinOK t (setDiff t) (fun a b => a && !b) := by
  have f := filterOp_ok false t h
  exact ⟨f.toKeeps, f.res, fun x => (f.memRes x).trans (by rw [beq_false])⟩

theorem clone_ok (s : AnySet α) (hs : SetOK s) :
    SetOK (clone s).1 ∧ SetOK (clone s).2 ∧ (∀ x, mem (clone s).1 x = mem s x) ∧ (∀ x, mem (clone s).2 x = mem s x) := by
  obtain ⟨r1, r2, _, _⟩ := rangeAll_ok s hs
  obtain ⟨e1, e2⟩ := emptyLike_ok s
  obtain ⟨a1, a2, _⟩ := addLoop_ok (rangeAll s).2 (emptyLike s) 0 e1
  refine ⟨r1, a1, r2, fun x => (a2 x).trans ?_⟩
  rw [e2, Bool.or_false, contains_rangeAll hs]

theorem union_ok (t : Two α) (h : TwoOK t) : BinOK t (union t) (fun a b => a || b) := by
  obtain ⟨c1, c2, c3, c4⟩ := clone_ok t.recv h.1
  have k := keeps_putRecv (keeps_refl h) c1 c3
  obtain ⟨r1, r2, _, _⟩ := rangeAll_ok _ k.ok.argSet_ok
  obtain ⟨a1, a2, _⟩ := addLoop_ok (rangeAll (t.putRecv (clone t.recv).1).argSet).2 (clone t.recv).2 0 c2
  refine ⟨keeps_putArg k r1 r2, a1, fun x => (a2 x).trans ?_⟩
  rw [c4, contains_rangeAll k.ok.argSet_ok, k.memArg, Bool.or_comm]

theorem symDiff_ok (t : Two α) (h : TwoOK t) : BinOK t (symDiff t) (fun a b => a != b) := by
  have d := setDiff_ok t h
  obtain ⟨r1, r2, _, _⟩ := rangeAll_ok _ d.ok.argSet_ok
  have k := keeps_putArg d.toKeeps r1 r2
  obtain ⟨f1, f2, f3, f4⟩ := filterLoop_ok false (rangeAll (setDiff t).1.argSet).2 _ (setDiff t).2 k.ok.1 d.res
  refine ⟨keeps_putRecv k f1 f3, f2, fun x => (f4 x).trans ?_⟩
  rw [d.memRes, k.memRecv, contains_rangeAll d.ok.argSet_ok, d.memArg]
  cases mem t.recv x <;> cases mem t.argSet x <;> rfl

/-- `Len` is the length of a full `Range`, also for the Go map -/
theorem len_eq_rangeAll (s : AnySet α) : len s = ((rangeAll s).1, (rangeAll s).2.length) := by
  cases s with
  | mapSet l => show (_, l.length) = (_, (Spec.PMap.cut 0 l).length); rw [cut_zero]; rfl
  | syncSet m => rfl

theorem len_ok (s : AnySet α) (hs : SetOK s) :
    SetOK (len s).1 ∧ (∀ x, mem (len s).1 x = mem s x) ∧
    (∀ keys : List α, keys.Nodup → (∀ x, x ∈ keys ↔ mem s x = true) → (len s).2 = keys.length) := by
  obtain ⟨r1, r2, _, _⟩ := rangeAll_ok s hs
  rw [len_eq_rangeAll]
  exact ⟨r1, r2, fun keys hk hkm => (rangeAll_perm hs hk hkm).length_eq⟩

theorem fromSlice_ok (kind : Nat) (l : List α) :
    SetOK (fromSlice kind l) ∧ ∀ x, mem (fromSlice kind l) x = l.contains x := by
  obtain ⟨e1, e2⟩ := emptyOfKind_ok (α := α) kind
  obtain ⟨a1, a2, _⟩ := addLoop_ok l (AnySet.emptyOfKind kind) 0 e1
  exact ⟨a1, fun x => by show mem (addLoop _ _ 0).1 x = _; rw [a2, e2, Bool.or_false]⟩

/-- the inner loops visit the same values every time: the result is the specification's product of the two enumerations -/
theorem prodLoop_eq : ∀ (as : List α) (b : AnySet α) (acc : List (α × α)),
    prodLoop b as acc = (match as with | [] => b | _ :: _ => (rangeAll b).1,
      acc ++ Spec.FinSet.product as (rangeAll b).2)
  | [], b, acc => by rw [Spec.FinSet.product, List.flatMap_nil, List.append_nil]; rfl
  | va :: rest, b, acc => by
    rw [show prodLoop b (va :: rest) acc = prodLoop (rangeAll b).1 rest _ from rfl, prodLoop_eq rest, rangeAll_idem,
      List.append_assoc]
    cases rest <;> rfl

theorem product_ok (t : Two α) (h : TwoOK t) :
    TwoOK (product t).1 ∧ (∀ x, mem (product t).1.recv x = mem t.recv x) ∧
    (∀ x, mem (product t).1.argSet x = mem t.argSet x) ∧
    (product t).2.Nodup ∧
    (∀ a b, (a, b) ∈ (product t).2 ↔ mem t.recv a = true ∧ mem t.argSet b = true) ∧
    (∀ ka kb : List α, ka.Nodup → (∀ x, x ∈ ka ↔ mem t.recv x = true) → kb.Nodup → (∀ x, x ∈ kb ↔ mem t.argSet x = true) →
      (product t).2.length = ka.length * kb.length) := by
  obtain ⟨r1, r2, r3, r4⟩ := rangeAll_ok t.recv h.1
  have k := keeps_putRecv (keeps_refl h) r1 r2
  obtain ⟨b1, b2, b3, b4⟩ := rangeAll_ok _ k.ok.argSet_ok
  have hp := prodLoop_eq (rangeAll t.recv).2 (t.putRecv (rangeAll t.recv).1).argSet []
  -- the argument afterwards: as it was (no value in the receiver) or as a full `Range` leaves it
  have hb : SetOK (prodLoop (t.putRecv (rangeAll t.recv).1).argSet (rangeAll t.recv).2 []).1 ∧
      ∀ x, mem (prodLoop (t.putRecv (rangeAll t.recv).1).argSet (rangeAll t.recv).2 []).1 x =
        mem (t.putRecv (rangeAll t.recv).1).argSet x := by
    rw [hp]; split
    · exact ⟨k.ok.argSet_ok, fun _ => rfl⟩
    · exact ⟨b1, b2⟩
  have k2 := keeps_putArg k hb.1 hb.2
  have hL : (product t).2 = Spec.FinSet.product (rangeAll t.recv).2 (rangeAll (t.putRecv (rangeAll t.recv).1).argSet).2 :=
    congrArg Prod.snd hp
  refine ⟨k2.ok, k2.memRecv, k2.memArg, hL ▸ FinSet.nodup_product r3 b3, fun a b => ?_,
    fun ka kb hka hkam hkb hkbm => ?_⟩
  · rw [hL, FinSet.mem_product, r4, b4, k.memArg]
  · rw [hL, FinSet.length_product, (rangeAll_perm h.1 hka hkam).length_eq,
      (rangeAll_perm k.ok.argSet_ok hkb fun x => by rw [k.memArg, hkbm]).length_eq]

end TypVerif.Lemmas.Sets
