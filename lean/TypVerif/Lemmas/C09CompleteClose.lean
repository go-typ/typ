import TypVerif.Lemmas.C09AcceptStep
/-
Acceptance completeness for the judge `Drv/C09.lean`: the work-list closure `closeF` is COMPLETE as long as it does not run out
of fuel, and it has not run out of fuel when the result has at most `fuel` states.
-/
namespace TypVerif.Lemmas.C09Complete
open TypVerif TypVerif.Conc TypVerif.Model.KeyedMutex TypVerif.Drv.C09
open TypVerif.Lemmas.KeyedMutex TypVerif.Lemmas.C09Accept

def Sat (rw : Bool) (ss : List State) : Prop := ∀ y ∈ ss, ∀ z ∈ intNexts rw y, z ∈ ss

/-- `p` counts the states already processed (`acc.size = p + todo.length`), and every iteration processes one: a result of size
`≤ p + fuel` means the work list ran empty before the fuel did, so the result is closed.  The top call has `p = 0`. -/
theorem closeF_complete (rw : Bool) (fuel : Nat) :
    ∀ (p : Nat) (seen : Std.HashSet State) (todo : List State) (acc : Array State),
      SeenIs seen acc →
      (∀ y ∈ acc.toList, y ∈ todo ∨ (∀ z ∈ intNexts rw y, z ∈ acc.toList)) →
      acc.size = p + todo.length →
      (∀ y ∈ acc.toList, y ∈ (closeF rw fuel seen todo acc).toList) ∧
      ((closeF rw fuel seen todo acc).size ≤ p + fuel → Sat rw (closeF rw fuel seen todo acc).toList) := by
  induction fuel with
  | zero =>
    intro p seen todo acc _ h3 h4
    rw [show closeF rw 0 seen todo acc = acc from rfl]
    refine ⟨fun _ h => h, fun hle y hy => ?_⟩
    cases List.eq_nil_of_length_eq_zero (Nat.le_zero.mp (Nat.le_of_add_le_add_left (h4 ▸ hle)))
    exact (h3 y hy).resolve_left nofun
  | succ fuel ih =>
    intro p seen todo acc h1 h3 h4
    cases todo with
    | nil =>
      rw [show closeF rw (fuel + 1) seen [] acc = acc from rfl]
      exact ⟨fun _ h => h, fun _ y hy => (h3 y hy).resolve_left nofun⟩
    | cons s rest =>
      rw [closeF_eq_succ_cons]
      obtain ⟨new, e1, e2, _, e4⟩ := close_fold_spec (intNexts rw s) (seen, rest, acc)
      obtain ⟨k1, k2⟩ := e4 h1
      dsimp only at e1 e2
      generalize (intNexts rw s).foldl closeStep (seen, rest, acc) = r at e1 e2 k1 k2 ⊢
      have hacc : ∀ y, y ∈ r.2.2.toList ↔ y ∈ acc.toList ∨ y ∈ new := fun y => by rw [e1, List.mem_append]
      have htodo : ∀ y, y ∈ r.2.1 ↔ y ∈ new ∨ y ∈ rest := fun y => by rw [e2, List.mem_append, List.mem_reverse]
      obtain ⟨q1, q2⟩ := ih (p + 1) r.1 r.2.1 r.2.2 k1
        (fun y hy => by
          rcases (hacc y).1 hy with h | h
          · rcases h3 y h with h' | h'
            · rcases List.mem_cons.1 h' with rfl | h'
              · exact .inr k2
              · exact .inl ((htodo y).2 (.inr h'))
            · exact .inr fun z hz => (hacc z).2 (.inl (h' z hz))
          · exact .inl ((htodo y).2 (.inl h)))
        (by
          have := congrArg List.length e1
          rw [Array.length_toList, List.length_append, Array.length_toList] at this
          rw [this, e2, List.length_append, List.length_reverse, h4, List.length_cons, Nat.add_comm rest.length 1,
            ← Nat.add_assoc p 1, Nat.add_assoc (p + 1), Nat.add_comm rest.length])
      exact ⟨fun y hy => q1 y ((hacc y).2 (.inl hy)), fun hle => q2 (Nat.add_right_comm p 1 fuel ▸ hle)⟩

theorem start_fold_complete (ns : List State) (seen : Std.HashSet State) (acc : Array State) (h1 : SeenIs seen acc) :
    SeenIs (ns.foldl startStep (seen, acc)).1 (ns.foldl startStep (seen, acc)).2 ∧
    (∀ z ∈ ns, z ∈ (ns.foldl startStep (seen, acc)).2.toList) := by
  rw [start_eq_close ns seen [] acc]
  obtain ⟨_, _, _, _, h⟩ := close_fold_spec ns (seen, [], acc)
  exact h h1

/-- `Drv.C09.stepEvent`: the result contains the normal form of every `e`-successor of a state of `ss`, and is closed under
normalised internal steps unless the closure ran out of fuel — which it has not when the result has at most `closeBudget` states -/
theorem stepEvent_complete (rw : Bool) (ops : List Op) (ss : List State) (e : Event) :
    (∀ x ∈ ss, ∀ z, (some e, z) ∈ succ rw true ops x → norm z ∈ Drv.C09.stepEvent rw ops ss e) ∧
    ((Drv.C09.stepEvent rw ops ss e).length ≤ closeBudget → Sat rw (Drv.C09.stepEvent rw ops ss e)) := by
  rw [show Drv.C09.stepEvent rw ops ss e = _ from stepEventWith_unfold (close rw) rw ops ss e]
  unfold close
  have h0 : SeenIs (({} : Std.HashSet State), (#[] : Array State)).1 (({} : Std.HashSet State), (#[] : Array State)).2 := by
    intro s
    simp
  obtain ⟨a, d⟩ := start_fold_complete (evNexts rw ops ss e) ({} : Std.HashSet State) #[] h0
  obtain ⟨k1, k2⟩ := closeF_complete rw closeBudget 0 _ _ _ a (fun _ h => Or.inl h)
    (by simp)
  exact ⟨fun x hx z hz => k1 _ (d _ (mem_evNexts_iff.2 ⟨x, hx, z, hz, rfl⟩)), fun hle => k2 (by simpa using hle)⟩

end TypVerif.Lemmas.C09Complete
