import TypVerif.Lemmas.SyncMapShared
/-
The state updates of `map.go`, one by one: each keeps `SeqInv` and acts on `abs` as stated, because the same update of
the shared data of the step-level model keeps `GS` and acts so on `absOf` (`SeqInv.step`).
-/
namespace TypVerif.Lemmas.SyncMap
open TypVerif.Model
open TypVerif.Model.SyncMap
open TypVerif.Lemmas.Smc (GS absOf vals SameData Building Orphan StoreTarget)

set_option linter.unusedSectionVars false

variable {K V : Type} [DecidableEq K]

/-- storing into the entry that stands for `k` (`tryStore`, `storeLocked`, the CAS of `tryLoadOrStore`) -/
theorem setVal_ok {s : State K V} (h : SeqInv s) {k : K} {e : EId} (v : V) (ht : StoreTarget (toShared s) k e) :
    SeqInv (setP s e (.val v)) ∧ ∀ k', abs (setP s e (.val v)) k' = if k' = k then some v else abs s k' := by
  rw [abs_eq_absOf s]
  exact SeqInv.step (sh' := SyncMapConc.storeVal (toShared s) e v) ⟨List.map_set, rfl, rfl, rfl⟩
    h.nofault h.s7 (Smc.storeVal_GS h.toGS (ht.not_expunged h.toGS))
    ((Smc.EW_storeVal _ e v).absOf_write_cur h.toGS (fun _ hp => nomatch hp) ht.cur)

/-- `entry.delete()` on the `read.m` entry of `k` -/
theorem delRead_ok {s : State K V} (h : SeqInv s) {k : K} {e : EId} {w : V} (hr : rd s k = some e)
    (hp : getP s e = .val w) :
    SeqInv (setP s e .nil) ∧ ∀ k', abs (setP s e .nil) k' = if k' = k then none else abs s k' := by
  have hU : Smc.UOk (toShared s) [] := fun _ hp => nomatch hp
  rw [abs_eq_absOf s]
  exact SeqInv.step (sameData_of_eq (toShared_setP s e .nil)) h.nofault h.s7
    (Smc.delNil_GS h.toGS hU hr (by rw [getP_toShared, hp]; rfl)) ((Smc.EW_setP _ e .nil).absOf_write_cur h.toGS hU (Smc.Cur_of_read hr))

/-- `entry.delete()` on an entry that a slow-path `LoadAndDelete` has removed from the dirty map -/
theorem delUnlinked_ok {s : State K V} (h : SeqInv s) {e : EId} {w : V} (ho : Orphan (toShared s) e)
    (hp : getP s e = .val w) :
    SeqInv (setP s e .nil) ∧ ∀ k', abs (setP s e .nil) k' = abs s k' := by
  rw [abs_eq_absOf s]
  exact SeqInv.step (sameData_of_eq (toShared_setP s e .nil)) h.nofault h.s7
    (Smc.unlinkedNil_GS h.toGS ho.2.2 (by rw [getP_toShared, hp]; rfl)) (Smc.unlinkedNil_absOf ho.2.1 ho.2.2)

@[simp] theorem getP_promote (s : State K V) (e : EId) : getP (promote s) e = getP s e := rfl
@[simp] theorem rd_promote (s : State K V) (k : K) : rd (promote s) k = dt s k := rfl
@[simp] theorem dt_promote (s : State K V) (k : K) : dt (promote s) k = none := rfl

theorem promote_ok {s : State K V} (h : SeqInv s) (hdn : s.dirty ≠ none) :
    SeqInv (promote s) ∧ ∀ k, abs (promote s) k = abs s k := by
  rw [abs_eq_absOf s]
  exact SeqInv.step (SameData.refl _) h.nofault (fun hd => absurd rfl hd) (Smc.GS_promote h.toGS)
    (Smc.absOf_promote h.toGS (Option.isSome_iff_ne_none.mpr hdn))

def withMisses (s : State K V) (m : Nat) : State K V := { s with misses := m }

theorem SeqInv.withMisses_ok {s : State K V} (h : SeqInv s) (m : Nat) : SeqInv (withMisses s m) :=
  SeqInv.ofGS (h.toGS.of_sameData ⟨rfl, rfl, rfl, rfl⟩ h.nofault) h.s7

theorem abs_withMisses (s : State K V) (m : Nat) (k : K) : abs (withMisses s m) k = abs s k := rfl

theorem missLocked_eq (s : State K V) :
    missLocked s = if s.misses + 1 < dirtyLen s then withMisses s (s.misses + 1)
                   else promote (withMisses s (s.misses + 1)) := rfl

theorem missLocked_ok {s : State K V} (h : SeqInv s) (hdn : s.dirty ≠ none) :
    SeqInv (missLocked s) ∧ ∀ k, abs (missLocked s) k = abs s k := by
  rw [missLocked_eq]; split
  · exact ⟨h.withMisses_ok _, fun _ => rfl⟩
  · exact promote_ok (h.withMisses_ok _) hdn

theorem orphan_missLocked {s : State K V} {e : EId} (ho : Orphan (toShared s) e) : Orphan (toShared (missLocked s)) e := by
  rw [missLocked_eq]; split
  · exact ho
  · exact Smc.promote_orphan (sh := toShared (withMisses s (s.misses + 1))) ho

theorem getP_missLocked (s : State K V) (e : EId) : getP (missLocked s) e = getP s e := by
  rw [missLocked_eq]; split <;> rfl

theorem loadEntry_missLocked (s : State K V) (e : EId) : loadEntry (missLocked s) e = loadEntry s e := by
  rw [loadEntry_eq, loadEntry_eq, getP_missLocked]

theorem length_missLocked (s : State K V) : (missLocked s).entries.length = s.entries.length := by
  rw [missLocked_eq]; split <;> rfl

theorem missLocked_ref {s : State K V} {k : K} {e : EId}
    (h : rd (missLocked s) k = some e ∨ dt (missLocked s) k = some e) : rd s k = some e ∨ dt s k = some e := by
  rw [missLocked_eq] at h
  split at h
  · exact h
  · rcases h with h | h
    · exact Or.inr h
    · cases h

theorem cur_missLocked_ref {s : State K V} (k : K) (e : EId) (hc : cur (missLocked s) k = some e) :
    rd s k = some e ∨ dt s k = some e :=
  missLocked_ref (cur_ref hc)

theorem dirtyMap_delDirty (s : State K V) (k : K) : dirtyMap (delDirty s k) = aerase k (dirtyMap s) := by
  unfold delDirty dirtyMap
  cases s.dirty <;> simp [aerase]

@[simp] theorem rd_delDirty (s : State K V) (k k' : K) : rd (delDirty s k) k' = rd s k' := rfl
@[simp] theorem getP_delDirty (s : State K V) (k : K) (e : EId) : getP (delDirty s k) e = getP s e := rfl

theorem dt_delDirty (s : State K V) (k k' : K) : dt (delDirty s k) k' = if k' = k then none else dt s k' := by
  unfold dt; rw [dirtyMap_delDirty, alookup_aerase]

theorem delDirty_dirty_ne (s : State K V) (k : K) : (delDirty s k).dirty ≠ none ↔ s.dirty ≠ none := by
  unfold delDirty; cases s.dirty <;> simp

theorem delDirty_ok {s : State K V} (h : SeqInv s) (k : K) (hk : rd s k = none) :
    SeqInv (delDirty s k) ∧ ∀ k', abs (delDirty s k) k' = if k' = k then none else abs s k' := by
  rw [abs_eq_absOf s]
  exact SeqInv.step (SameData.refl _) h.nofault (fun hd => h.s7 ((delDirty_dirty_ne s k).mp hd))
    (Smc.GS_unlink h.toGS hk) (Smc.absOf_unlink (sh := toShared s) hk)

@[simp] theorem getP_setDirty (s : State K V) (k : K) (e e' : EId) : getP (setDirty s k e) e' = getP s e' := by
  unfold setDirty; cases s.dirty <;> rfl

@[simp] theorem rd_setDirty (s : State K V) (k : K) (e : EId) (k' : K) : rd (setDirty s k e) k' = rd s k' := by
  unfold setDirty; cases s.dirty <;> rfl

theorem setDirty_eq {s : State K V} {d : List (K × EId)} (hd : s.dirty = some d) (k : K) (e : EId) :
    setDirty s k e = { s with dirty := some (ainsert k e d) } := by
  unfold setDirty; simp only [hd]

/-- `e.unexpungeLocked(); m.dirty[k] = e` on the expunged `read.m` entry of `k` -/
theorem unexp_ok {s : State K V} (h : SeqInv s) {k : K} {e : EId} (hr : rd s k = some e) (hx : getP s e = .expunged) :
    SeqInv (setDirty (setP s e .nil) k e) ∧ ∀ k', abs (setDirty (setP s e .nil) k e) k' = abs s k' := by
  have hU : ∀ p : K × EId, p ∉ ([] : List (K × EId)) := fun _ => List.not_mem_nil
  have hxs : (SyncMapConc.getP (toShared s) e).isExpunged = true := by rw [getP_toShared, hx]; rfl
  obtain ⟨d, hd⟩ : ∃ d, s.dirty = some d := Option.ne_none_iff_exists'.mp fun hd => h.s3 hd k e hr hx
  rw [abs_eq_absOf s]
  refine SeqInv.step (sameData_of_eq ((toShared_setDirty _ k e).trans (congrArg (SyncMapConc.setDirty · k e)
    (toShared_setP s e .nil)))) ?_ (fun _ => ?_) (Smc.unexp_GS h.toGS hU hr hxs) (Smc.unexp_absOf h.toGS hU hr hxs)
  · rw [setDirty_eq (s := setP s e .nil) hd]; exact h.nofault
  · rw [setDirty_eq (s := setP s e .nil) hd]; exact h.s7 (hd ▸ nofun)

/-- … followed by `e.storeLocked(&v)` -/
theorem revive_ok {s : State K V} (h : SeqInv s) {k : K} {e : EId} (v : V) (hr : rd s k = some e)
    (hx : getP s e = .expunged) :
    SeqInv (setP (setDirty (setP s e .nil) k e) e (.val v)) ∧
      ∀ k', abs (setP (setDirty (setP s e .nil) k e) e (.val v)) k' = if k' = k then some v else abs s k' := by
  obtain ⟨h1, habs⟩ := unexp_ok h hr hx
  have := setVal_ok h1 v (Or.inl ⟨(rd_setDirty _ k e k).trans hr, isExpunged_toShared
    (by rw [getP_setDirty, getP_setP_self s .nil (h.readRange k e hr)]; nofun)⟩)
  exact ⟨this.1, fun k' => by rw [this.2, habs]⟩

theorem toShared_addNew {s : State K V} {d : List (K × EId)} (hd : s.dirty = some d) (k : K) (v : V) :
    toShared (setDirty (newEntry s v).1 k (newEntry s v).2) = { SyncMapConc.addNew (toShared s) k v with nextPtr := 0 } := by
  unfold SyncMapConc.addNew SyncMapConc.setDirty toShared setDirty newEntry
  simp only [hd, List.map_append, List.map_cons, List.map_nil, List.length_map]
  rfl

/-- `m.dirty[k] = newEntry(v)` for a key that is in neither map, while the dirty map exists -/
theorem addNew_ok {s : State K V} (h : SeqInv s) {k : K} (v : V) (hr : rd s k = none) (hk : dt s k = none)
    (ha : s.amended = true) :
    SeqInv (setDirty (newEntry s v).1 k (newEntry s v).2) ∧
      ∀ k', abs (setDirty (newEntry s v).1 k (newEntry s v).2) k' = if k' = k then some v else abs s k' := by
  obtain ⟨d, hd⟩ : ∃ d, s.dirty = some d := Option.ne_none_iff_exists'.mp (h.dirty_of_amended ha)
  have hds : (toShared s).dirty.isSome = true := Option.isSome_iff_ne_none.mpr (h.dirty_of_amended ha)
  rw [abs_eq_absOf s]
  refine SeqInv.step (sh' := SyncMapConc.addNew (toShared s) k v)
    ((sameData_of_eq (toShared_addNew hd k v)).trans ⟨rfl, rfl, rfl, rfl⟩) ?_ (fun _ => ?_)
    (Smc.GS_addNew h.toGS hds ha hr hk v) (Smc.absOf_addNew h.toGS hds ha hr v)
  · rw [setDirty_eq (s := (newEntry s v).1) hd]; exact h.nofault
  · rw [setDirty_eq (s := (newEntry s v).1) hd]; exact ha

/-- the loop of `dirtyLocked` on the pairs `l` of `read.m` that are still to do: the steps of the builder of the
concurrent proof, whose unprocessed pairs are `l` (`Building`) -/
theorem dirtyLoop_ok : ∀ (l : List (K × EId)) (s : State K V), GS (toShared s) l → Building (toShared s) l →
    s.dirty.isSome = true → s.amended = false →
    GS (toShared (dirtyLoop s l)) [] ∧ (∀ k, absOf (toShared (dirtyLoop s l)) k = absOf (toShared s) k) ∧
      (dirtyLoop s l).amended = false ∧ (dirtyLoop s l).dirty.isSome = true ∧ (dirtyLoop s l).read = s.read
  | [], s, g, _, hds, ha => ⟨g, fun _ => rfl, ha, hds, rfl⟩
  | (k0, e0) :: rest, s, g, hb, hds, ha => by
    cases hp : getP s e0 with
    | expunged => exact absurd hb.head.2.2.2 (by rw [getP_toShared, hp]; exact fun c => Bool.noConfusion c)
    | nil =>
      rw [show dirtyLoop s ((k0, e0) :: rest) = dirtyLoop (setP s e0 .expunged) rest by
        simp [dirtyLoop, tryExpungeLocked, hp]]
      have ih := dirtyLoop_ok rest (setP s e0 .expunged)
        (toShared_setP s e0 .expunged ▸ Smc.expunge_GS g hb.2 List.mem_cons_self hds hb.mem_tail_iff)
        (toShared_setP s e0 .expunged ▸ Smc.expunge_building g hb) hds ha
      refine ⟨ih.1, fun k => (ih.2.1 k).trans ?_, ih.2.2⟩
      rw [toShared_setP]
      exact Smc.expunge_absOf (by rw [getP_toShared, hp]; rfl) k
    | val w =>
      rw [show dirtyLoop s ((k0, e0) :: rest) = dirtyLoop (setDirty s k0 e0) rest by
        simp [dirtyLoop, tryExpungeLocked, hp]]
      obtain ⟨d, hd⟩ := Option.isSome_iff_exists.mp hds
      have ih := dirtyLoop_ok rest (setDirty s k0 e0)
        (toShared_setDirty s k0 e0 ▸ Smc.GS_expDone_cons g hds hb)
        (toShared_setDirty s k0 e0 ▸ Smc.Building_expDone g hds hb) (by rw [setDirty_eq hd]; rfl)
        (by rw [setDirty_eq hd]; exact ha)
      rw [setDirty_eq hd] at ih ⊢
      refine ⟨ih.1, fun k => (ih.2.1 k).trans ?_, ih.2.2⟩
      rw [← setDirty_eq hd, toShared_setDirty]
      exact Smc.absOf_setDirty_of_not_amended ha k0 e0 k

/-- the state after `m.dirtyLocked(); m.read.Store(readOnly{m: read.m, amended: true})` on a clean map -/
def recreate (s : State K V) : State K V := { dirtyLocked s with amended := true }

theorem recreate_ok {s : State K V} (h : SeqInv s) (hd : s.dirty = none) :
    SeqInv (recreate s) ∧ (∀ k, abs (recreate s) k = abs s k) ∧ (recreate s).amended = true ∧
      ∀ k, rd s k = none → rd (recreate s) k = none ∧ dt (recreate s) k = none := by
  have g0 := h.toGS
  obtain ⟨g, habs, ha', hds, hrd⟩ := dirtyLoop_ok s.read { s with dirty := some [] }
    (Smc.GS_dirtyInit g0 fun _ hp => hp)
    (Smc.Building_dirtyInit g0 hd fun _ hp => absurd hp List.not_mem_nil) rfl (h.s1 hd)
  rw [show recreate s = { dirtyLoop { s with dirty := some [] } s.read with amended := true } by
    unfold recreate dirtyLocked; simp only [hd]]
  rw [abs_eq_absOf s]
  refine and_assoc.mp ⟨SeqInv.step (sh' := Smc.setAmended (toShared (dirtyLoop { s with dirty := some [] } s.read)))
    (SameData.refl _) g.nofault (fun _ => rfl) (Smc.GS_setAmended g hds) fun k => ?_, rfl, fun k hk => ?_⟩
  · rw [Smc.absOf_setAmended g ha', habs]; exact Smc.absOf_dirtyInit (sh := toShared s) hd k
  -- a key that `read.m` lacks is not in the rebuilt dirty map either: that is filled from `read.m` (`GS.dirtySub`)
  · have hk' : alookup k (dirtyLoop { s with dirty := some [] } s.read).read = none := (congrArg (alookup k) hrd).trans hk
    exact ⟨hk', g.dirty_none_of_not_amended ha' hk'⟩

theorem storeNew_amended {s : State K V} (ha : s.amended = true) (k : K) (v : V) :
    storeNew s k v = setDirty (newEntry s v).1 k (newEntry s v).2 := by
  unfold storeNew; simp [ha]

theorem storeNew_clean {s : State K V} (ha : s.amended = false) (k : K) (v : V) :
    storeNew s k v = setDirty (newEntry (recreate s) v).1 k (newEntry (recreate s) v).2 := by
  unfold storeNew recreate; simp [ha]

theorem storeNew_ok {s : State K V} (h : SeqInv s) {k : K} (v : V) (hr : rd s k = none) (hk : dt s k = none) :
    SeqInv (storeNew s k v) ∧ ∀ k', abs (storeNew s k v) k' = if k' = k then some v else abs s k' := by
  cases ha : s.amended with
  | true => rw [storeNew_amended ha]; exact addNew_ok h v hr hk ha
  | false =>
    have hd : s.dirty = none := Decidable.byContradiction fun hd => nomatch (h.s7 hd).symm.trans ha
    obtain ⟨h1, habs, ha1, hrk⟩ := recreate_ok h hd
    rw [storeNew_clean ha]
    have := addNew_ok h1 v (hrk k hr).1 (hrk k hr).2 ha1
    exact ⟨this.1, fun k' => by rw [this.2, habs]⟩

/-! The `dirtyLocked` loop once more, as a stand-alone functional description: what it computes field by field
(`DirtyLoopSpec`, `RecreateSpec`).  Nothing rests on it: `recreate_ok` goes through `dirtyLoop_ok`. -/

def isVal : P V → Bool
  | .val _ => true
  | _ => false

theorem isVal_iff (p : P V) : isVal p = true ↔ ∃ v, p = .val v := by
  cases p <;> simp [isVal]

structure DirtyLoopSpec (s : State K V) (acc l : List (K × EId)) (s' : State K V) (d' : List (K × EId)) : Prop where
  dirty : s'.dirty = some d'
  read : s'.read = s.read
  amended : s'.amended = s.amended
  misses : s'.misses = s.misses
  fault : s'.fault = s.fault
  len : s'.entries.length = s.entries.length
  getP : ∀ e, getP s' e = if isNil (Model.SyncMap.getP s e) = true ∧ e ∈ l.map Prod.snd then .expunged else Model.SyncMap.getP s e
  nodup : (akeys acc).Nodup → (akeys d').Nodup
  look : ∀ k, alookup k d' = match alookup k l with
                             | some e => if isVal (Model.SyncMap.getP s e) then some e else alookup k acc
                             | none => alookup k acc

theorem dirtyLoop_spec : ∀ (l : List (K × EId)) (s : State K V) (acc : List (K × EId)),
    s.dirty = some acc → (akeys l).Nodup → (∀ p ∈ l, p.2 < s.entries.length) →
    ∃ d', DirtyLoopSpec s acc l (dirtyLoop s l) d' := by
  intro l
  induction l with
  | nil =>
    intro s acc hd _ _
    refine ⟨acc, ?_⟩
    exact { dirty := hd, read := rfl, amended := rfl, misses := rfl, fault := rfl, len := rfl,
            getP := fun e => by simp [dirtyLoop], nodup := fun h => h, look := fun k => rfl }
  | cons p rest ih =>
    obtain ⟨k0, e0⟩ := p
    intro s acc hd hn hr
    have he0 : e0 < s.entries.length := hr (k0, e0) (List.mem_cons_self ..)
    simp only [akeys, List.map_cons, List.nodup_cons] at hn
    have hk0 : alookup k0 rest = none := (alookup_eq_none_iff k0 rest).mpr hn.1
    have hr' : ∀ p ∈ rest, p.2 < s.entries.length := fun p hp => hr p (List.mem_cons_of_mem _ hp)
    cases hp : Model.SyncMap.getP s e0 with
    | nil =>
      have hstep : dirtyLoop s ((k0, e0) :: rest) = dirtyLoop (setP s e0 .expunged) rest := by
        simp [dirtyLoop, tryExpungeLocked, hp]
      rw [hstep]
      obtain ⟨d', sp⟩ := ih (setP s e0 .expunged) acc hd hn.2
        (fun p hp => (setP_length s e0 .expunged).symm ▸ hr' p hp)
      refine ⟨d', ?_⟩
      have hg : ∀ e, Model.SyncMap.getP (setP s e0 .expunged) e = if e = e0 then .expunged else Model.SyncMap.getP s e :=
        fun e => getP_setP s e0 e .expunged he0
      exact
        { dirty := sp.dirty, read := sp.read, amended := sp.amended, misses := sp.misses, fault := sp.fault,
          len := by rw [sp.len, setP_length],
          getP := fun e => by
            rw [sp.getP, hg]
            by_cases h1 : e = e0
            · subst h1
              rw [if_pos rfl, ite_self, hp, if_pos ⟨rfl, List.mem_cons_self⟩]
            · simp only [h1, if_false, List.map_cons, List.mem_cons, false_or]
          nodup := sp.nodup,
          look := fun k => by
            rw [sp.look, alookup_cons]
            by_cases h1 : k = k0
            · subst h1
              rw [hk0, if_pos rfl]
              show _ = if isVal (Model.SyncMap.getP s e0) = true then some e0 else _
              rw [hp]
              rfl
            · simp only [h1, if_false]
              cases alookup k rest with
              | none => rfl
              | some e =>
                simp only [hg]
                by_cases h2 : e = e0
                · subst h2; simp [hp, isVal]
                · simp [h2] }
    | expunged =>
      have hstep : dirtyLoop s ((k0, e0) :: rest) = dirtyLoop s rest := by
        simp [dirtyLoop, tryExpungeLocked, hp]
      rw [hstep]
      obtain ⟨d', sp⟩ := ih s acc hd hn.2 hr'
      refine ⟨d', ?_⟩
      exact
        { dirty := sp.dirty, read := sp.read, amended := sp.amended, misses := sp.misses, fault := sp.fault,
          len := sp.len,
          getP := fun e => by
            rw [sp.getP]
            by_cases h1 : e = e0
            · subst h1
              rw [hp, ite_self, ite_self]
            · simp only [h1, List.map_cons, List.mem_cons, false_or]
          nodup := sp.nodup,
          look := fun k => by
            rw [sp.look, alookup_cons]
            by_cases h1 : k = k0
            · subst h1
              rw [hk0, if_pos rfl]
              show _ = if isVal (Model.SyncMap.getP s e0) = true then some e0 else _
              rw [hp]
              rfl
            · simp only [h1, if_false] }
    | val w =>
      have hstep : dirtyLoop s ((k0, e0) :: rest) = dirtyLoop { s with dirty := some (ainsert k0 e0 acc) } rest := by
        simp [dirtyLoop, tryExpungeLocked, hp, setDirty_eq hd]
      rw [hstep]
      obtain ⟨d', sp⟩ := ih { s with dirty := some (ainsert k0 e0 acc) } (ainsert k0 e0 acc) rfl hn.2 hr'
      refine ⟨d', ?_⟩
      have hg : ∀ e, Model.SyncMap.getP { s with dirty := some (ainsert k0 e0 acc) } e = Model.SyncMap.getP s e := fun _ => rfl
      exact
        { dirty := sp.dirty, read := sp.read, amended := sp.amended, misses := sp.misses, fault := sp.fault,
          len := sp.len,
          getP := fun e => by
            rw [sp.getP, hg]
            by_cases h1 : e = e0
            · subst h1
              rw [hp, if_neg (fun h => nomatch h.1), if_neg (fun h => nomatch h.1)]
            · simp only [h1, List.map_cons, List.mem_cons, false_or]
          nodup := fun h => sp.nodup (nodup_ainsert h),
          look := fun k => by
            rw [sp.look, alookup_cons, alookup_ainsert]
            by_cases h1 : k = k0
            · subst h1
              simp only [hk0, hp, isVal, if_true]
            · simp only [h1, if_false]; rfl }

structure RecreateSpec (s s1 : State K V) (d' : List (K × EId)) : Prop where
  dirty : s1.dirty = some d'
  amended : s1.amended = true
  fault : s1.fault = s.fault
  len : s1.entries.length = s.entries.length
  rd : ∀ k, rd s1 k = rd s k
  read : s1.read = s.read
  nodup : (akeys d').Nodup
  getP : ∀ e, getP s1 e = if isNil (Model.SyncMap.getP s e) = true ∧ e ∈ s.read.map Prod.snd then .expunged else Model.SyncMap.getP s e
  dt : ∀ k, dt s1 k = match Lemmas.SyncMap.rd s k with
                       | some e => if isVal (Model.SyncMap.getP s e) then some e else none
                       | none => none

theorem recreate_spec {s : State K V} (h : SeqInv s) (hd : s.dirty = none) :
    ∃ d', RecreateSpec s (recreate s) d' := by
  have hr : ∀ p ∈ s.read, p.2 < ({ s with dirty := some [] } : State K V).entries.length := by
    intro p hp
    exact h.readRange p.1 p.2 (alookup_of_mem h.readNodup hp)
  obtain ⟨d', sp⟩ := dirtyLoop_spec s.read { s with dirty := some [] } [] rfl h.readNodup hr
  have he : recreate s = { dirtyLoop { s with dirty := some [] } s.read with amended := true } := by
    unfold recreate dirtyLocked; simp only [hd]
  refine ⟨d', ?_⟩
  rw [he]
  exact
    { dirty := sp.dirty, amended := rfl, fault := sp.fault, len := sp.len,
      rd := fun k => by unfold Lemmas.SyncMap.rd; show alookup k (dirtyLoop _ _).read = _; rw [sp.read],
      read := sp.read,
      nodup := sp.nodup (by simp [akeys]),
      getP := fun e => sp.getP e,
      dt := fun k => by
        unfold Lemmas.SyncMap.dt dirtyMap
        show alookup k ((dirtyLoop _ _).dirty.getD []) = _
        rw [sp.dirty, Option.getD_some, sp.look]
        unfold Lemmas.SyncMap.rd
        cases alookup k s.read with
        | none => rfl
        | some e => simp only [alookup_nil]; rfl }

end TypVerif.Lemmas.SyncMap
