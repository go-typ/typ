import TypVerif.Model.SyncMap
/-
The association lists that stand for the Go maps `read.m` and `dirty` (`map[K]*entry`): lookup after insert and erase,
duplicate-free keys.  Both the sequential proof (`SyncMap*`) and the concurrent one (`SmcBasic`) build on it.
-/
namespace TypVerif.Lemmas.SyncMap

open TypVerif.Model.SyncMap

section Assoc
variable {K β : Type} [DecidableEq K]

@[simp] theorem alookup_nil (k : K) : alookup k ([] : List (K × β)) = none := rfl

theorem alookup_cons (k k' : K) (b : β) (l : List (K × β)) :
    alookup k ((k', b) :: l) = if k = k' then some b else alookup k l := rfl

theorem alookup_ainsert (k k' : K) (b : β) (l : List (K × β)) :
    alookup k' (ainsert k b l) = if k' = k then some b else alookup k' l := by
  induction l with
  | nil => rfl
  | cons p rest ih =>
    obtain ⟨k0, b0⟩ := p
    unfold ainsert
    by_cases h : k = k0
    · subst h
      rw [if_pos rfl, alookup_cons, alookup_cons]
      split <;> rfl
    · rw [if_neg h, alookup_cons, alookup_cons, ih]
      by_cases h1 : k' = k0
      · rw [if_pos h1, if_pos h1, if_neg (fun h2 => h (h2.symm.trans h1))]
      · rw [if_neg h1, if_neg h1]

theorem alookup_aerase (k k' : K) (l : List (K × β)) :
    alookup k' (aerase k l) = if k' = k then none else alookup k' l := by
  induction l with
  | nil => exact (ite_self none).symm
  | cons p rest ih =>
    obtain ⟨k0, b0⟩ := p
    unfold aerase at ih ⊢
    by_cases h : k0 = k
    · subst h
      simp only [List.filter_cons, decide_true, Bool.not_true, Bool.false_eq_true, if_false, ih, alookup_cons]
      split <;> rfl
    · simp only [List.filter_cons, h, decide_false, Bool.not_false, if_true, alookup_cons, ih]
      by_cases h1 : k' = k0
      · subst h1
        rw [if_pos rfl, if_pos rfl, if_neg h]
      · rw [if_neg h1, if_neg h1]

theorem alookup_eq_none_iff (k : K) (l : List (K × β)) : alookup k l = none ↔ k ∉ akeys l := by
  induction l with
  | nil => exact ⟨fun _ => List.not_mem_nil, fun _ => rfl⟩
  | cons p rest ih =>
    obtain ⟨k0, b0⟩ := p
    show _ ↔ k ∉ k0 :: akeys rest
    rw [alookup_cons, List.mem_cons, not_or]
    by_cases h : k = k0
    · rw [if_pos h]
      exact ⟨nofun, fun h2 => absurd h h2.1⟩
    · rw [if_neg h, ih]
      exact ⟨fun h2 => ⟨h, h2⟩, fun h2 => h2.2⟩

theorem alookup_isSome_iff (k : K) (l : List (K × β)) : (alookup k l).isSome ↔ k ∈ akeys l := by
  cases h : alookup k l with
  | none => exact ⟨nofun, fun hk => absurd hk ((alookup_eq_none_iff k l).mp h)⟩
  | some b =>
    refine ⟨fun _ => Decidable.byContradiction fun hn => ?_, fun _ => rfl⟩
    rw [(alookup_eq_none_iff k l).mpr hn] at h
    cases h

theorem mem_of_alookup {k : K} {b : β} {l : List (K × β)} (h : alookup k l = some b) : (k, b) ∈ l := by
  induction l with
  | nil => cases h
  | cons p rest ih =>
    obtain ⟨k0, b0⟩ := p
    rw [alookup_cons] at h
    by_cases h1 : k = k0
    · rw [if_pos h1] at h
      rw [h1, ← Option.some.inj h]
      exact List.mem_cons_self
    · rw [if_neg h1] at h
      exact List.mem_cons_of_mem _ (ih h)

theorem alookup_of_mem {k : K} {b : β} {l : List (K × β)} (hn : (akeys l).Nodup) (h : (k, b) ∈ l) :
    alookup k l = some b := by
  induction l with
  | nil => cases h
  | cons p rest ih =>
    obtain ⟨k0, b0⟩ := p
    have hn' : k0 ∉ akeys rest ∧ (akeys rest).Nodup := List.nodup_cons.mp hn
    rw [alookup_cons]
    rcases List.mem_cons.mp h with h1 | h1
    · cases h1
      rw [if_pos rfl]
    · have hk : k ∈ akeys rest := List.mem_map.mpr ⟨(k, b), h1, rfl⟩
      rw [if_neg (fun (h2 : k = k0) => hn'.1 (h2 ▸ hk))]
      exact ih hn'.2 h1

theorem ainsert_of_none {k : K} {b : β} {l : List (K × β)} (h : alookup k l = none) :
    ainsert k b l = l ++ [(k, b)] := by
  induction l with
  | nil => rfl
  | cons p rest ih =>
    obtain ⟨k0, b0⟩ := p
    rw [alookup_cons] at h
    by_cases h1 : k = k0
    · rw [if_pos h1] at h
      cases h
    · rw [if_neg h1] at h
      rw [ainsert, if_neg h1, ih h]
      rfl

theorem akeys_ainsert_of_some {k : K} {b b' : β} {l : List (K × β)} (h : alookup k l = some b') :
    akeys (ainsert k b l) = akeys l := by
  induction l with
  | nil => cases h
  | cons p rest ih =>
    obtain ⟨k0, b0⟩ := p
    rw [alookup_cons] at h
    by_cases h1 : k = k0
    · rw [ainsert, if_pos h1, h1]
      rfl
    · rw [if_neg h1] at h
      rw [ainsert, if_neg h1]
      exact congrArg (k0 :: ·) (ih h)

theorem nodup_ainsert {k : K} {b : β} {l : List (K × β)} (hn : (akeys l).Nodup) :
    (akeys (ainsert k b l)).Nodup := by
  cases h : alookup k l with
  | none =>
    have hk := (alookup_eq_none_iff k l).mp h
    rw [ainsert_of_none h, akeys, List.map_append, List.nodup_append]
    refine ⟨hn, List.pairwise_singleton _ _, fun a ha c hc hac => hk ?_⟩
    have hck : c = k := List.mem_singleton.mp hc
    rw [← hck, ← hac]
    exact ha
  | some b' => rw [akeys_ainsert_of_some h]; exact hn

theorem length_ainsert_of_none {k : K} {b : β} {l : List (K × β)} (h : alookup k l = none) :
    (ainsert k b l).length = l.length + 1 := by
  rw [ainsert_of_none h, List.length_append]; rfl

theorem length_ainsert_of_some {k : K} {b b' : β} {l : List (K × β)} (h : alookup k l = some b') :
    (ainsert k b l).length = l.length := by
  have := congrArg List.length (akeys_ainsert_of_some (b := b) h)
  rwa [akeys, akeys, List.length_map, List.length_map] at this

theorem nodup_aerase {k : K} {l : List (K × β)} (hn : (akeys l).Nodup) : (akeys (aerase k l)).Nodup :=
  List.Sublist.nodup (List.filter_sublist.map Prod.fst) hn

end Assoc

end TypVerif.Lemmas.SyncMap
